import PfVerif.Proofs.C14Riv
import PfVerif.Proofs.C14Fuel
/-! Lemmas for `window_nodup` and `main_upstream_ok` (Props/C14).

On a downstream-first order every cell has a distance to its pit (`PitDist_c14`, a functional relation). A
downstream step of the window lowers it by one (`downOK_step_c14`), a step up the main stem raises it by one
(`upOK_step_c14`; `usMainOK_c14`: every entry of `idxs_us_main` is an inflow cell); a list of iterates along
which a functional measure moves strictly one way has no repetition (`iterWhile_nodup`). `UsInv_c14` is the
entry-wise form of `usMainOK_c14` that the loop of `main_upstream` preserves. -/
namespace Pf

/-- `PitDist_c14 ds c k`: the flow path of `c` reaches its pit after exactly `k` steps -/
inductive PitDist_c14 (ds : Array Nat) : Nat → Nat → Prop
  | pit (c : Nat) : ds[c]! = c → PitDist_c14 ds c 0
  | step (c k : Nat) : ds[c]! ≠ c → PitDist_c14 ds ds[c]! k → PitDist_c14 ds c (k+1)

theorem PitDist_c14.unique {ds : Array Nat} {c k m : Nat} (h1 : PitDist_c14 ds c k)
    (h2 : PitDist_c14 ds c m) : k = m := by
  induction h1 generalizing m with
  | pit c hp =>
    cases h2 with
    | pit _ _ => rfl
    | step _ _ hn _ => exact absurd hp hn
  | step c k hn _ ih =>
    cases h2 with
    | pit _ hp => exact absurd hp hn
    | step _ m' _ h' => rw [ih h']

theorem PitDist_c14.down {ds : Array Nat} {c d : Nat} (h : PitDist_c14 ds c d) (hn : ds[c]! ≠ c) :
    ∃ e, d = e + 1 ∧ PitDist_c14 ds ds[c]! e := by
  cases h with
  | pit _ hp => exact absurd hp hn
  | step _ e _ h' => exact ⟨e, rfl, h'⟩

theorem Topo.pitDist_c14 {ds : Array Nat} {seq : List Nat} (htopo : Topo ds seq) :
    ∀ i ∈ seq, ∃ k, PitDist_c14 ds i k := by
  refine htopo.induction _ (fun i _ hd => ?_)
  by_cases hp : ds[i]! = i
  · exact ⟨0, PitDist_c14.pit i hp⟩
  · obtain ⟨k, hk⟩ := (hd hp).2
    exact ⟨k + 1, PitDist_c14.step i k hp hk⟩

/-- entry-wise form of `usMainOK_c14`, the invariant of the loop of `core.main_upstream` -/
def UsInv_c14 (ds um : Array Nat) : Prop :=
  ∀ d, d < ds.size → um[d]! = ds.size ∨ (um[d]! < ds.size ∧ um[d]! ≠ d ∧ ds[um[d]!]! = d)

theorem usMainOK_iff_c14 {ds um : Array Nat} : usMainOK_c14 ds um = true ↔ UsInv_c14 ds um := by
  simp only [usMainOK_c14, UsInv_c14, List.all_eq_true, List.mem_range, Bool.or_eq_true, beq_iff_eq,
    Bool.and_eq_true, decide_eq_true_eq, bne_iff_ne, ne_eq, and_assoc]

theorem usMainOK_spec_c14 {ds usMain : Array Nat} (h : usMainOK_c14 ds usMain = true) :
    ∀ d, d < ds.size → usMain[d]! ≠ ds.size →
      usMain[d]! < ds.size ∧ usMain[d]! ≠ d ∧ ds[usMain[d]!]! = d :=
  fun d hd hu => (usMainOK_iff_c14.1 h d hd).resolve_left hu

/-! ### a measure that every allowed step moves strictly one way -/

/-- if `Inv c d` ("cell `c` has measure `d`") is carried by every allowed step to an `R`-related measure,
every cell of the list has a measure `R`-related to that of the start cell -/
theorem iterWhile_measure (nx : Array Nat) (ok : Nat → Bool) (Inv : Nat → Nat → Prop) (R : Nat → Nat → Prop)
    (htr : ∀ a b c, R a b → R b c → R a c)
    (hstep : ∀ c d, Inv c d → ok c = true → ∃ d', R d d' ∧ Inv nx[c]! d') :
    ∀ (k c d : Nat), Inv c d → ∀ x ∈ iterWhile nx ok k c, ∃ d', R d d' ∧ Inv x d' := by
  intro k
  induction k with
  | zero => intro c d _ x hx; cases hx
  | succ k ih =>
    intro c d hd x hx
    simp only [iterWhile] at hx
    by_cases hok : ok c = true
    · rw [if_pos hok] at hx
      obtain ⟨e, hde, he⟩ := hstep c d hd hok
      rcases List.mem_cons.1 hx with hx | hx
      · exact ⟨e, hde, hx ▸ he⟩
      · obtain ⟨d', h1, h2⟩ := ih _ e he x hx
        exact ⟨d', htr _ _ _ hde h1, h2⟩
    · rw [if_neg hok] at hx; cases hx

/-- the measure being a function of the cell and `R` irreflexive, no cell occurs twice in the list -/
theorem iterWhile_nodup (nx : Array Nat) (ok : Nat → Bool) (Inv : Nat → Nat → Prop) (R : Nat → Nat → Prop)
    (htr : ∀ a b c, R a b → R b c → R a c) (hirr : ∀ a, ¬ R a a)
    (hfun : ∀ x a b, Inv x a → Inv x b → a = b)
    (hstep : ∀ c d, Inv c d → ok c = true → ∃ d', R d d' ∧ Inv nx[c]! d') :
    ∀ (k c d : Nat), Inv c d → (iterWhile nx ok k c).Nodup := by
  intro k
  induction k with
  | zero => intro c d _; exact List.nodup_nil
  | succ k ih =>
    intro c d hd
    simp only [iterWhile]
    by_cases hok : ok c = true
    · rw [if_pos hok]
      obtain ⟨e, _, he⟩ := hstep c d hd hok
      refine List.nodup_cons.2 ⟨fun hm => ?_, ih _ e he⟩
      obtain ⟨d', h1, h2⟩ := iterWhile_measure nx ok Inv R htr hstep k _ e he _ hm
      exact hirr e (hfun _ _ _ h2 he ▸ h1)
    · rw [if_neg hok]; exact List.nodup_nil

/-- a downstream step of the window leads one step nearer to the pit, inside the order -/
theorem downOK_step_c14 {ds : Array Nat} {seq : List Nat} (htopo : Topo ds seq) (strord : Option (Array Int))
    (s0 : Int) (c d : Nat) (h : c ∈ seq ∧ PitDist_c14 ds c d) (hok : downOK ds strord s0 c = true) :
    ∃ d', d' < d ∧ ds[c]! ∈ seq ∧ PitDist_c14 ds ds[c]! d' := by
  simp only [downOK, Bool.and_eq_true, bne_iff_ne, ne_eq] at hok
  obtain ⟨e, he, hde⟩ := h.2.down hok.1.1
  exact ⟨e, by omega, Topo.ds_mem htopo c h.1, hde⟩

/-- a step up the main stem leads one step further from the pit, inside the range -/
theorem upOK_step_c14 {ds usMain : Array Nat} (hus : usMainOK_c14 ds usMain = true) (c d : Nat)
    (h : c < ds.size ∧ PitDist_c14 ds c d) (hok : (usMain[c]! != ds.size) = true) :
    ∃ d', d < d' ∧ usMain[c]! < ds.size ∧ PitDist_c14 ds usMain[c]! d' := by
  obtain ⟨h1, h2, h3⟩ := usMainOK_spec_c14 hus c h.1 (bne_iff_ne.1 hok)
  exact ⟨d + 1, Nat.lt_succ_self d, h1,
    PitDist_c14.step _ d (by rw [h3]; exact fun e => h2 e.symm) (by rw [h3]; exact h.2)⟩

end Pf
