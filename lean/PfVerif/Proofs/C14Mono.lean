import PfVerif.Proofs.C14Up
/-! `fillnodata_downstream` is monotone in the field (all merge rules): two fields with the same
pattern of empty cells, one pointwise below the other, are filled to arrays in the same relation.
Used for the monotonicity of the river slope in the water-surface drop (`C14_riv`). -/
namespace Pf

/-- both empty, or both hold a value and the first is at most the second -/
def OptLe_c14 (a b : Option Int) : Prop :=
  match a, b with
  | none, none => True
  | some x, some y => x ≤ y
  | _, _ => False

theorem mergeHow_mono_c14 (how : Nat) {x x' a a' : Int} (hx : x ≤ x') (ha : a ≤ a') :
    mergeHow how x a ≤ mergeHow how x' a' := by
  unfold mergeHow
  split
  · exact Int.max_le.2 ⟨Int.le_trans hx (Int.le_max_left ..), Int.le_trans ha (Int.le_max_right ..)⟩
  · split
    · exact Int.le_min.2 ⟨Int.le_trans (Int.min_le_left ..) hx, Int.le_trans (Int.min_le_right ..) ha⟩
    · exact Int.add_le_add ha hx

theorem mergeOpt_mono_c14 (how : Nat) {acc acc' v v' : Option Int} (ha : OptLe_c14 acc acc')
    (hv : OptLe_c14 v v') : OptLe_c14 (mergeOpt how acc v) (mergeOpt how acc' v') := by
  cases v <;> cases v' <;> cases acc <;> cases acc' <;>
    simp only [OptLe_c14, mergeOpt] at ha hv ⊢ <;>
    first | exact ha | exact hv | exact mergeHow_mono_c14 how hv ha | trivial

theorem mergeFold_mono_c14 (how : Nat) (f f' : Nat → Option Int) :
    ∀ (cs : List Nat) (acc acc' : Option Int), (∀ c ∈ cs, OptLe_c14 (f c) (f' c)) → OptLe_c14 acc acc' →
      OptLe_c14 ((cs.map f).foldl (mergeOpt how) acc) ((cs.map f').foldl (mergeOpt how) acc') := by
  intro cs
  induction cs with
  | nil => intro acc acc' _ h; exact h
  | cons c cs ih =>
    intro acc acc' h ha
    simp only [List.map_cons, List.foldl_cons]
    exact ih _ _ (fun x hx => h x (by simp [hx])) (mergeOpt_mono_c14 how ha (h c (by simp)))

/-- **monotonicity of the fill (state level)**: same pattern of empty cells and `data ≤ data'` at every
cell give `fillOpt data j ≤ fillOpt data' j` (both empty or both values) at every index of the array -/
theorem fillOpt_mono_c14 (ds : Array Nat) (seq : List Nat) (data data' : Array Int) (nd nd' : Int) (how : Nat)
    (htopo : Topo ds seq) (hb : ∀ i ∈ seq, i < data.size) (hsz : data'.size = data.size)
    (hpat : ∀ j, j < data.size → (data[j]! = nd ↔ data'[j]! = nd'))
    (hle : ∀ j, j < data.size → data[j]! ≠ nd → data[j]! ≤ data'[j]!) :
    ∀ j, j < data.size → OptLe_c14 (fillOpt ds seq data nd how j) (fillOpt ds seq data' nd' how j) := by
  have hb' : ∀ i ∈ seq, i < data'.size := fun i hi => hsz ▸ hb i hi
  have key : ∀ j, j < data.size →
      (∀ c ∈ kids ds seq j, OptLe_c14 (fillOpt ds seq data nd how c) (fillOpt ds seq data' nd' how c)) →
      OptLe_c14 (fillOpt ds seq data nd how j) (fillOpt ds seq data' nd' how j) := by
    intro j hj hk
    have h1 := (fillDown_rec ds seq data nd how htopo hb j hj).1
    have h2 := (fillDown_rec ds seq data' nd' how htopo hb' j (hsz ▸ hj)).1
    unfold fillOpt
    rw [h1, h2]
    by_cases hd : data[j]! = nd
    · have hd' : data'[j]! = nd' := (hpat j hj).1 hd
      simp only [hd, hd', ne_eq, not_true_eq_false, if_false]
      exact mergeFold_mono_c14 how _ _ (kids ds seq j) none none hk trivial
    · have hd' : data'[j]! ≠ nd' := fun h => hd ((hpat j hj).2 h)
      simp only [hd, hd', ne_eq, not_false_eq_true, if_true]
      exact hle j hj hd
  have hin : ∀ j ∈ seq, OptLe_c14 (fillOpt ds seq data nd how j) (fillOpt ds seq data' nd' how j) :=
    htopo.induction_kids _ (fun j hj hk => key j (hb j hj) hk)
  intro j hj
  by_cases hs : j ∈ seq
  · exact hin j hs
  · refine key j hj (fun c hc => ?_)
    rw [kids_outside_c14 htopo j hs] at hc
    cases hc

/-- the same on the returned arrays (empty cells show the nodata value) -/
theorem fillDownModel_mono_c14 (ds : Array Nat) (seq : List Nat) (data data' : Array Int) (nd : Int) (how : Nat)
    (htopo : Topo ds seq) (hb : ∀ i ∈ seq, i < data.size) (hsz : data'.size = data.size)
    (hpat : ∀ j, j < data.size → (data[j]! = nd ↔ data'[j]! = nd))
    (hle : ∀ j, j < data.size → data[j]! ≠ nd → data[j]! ≤ data'[j]!) (j : Nat) (hj : j < data.size) :
    (fillDownModel ds seq data nd how)[j]! ≤ (fillDownModel ds seq data' nd how)[j]! := by
  have hb' : ∀ i ∈ seq, i < data'.size := fun i hi => hsz ▸ hb i hi
  have h := fillOpt_mono_c14 ds seq data data' nd nd how htopo hb hsz hpat hle j hj
  rw [(fillDown_rec ds seq data nd how htopo hb j hj).2,
    (fillDown_rec ds seq data' nd how htopo hb' j (hsz ▸ hj)).2]
  unfold fillOpt at h
  revert h
  cases optOf (fillDownState ds seq data nd how)[j]! <;>
    cases optOf (fillDownState ds seq data' nd how)[j]! <;> simp [OptLe_c14]

end Pf
