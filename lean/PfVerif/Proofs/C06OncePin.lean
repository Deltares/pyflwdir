import PfVerif.Proofs.C06Once
/-! `max_depth >= 0`: **the too-deep cells and the outlets keep their input elevation** (they are
never filled, although they may be re-opened and visited again). Second invariant, carried along with
`OnceMid`: a *pinned* cell (outlet, or a cell that had its too-deep event) only has heap entries at its
own elevation, and whenever it is re-opened it is covered by a heap entry (or the current pop) at or
below its own elevation, so every later visit has `dz <= 0`. -/
namespace Pf.C06
open Pf

variable {G : Grid} {conn : Nat} {elev : Array Int} {nod : Array Bool} {md : Int}

/-- outlet, or had a too-deep event -/
def Pin (seed : Array Bool) (s : StD) (c : Nat) : Prop := seed[c]! = true ∨ 1 ≤ s.evc[c]!

/-- pinned cells are at their input elevation, have heap entries only at that elevation, and when re-opened are
covered by a heap entry (or the current pop) at or below it; `entT`: heap entries are touched cells -/
structure PinBase (G : Grid) (conn : Nat) (elev : Array Int) (seed : Array Bool)
    (i0 : Nat) (os : List (Int × Int)) (s : StD) : Prop where
  entT : ∀ e, e ∈ s.q → s.queued[e.idx]! = true
  untouched : ∀ c, c < G.n → s.queued[c]! = false → s.f[c]! = elev[c]!
  seedQ : ∀ c, c < G.n → seed[c]! = true → s.queued[c]! = true
  pinF : ∀ c, c < G.n → Pin seed s c → s.f[c]! = elev[c]!
  pinE : ∀ e, e ∈ s.q → Pin seed s e.idx → e.z ≤ elev[e.idx]!
  pinCover : ∀ c, c < G.n → Pin seed s c → s.queued[c]! = true → s.done[c]! = false →
    (∃ e, e ∈ s.q ∧ Win G conn e.idx c ∧ e.z ≤ elev[c]!) ∨ AtO G i0 os c

/-- `PinBase` plus: the popped level is at or below the elevation of every re-opened pinned cell still to be
visited, and of the popped cell if it is pinned -/
structure PinMid (G : Grid) (conn : Nat) (elev : Array Int) (seed : Array Bool)
    (z0 : Int) (i0 : Nat) (os : List (Int × Int)) (s : StD) : Prop where
  base : PinBase G conn elev seed i0 os s
  pinNow : ∀ c, c < G.n → Pin seed s c → s.queued[c]! = true → s.done[c]! = false → AtO G i0 os c →
    z0 ≤ elev[c]!
  pinPop : Pin seed s i0 → z0 ≤ elev[i0]!
  popQ : s.queued[i0]! = true

theorem pinMid_skip {seed : Array Bool} {z0 : Int} {i0 : Nat} {o : Int × Int} {os : List (Int × Int)} {s : StD}
    (P : PinMid G conn elev seed z0 i0 (o :: os) s)
    (h : shift G i0 o.1 o.2 = none ∨ ∃ j, shift G i0 o.1 o.2 = some j ∧ s.done[j]! = true) :
    PinMid G conn elev seed z0 i0 os s := by
  have drop1 : ∀ c : Nat, s.done[c]! = false → AtO G i0 (o :: os) c → AtO G i0 os c :=
    fun c => atO_skip h
  have B := P.base
  exact
    { base :=
        { entT := B.entT, untouched := B.untouched, seedQ := B.seedQ, pinF := B.pinF, pinE := B.pinE
          pinCover := fun c hc hp hq hd => by
            rcases B.pinCover c hc hp hq hd with h1 | h2
            · exact Or.inl h1
            · exact Or.inr (drop1 c hd h2) }
      pinNow := fun c hc hp hq hd hat => P.pinNow c hc hp hq hd (atO_tail hat)
      pinPop := P.pinPop
      popQ := P.popQ }

/-- a too-deep event pins only its own cell -/
theorem pin_deep_old {seed : Array Bool} {s : StD} {j c : Nat} (hs : SizedD G s) (hj : j < G.n) (hc : c ≠ j)
    (hp : Pin seed (deepStep G conn elev nod s j) c) : Pin seed s c := by
  unfold Pin at *
  rw [(deep_facts (conn := conn) (elev := elev) (nod := nod) s j hs hj).2.2.2.2.1, if_neg (fun h => hc h.1)] at hp
  exact hp

/-- the too-deep branch keeps the clauses that do not speak of the popped level -/
theorem pinBase_deep {seed : Array Bool} {z0 : Int} {i0 : Nat} {o : Int × Int} {os : List (Int × Int)}
    {s : StD} {j : Nat} (hs : SizedD G s)
    (I : OnceMid G conn elev nod md z0 i0 (o :: os) s) (P : PinMid G conn elev seed z0 i0 (o :: os) s)
    (hsh : shift G i0 o.1 o.2 = some j) (hd : s.done[j]! = false)
    (ht : tooDeep md (z0 - elev[j]!) = true) :
    PinBase G conn elev seed i0 os (deepStep G conn elev nod s j) := by
  have B := I.base
  have Q := P.base
  obtain ⟨hj, hnj, hTj⟩ := deep_target I hsh hd ht
  have reop : ∀ c : Nat, c < G.n → c ≠ j → s.queued[c]! = true → s.done[c]! = true →
      (deepStep G conn elev nod s j).done[c]! = false →
      Win G conn j c ∧ ((∃ e, e ∈ s.q ∧ e.idx = c) ∨ c = i0) :=
    fun c hc _ hqc hdc hdc' => reopened B hs hj hnj hTj hc hqc hdc hdc'
  have hlow : elev[j]! < z0 := by
    unfold tooDeep at ht
    simp only [Bool.and_eq_true, decide_eq_true_eq] at ht
    omega
  have ff : (deepStep G conn elev nod s j).f = s.f := rfl
  have pinOld : ∀ c : Nat, c ≠ j → Pin seed (deepStep G conn elev nod s j) c → Pin seed s c :=
    fun c hc => pin_deep_old hs hj hc
  obtain ⟨fq, ⟨qold, qj⟩, fdn, _, _, _, _, _⟩ :=
    deep_facts (conn := conn) (elev := elev) (nod := nod) s j hs hj
  generalize deepStep G conn elev nod s j = s' at *
  have qmono := queued_mono qold qj
  have newE : (⟨elev[j]!, 0, j⟩ : HE) ∈ s'.q := (fq _).2 (Or.inl rfl)
  have oldE : ∀ e, e ∈ s.q → e ∈ s'.q := fun e he => (fq e).2 (Or.inr he)
  have dropj : ∀ x : Nat, x ≠ j → AtO G i0 (o :: os) x → AtO G i0 os x := fun x hx => atO_drop hsh hx
  exact
    { entT := fun e he => by
        rcases (fq e).1 he with rfl | he
        · exact qj
        · exact qmono _ (Q.entT e he)
      untouched := fun c hc hq => by
        have hcj : c ≠ j := fun h => by rw [h, qj] at hq; cases hq
        rw [qold c hcj] at hq
        rw [ff]; exact Q.untouched c hc hq
      seedQ := fun c hc hsd => qmono c (Q.seedQ c hc hsd)
      pinF := fun c hc hp => by
        rw [ff]
        by_cases hcj : c = j
        · rw [hcj]; exact Q.untouched j hj hTj
        · exact Q.pinF c hc (pinOld c hcj hp)
      pinE := fun e he hp => by
        rcases (fq e).1 he with rfl | he
        · exact Int.le_refl _
        · have hne : e.idx ≠ j := fun h => by have := Q.entT e he; rw [h, hTj] at this; cases this
          exact Q.pinE e he (pinOld _ hne hp)
      pinCover := fun c hc hp hq hdc' => by
        by_cases hcj : c = j
        · subst hcj
          exact Or.inl ⟨_, newE, win_self hc, Int.le_refl _⟩
        · rw [qold c hcj] at hq
          have hp := pinOld c hcj hp
          cases hdc : s.done[c]! with
          | false =>
            rcases Q.pinCover c hc hp hq hdc with ⟨e, he, h1, h2⟩ | h
            · exact Or.inl ⟨e, oldE e he, h1, h2⟩
            · exact Or.inr (dropj c hcj h)
          | true =>
            obtain ⟨hwin, hcase⟩ := reop c hc hcj hq hdc hdc'
            rcases hcase with ⟨e, he, hi⟩ | hi0
            · refine Or.inl ⟨e, oldE e he, by rw [hi]; exact win_self hc, ?_⟩
              have := Q.pinE e he (by rw [hi]; exact hp)
              rw [hi] at this; exact this
            · by_cases hat : AtO G i0 os c
              · exact Or.inr hat
              · refine Or.inl ⟨_, newE, hwin, ?_⟩
                have := P.pinPop (hi0 ▸ hp)
                show elev[j]! ≤ elev[c]!
                rw [hi0]; omega }

theorem pinMid_deep {seed : Array Bool} {z0 : Int} {i0 : Nat} {o : Int × Int} {os : List (Int × Int)}
    {s : StD} {j : Nat} (hs : SizedD G s) (hnd : o ∉ os)
    (I : OnceMid G conn elev nod md z0 i0 (o :: os) s) (P : PinMid G conn elev seed z0 i0 (o :: os) s)
    (hsh : shift G i0 o.1 o.2 = some j) (hd : s.done[j]! = false)
    (ht : tooDeep md (z0 - elev[j]!) = true) :
    PinMid G conn elev seed z0 i0 os (deepStep G conn elev nod s j) := by
  have B := I.base
  have Q := P.base
  obtain ⟨hj, hnj, hTj⟩ := deep_target I hsh hd ht
  have reop : ∀ c : Nat, c < G.n → c ≠ j → s.queued[c]! = true → s.done[c]! = true →
      (deepStep G conn elev nod s j).done[c]! = false →
      Win G conn j c ∧ ((∃ e, e ∈ s.q ∧ e.idx = c) ∨ c = i0) :=
    fun c hc _ hqc hdc hdc' => reopened B hs hj hnj hTj hc hqc hdc hdc'
  have hnat : ¬ AtO G i0 os j := not_atO_head hnd hsh
  have base := pinBase_deep hs I P hsh hd ht
  have pinOld : ∀ c : Nat, c ≠ j → Pin seed (deepStep G conn elev nod s j) c → Pin seed s c :=
    fun c hc => pin_deep_old hs hj hc
  obtain ⟨_, ⟨qold, qj⟩, _⟩ := deep_facts (conn := conn) (elev := elev) (nod := nod) s j hs hj
  generalize deepStep G conn elev nod s j = s' at *
  have qmono := queued_mono qold qj
  have hi0j : i0 ≠ j := fun h => by have := P.popQ; rw [h, hTj] at this; cases this
  exact
    { base := base
      pinNow := fun c hc hp hq hdc' hat => by
        have hcj : c ≠ j := fun h => hnat (h ▸ hat)
        rw [qold c hcj] at hq
        have hp := pinOld c hcj hp
        cases hdc : s.done[c]! with
        | false => exact P.pinNow c hc hp hq hdc (atO_tail hat)
        | true =>
          obtain ⟨_, hcase⟩ := reop c hc hcj hq hdc hdc'
          rcases hcase with ⟨e, he, hi⟩ | hi0
          · rcases I.lvl e he with h1 | ⟨h2, _⟩
            · have := Q.pinE e he (by rw [hi]; exact hp)
              rw [hi] at this
              omega
            · rw [hi, hdc] at h2; cases h2
          · rw [hi0]; exact P.pinPop (hi0 ▸ hp)
      pinPop := fun hp => P.pinPop (pinOld i0 hi0j hp)
      popQ := qmono i0 P.popQ }

/-- the normal branch at `j` keeps `PinBase`, provided a pinned `j` is visited at or below its own elevation -/
theorem pinBase_fill {seed : Array Bool} {z0 : Int} {i0 : Nat} {o : Int × Int} {os : List (Int × Int)}
    {s : StD} {j : Nat} (code : Nat) (hs : SizedD G s) (Q : PinBase G conn elev seed i0 (o :: os) s)
    (hsh : shift G i0 o.1 o.2 = some j) (hpinZ : Pin seed s j → z0 ≤ elev[j]!) :
    PinBase G conn elev seed i0 os (fillStep elev z0 (resetStep elev s j) j code) := by
  have hj : j < G.n := (shift_spec.1 hsh).1
  obtain ⟨hne, dj, qj, _, hf, _, fevc, hq, _⟩ := fill_get (elev := elev) z0 s j code hs hj
  generalize fillStep elev z0 (resetStep elev s j) j code = s' at *
  obtain ⟨fq1, fq2, _⟩ := hpush_or_facts hq
  have ff1 : ∀ c : Nat, c ≠ j → s'.f[c]! = s.f[c]! := fun c hc => (hne c hc).2.2.1
  have ff2 : z0 - elev[j]! ≤ 0 → s'.f[j]! = s.f[j]! ∨ s'.f[j]! = elev[j]! := by
    intro hz
    rw [hf, if_neg (by omega)]
    by_cases hdv : s.delv[j]! > 0
    · rw [if_pos hdv]; exact Or.inr rfl
    · rw [if_neg hdv]; exact Or.inl rfl
  have qold : ∀ x : Nat, x ≠ j → s'.queued[x]! = s.queued[x]! := fun x hx => (hne x hx).2.1
  have dold : ∀ x : Nat, x ≠ j → s'.done[x]! = s.done[x]! := fun x hx => (hne x hx).1
  have qmono := queued_mono qold qj
  have dropj : ∀ x : Nat, x ≠ j → AtO G i0 (o :: os) x → AtO G i0 os x := fun x hx => atO_drop hsh hx
  have pinEq : ∀ c : Nat, Pin seed s' c ↔ Pin seed s c := by
    intro c; unfold Pin; rw [fevc]
  exact
    { entT := fun e he => by
        rcases fq1 e he with rfl | he
        · exact qj
        · exact qmono _ (Q.entT e he)
      untouched := fun c hc hq => by
        have hcj : c ≠ j := fun h => by rw [h, qj] at hq; cases hq
        rw [qold c hcj] at hq
        rw [ff1 c hcj]; exact Q.untouched c hc hq
      seedQ := fun c hc hsd => qmono c (Q.seedQ c hc hsd)
      pinF := fun c hc hp => by
        have hp := (pinEq c).1 hp
        by_cases hcj : c = j
        · subst hcj
          have := hpinZ hp
          rcases ff2 (by omega) with h | h
          · rw [h]; exact Q.pinF c hc hp
          · exact h
        · rw [ff1 c hcj]; exact Q.pinF c hc hp
      pinE := fun e he hp => by
        rcases fq1 e he with rfl | he
        · have := hpinZ ((pinEq j).1 hp)
          show lvl z0 elev[j]! ≤ elev[j]!
          unfold lvl; split <;> omega
        · exact Q.pinE e he ((pinEq _).1 hp)
      pinCover := fun c hc hp hq hdc' => by
        have hcj : c ≠ j := fun h => by rw [h, dj] at hdc'; cases hdc'
        rw [qold c hcj] at hq
        rw [dold c hcj] at hdc'
        rcases Q.pinCover c hc ((pinEq c).1 hp) hq hdc' with ⟨e, he, h1, h2⟩ | h
        · exact Or.inl ⟨e, fq2 e he, h1, h2⟩
        · exact Or.inr (dropj c hcj h) }

theorem pinMid_fill {seed : Array Bool} {z0 : Int} {i0 : Nat} {o : Int × Int} {os : List (Int × Int)}
    {s : StD} {j : Nat} (code : Nat) (hs : SizedD G s)
    (I : OnceMid G conn elev nod md z0 i0 (o :: os) s) (P : PinMid G conn elev seed z0 i0 (o :: os) s)
    (hsh : shift G i0 o.1 o.2 = some j) (hd : s.done[j]! = false) :
    PinMid G conn elev seed z0 i0 os (fillStep elev z0 (resetStep elev s j) j code) := by
  have hj : j < G.n := (shift_spec.1 hsh).1
  -- a pinned cell is touched, and is visited at or below its own elevation
  have hpinQ : Pin seed s j → s.queued[j]! = true := by
    intro hp
    cases hq : s.queued[j]! with
    | true => rfl
    | false =>
      rcases hp with hp | hp
      · have := P.base.seedQ j hj hp; rw [hq] at this; cases this
      · have := I.base.evc0 j hj hq; omega
  have hpinZ : Pin seed s j → z0 ≤ elev[j]! :=
    fun hp => P.pinNow j hj hp (hpinQ hp) hd ⟨o, List.mem_cons_self, hsh⟩
  have base := pinBase_fill (conn := conn) code hs P.base hsh hpinZ
  obtain ⟨hne, dj, qj, _, _, _, fevc, _⟩ := fill_get (elev := elev) z0 s j code hs hj
  generalize fillStep elev z0 (resetStep elev s j) j code = s' at *
  have qold : ∀ x : Nat, x ≠ j → s'.queued[x]! = s.queued[x]! := fun x hx => (hne x hx).2.1
  have dold : ∀ x : Nat, x ≠ j → s'.done[x]! = s.done[x]! := fun x hx => (hne x hx).1
  have qmono := queued_mono qold qj
  have pinEq : ∀ c : Nat, Pin seed s' c ↔ Pin seed s c := by
    intro c; unfold Pin; rw [fevc]
  exact
    { base := base
      pinNow := fun c hc hp hq hdc' hat => by
        have hcj : c ≠ j := fun h => by rw [h, dj] at hdc'; cases hdc'
        rw [qold c hcj] at hq
        rw [dold c hcj] at hdc'
        exact P.pinNow c hc ((pinEq c).1 hp) hq hdc' (atO_tail hat)
      pinPop := fun hp => P.pinPop ((pinEq i0).1 hp)
      popQ := qmono i0 P.popQ }

theorem pinMid_visit {seed : Array Bool} {z0 : Int} {i0 : Nat} {o : Int × Int} {os : List (Int × Int)}
    {s : StD} (hs : SizedD G s) (hnd : o ∉ os)
    (I : OnceMid G conn elev nod md z0 i0 (o :: os) s) (P : PinMid G conn elev seed z0 i0 (o :: os) s) :
    PinMid G conn elev seed z0 i0 os (visitD G conn elev nod md z0 i0 s o) := by
  rcases visitD_cases (G := G) (conn := conn) (elev := elev) (nod := nod) (md := md) z0 i0 s o with
    ⟨heq, h⟩ | ⟨j, hsh, hd, ht, heq⟩ | ⟨j, hsh, hd, _, heq⟩
  · rw [heq]; exact pinMid_skip P h
  · rw [heq]; exact pinMid_deep hs hnd I P hsh hd ht
  · rw [heq]; exact pinMid_fill _ hs I P hsh hd

theorem pinMid_fold {seed : Array Bool} {z0 : Int} {i0 : Nat} (os : List (Int × Int)) (hnd : os.Nodup)
    (s : StD) (hs : SizedD G s) (I : OnceMid G conn elev nod md z0 i0 os s)
    (P : PinMid G conn elev seed z0 i0 os s) :
    PinMid G conn elev seed z0 i0 [] (os.foldl (visitD G conn elev nod md z0 i0) s) := by
  induction os generalizing s with
  | nil => exact P
  | cons o os ih =>
    have h := List.nodup_cons.1 hnd
    exact ih h.2 _ (sizedD_visit s o hs) (onceMid_visit hs h.1 I) (pinMid_visit hs h.1 I P)

theorem pinMid_pop {seed : Array Bool} {i : Nat} {s : StD} {h : HE} {rest : List HE}
    (B : OnceBase G conn elev nod md i [] s) (Q : PinBase G conn elev seed i [] s) (hq : s.q = h :: rest) :
    PinMid G conn elev seed h.z h.idx (offsets conn) { s with q := rest } := by
  have hsort : HSorted (h :: rest) := hq ▸ B.sorted
  have hmem : ∀ e, e ∈ rest → e ∈ s.q := fun e he => by rw [hq]; exact List.mem_cons_of_mem _ he
  have hh : h ∈ s.q := by rw [hq]; exact List.mem_cons_self
  have hge := hsorted_head_le hsort
  exact
    { base :=
        { entT := fun e he => Q.entT e (hmem e he)
          untouched := Q.untouched, seedQ := Q.seedQ, pinF := Q.pinF
          pinE := fun e he hp => Q.pinE e (hmem e he) hp
          pinCover := fun c hc hp hqc hdc => by
            rcases Q.pinCover c hc hp hqc hdc with ⟨e, he, h1, h2⟩ | h
            · rw [hq] at he
              rcases List.mem_cons.1 he with rfl | he
              · exact Or.inr h1
              · exact Or.inl ⟨e, he, h1, h2⟩
            · exact absurd h atO_nil }
      pinNow := fun c hc hp hqc hdc _ => by
        rcases Q.pinCover c hc hp hqc hdc with ⟨e, he, _, h2⟩ | h
        · rw [hq] at he
          have := hge e he; omega
        · exact absurd h atO_nil
      pinPop := fun hp => Q.pinE h hh hp
      popQ := Q.entT h hh }

theorem pinBase_of_mid {seed : Array Bool} {z0 : Int} {i0 i : Nat} {s : StD}
    (P : PinMid G conn elev seed z0 i0 [] s) : PinBase G conn elev seed i [] s :=
  have Q := P.base
  { entT := Q.entT, untouched := Q.untouched, seedQ := Q.seedQ, pinF := Q.pinF, pinE := Q.pinE
    pinCover := fun c hc hp hqc hdc => by
      rcases Q.pinCover c hc hp hqc hdc with h1 | h
      · exact Or.inl h1
      · exact absurd h atO_nil }

theorem pinBase_loop {seed : Array Bool} (fuel : Nat) (s : StD) (hs : SizedD G s)
    (B : OnceBase G conn elev nod md 0 [] s) (Q : PinBase G conn elev seed 0 [] s) :
    PinBase G conn elev seed 0 [] (fillLoopD G conn elev nod md fuel s) :=
  (fillLoopD_induct
    (fun s => SizedD G s ∧ OnceBase G conn elev nod md 0 [] s ∧ PinBase G conn elev seed 0 [] s)
    (fun _ _ _ ⟨hs, B, Q⟩ hq => ⟨sizedD_fold _ _ hs, onceBase_pop hs B hq,
      pinBase_of_mid (pinMid_fold _ (offsets_nodup conn) _ hs (onceMid_pop B hq) (pinMid_pop B Q hq))⟩)
    fuel s ⟨hs, B, Q⟩).2.2

theorem pinBase_init {seed : Array Bool} :
    PinBase G conn elev seed 0 [] (initStateD G elev nod seed) :=
  { entT := fun e he => by
      obtain ⟨i, _, hq, rfl⟩ := (mem_initHeap G elev seed e).1 he
      exact hq
    untouched := fun _ _ _ => rfl
    seedQ := fun _ _ h => h
    pinF := fun _ _ _ => rfl
    pinE := fun e he _ => by
      obtain ⟨i, _, _, rfl⟩ := (mem_initHeap G elev seed e).1 he
      exact Int.le_refl _
    pinCover := fun c hc _ hq _ =>
      Or.inl ⟨⟨elev[c]!, 1, c⟩, (mem_initHeap G elev seed _).2 ⟨c, hc, hq, rfl⟩, win_self hc, Int.le_refl _⟩ }

/-- every state of every run: outlets and cells that had their too-deep event are at their input
elevation, and so is every cell that was never queued -/
theorem pin_keep_loop {seed : Array Bool} (fuel : Nat) (hN : nod.size = G.n) (hE : elev.size = G.n)
    (hS : seed.size = G.n) (c : Nat) (hc : c < G.n) :
    let s := fillLoopD G conn elev nod md fuel (initStateD G elev nod seed)
    (seed[c]! = true ∨ 1 ≤ s.evc[c]! ∨ s.queued[c]! = false) → s.f[c]! = elev[c]! := by
  intro s h
  have hs := sizedD_init (elev := elev) hN hE hS
  have Q : PinBase G conn elev seed 0 [] s := pinBase_loop fuel _ hs onceBase_init pinBase_init
  rcases h with h | h | h
  · exact Q.pinF c hc (Or.inl h)
  · exact Q.pinF c hc (Or.inr h)
  · exact Q.untouched c hc h

theorem fillModelDepth_keep {pits : Option (List Nat)} {minMode : Bool} {elvMax : Option Int}
    {f : Array Int} {d8 : Array Nat} {fin : Bool} {ev : Nat} {evc : Array Nat}
    (hN : nod.size = G.n) (hE : elev.size = G.n)
    (h : fillModelDepth G conn elev nod pits minMode elvMax md = .ok (f, d8, fin, ev, evc)) :
    ∃ seed, seedsOfE G conn elev nod pits minMode elvMax = .ok seed ∧
      ∀ c, c < G.n → (seed[c]! = true ∨ 1 ≤ evc[c]!) → f[c]! = elev[c]! := by
  obtain ⟨seed, hseed, rfl, _, _, _, rfl⟩ := fillModelDepth_run h
  refine ⟨seed, hseed, fun c hc hp => ?_⟩
  apply pin_keep_loop (conn := conn) (md := md) (fuelD G) hN hE (seedsOfE_size hseed) c hc
  rcases hp with hp | hp
  · exact Or.inl hp
  · exact Or.inr (Or.inl hp)

end Pf.C06
