import PfVerif.Proofs.C18Digits
/-! Algorithm-level partition invariant of `subbasins_pfafstetter`: after every step of the pit loop
and of the worklist loop, every coded cell that is not a returned outlet is the main upstream cell
of its downstream cell, is a stream cell, and carries its downstream cell's code. Hence walking
downstream from any coded cell the code stays the same until a returned outlet is met.
The only fact about the visiting order that is used is the run-time side condition `ok` of
`pfInner` (see Model/C18.lean). -/
namespace Pf

/-! ### what one `stemFill` does -/

namespace C18

/-- `k`-fold main upstream cell -/
def iterU (usMain : Array Nat) : Nat → Nat → Nat
  | 0, x => x
  | k+1, x => iterU usMain k usMain[x]!

theorem iterU_add (usMain : Array Nat) : ∀ (a b x : Nat),
    iterU usMain (a + b) x = iterU usMain b (iterU usMain a x) := by
  intro a
  induction a with
  | zero => intro b x; simp [iterU]
  | succ a ih =>
    intro b x
    have : a + 1 + b = (a + b) + 1 := by omega
    rw [this]
    simp only [iterU]
    exact ih b _

theorem iterU_succ' (usMain : Array Nat) (k x : Nat) :
    iterU usMain (k + 1) x = usMain[iterU usMain k x]! := by
  rw [iterU_add usMain k 1 x]; rfl

end C18

/-- `T` = the set of cells a stem fill writes: the start cell and, link by main-upstream link, the cells above it up to
the first one at which the stop test `h` fires (which is not written); everything written gets `v`, nothing else changes;
the written cells are main-upstream iterates of the start cell, all iterates before them written too -/
theorem stemFill_spec (ds usMain : Array Nat)
    (hus : ∀ i, i < ds.size → usMain[i]! < ds.size → usMain[i]! ≠ i ∧ ds[usMain[i]!]! = i)
    (h : Nat → Int → Bool) (v : Int) :
    ∀ (f idx : Nat) (br r : Array Int), idx < ds.size → br.size = ds.size → br[idx]! = v →
      stemFill usMain ds.size h v f idx br = some r →
      ∃ T : Nat → Prop, T idx ∧ (∀ s, T s → s < ds.size) ∧
        (∀ s, ¬ T s → r[s]! = br[s]!) ∧ (∀ s, T s → r[s]! = v) ∧
        (∀ s, T s → s ≠ idx → ds[s]! ≠ s ∧ T ds[s]! ∧ usMain[ds[s]!]! = s ∧ h s br[s]! = false) ∧
        (∀ c, T c → usMain[c]! < ds.size → T usMain[c]! ∨ h usMain[c]! br[usMain[c]!]! = true) ∧
        (∀ s, T s → ∃ k, s = C18.iterU usMain k idx ∧ ∀ j, j ≤ k → T (C18.iterU usMain j idx)) := by
  intro f
  induction f with
  | zero => intro idx br r _ _ _ hr; simp [stemFill] at hr
  | succ f ih =>
    intro idx br r hidx hsz hv hr
    simp only [stemFill] at hr
    split at hr
    · rename_i hstop
      simp only [Option.some.injEq] at hr
      subst hr
      refine ⟨fun s => s = idx, rfl, fun s hs => hs ▸ hidx, fun _ _ => rfl, fun s hs => hs ▸ hv,
        fun s hs hne => absurd hs hne, fun c hc hlt => ?_, fun s hs => ⟨0, hs, fun j hj => ?_⟩⟩
      · subst hc
        simp only [Bool.or_eq_true, decide_eq_true_eq] at hstop
        rcases hstop with h1 | h1
        · omega
        · exact Or.inr h1
      · have : j = 0 := by omega
        subst this; rfl
    · rename_i hstop
      simp only [Bool.or_eq_true, decide_eq_true_eq, not_or, Bool.not_eq_true] at hstop
      obtain ⟨hlt, hh⟩ := hstop
      have hlt' : usMain[idx]! < ds.size := by omega
      obtain ⟨hne, hds⟩ := hus idx hidx hlt'
      obtain ⟨T', hT0, hTlt, hTout, hTin, hTw, hTc, hTk⟩ :=
        ih usMain[idx]! (br.setIfInBounds usMain[idx]! v) r hlt' (by simp [hsz])
          (get!_set_self (by omega) v) hr
      have hother : ∀ s, s ≠ usMain[idx]! → (br.setIfInBounds usMain[idx]! v)[s]! = br[s]! :=
        fun s hs => get!_set_ne hs v
      refine ⟨fun s => s = idx ∨ T' s, Or.inl rfl, ?_, ?_, ?_, ?_, ?_, ?_⟩
      · rintro s (hs | hs)
        · exact hs ▸ hidx
        · exact hTlt s hs
      · intro s hs
        simp only [not_or] at hs
        rw [hTout s hs.2]
        exact hother s (fun hc => hs.2 (hc ▸ hT0))
      · rintro s (hs | hs)
        · by_cases ht : T' s
          · exact hTin s ht
          · rw [hTout s ht, hother s (fun hc => ht (hc ▸ hT0)), hs]; exact hv
        · exact hTin s hs
      · rintro s (hs | hs) hne
        · exact absurd hs hne
        · by_cases hsu : s = usMain[idx]!
          · subst hsu
            exact ⟨by rw [hds]; exact Ne.symm hne, by rw [hds]; exact Or.inl rfl, by rw [hds], hh⟩
          · obtain ⟨h1, h2, h3, h4⟩ := hTw s hs hsu
            exact ⟨h1, Or.inr h2, h3, by rw [← hother s hsu]; exact h4⟩
      · rintro c (hc | hc) hclt
        · subst hc; exact Or.inl (Or.inr hT0)
        · rcases hTc c hc hclt with h1 | h1
          · exact Or.inl (Or.inr h1)
          · by_cases hcu : usMain[c]! = usMain[idx]!
            · rw [hcu]; exact Or.inl (Or.inr hT0)
            · rw [hother _ hcu] at h1; exact Or.inr h1
      · rintro s (hs | hs)
        · exact ⟨0, hs, fun j hj => by
            have : j = 0 := by omega
            subst this; exact Or.inl rfl⟩
        · obtain ⟨k, hk, hkj⟩ := hTk s hs
          refine ⟨k + 1, hk, fun j hj => ?_⟩
          cases j with
          | zero => exact Or.inl rfl
          | succ j => exact Or.inr (hkj j (by omega))

/-! ### the invariant -/

/-- the seed array `br` and the returned outlets `idxs` so far: outlets are coded cells, and a coded cell that is not an
outlet is not a pit, carries the code of its downstream cell, is that cell's main upstream cell and is a stream cell -/
structure PfafInv (ds usMain : Array Nat) (so br : Array Int) (idxs : List Nat) : Prop where
  size : br.size = ds.size
  out : ∀ o ∈ idxs, o < ds.size ∧ br[o]! ≠ 0
  down : ∀ s, s < ds.size → br[s]! ≠ 0 → s ∉ idxs →
    ds[s]! ≠ s ∧ br[ds[s]!]! = br[s]! ∧ usMain[ds[s]!]! = s ∧ so[s]! ≠ 0

theorem PfafInv.init (ds usMain : Array Nat) (so : Array Int) :
    PfafInv ds usMain so (Array.replicate ds.size 0) [] where
  size := by simp
  out := by simp
  down := fun s _ hs _ => absurd (get!_replicate ds.size s (.inr rfl)) hs

/-- seed cell `x` with `v`, fill upstream along the main stem, append `x` to the outlets -/
theorem PfafInv.step {ds usMain : Array Nat} {so br : Array Int} {idxs : List Nat}
    (hinv : PfafInv ds usMain so br idxs)
    (hus : ∀ i, i < ds.size → usMain[i]! < ds.size → usMain[i]! ≠ i ∧ ds[usMain[i]!]! = i)
    {x : Nat} (hx : x < ds.size) {v : Int} (hv : v ≠ 0) (h : Nat → Int → Bool) {f : Nat} {r : Array Int}
    (hr : stemFill usMain ds.size h v f x (br.setIfInBounds x v) = some r)
    (hW : ∀ s, s ≠ x → s < ds.size → h s br[s]! = false → s ∈ idxs ∨ so[s]! ≠ 0)
    (hC : ∀ s, s < ds.size → br[s]! ≠ 0 → s ∉ idxs → s ≠ x → br[ds[s]!]! = br[s]! →
      (ds[s]! = x ∨ h ds[s]! br[ds[s]!]! = false) → h s br[s]! = true → False) :
    PfafInv ds usMain so r (idxs ++ [x]) := by
  have hsz1 : (br.setIfInBounds x v).size = ds.size := by simp [hinv.size]
  have hset : (br.setIfInBounds x v)[x]! = v := get!_set_self (hinv.size ▸ hx) v
  have hother : ∀ s, s ≠ x → (br.setIfInBounds x v)[s]! = br[s]! := fun s hs => get!_set_ne hs v
  obtain ⟨T, hTx, hTlt, hTout, hTin, hTw, hTc, _⟩ :=
    stemFill_spec ds usMain hus h v f x _ r hx hsz1 hset hr
  refine ⟨?_, ?_, ?_⟩
  · rw [stemFill_size _ _ _ _ _ _ _ _ hr]; exact hsz1
  · intro o ho
    rcases List.mem_append.1 ho with ho | ho
    · refine ⟨(hinv.out o ho).1, ?_⟩
      by_cases ht : T o
      · rw [hTin o ht]; exact hv
      · rw [hTout o ht, hother o (fun hc => ht (hc ▸ hTx))]; exact (hinv.out o ho).2
    · simp only [List.mem_singleton] at ho
      subst ho
      exact ⟨hx, by rw [hTin o hTx]; exact hv⟩
  · intro s hs hne hnot
    simp only [List.mem_append, List.mem_singleton, not_or] at hnot
    obtain ⟨hni, hsx⟩ := hnot
    by_cases ht : T s
    · obtain ⟨h1, h2, h3, h4⟩ := hTw s ht hsx
      refine ⟨h1, by rw [hTin _ h2, hTin s ht], h3, ?_⟩
      rw [hother s hsx] at h4
      rcases hW s hsx hs h4 with h5 | h5
      · exact absurd h5 hni
      · exact h5
    · have hrs : r[s]! = br[s]! := by rw [hTout s ht, hother s hsx]
      rw [hrs] at hne ⊢
      obtain ⟨h1, h2, h3, h4⟩ := hinv.down s hs hne hni
      refine ⟨h1, ?_, h3, h4⟩
      by_cases htc : T ds[s]!
      · exfalso
        have hcl := hTc ds[s]! htc (by rw [h3]; exact hs)
        rw [h3] at hcl
        rcases hcl with hcl | hcl
        · exact ht hcl
        · rw [hother s hsx] at hcl
          refine hC s hs hne hni hsx h2 ?_ hcl
          by_cases hcx : ds[s]! = x
          · exact Or.inl hcx
          · have := (hTw ds[s]! htc hcx).2.2.2
            rw [hother _ hcx] at this
            exact Or.inr this
      · rw [hTout _ htc, hother _ (fun hc => htc (by rw [hc]; exact hTx))]; exact h2

/-- the sub-basin / pit kind of step (`stop = strord == 0`) -/
theorem PfafInv.step_sub {ds usMain : Array Nat} {so br : Array Int} {idxs : List Nat}
    (hinv : PfafInv ds usMain so br idxs)
    (hus : ∀ i, i < ds.size → usMain[i]! < ds.size → usMain[i]! ≠ i ∧ ds[usMain[i]!]! = i)
    {x : Nat} (hx : x < ds.size) {v : Int} (hv : v ≠ 0) {f : Nat} {r : Array Int}
    (hr : stemFill usMain ds.size (fun u _ => so[u]! == 0) v f x (br.setIfInBounds x v) = some r) :
    PfafInv ds usMain so r (idxs ++ [x]) := by
  refine hinv.step hus hx hv _ hr ?_ ?_
  · intro s _ _ hh
    simp only [beq_eq_false_iff_ne, ne_eq] at hh
    exact Or.inr hh
  · intro s hs hne hni _ _ _ hh
    simp only [beq_iff_eq] at hh
    exact (hinv.down s hs hne hni).2.2.2 hh

/-- the inter-basin kind of step (`stop = code != pfaf_int_ds`), under the side condition -/
theorem PfafInv.step_int {ds usMain : Array Nat} {so br : Array Int} {idxs : List Nat}
    (hinv : PfafInv ds usMain so br idxs)
    (hus : ∀ i, i < ds.size → usMain[i]! < ds.size → usMain[i]! ≠ i ∧ ds[usMain[i]!]! = i)
    {x : Nat} (hx : x < ds.size) {v intDs : Int} (hv : v ≠ 0) (hi : intDs ≠ 0)
    (hpre : br[x]! = 0 ∨ br[x]! = intDs) {f : Nat} {r : Array Int}
    (hr : stemFill usMain ds.size (fun _ y => y != intDs) v f x (br.setIfInBounds x v) = some r) :
    PfafInv ds usMain so r (idxs ++ [x]) := by
  refine hinv.step hus hx hv _ hr ?_ ?_
  · intro s _ hs hh
    have hval : br[s]! = intDs := by simpa using hh
    by_cases hmem : s ∈ idxs
    · exact Or.inl hmem
    · exact Or.inr (hinv.down s hs (by rw [hval]; exact hi) hmem).2.2.2
  · intro s _ hne _ _ h2 hc hh
    have hs' : br[s]! ≠ intDs := by simpa using hh
    rcases hc with hc | hc
    · rw [hc] at h2
      rcases hpre with hp | hp
      · exact hne (by rw [← h2, hp])
      · exact hs' (by rw [← h2, hp])
    · have : br[ds[s]!]! = intDs := by simpa using hc
      exact hs' (by rw [← h2, this])

/-! ### positivity of the codes -/

/-- every pending worklist entry has a positive code -/
def LabsPos (labs : List (Int × Nat)) : Prop := ∀ p ∈ labs, 0 < p.1

theorem pow10_pos (e : Nat) : 0 < (10 : Int) ^ e := Int.pow_pos (by decide)

theorem pfBase_pos : ∀ d, 0 < pfBase d := by
  intro d
  induction d with
  | zero => decide
  | succ d ih =>
    rw [pfBase_succ]
    split
    · omega
    · have := pow10_pos d; omega

/-! ### the loops -/

/-- one run of the tributary loop that ends with the side-condition flag set started with the flag set (the flag
only ever goes from true to false) and keeps the invariant -/
theorem pfInner_inv (ds usMain : Array Nat) (so : Array Int) (depth : Nat) (pfaf0 : Int) (d0 : Nat)
    (hus : ∀ i, i < ds.size → usMain[i]! < ds.size → usMain[i]! ≠ i ∧ ds[usMain[i]!]! = i) :
    ∀ (l : List Nat) (i : Nat) (st r : PfSt × Int × Bool), (∀ x ∈ l, x < ds.size) →
      pfInner ds usMain so depth pfaf0 d0 l i st = some r → r.2.2 = true →
      st.2.2 = true ∧ (0 < pfaf0 → PfafInv ds usMain so st.1.1 st.1.2.1 → LabsPos st.1.2.2 → st.2.1 ≠ 0 →
        PfafInv ds usMain so r.1.1 r.1.2.1 ∧ LabsPos r.1.2.2) := by
  intro l
  induction l with
  | nil =>
    intro i st r _ hr hok
    simp only [pfInner_nil, Option.some.injEq] at hr; subst hr
    exact ⟨hok, fun _ hinv hl _ => ⟨hinv, hl⟩⟩
  | cons idx rest ih =>
    rintro i ⟨⟨br, idxs, labs⟩, intDs, ok⟩ r hlt hr hok
    have hpp := pow10_pos (depth - d0)
    have hsub : 0 < pfaf0 → 0 < pfaf0 + (2 * (i : Int) + 1) * (10 : Int) ^ (depth - d0) := by
      have : 0 < (2 * (i : Int) + 1) * (10 : Int) ^ (depth - d0) := Int.mul_pos (by omega) hpp
      omega
    have hpint : 0 < pfaf0 → 0 < pfaf0 + ((i : Int) + 1) * 2 * (10 : Int) ^ (depth - d0) := by
      have : 0 < ((i : Int) + 1) * 2 * (10 : Int) ^ (depth - d0) := Int.mul_pos (by omega) hpp
      omega
    have hlabs : ∀ (c : Int) (d : Nat), 0 < c → ∀ labs', LabsPos labs' →
        LabsPos (if d0 < depth then labs' ++ [(c, d)] else labs') := by
      intro c d hc labs' hl'
      split
      · intro p hp
        rcases List.mem_append.1 hp with hp | hp
        · exact hl' p hp
        · rw [List.mem_singleton.1 hp]; exact hc
      · exact hl'
    have hrest : ∀ x ∈ rest, x < ds.size := fun x hx => hlt x (List.mem_cons_of_mem _ hx)
    obtain ⟨br1, h1, ⟨_, hr⟩ | ⟨_, br2, h2, hr⟩⟩ := pfInner_cons hr
    · obtain ⟨hok0, hnext⟩ := ih _ _ _ hrest hr hok
      exact ⟨hok0, fun hp0 hinv hl hint => hnext hp0
        (hinv.step_sub hus (hlt idx (by simp)) (Int.ne_of_gt (hsub hp0)) h1) (hlabs _ _ (hsub hp0) _ hl) hint⟩
    · obtain ⟨hflag, hnext⟩ := ih _ _ _ hrest hr hok
      simp only [Bool.and_eq_true, decide_eq_true_eq, Bool.or_eq_true, beq_iff_eq] at hflag
      obtain ⟨⟨hok0, hx⟩, hpre⟩ := hflag
      exact ⟨hok0, fun hp0 hinv hl hint => hnext hp0
        ((hinv.step_sub hus (hlt idx (by simp)) (Int.ne_of_gt (hsub hp0)) h1).step_int hus hx
          (Int.ne_of_gt (hpint hp0)) hint hpre h2)
        (hlabs _ _ (hpint hp0) _ (hlabs _ _ (hsub hp0) _ hl)) (Int.ne_of_gt (hpint hp0))⟩

theorem pfPits_inv (ds usMain : Array Nat) (so : Array Int) (depth : Nat)
    (hus : ∀ i, i < ds.size → usMain[i]! < ds.size → usMain[i]! ≠ i ∧ ds[usMain[i]!]! = i) :
    ∀ (l : List Nat) (i : Nat) (st r : PfSt), (∀ x ∈ l, x < ds.size) →
      pfPits usMain ds.size so depth l i st = some r →
      PfafInv ds usMain so st.1 st.2.1 → LabsPos st.2.2 →
      PfafInv ds usMain so r.1 r.2.1 ∧ LabsPos r.2.2 := by
  intro l
  induction l with
  | nil =>
    intro i st r _ hr hinv hl
    simp only [pfPits_nil, Option.some.injEq] at hr; subst hr; exact ⟨hinv, hl⟩
  | cons idx rest ih =>
    rintro i ⟨br, idxs, labs⟩ r hlt hr hinv hl
    have hpos : 0 < pfBase depth + ((i : Int) + 1) * (10 : Int) ^ depth := by
      have h1 := pfBase_pos depth
      have h2 : 0 < ((i : Int) + 1) * (10 : Int) ^ depth := Int.mul_pos (by omega) (pow10_pos depth)
      omega
    obtain ⟨br1, h1, hr⟩ := pfPits_cons hr
    refine ih _ _ _ (fun x hx => hlt x (List.mem_cons_of_mem _ hx)) hr
      (hinv.step_sub hus (hlt idx (by simp)) (Int.ne_of_gt hpos) h1) (fun p hp => ?_)
    rcases List.mem_append.1 hp with hp | hp
    · exact hl p hp
    · rw [List.mem_singleton.1 hp]; exact hpos

theorem pfLoop_inv (ds usMain : Array Nat) (so uparea : Array Int) (trib : List Nat) (depth : Nat)
    (hus : ∀ i, i < ds.size → usMain[i]! < ds.size → usMain[i]! ≠ i ∧ ds[usMain[i]!]! = i)
    (htrib : ∀ x ∈ trib, x < ds.size) (f : Nat) (st r : PfSt × Bool × Bool)
    (h : pfLoop ds usMain so uparea trib depth f st = some r) (hok : r.2.2 = true) :
    st.2.2 = true ∧
      (PfafInv ds usMain so st.1.1 st.1.2.1 → LabsPos st.1.2.2 → PfafInv ds usMain so r.1.1 r.1.2.1) := by
  refine pfLoop_induct (fun st => st.2.2 = true ∧
    (PfafInv ds usMain so st.1.1 st.1.2.1 → LabsPos st.1.2.2 → PfafInv ds usMain so r.1.1 r.1.2.1))
    (fun _ => ⟨hok, fun hinv _ => hinv⟩) ?_ ?_ f st h
  · intro br idxs pfaf0 d0 labs tie ok _ ih
    exact ⟨ih.1, fun hinv hl => ih.2 hinv (fun p hp => hl p (List.mem_cons_of_mem _ hp))⟩
  · intro br idxs pfaf0 d0 labs tie tie' ok st' x ok' _ hin ih
    obtain ⟨hok0, hnext⟩ := pfInner_inv ds usMain so depth pfaf0 d0 hus _ 0 _ _
      (fun y hy => htrib y (pfSel_mem hy).1) hin ih.1
    refine ⟨hok0, fun hinv hl => ?_⟩
    have hp0 : 0 < pfaf0 := hl (pfaf0, d0) (by simp)
    have := hnext hp0 hinv (fun p hp => hl p (List.mem_cons_of_mem _ hp)) (Int.ne_of_gt hp0)
    exact ih.2 this.1 this.2

/-- **partition invariant** of the whole Pfafstetter seeding, under the run-time side condition -/
theorem pfBranch_inv (pits : List Nat) (ds : Array Nat) (seq : List Nat) (usMain : Array Nat)
    (uparea : Array Int) (mask : Option (Array Bool)) (depth : Nat)
    (hus : usMainOK ds usMain = true) (hb : ∀ i ∈ seq, i < ds.size)
    (br : Array Int) (idxs : List Nat) (tie : Bool)
    (h : pfBranch pits ds seq usMain uparea mask depth = some (br, idxs, tie, true)) :
    PfafInv ds usMain (pfStrord ds seq usMain mask depth) br idxs := by
  have hus' := usMainOK_spec hus
  obtain ⟨st0, labs, hp, heq⟩ := pfBranch_some h
  obtain ⟨hok0, hloop⟩ := pfLoop_inv _ _ _ _ _ _ hus'
    (fun x hx => hb x (List.mem_filter.1 hx).1) _ _ _ heq rfl
  simp only [List.all_eq_true, decide_eq_true_eq] at hok0
  have hpits := pfPits_inv ds usMain _ depth hus' pits 0 _ st0 hok0 hp (PfafInv.init ds usMain _)
    (fun p hp => by cases hp)
  exact hloop hpits.1 hpits.2

/-! ### from the invariant to the partition -/

/-- a map obtained by filling seeds `br` that satisfy the invariant is the first-returned-outlet
partition (codes reduced by any function `g` with `g 0 = 0`) -/
theorem PfafInv.partition {ds usMain : Array Nat} {so br : Array Int} {idxs : List Nat}
    (hinv : PfafInv ds usMain so br idxs) {seq : List Nat} (htopo : Topo ds seq)
    (hb : ∀ i ∈ seq, i < ds.size) (g : Int → Int) (hg : g 0 = 0) :
    ∀ i ∈ seq, LabelOK ds (· ∈ idxs) (fun o => g (fillnodataUpstream ds seq br 0)[o]!) i
      (g (fillnodataUpstream ds seq br 0)[i]!) :=
  fill_labelOK htopo (fun i hi => hinv.size ▸ hb i hi)
    (fun s hs hne hno => ⟨(hinv.down s (hb s hs) hne hno).1, (hinv.down s (hb s hs) hne hno).2.1⟩) g hg

/-! ### the nested example network `exDs2` / `exSeq2` / `exMain2` / `exUpa2` of Props/C18.lean, evaluated
(written out here; the examples there apply the Pfafstetter theorems to these two facts) -/

theorem C18.exPre2 : pfPreOK [0] #[0, 0, 1, 2, 1, 4, 5, 5, 2, 8] [0, 1, 2, 4, 3, 8, 5, 9, 6, 7]
    #[1, 2, 8, 10, 5, 6, 10, 10, 9, 10] #[10, 9, 4, 1, 4, 3, 1, 1, 2, 1] = true := by decide +kernel

theorem C18.exRun2 : subbasinsPfafstetter [0] #[0, 0, 1, 2, 1, 4, 5, 5, 2, 8] [0, 1, 2, 4, 3, 8, 5, 9, 6, 7]
    #[1, 2, 8, 10, 5, 6, 10, 10, 9, 10] #[10, 9, 4, 1, 4, 3, 1, 1, 2, 1] none 2 =
    some (#[11, 11, 31, 41, 21, 21, 23, 22, 51, 51], [0, 4, 2, 3, 8, 7, 6], false, true) := by decide +kernel

end Pf
