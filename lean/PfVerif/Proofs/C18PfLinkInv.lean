import PfVerif.Proofs.C18PfArith
import PfVerif.Proofs.C18PfFresh
/-! Pfafstetter link rule, invariant part: `PfQ` (the worklist is processed level by level),
`PfH` / `PfHIn` (every returned outlet that is not a pit is linked to its downstream cell by `LinkE e` at the
level `e` at which it was created; no pending entry is shallower than `e`, and the downstream code lies in no
pending block of level `e`), and the three ways `PfHIn` is kept: unchanged codes (`keep`), a new outlet
(`add`), an inter-basin relabelling (`relabel`). -/
namespace Pf.C18
open Pf

/-- `B` lies in the block owned by the pending entry `en` -/
def InBlk (depth : Nat) (en : Int × Nat) (B : Int) : Prop := en.1 ≤ B ∧ B < en.1 + Bsz depth en.2

/-- the worklist is sorted by level, spans at most two levels, and the digits `0 .. depth - d` of a pending
code of level `d` are all 1 -/
structure PfQ (depth : Nat) (labs : List (Int × Nat)) : Prop where
  sorted : labs.Pairwise (fun a b => a.2 ≤ b.2)
  span : ∀ a ∈ labs, ∀ b ∈ labs, b.2 ≤ a.2 + 1
  lev : ∀ en ∈ labs, 1 ≤ en.2 ∧ en.2 ≤ depth ∧
    en.1 % (10 : Int) ^ (depth - en.2 + 1) = R1 (depth - en.2 + 1)

/-- every returned outlet `o` that is not a pit was created at some level `e < depth` and is linked to its downstream
cell by `LinkE e`; no pending entry is shallower than `e`, and the downstream code lies in no pending block of level
`e` (so a later inter-basin fill changes it below level `e` only, which keeps `LinkE e`) -/
def PfH (ds : Array Nat) (depth : Nat) (br : Array Int) (idxs : List Nat)
    (labs : List (Int × Nat)) : Prop :=
  ∀ o ∈ idxs, ds[o]! ≠ o → ∃ e, e < depth ∧ LinkE e br[o]! br[ds[o]!]! ∧
    ∀ en ∈ labs, depth - en.2 < e ∨ (depth - en.2 = e ∧ ¬ InBlk depth en br[ds[o]!]!)

/-- `PfH` while `pfInner (pfaf0, d0)` runs with unused codes `[lo, hi)` and remaining tributaries `l`. The last clause
is what makes a relabelling at the current level harmless: an outlet linked at this level has its downstream code
either outside the popped block or among the codes already used, and then its downstream cell lies at or below every
confluence still to come (upstream areas), whereas an inter-basin fill relabels strictly above its confluence -/
def PfHIn (ds : Array Nat) (uparea : Array Int) (depth : Nat) (br : Array Int) (idxs : List Nat)
    (labs : List (Int × Nat)) (pfaf0 : Int) (d0 : Nat) (lo hi : Int) (l : List Nat) : Prop :=
  ∀ o ∈ idxs, ds[o]! ≠ o → ∃ e, e < depth ∧ LinkE e br[o]! br[ds[o]!]! ∧ depth - d0 ≤ e ∧
    (∀ en ∈ labs, depth - en.2 < e ∨ (depth - en.2 = e ∧ ¬ InBlk depth en br[ds[o]!]!)) ∧
    (e = depth - d0 → ¬ (pfaf0 ≤ br[ds[o]!]! ∧ br[ds[o]!]! < hi) ∨
      (pfaf0 ≤ br[ds[o]!]! ∧ br[ds[o]!]! < lo ∧ ∀ t ∈ l, uparea[ds[o]!]! ≥ uparea[ds[t]!]!))

variable {ds : Array Nat} {uparea br br' : Array Int} {depth d0 : Nat} {idxs : List Nat}
  {labs labs' : List (Int × Nat)} {pfaf0 lo lo' hi : Int} {l l' : List Nat}

/-- codes of the outlets and of their downstream cells unchanged; more unused codes consumed, fewer
tributaries left, deeper entries queued -/
theorem PfHIn.keep (h : PfHIn ds uparea depth br idxs labs pfaf0 d0 lo hi l)
    (hsame : ∀ o ∈ idxs, ds[o]! ≠ o → br'[o]! = br[o]! ∧ br'[ds[o]!]! = br[ds[o]!]!)
    (hlo : lo ≤ lo') (hl : ∀ t ∈ l', t ∈ l)
    (hlabs : ∀ en ∈ labs', en ∈ labs ∨ (en.2 = d0 + 1 ∧ d0 < depth)) :
    PfHIn ds uparea depth br' idxs labs' pfaf0 d0 lo' hi l' := by
  intro o ho hnp
  obtain ⟨e, h1, h2, h3, h4, h5⟩ := h o ho hnp
  obtain ⟨s1, s2⟩ := hsame o ho hnp
  rw [s1, s2]
  refine ⟨e, h1, h2, h3, fun en hen => ?_, fun he => ?_⟩
  · rcases hlabs en hen with h6 | h6
    · exact h4 en h6
    · left; omega
  · rcases h5 he with h6 | h6
    · exact Or.inl h6
    · exact Or.inr ⟨h6.1, by omega, fun t ht => h6.2.2 t (hl t ht)⟩

/-- a new outlet `x`, linked at the current level -/
theorem PfHIn.add (h : PfHIn ds uparea depth br idxs labs pfaf0 d0 lo hi l) {x : Nat}
    (hd0 : 1 ≤ d0) (hd0' : d0 ≤ depth)
    (hlink : LinkE (depth - d0) br[x]! br[ds[x]!]!)
    (hB : pfaf0 ≤ br[ds[x]!]! ∧ br[ds[x]!]! < lo)
    (hup : ∀ t ∈ l, uparea[ds[x]!]! ≥ uparea[ds[t]!]!)
    (hpend : ∀ en ∈ labs, depth - en.2 < depth - d0 ∨
      (depth - en.2 = depth - d0 ∧ ¬ InBlk depth en br[ds[x]!]!)) :
    PfHIn ds uparea depth br (idxs ++ [x]) labs pfaf0 d0 lo hi l := by
  intro o ho hnp
  rcases List.mem_append.1 ho with ho | ho
  · exact h o ho hnp
  · simp only [List.mem_singleton] at ho
    subst ho
    exact ⟨depth - d0, by omega, hlink, Nat.le_refl _, hpend, fun _ => Or.inr ⟨hB.1, hB.2, hup⟩⟩

/-- the pending-clause of a new outlet, from the level discipline and the position of the blocks -/
theorem pend_of_blocks {p : Int} {B : Int}
    (hq : ∀ en ∈ labs, d0 ≤ en.2 ∧ en.2 ≤ depth)
    (hi1p : ∀ en ∈ labs, en.1 + Bsz depth en.2 ≤ pfaf0 ∨ hi ≤ en.1 ∨
      (pfaf0 + p ≤ en.1 ∧ en.1 + Bsz depth en.2 ≤ lo ∧ en.2 = d0 + 1))
    (hB : pfaf0 ≤ B ∧ B < lo) (hlohi : lo ≤ hi) (hd0' : d0 ≤ depth) :
    ∀ en ∈ labs, depth - en.2 < depth - d0 ∨ (depth - en.2 = depth - d0 ∧ ¬ InBlk depth en B) := by
  intro en hen
  obtain ⟨q1, q2⟩ := hq en hen
  by_cases hlt : depth - en.2 < depth - d0
  · exact Or.inl hlt
  · right
    refine ⟨by omega, fun hin => ?_⟩
    unfold InBlk at hin
    rcases hi1p en hen with h1 | h1 | h1
    · omega
    · omega
    · omega

/-- an inter-basin fill: cells carrying `w` above the confluence (upstream area below `U`) get `v`; both
codes lie in the popped block and agree above the current level -/
theorem PfHIn.relabel {br2 : Array Int} {w v U : Int}
    (h : PfHIn ds uparea depth br idxs labs pfaf0 d0 lo hi l)
    (hout : ∀ o ∈ idxs, br2[o]! = br[o]!)
    (hw2 : ∀ o ∈ idxs, ds[o]! ≠ o → br2[ds[o]!]! = br[ds[o]!]! ∨
      (br2[ds[o]!]! = v ∧ br[ds[o]!]! = w ∧ uparea[ds[o]!]! < U))
    (hU : ∃ t ∈ l, uparea[ds[t]!]! = U)
    (hw : pfaf0 ≤ w ∧ w < lo) (hlohi : lo ≤ hi)
    (href : ∀ e, depth - d0 < e → w / (10 : Int) ^ e = v / (10 : Int) ^ e)
    (hq : ∀ en ∈ labs, d0 ≤ en.2 ∧ en.2 ≤ depth) (hd0' : d0 ≤ depth) :
    PfHIn ds uparea depth br2 idxs labs pfaf0 d0 lo hi l := by
  intro o ho hnp
  obtain ⟨e, h1, h2, h3, h4, h5⟩ := h o ho hnp
  rw [hout o ho]
  rcases hw2 o ho hnp with hs | ⟨hv, hwo, hup⟩
  · rw [hs]; exact ⟨e, h1, h2, h3, h4, h5⟩
  · have hne : e ≠ depth - d0 := by
      intro he
      rcases h5 he with h6 | h6
      · apply h6; rw [hwo]; omega
      · obtain ⟨t, ht, htU⟩ := hU
        have := h6.2.2 t ht
        omega
    have hgt : depth - d0 < e := by omega
    rw [hv]
    rw [hwo] at h2
    refine ⟨e, h1, h2.congr (href e hgt), h3, fun en hen => ?_, fun he => absurd he hne⟩
    obtain ⟨q1, q2⟩ := hq en hen
    left; omega

theorem PfHIn.toPfH (h : PfHIn ds uparea depth br idxs labs pfaf0 d0 lo hi l) :
    PfH ds depth br idxs labs := by
  intro o ho hnp
  obtain ⟨e, h1, h2, _, h4, _⟩ := h o ho hnp
  exact ⟨e, h1, h2, h4⟩

theorem PfH.pop (h : PfH ds depth br idxs ((pfaf0, d0) :: labs)) (l : List Nat) (lo : Int) :
    PfHIn ds uparea depth br idxs labs pfaf0 d0 lo (pfaf0 + Bsz depth d0) l := by
  intro o ho hnp
  obtain ⟨e, h1, h2, h4⟩ := h o ho hnp
  have hh := h4 (pfaf0, d0) (by simp)
  refine ⟨e, h1, h2, ?_, fun en hen => h4 en (List.mem_cons_of_mem _ hen), fun he => ?_⟩
  · rcases hh with h | h
    · exact Nat.le_of_lt h
    · exact Nat.le_of_eq h.1
  · left
    rcases hh with h | h
    · omega
    · exact h.2

theorem PfH.tail {en : Int × Nat} (h : PfH ds depth br idxs (en :: labs)) : PfH ds depth br idxs labs := by
  intro o ho hnp
  obtain ⟨e, h1, h2, h4⟩ := h o ho hnp
  exact ⟨e, h1, h2, fun en' hen => h4 en' (List.mem_cons_of_mem _ hen)⟩

theorem PfQ.tail {en : Int × Nat} (h : PfQ depth (en :: labs)) : PfQ depth labs :=
  ⟨(List.pairwise_cons.1 h.sorted).2,
    fun a ha b hb => h.span a (List.mem_cons_of_mem _ ha) b (List.mem_cons_of_mem _ hb),
    fun e he => h.lev e (List.mem_cons_of_mem _ he)⟩

end Pf.C18
