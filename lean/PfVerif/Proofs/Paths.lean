import PfVerif.Model.C03
import PfVerif.Core.Sweep
import PfVerif.Core.Folds
/-! The flow path of a cell is the sequence `iterA ds k i` of its k-fold downstream cells: the equations of `iterA`
(`iterA_succ'` takes the step at the far end, the definition at the near end); `firstStop`, the fuel-bounded walk
along any next-cell array to the first cell that passes a test, returns exactly the least stopping index `FirstAt`
below the fuel, and does return when a measure decreases along the steps it takes; along a downstream-first order
the position in the order is such a measure, so the path stays in the order and reaches a pit within its length. -/
namespace Pf

theorem iterA_add (ds : Array Nat) : ∀ (a b i : Nat), iterA ds (a + b) i = iterA ds b (iterA ds a i)
  | 0, b, i => by rw [Nat.zero_add]; rfl
  | a+1, b, i => by rw [Nat.add_right_comm]; exact iterA_add ds a b _

theorem iterA_succ' (ds : Array Nat) (k i : Nat) : iterA ds (k+1) i = ds[iterA ds k i]! :=
  iterA_add ds k 1 i

theorem iterA_pit {ds : Array Nat} {i : Nat} (h : ds[i]! = i) : ∀ k, iterA ds k i = i
  | 0 => rfl
  | k+1 => by rw [iterA, h]; exact iterA_pit h k

theorem iterA_mem {ds : Array Nat} {seq : List Nat} (htopo : Topo ds seq) {i : Nat} (hi : i ∈ seq) :
    ∀ k, iterA ds k i ∈ seq
  | 0 => hi
  | k+1 => by rw [iterA_succ']; exact htopo.ds_mem _ (iterA_mem htopo hi k)

/-! ### first index with a property -/

/-- `K` is the first index at which `p` holds -/
structure FirstAt (p : Nat → Bool) (K : Nat) : Prop where
  before : ∀ j, j < K → p j = false
  stop : p K = true

theorem FirstAt.unique {p : Nat → Bool} {K K' : Nat} (h : FirstAt p K) (h' : FirstAt p K') : K' = K := by
  rcases Nat.lt_trichotomy K' K with h1 | h1 | h1
  · have := h.before K' h1; rw [h'.stop] at this; cases this
  · exact h1
  · have := h'.before K h1; rw [h.stop] at this; cases this

theorem FirstAt.succ_iff {p : Nat → Bool} {K : Nat} :
    FirstAt p (K + 1) ↔ p 0 = false ∧ FirstAt (fun j => p (j + 1)) K :=
  ⟨fun h => ⟨h.before 0 (Nat.zero_lt_succ K), fun j hj => h.before (j + 1) (Nat.succ_lt_succ hj), h.stop⟩,
   fun ⟨h0, h⟩ => ⟨fun j hj => by
      cases j with
      | zero => exact h0
      | succ j => exact h.before j (Nat.lt_of_succ_lt_succ hj), h.stop⟩⟩

/-- `find?` on an initial segment of the indices returns the first index with `p` -/
theorem find?_range_eq_some {p : Nat → Bool} {n K : Nat} (h : (List.range n).find? p = some K) :
    K < n ∧ FirstAt p K := by
  rw [List.find?_range_eq_some] at h
  exact ⟨List.mem_range.mp h.2.1, fun j hj => by simpa using h.2.2 j hj, h.1⟩

theorem FirstAt.exists_of (p : Nat → Bool) (K : Nat) (h : p K = true) : ∃ K0, K0 ≤ K ∧ FirstAt p K0 := by
  cases hl : (List.range (K + 1)).find? p with
  | none => simpa [h] using List.find?_range_eq_none.mp hl K (Nat.lt_succ_self K)
  | some K0 => exact ⟨K0, Nat.le_of_lt_succ (find?_range_eq_some hl).1, (find?_range_eq_some hl).2⟩

/-! ### the walk to the first stopping cell -/

/-- number of steps along `nxt` from `s` to the first cell that passes `stop`; `none` when the fuel runs out -/
def firstStop (nxt : Array Nat) (stop : Nat → Bool) : Nat → Nat → Option Nat
  | 0, _ => none
  | fuel+1, s => if stop s then some 0 else (firstStop nxt stop fuel nxt[s]!).map (· + 1)

/-- one step of the walk, under a map: the form in which the loops of the model are written -/
theorem firstStop_map {α : Type} (nxt : Array Nat) (stop : Nat → Bool) (g : Nat → α) (fuel s : Nat) :
    (firstStop nxt stop (fuel + 1) s).map g =
      if stop s then some (g 0) else (firstStop nxt stop fuel nxt[s]!).map fun K => g (K + 1) := by
  rw [firstStop]
  by_cases hs : stop s = true
  · rw [if_pos hs, if_pos hs]; rfl
  · rw [if_neg hs, if_neg hs, Option.map_map]; rfl

theorem firstStop_eq_some (nxt : Array Nat) (stop : Nat → Bool) : ∀ (fuel s K : Nat),
    firstStop nxt stop fuel s = some K ↔ K < fuel ∧ FirstAt (fun j => stop (iterA nxt j s)) K
  | 0, s, K => by simp [firstStop]
  | f+1, s, K => by
    rw [firstStop]
    by_cases hs : stop s = true
    · rw [if_pos hs]
      constructor
      · intro h
        obtain rfl : 0 = K := Option.some.inj h
        exact ⟨Nat.zero_lt_succ f, fun j hj => absurd hj (Nat.not_lt_zero j), hs⟩
      · intro ⟨_, hK⟩
        cases K with
        | zero => rfl
        | succ K => exact absurd hs (Bool.eq_false_iff.mp (hK.before 0 (Nat.zero_lt_succ K)))
    · rw [if_neg hs, Option.map_eq_some_iff]
      have ih := firstStop_eq_some nxt stop f nxt[s]!
      constructor
      · rintro ⟨K', hK', rfl⟩
        obtain ⟨hlt, hfa⟩ := (ih K').mp hK'
        exact ⟨Nat.succ_lt_succ hlt, FirstAt.succ_iff.mpr ⟨(Bool.not_eq_true _).mp hs, hfa⟩⟩
      · intro ⟨hlt, hK⟩
        cases K with
        | zero => exact absurd hK.stop hs
        | succ K => exact ⟨K, (ih K).mpr ⟨Nat.lt_of_succ_lt_succ hlt, (FirstAt.succ_iff.mp hK).2⟩, rfl⟩

theorem firstStop_map_spec {α : Type} {nxt : Array Nat} {stop : Nat → Bool} {g : Nat → α} {fuel s : Nat} {r : α}
    (h : (firstStop nxt stop fuel s).map g = some r) :
    ∃ K, r = g K ∧ FirstAt (fun j => stop (iterA nxt j s)) K := by
  obtain ⟨K, hK, rfl⟩ := Option.map_eq_some_iff.mp h
  exact ⟨K, rfl, ((firstStop_eq_some ..).mp hK).2⟩

/-- the walk returns as soon as a measure bounded by the fuel decreases on every step that does not stop -/
theorem firstStop_isSome (nxt : Array Nat) (stop : Nat → Bool) (P : Nat → Prop) (μ : Nat → Nat)
    (hμ : ∀ c, P c → stop c = false → P nxt[c]! ∧ μ nxt[c]! < μ c) :
    ∀ (fuel s : Nat), P s → μ s < fuel → (firstStop nxt stop fuel s).isSome = true
  | 0, _, _, h => absurd h (Nat.not_lt_zero _)
  | f+1, s, hP, h => by
    rw [firstStop]
    by_cases hs : stop s = true
    · rw [if_pos hs]; rfl
    · obtain ⟨hP', hlt⟩ := hμ s hP ((Bool.not_eq_true _).mp hs)
      rw [if_neg hs, Option.isSome_map]
      exact firstStop_isSome nxt stop P μ hμ f nxt[s]! hP' (Nat.lt_of_lt_of_le hlt (Nat.le_of_lt_succ h))

/-- so such a measure bounds the first stopping index of the path -/
theorem FirstAt.exists_of_measure (nxt : Array Nat) (stop : Nat → Bool) (P : Nat → Prop) (μ : Nat → Nat)
    (hμ : ∀ c, P c → stop c = false → P nxt[c]! ∧ μ nxt[c]! < μ c) (s : Nat) (hs : P s) :
    ∃ K, K ≤ μ s ∧ FirstAt (fun j => stop (iterA nxt j s)) K := by
  obtain ⟨K, hK⟩ := Option.isSome_iff_exists.mp (firstStop_isSome nxt stop P μ hμ _ s hs (Nat.lt_succ_self _))
  exact ⟨K, Nat.le_of_lt_succ ((firstStop_eq_some ..).mp hK).1, ((firstStop_eq_some ..).mp hK).2⟩

theorem range_map_iter_succ (nxt : Array Nat) (K s : Nat) :
    (List.range (K + 1 + 1)).map (fun j => iterA nxt j s) =
      s :: (List.range (K + 1)).map (fun j => iterA nxt j nxt[s]!) := by
  rw [List.range_succ_eq_map (n := K + 1)]
  simp [iterA, List.map_map, Function.comp_def]

/-! ### along a downstream-first order -/

/-- a test that every pit passes is first passed, on the path from a cell of a downstream-first order, after at
most as many steps as the cell has predecessors in the order -/
theorem Topo.firstAt {ds : Array Nat} {seq : List Nat} (h : Topo ds seq) (stop : Nat → Bool)
    (hstop : ∀ c, stop c = false → ds[c]! ≠ c) (i : Nat) (hi : i ∈ seq) :
    ∃ K, K ≤ seq.idxOf i ∧ FirstAt (fun j => stop (iterA ds j i)) K :=
  FirstAt.exists_of_measure ds stop (· ∈ seq) (seq.idxOf ·)
    (fun c hc hs => ⟨h.ds_mem c hc, h.idxOf_lt c hc (hstop c hs)⟩) i hi

/-- along a downstream-first order every cell reaches a pit within `seq.length - 1` steps -/
theorem Topo.reaches_pit {ds : Array Nat} {seq : List Nat} (h : Topo ds seq) (i : Nat) (hi : i ∈ seq) :
    ∃ k, k < seq.length ∧ ds[iterA ds k i]! = iterA ds k i :=
  have ⟨K, hK, hfa⟩ := h.firstAt (fun c => ds[c]! == c) (fun _ hc => beq_eq_false_iff_ne.mp hc) i hi
  ⟨K, Nat.lt_of_le_of_lt hK (List.idxOf_lt_length_of_mem hi), beq_iff_eq.mp hfa.stop⟩

/-- a walk along `ds` that stops at the latest on a pit returns from every cell of a downstream-first
order (the position in the order decreases) -/
theorem firstStop_down_total {ds : Array Nat} {seq : List Nat} (htopo : Topo ds seq)
    (hb : ∀ i ∈ seq, i < ds.size) (stop : Nat → Bool) (hstop : ∀ c, stop c = false → ds[c]! ≠ c)
    (s : Nat) (hs : s ∈ seq) : (firstStop ds stop (ds.size + 1) s).isSome = true :=
  have ⟨K, hK, hfa⟩ := htopo.firstAt stop hstop s hs
  Option.isSome_iff_exists.mpr ⟨K, (firstStop_eq_some ..).mpr ⟨Nat.lt_succ_of_le (Nat.le_trans hK
    (Nat.le_trans (Nat.le_of_lt (List.idxOf_lt_length_of_mem hs)) (nodup_length_le htopo.nodup hb))), hfa⟩⟩

/-- the inflowing cells of `j` as `core.idxs_seq` and the stream-order oracles list them -/
theorem mem_upsOf (ds : Array Nat) (j u : Nat) :
    u ∈ upsOf ds j ↔ (u < ds.size ∧ ds[u]! = j ∧ u ≠ j ∧ ds[u]! ≠ ds.size) := by
  simp only [upsOf, List.mem_filter, List.mem_range, Bool.and_eq_true, beq_iff_eq, bne_iff_ne, ne_eq,
    and_assoc]

theorem Topo.valid {ds : Array Nat} {seq : List Nat} (ht : Topo ds seq) (hb : ∀ i ∈ seq, i < ds.size) :
    ∀ i ∈ seq, Valid ds i :=
  fun i hi => ⟨hb i hi, hb _ (ht.ds_mem i hi)⟩

theorem Topo.isValid {ds : Array Nat} {seq : List Nat} (ht : Topo ds seq) (hb : ∀ i ∈ seq, i < ds.size) :
    ∀ i ∈ seq, isValid ds i = true := by
  intro i hi
  simp only [Pf.isValid, Bool.and_eq_true, decide_eq_true_eq, bne_iff_ne]
  exact ⟨hb i hi, Nat.ne_of_lt (ht.valid hb i hi).2⟩

end Pf
