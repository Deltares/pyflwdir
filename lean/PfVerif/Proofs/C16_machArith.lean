import PfVerif.Proofs.C16_machEnc
/-! The index arithmetic sites of `Model/C16_mach.lean`. Method: `BitVec.ofInt w` is a ring homomorphism, so
every machine expression is `ofInt w` of the corresponding integer expression; it is read back exactly
whenever that integer lies in the range of the type, and two such images differ whenever the integers
differ by less than `2^w`. -/
namespace Pf.C16m

theorem ofNat_eq_ofInt (w k : Nat) : BitVec.ofNat w k = BitVec.ofInt w (k : Int) :=
  (BitVec.ofInt_natCast w k).symm

theorem ofInt_sub {w : Nat} (a b : Int) : BitVec.ofInt w (a - b) = BitVec.ofInt w a - BitVec.ofInt w b := by
  rw [Int.sub_eq_add_neg, BitVec.ofInt_add, BitVec.ofInt_neg, BitVec.sub_eq_add_neg]

theorem one_eq_ofInt {w : Nat} : (1 : BitVec w) = BitVec.ofInt w 1 :=
  (BitVec.ofInt_ofNat w 1).symm

theorem toNat_ofInt_range {w : Nat} (z : Int) (h0 : 0 ≤ z) (h1 : z < ((2 ^ w : Nat) : Int)) :
    (BitVec.ofInt w z).toNat = z.toNat := by
  rw [BitVec.toNat_ofInt, Int.emod_eq_of_lt h0 h1]

/-- an integer in the open symmetric half range is read back as itself -/
theorem toInt_ofInt_small {w : Nat} {z : Int} (h : 2 * z.natAbs < 2 ^ w) : (BitVec.ofInt w z).toInt = z := by
  have hz : -((2 ^ w : Nat) : Int) ≤ z * 2 ∧ z * 2 < ((2 ^ w : Nat) : Int) := by omega
  rw [BitVec.toInt_ofInt]
  exact Int.bmod_eq_of_le_mul_two hz.1 hz.2

theorem toInt_ofInt_nat64 (k : Nat) (hk : k < 2 ^ 63) : (BitVec.ofInt 64 (k : Int)).toInt = (k : Int) :=
  toInt_ofInt_small (by omega)

/-- the difference of two naturals below `m` lies in the symmetric range `(-m, m)` -/
theorem two_natAbs_sub_lt {a b m : Nat} (ha : a < m) (hb : b < m) :
    2 * ((a : Int) - (b : Int)).natAbs < 2 * m := by
  omega

/-- images of two integers that differ by a non-zero amount below `2^w` are different -/
theorem ofInt_ne {w : Nat} {a b : Int} (hne : a ≠ b) (h : (a - b).natAbs < 2 ^ w) :
    BitVec.ofInt w a ≠ BitVec.ofInt w b := by
  intro he
  have h0 : (BitVec.ofInt w (a - b)).toNat = 0 := by rw [ofInt_sub, he, BitVec.sub_self]; rfl
  rw [BitVec.toNat_ofInt, Int.toNat_eq_zero] at h0
  have hp : ((2 ^ w : Nat) : Int) ≠ 0 := Int.natCast_ne_zero.2 (Nat.ne_of_gt (Nat.two_pow_pos w))
  have hd := Int.dvd_of_emod_eq_zero (Int.le_antisymm h0 (Int.emod_nonneg _ hp))
  exact hne (Int.sub_eq_zero.1 (Int.eq_zero_of_dvd_of_natAbs_lt_natAbs hd (by rwa [Int.natAbs_natCast])))

theorem toI64_eq_ofInt (t : IdxTy) (v : BitVec t.w) : toI64 t v = BitVec.ofInt 64 (val t v) := by
  unfold toI64 val
  split
  · rfl
  · rw [BitVec.ofInt_natCast, BitVec.ofNat_toNat]

theorem toI64_enc {t : IdxTy} {n i : Nat} (hc : Cap t n) (hi : i < n) :
    toI64 t (enc t n i) = BitVec.ofInt 64 (i : Int) := by
  rw [toI64_eq_ofInt, val_enc_cell hc hi]

theorem toI64_mv_signed {t : IdxTy} (hw : 0 < t.w) (hs : t.signed = true) :
    toI64 t t.mv = BitVec.ofInt 64 (-1) := by
  rw [toI64_eq_ofInt, val_mv hw, if_pos hs]

theorem toI64_mv_unsigned {t : IdxTy} (hw : 0 < t.w) (hs : t.signed = false) :
    toI64 t t.mv = BitVec.ofInt 64 ((2 ^ t.w - 1 : Nat) : Int) := by
  rw [toI64_eq_ofInt, val_mv hw, if_neg (Bool.eq_false_iff.1 hs)]

theorem linIdx64_eq (r c ncol : Nat) :
    linIdx64 (BitVec.ofNat 64 r) (BitVec.ofNat 64 c) (BitVec.ofNat 64 ncol)
      = BitVec.ofInt 64 ((r * ncol + c : Nat) : Int) := by
  simp only [linIdx64, ofNat_eq_ofInt, ← BitVec.ofInt_mul, ← BitVec.ofInt_add]
  rw [Int.natCast_add, Int.natCast_mul, Int.add_comm]

theorem storeIdx_cell {t : IdxTy} {n : Nat} (ht : t.w ≤ 64) {k : Nat} (hk : k < n) :
    storeIdx t (BitVec.ofInt 64 (k : Int)) = enc t n k := by
  rw [enc_cell hk, storeIdx, BitVec.ofInt_natCast, BitVec.setWidth_ofNat_of_le ht]

/-- the initial fill of the index array: the `intp` value `-1`, truncated, is all ones again -/
theorem storeIdx_neg_one (t : IdxTy) (ht : t.w ≤ 64) : storeIdx t (BitVec.ofInt 64 (-1)) = t.mv := by
  rw [storeIdx, mv_eq_allOnes t, ← BitVec.not_zero, ← BitVec.setWidth_zero (n := 64), ← BitVec.setWidth_not ht,
    BitVec.not_zero]
  exact congrArg _ (mv_eq_allOnes ⟨64, true⟩)

theorem nbr64_eq {t : IdxTy} {n i : Nat} (hc : Cap t n) (hi : i < n) (ncol : Nat) (dr dc : Int) :
    nbr64 t (enc t n i) (BitVec.ofNat 64 ncol) dr dc = BitVec.ofInt 64 ((i : Int) + dr * ncol + dc) := by
  simp only [nbr64, toI64_enc hc hi, ofNat_eq_ofInt, ← BitVec.ofInt_mul, ← BitVec.ofInt_add]

theorem nbrT_eq {t : IdxTy} {n i : Nat} (hi : i < n) (ncol : Nat) (dr dc : Int) :
    nbrT t (enc t n i) ncol dr dc = BitVec.ofInt t.w ((i : Int) + dr * ncol + dc) := by
  simp only [nbrT, enc_cell hi, ofNat_eq_ofInt, ← BitVec.ofInt_mul, ← BitVec.ofInt_add]

/-! `//` and `%`: at the index type both signednesses compute on the numeric values `val`; under capacity the values of the
operands are the abstract numbers (`val_ofNat`). -/

theorem fdivM_val (t : IdxTy) (a b : BitVec t.w) :
    fdivM t.signed a b = BitVec.ofInt t.w (val t a / val t b) := by
  unfold fdivM val
  split
  · rfl
  · apply BitVec.eq_of_toNat_eq
    rw [← Int.natCast_ediv, BitVec.ofInt_natCast, BitVec.toNat_udiv, BitVec.toNat_ofNat,
      Nat.mod_eq_of_lt (Nat.lt_of_le_of_lt (Nat.div_le_self _ _) a.isLt)]

theorem fmodM_val (t : IdxTy) (a b : BitVec t.w) :
    fmodM t.signed a b = BitVec.ofInt t.w (val t a % val t b) := by
  unfold fmodM val
  split
  · rfl
  · apply BitVec.eq_of_toNat_eq
    rw [← Int.natCast_emod, BitVec.ofInt_natCast, BitVec.toNat_umod, BitVec.toNat_ofNat,
      Nat.mod_eq_of_lt (Nat.lt_of_le_of_lt (Nat.mod_le _ _) a.isLt)]

theorem rowT_eq {t : IdxTy} {n i : Nat} (hc : Cap t n) (hi : i < n) (ncol : Nat)
    (hn : ncol ≤ n) : rowT t (enc t n i) ncol = enc t n (i / ncol) := by
  rw [enc_cell hi, enc_cell (Nat.lt_of_le_of_lt (Nat.div_le_self _ _) hi), rowT, fdivM_val,
    val_ofNat hc (Nat.le_of_lt hi), val_ofNat hc hn, ← Int.natCast_ediv, BitVec.ofInt_natCast]

theorem colT_eq {t : IdxTy} {n i : Nat} (hc : Cap t n) (hi : i < n) (ncol : Nat)
    (hn : ncol ≤ n) : colT t (enc t n i) ncol = enc t n (i % ncol) := by
  rw [enc_cell hi, enc_cell (Nat.lt_of_le_of_lt (Nat.mod_le _ _) hi), colT, fmodM_val,
    val_ofNat hc (Nat.le_of_lt hi), val_ofNat hc hn, ← Int.natCast_emod, BitVec.ofInt_natCast]

theorem fdiv64_eq (a b : Nat) (ha : a < 2 ^ 63) (hb : b < 2 ^ 63) :
    fdivM true (BitVec.ofInt 64 (a : Int)) (BitVec.ofNat 64 b) = BitVec.ofInt 64 ((a / b : Nat) : Int) := by
  rw [fdivM, if_pos rfl, ofNat_eq_ofInt, toInt_ofInt_nat64 a ha, toInt_ofInt_nat64 b hb, Int.natCast_ediv]

theorem fmod64_eq (a b : Nat) (ha : a < 2 ^ 63) (hb : b < 2 ^ 63) :
    fmodM true (BitVec.ofInt 64 (a : Int)) (BitVec.ofNat 64 b) = BitVec.ofInt 64 ((a % b : Nat) : Int) := by
  rw [fmodM, if_pos rfl, ofNat_eq_ofInt, toInt_ofInt_nat64 a ha, toInt_ofInt_nat64 b hb, Int.natCast_emod]

theorem row64_eq {t : IdxTy} {n i : Nat} (hc : Cap t n) (h63 : n < 2 ^ 63) (hi : i < n) (ncol : Nat)
    (hn : ncol ≤ n) : row64 t (enc t n i) (BitVec.ofNat 64 ncol) = BitVec.ofInt 64 ((i / ncol : Nat) : Int) := by
  rw [row64, toI64_enc hc hi, fdiv64_eq i ncol (Nat.lt_trans hi h63) (Nat.lt_of_le_of_lt hn h63)]

theorem col64_eq {t : IdxTy} {n i : Nat} (hc : Cap t n) (h63 : n < 2 ^ 63) (hi : i < n) (ncol : Nat)
    (hn : ncol ≤ n) : col64 t (enc t n i) (BitVec.ofNat 64 ncol) = BitVec.ofInt 64 ((i % ncol : Nat) : Int) := by
  rw [col64, toI64_enc hc hi, fmod64_eq i ncol (Nat.lt_trans hi h63) (Nat.lt_of_le_of_lt hn h63)]

theorem absM_ofInt {w : Nat} {z : Int} (h : 2 * z.natAbs < 2 ^ w) :
    (absM (BitVec.ofInt w z)).toInt = (z.natAbs : Int) := by
  have hz := toInt_ofInt_small h
  have h00 : (0 : BitVec w).toInt = 0 := BitVec.toInt_zero
  unfold absM
  split
  · next hn =>
    rw [BitVec.slt_iff_toInt_lt, hz, h00] at hn
    rw [← BitVec.ofInt_neg, toInt_ofInt_small (by rwa [Int.natAbs_neg]),
      Int.ofNat_natAbs_of_nonpos (Int.le_of_lt hn)]
  · next hn =>
    rw [BitVec.slt_iff_toInt_lt, hz, h00] at hn
    rw [hz, Int.natAbs_of_nonneg (Int.not_lt.1 hn)]

/-- the test `abs(z) <= 1` of `in_d8` on an `int64` difference -/
theorem sle1_absM {z : Int} (h : 2 * z.natAbs < 2 ^ 64) :
    (!(BitVec.slt (1 : BitVec 64) (absM (BitVec.ofInt 64 z)))) = decide (z.natAbs ≤ 1) := by
  have h1 : (1 : BitVec 64).toInt = 1 := by decide
  rw [BitVec.slt_eq_decide, absM_ofInt h, h1, ← decide_not]
  exact decide_eq_decide.2 (by omega)

/-- subtracting the larger of two numbers below `2^w`: `a - b` is the negative of the positive number
`b - a`, which the machine represents as `2^w - (b - a)` -/
theorem toNat_ofNat_sub_wrap {w a b : Nat} (hab : a < b) (hb : b < 2 ^ w) :
    (BitVec.ofNat w a - BitVec.ofNat w b).toNat = 2 ^ w - (b - a) := by
  have ha := Nat.lt_trans hab hb
  have hle : BitVec.ofNat w a ≤ BitVec.ofNat w b := by
    rw [BitVec.le_def, toNat_ofNat_lt ha, toNat_ofNat_lt hb]; exact Nat.le_of_lt hab
  have e : BitVec.ofNat w a - BitVec.ofNat w b = -(BitVec.ofNat w b - BitVec.ofNat w a) := by
    rw [BitVec.neg_sub, BitVec.add_comm, ← BitVec.sub_eq_add_neg]
  rw [e, BitVec.toNat_neg, BitVec.toNat_sub_of_le hle, toNat_ofNat_lt hb, toNat_ofNat_lt ha]
  exact Nat.mod_eq_of_lt (Nat.sub_lt (Nat.two_pow_pos w) (Nat.sub_pos_of_lt hab))

/-- a raster axis on which a position has a neighbour at distance one has at least two positions -/
theorem two_le_of_neighbour {m k : Nat} {d : Int} (hk : k < m) (hd : d = 1 ∨ d = -1)
    (h : 0 ≤ (k : Int) + d ∧ (k : Int) + d < m) : 2 ≤ m := by
  omega

/-! `_local_d4`: the diagonal entries and the cell itself are images of five different integers in a window shorter than
`2^w`, hence pairwise different machine values: `list.index` returns the position `k` of the diagonal that
was asked for, and the slice of the D4 list at `k` is selected. -/

theorem localD4_diag {w : Nat} {idx0 nc x : BitVec w} {k : Nat} (hnd : (idx0 :: diagList idx0 nc).Nodup)
    (hx : (diagList idx0 nc)[k]? = some x) :
    localD4 idx0 x nc = some (((d4List idx0 nc).drop k).take 2) := by
  obtain ⟨hk, rfl⟩ := List.getElem?_eq_some_iff.1 hx
  obtain ⟨h0, hd⟩ := List.nodup_cons.1 hnd
  have hne : (diagList idx0 nc)[k] ≠ idx0 := fun h => h0 (by have hm := List.getElem_mem hk; rwa [h] at hm)
  have hk4 : k < 4 := hk
  simp only [localD4]
  rw [if_pos hne, hd.idxOf_getElem k hk, if_pos hk4]

/-- `_local_d4` for a diagonal step, on the images of integers: the list holds the images of the two
D4 cells `i + dr*ncol` and `i + dc` (in the order of the code's list slices) -/
theorem localD4_ofInt {w : Nat} (i ncol : Nat) (dr dc : Int) (hdr : dr = 1 ∨ dr = -1) (hdc : dc = 1 ∨ dc = -1)
    (h2 : 2 ≤ ncol) (hw : 2 * ncol + 2 < 2 ^ w) :
    localD4 (BitVec.ofInt w (i : Int)) (BitVec.ofInt w ((i : Int) + dr * ncol + dc)) (BitVec.ofInt w (ncol : Int))
      = some (if dr = dc then [BitVec.ofInt w ((i : Int) + dr * ncol), BitVec.ofInt w ((i : Int) + dc)]
              else [BitVec.ofInt w ((i : Int) + dc), BitVec.ofInt w ((i : Int) + dr * ncol)]) := by
  have hdiag : diagList (BitVec.ofInt w (i : Int)) (BitVec.ofInt w (ncol : Int))
      = [(i : Int) + -ncol + -1, i + ncol + -1, i + ncol + 1, i + -ncol + 1].map (BitVec.ofInt w) := by
    simp only [diagList, List.map, BitVec.sub_eq_add_neg, one_eq_ofInt, ← BitVec.ofInt_neg, ← BitVec.ofInt_add]
  have hd4 : d4List (BitVec.ofInt w (i : Int)) (BitVec.ofInt w (ncol : Int))
      = [(i : Int) + -ncol, i + -1, i + ncol, i + 1, i + -ncol].map (BitVec.ofInt w) := by
    simp only [d4List, List.map, BitVec.sub_eq_add_neg, one_eq_ofInt, ← BitVec.ofInt_neg, ← BitVec.ofInt_add]
  have hnd : (BitVec.ofInt w (i : Int) :: diagList (BitVec.ofInt w (i : Int)) (BitVec.ofInt w (ncol : Int))).Nodup := by
    rw [hdiag, ← List.map_cons]
    refine List.Pairwise.map _ (R := fun a b => a ≠ b ∧ (a - b).natAbs < 2 ^ w) (fun _ _ hab => ofInt_ne hab.1 hab.2) ?_
    simp only [List.pairwise_cons, List.forall_mem_cons, List.not_mem_nil, false_imp_iff, implies_true,
      List.Pairwise.nil, and_true]
    -- the five offsets `0, ∓ncol ∓ 1` differ pairwise by `2`, `ncol ± 1`, `2 * ncol` or `2 * ncol ± 2`: not zero since
    -- `2 ≤ ncol`, and at most `2 * ncol + 2`
    omega
  have key : ∀ k z, [(i : Int) + -ncol + -1, i + ncol + -1, i + ncol + 1, i + -ncol + 1][k]? = some z →
      localD4 (BitVec.ofInt w (i : Int)) (BitVec.ofInt w z) (BitVec.ofInt w (ncol : Int))
        = some ((([(i : Int) + -ncol, i + -1, i + ncol, i + 1, i + -ncol].map (BitVec.ofInt w)).drop k).take 2) := by
    intro k z hz
    rw [← hd4]
    exact localD4_diag hnd (by rw [hdiag, List.getElem?_map, hz]; rfl)
  rcases hdr with rfl | rfl <;> rcases hdc with rfl | rfl <;> simp only [Int.one_mul, Int.neg_mul]
  · exact key 2 _ rfl
  · exact key 1 _ rfl
  · exact key 3 _ rfl
  · exact key 0 _ rfl

end Pf.C16m
