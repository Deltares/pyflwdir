import PfVerif.Proofs.C18AreaSum
/-! Algorithm-level invariant of `subbasins_area` (abstract form: the network, the main-upstream
map and the two area fields are functions; the state is the function `uo = upa_out` and the list
of outlets).

Ghost state: `own x` = the first outlet on the downstream path of a processed cell `x`,
`reg o` = `A o - Σ A o'` over the outlets `o'` created so far directly upstream of the sub-basin of `o`
(the area the sub-basin of `o` would have if the loop stopped now). -/
namespace Pf.C18

def upd {β : Type} (f : Nat → β) (i : Nat) (v : β) : Nat → β := fun y => if y = i then v else f y

@[simp] theorem upd_same {β : Type} (f : Nat → β) (i : Nat) (v : β) : upd f i v i = v := by simp [upd]
theorem upd_ne {β : Type} (f : Nat → β) {i j : Nat} (v : β) (h : j ≠ i) : upd f i v j = f j := by
  simp [upd, h]

theorem mem_snoc {P : List Nat} {idx x : Nat} : x ∈ P ++ [idx] ↔ x ∈ P ∨ x = idx := by
  rw [List.mem_append, List.mem_singleton]

theorem forall_mem_snoc {P : List Nat} {idx : Nat} {Q : Nat → Prop} (h1 : ∀ x ∈ P, Q x) (h2 : Q idx) :
    ∀ x ∈ P ++ [idx], Q x := fun x hx =>
  (mem_snoc.1 hx).elim (h1 x) (fun h => h ▸ h2)

section
variable (D M : Nat → Nat) (A a : Nat → Int) (amin : Int) (seq : List Nat) (rk : Nat → Nat)

/-- structural part of the invariant: processed cells `P`, outlets, owner map -/
structure SInv (P outs : List Nat) (own : Nat → Nat) : Prop where
  inSeq : ∀ x ∈ P, x ∈ seq
  closed : ∀ x ∈ P, D x ∈ P
  sub : ∀ o ∈ outs, o ∈ P
  pitO : ∀ x ∈ P, x ∉ outs → D x ≠ x
  ownO : ∀ o ∈ outs, own o = o
  ownN : ∀ x ∈ P, x ∉ outs → own x = own (D x)
  ownM : ∀ x ∈ P, own x ∈ outs
  ownR : ∀ x ∈ P, rk (own x) ≤ rk x ∧ (x ∉ outs → rk (own x) < rk x)
  bigO : ∀ o ∈ outs, D o ≠ o → amin < A o
  mainO : ∀ o ∈ outs, D o ≠ o → M (D o) = o → A (D o) - A o ≤ amin

variable {D M A a amin seq rk}

theorem SInv.nil (own : Nat → Nat) : SInv D M A amin seq rk [] [] own where
  inSeq := fun _ h => nomatch h
  closed := fun _ h => nomatch h
  sub := fun _ h => nomatch h
  pitO := fun _ h => nomatch h
  ownO := fun _ h => nomatch h
  ownN := fun _ h => nomatch h
  ownM := fun _ h => nomatch h
  ownR := fun _ h => nomatch h
  bigO := fun _ h => nomatch h
  mainO := fun _ h => nomatch h

/-- the processed cell becomes an outlet -/
theorem SInv.cut {P outs : List Nat} {own : Nat → Nat} (h : SInv D M A amin seq rk P outs own)
    {idx : Nat} (hidx : idx ∈ seq) (hnP : idx ∉ P) (hd : D idx = idx ∨ D idx ∈ P)
    (hbig : D idx ≠ idx → amin < A idx)
    (hmain : D idx ≠ idx → M (D idx) = idx → A (D idx) - A idx ≤ amin) :
    SInv D M A amin seq rk (P ++ [idx]) (outs ++ [idx]) (upd own idx idx) := by
  have hown : ∀ x ∈ P, upd own idx idx x = own x := fun x hx =>
    upd_ne own idx (fun hc => hnP (hc ▸ hx))
  have hold : ∀ {x}, x ∈ P → x ∉ outs ++ [idx] → x ∉ outs := fun _ hxo hc => hxo (mem_snoc.2 (Or.inl hc))
  refine ⟨forall_mem_snoc h.inSeq hidx, forall_mem_snoc (fun x hx => mem_snoc.2 (Or.inl (h.closed x hx))) ?_,
    forall_mem_snoc (fun o ho => mem_snoc.2 (Or.inl (h.sub o ho))) (mem_snoc.2 (Or.inr rfl)),
    forall_mem_snoc (fun x hx hxo => h.pitO x hx (hold hx hxo)) (fun hxo => absurd (mem_snoc.2 (Or.inr rfl)) hxo),
    forall_mem_snoc (fun o ho => (hown o (h.sub o ho)).trans (h.ownO o ho)) (upd_same _ _ _),
    forall_mem_snoc (fun x hx hxo => ?_) (fun hxo => absurd (mem_snoc.2 (Or.inr rfl)) hxo),
    forall_mem_snoc (fun x hx => ?_) (mem_snoc.2 (Or.inr (upd_same _ _ _))),
    forall_mem_snoc (fun x hx => ?_) ?_,
    forall_mem_snoc h.bigO hbig, forall_mem_snoc h.mainO hmain⟩
  · exact hd.elim (fun hd => mem_snoc.2 (Or.inr hd)) (fun hd => mem_snoc.2 (Or.inl hd))
  · rw [hown x hx, hown _ (h.closed x hx)]; exact h.ownN x hx (hold hx hxo)
  · rw [hown x hx]; exact mem_snoc.2 (Or.inl (h.ownM x hx))
  · rw [hown x hx]; exact ⟨(h.ownR x hx).1, fun hxo => (h.ownR x hx).2 (hold hx hxo)⟩
  · rw [upd_same]; exact ⟨Nat.le_refl _, fun hxo => absurd (mem_snoc.2 (Or.inr rfl)) hxo⟩

/-- the processed cell stays in the sub-basin of its downstream cell -/
theorem SInv.nocut {P outs : List Nat} {own : Nat → Nat} (h : SInv D M A amin seq rk P outs own)
    {idx : Nat} (hidx : idx ∈ seq) (hnP : idx ∉ P) (hd : D idx ∈ P) (hnp : D idx ≠ idx)
    (hrk : rk idx = rk (D idx) + 1) :
    SInv D M A amin seq rk (P ++ [idx]) outs (upd own idx (own (D idx))) := by
  have hown : ∀ x ∈ P, upd own idx (own (D idx)) x = own x := fun x hx =>
    upd_ne own _ (fun hc => hnP (hc ▸ hx))
  refine ⟨forall_mem_snoc h.inSeq hidx,
    forall_mem_snoc (fun x hx => mem_snoc.2 (Or.inl (h.closed x hx))) (mem_snoc.2 (Or.inl hd)),
    fun o ho => mem_snoc.2 (Or.inl (h.sub o ho)), forall_mem_snoc h.pitO (fun _ => hnp),
    fun o ho => (hown o (h.sub o ho)).trans (h.ownO o ho),
    forall_mem_snoc (fun x hx hxo => ?_) (fun _ => ?_), forall_mem_snoc (fun x hx => ?_) ?_,
    forall_mem_snoc (fun x hx => ?_) ?_, h.bigO, h.mainO⟩
  · rw [hown x hx, hown _ (h.closed x hx)]; exact h.ownN x hx hxo
  · rw [upd_same, hown _ hd]
  · rw [hown x hx]; exact h.ownM x hx
  · rw [upd_same]; exact h.ownM _ hd
  · rw [hown x hx]; exact h.ownR x hx
  · rw [upd_same]
    have := (h.ownR _ hd).1
    exact ⟨by omega, fun _ => by omega⟩

end

section
variable (D M : Nat → Nat) (A a : Nat → Int) (amin : Int) (seq : List Nat) (rk : Nat → Nat)

/-- static hypotheses: duplicate-free downstream-closed cell list, ranks, main-upstream cells are
inflowing cells, `A` is the accumulation of the non-negative cell areas `a` -/
structure AHyp : Prop where
  nd : seq.Nodup
  dsSeq : ∀ x ∈ seq, D x ∈ seq
  rkS : ∀ x ∈ seq, D x ≠ x → rk x = rk (D x) + 1
  main : ∀ d ∈ seq, M d ∈ seq → D (M d) = d ∧ M d ≠ d
  acc : ∀ d ∈ seq, A d = a d + csum (fun c => decide (D c = d ∧ c ≠ d)) A seq
  a0 : ∀ d ∈ seq, 0 ≤ a d
  A0 : ∀ d ∈ seq, 0 ≤ A d

/-- the part of the invariant that speaks about `upa_out` (`uo`, the budget of a cell: what is left of its accumulated
area once the sub-basins cut off upstream of it are taken out) and the ghost region areas `reg`:
* `init`: an unprocessed cell still has its accumulated area, or it is the main upstream cell of its downstream cell `d`
  and shares the budget of `d` because a sibling was processed (`upa_out[idx1] = upa_out[idx_ds]` of the tributary branch);
* `low`: the budget of a processed cell covers its own area and its inflowing cells that were not cut off;
* `trib`: a big tributary that was not cut off did not qualify: beside it the budget of its downstream cell leaves at
  most `area_min`;
* `chain`: of two siblings that were not cut off at most one is big, so the big cells of a sub-basin form a chain
  (`classUnique`);
* `cap`, the clause the others serve: at the processing frontier (no processed cell more than one rank above `x`) the
  budget of a big cell whose main upstream cell is not an outlet is at most the region of its outlet; hence the region
  from which a qualifying cell is cut keeps more than `area_min`;
* `regBig`, `regE`: the region of a non-pit outlet exceeds `area_min` and is `A o` minus the accumulated areas of the
  outlets directly upstream of its sub-basin. -/
structure UInv (P outs : List Nat) (own : Nat → Nat) (uo : Nat → Int) (reg : Nat → Int) : Prop where
  init : ∀ x ∈ seq, x ∉ P → uo x = A x ∨
    (M (D x) = x ∧ D x ≠ x ∧ uo x = uo (D x) ∧ ∃ y ∈ P, D y = D x ∧ y ≠ D x)
  low : ∀ d ∈ P, a d + csum (fun c => decide (D c = d ∧ c ≠ d) && !outs.contains c) A seq ≤ uo d
  trib : ∀ x ∈ P, x ∉ outs → D x ≠ x → M (D x) ≠ x → amin < A x → uo (D x) - A x ≤ amin
  chain : ∀ c1 ∈ P, ∀ c2 ∈ P, c1 ≠ c2 → D c1 = D c2 → D c1 ≠ c1 → D c2 ≠ c2 → c1 ∉ outs → c2 ∉ outs →
    amin < A c1 → A c2 ≤ amin
  cap : ∀ x ∈ P, amin < A x → (∀ y ∈ P, rk y ≤ rk x + 1) → M x ∉ outs → uo x ≤ reg (own x)
  regBig : ∀ o ∈ outs, D o ≠ o → amin < reg o
  regE : ∀ o ∈ outs, reg o = A o -
    csum (fun c => outs.contains c && decide (D c ≠ c) && (own (D c) == o)) A seq

variable {D M A a amin seq rk}

theorem UInv.nil (own : Nat → Nat) (reg : Nat → Int) : UInv D M A a amin seq rk [] [] own A reg where
  init := fun _ _ _ => Or.inl rfl
  low := fun _ h => nomatch h
  trib := fun _ h => nomatch h
  chain := fun _ h => nomatch h
  cap := fun _ h => nomatch h
  regBig := fun _ h => nomatch h
  regE := fun _ h => nomatch h

theorem AHyp.two (H : AHyp D M A a seq rk) {d c1 c2 : Nat} (hd : d ∈ seq) (h1 : c1 ∈ seq) (h2 : c2 ∈ seq)
    (hne : c1 ≠ c2) (hc1 : D c1 = d) (hn1 : c1 ≠ d) (hc2 : D c2 = d) (hn2 : c2 ≠ d) :
    A c1 + A c2 ≤ A d := by
  have := csum_ge_two (p := fun c => decide (D c = d ∧ c ≠ d)) (f := A) H.nd H.A0 h1 h2 hne
    (by simp [hc1, hn1]) (by simp [hc2, hn2])
  have h3 := H.acc d hd
  have h4 := H.a0 d hd
  omega

theorem AHyp.mono (H : AHyp D M A a seq rk) {c : Nat} (h1 : c ∈ seq) (hn : D c ≠ c) : A c ≤ A (D c) := by
  have := csum_ge_one (p := fun x => decide (D x = D c ∧ x ≠ D c)) (f := A) H.nd H.A0 h1
    (by simp; exact fun h => hn h.symm)
  have h3 := H.acc (D c) (H.dsSeq c h1)
  have h4 := H.a0 (D c) (H.dsSeq c h1)
  omega

/-- `a d + Σ (inflowing cells not cut off) ≤ A d` -/
theorem AHyp.rest_le (H : AHyp D M A a seq rk) (outs : List Nat) {d : Nat} (hd : d ∈ seq) :
    a d + csum (fun c => decide (D c = d ∧ c ≠ d) && !outs.contains c) A seq ≤ A d := by
  have := csum_mono (p := fun c => decide (D c = d ∧ c ≠ d) && !outs.contains c)
    (q := fun c => decide (D c = d ∧ c ≠ d)) (f := A) (l := seq) H.A0
    (fun y _ h => by simp only [Bool.and_eq_true] at h; exact h.1)
  have h3 := H.acc d hd
  omega

theorem UInv.lowOne {P outs : List Nat} {own : Nat → Nat} {uo reg : Nat → Int}
    (H : AHyp D M A a seq rk) (hU : UInv D M A a amin seq rk P outs own uo reg)
    (hS : SInv D M A amin seq rk P outs own)
    {d c : Nat} (hd : d ∈ P) (hc : c ∈ seq) (hcd : D c = d) (hne : c ≠ d) (hno : c ∉ outs) :
    A c ≤ uo d := by
  have := csum_ge_one (p := fun c => decide (D c = d ∧ c ≠ d) && !outs.contains c) (f := A) H.nd H.A0 hc
    (by simp [hcd, hne, hno])
  have h3 := hU.low d hd
  have h4 := H.a0 d (hS.inSeq d hd)
  omega

theorem UInv.lowTwo {P outs : List Nat} {own : Nat → Nat} {uo reg : Nat → Int}
    (H : AHyp D M A a seq rk) (hU : UInv D M A a amin seq rk P outs own uo reg)
    (hS : SInv D M A amin seq rk P outs own)
    {d c1 c2 : Nat} (hd : d ∈ P) (h1 : c1 ∈ seq) (h2 : c2 ∈ seq) (hne : c1 ≠ c2)
    (hc1 : D c1 = d) (hn1 : c1 ≠ d) (ho1 : c1 ∉ outs) (hc2 : D c2 = d) (hn2 : c2 ≠ d) (ho2 : c2 ∉ outs) :
    A c1 + A c2 ≤ uo d := by
  have := csum_ge_two (p := fun c => decide (D c = d ∧ c ≠ d) && !outs.contains c) (f := A) H.nd H.A0
    h1 h2 hne (by simp [hc1, hn1, ho1]) (by simp [hc2, hn2, ho2])
  have h3 := hU.low d hd
  have h4 := H.a0 d (hS.inSeq d hd)
  omega

/-- an outlet is the only processed cell of its rank in its sub-basin -/
theorem SInv.eq_of_outlet {P outs : List Nat} {own : Nat → Nat} (hS : SInv D M A amin seq rk P outs own)
    {x y : Nat} (hxo : x ∈ outs) (hy : y ∈ P) (hr : rk x = rk y) (hown : own x = own y) : x = y := by
  by_cases hyo : y ∈ outs
  · rw [hS.ownO x hxo, hS.ownO y hyo] at hown; exact hown
  · have := (hS.ownR y hy).2 hyo
    rw [← hown, hS.ownO x hxo] at this; omega

/-- two big processed cells of the same rank in the same sub-basin coincide: the big cells of a
sub-basin form a chain -/
theorem classUnique {P outs : List Nat} {own : Nat → Nat} {uo reg : Nat → Int}
    (H : AHyp D M A a seq rk) (hS : SInv D M A amin seq rk P outs own)
    (hU : UInv D M A a amin seq rk P outs own uo reg) :
    ∀ r x y, x ∈ P → y ∈ P → rk x = r → rk y = r → own x = own y → amin < A x → amin < A y → x = y := by
  intro r
  induction r using Nat.strongRecOn with
  | _ r ih =>
    intro x y hx hy hrx hry hown hbx hby
    by_cases hxo : x ∈ outs
    · exact hS.eq_of_outlet hxo hy (hrx.trans hry.symm) hown
    by_cases hyo : y ∈ outs
    · exact (hS.eq_of_outlet hyo hx (hry.trans hrx.symm) hown.symm).symm
    -- neither is an outlet: their downstream cells are big, one rank lower, in the same sub-basin, hence equal;
    -- two big siblings that were not cut contradict `chain`
    have hpx := hS.pitO x hx hxo
    have hpy := hS.pitO y hy hyo
    have hrx' := H.rkS x (hS.inSeq x hx) hpx
    have hry' := H.rkS y (hS.inSeq y hy) hpy
    have hmx := H.mono (hS.inSeq x hx) hpx
    have hmy := H.mono (hS.inSeq y hy) hpy
    have hdd : D x = D y :=
      ih (rk (D x)) (by omega) (D x) (D y) (hS.closed x hx) (hS.closed y hy) rfl (by omega)
        (by rw [← hS.ownN x hx hxo, ← hS.ownN y hy hyo]; exact hown) (by omega) (by omega)
    apply Classical.byContradiction
    intro hne
    have := hU.chain x hx y hy hne hdd hpx hpy hxo hyo hbx
    omega

/-- a big processed cell `x ≠ d` in the sub-basin of the big cell `d`, not further downstream than
`d`, while only cells up to rank `rk d + 1` are processed, is an inflowing cell of `d` that was not cut -/
theorem class_child {P outs : List Nat} {own : Nat → Nat} {uo reg : Nat → Int}
    (H : AHyp D M A a seq rk) (hS : SInv D M A amin seq rk P outs own)
    (hU : UInv D M A a amin seq rk P outs own uo reg)
    {d x : Nat} (hd : d ∈ P) (hx : x ∈ P) (hbd : amin < A d) (hbx : amin < A x)
    (hown : own x = own d) (hne : x ≠ d) (hlo : rk d ≤ rk x) (hhi : rk x ≤ rk d + 1) :
    x ∉ outs ∧ D x = d ∧ D x ≠ x := by
  by_cases heq : rk x = rk d
  · exact absurd (classUnique H hS hU _ x d hx hd heq rfl hown hbx hbd) hne
  · have hr : rk x = rk d + 1 := by omega
    have hxo : x ∉ outs := by
      intro hc
      have h1 := (hS.ownR d hd).1
      rw [← hown, hS.ownO x hc] at h1; omega
    have hpx := hS.pitO x hx hxo
    have hrx := H.rkS x (hS.inSeq x hx) hpx
    have hmx := H.mono (hS.inSeq x hx) hpx
    refine ⟨hxo, ?_, hpx⟩
    apply classUnique H hS hU (rk d) (D x) d (hS.closed x hx) hd (by omega) rfl
    · rw [← hS.ownN x hx hxo]; exact hown
    · omega
    · exact hbd

end
end Pf.C18
