import PfVerif.Model.C09
/-! Arithmetic of the coarse grid (C09): ceiling division, the coarse cell of a pixel. -/
namespace Pf

theorem ceilDiv_le_mul (a s : Nat) (hs : 0 < s) : a ≤ ceilDiv a s * s := by
  unfold ceilDiv
  have h1 := Nat.div_add_mod (a + s - 1) s
  have h2 := Nat.mod_lt (a + s - 1) hs
  rw [Nat.mul_comm]
  omega

theorem ceilDiv_mul_lt (a s : Nat) (hs : 0 < s) : ceilDiv a s * s < a + s := by
  unfold ceilDiv
  have h1 := Nat.div_add_mod (a + s - 1) s
  rw [Nat.mul_comm]
  omega

theorem ceilDiv_one (a : Nat) : ceilDiv a 1 = a := by
  unfold ceilDiv; simp

theorem div_lt_ceilDiv (r a s : Nat) (hs : 0 < s) (h : r < a) : r / s < ceilDiv a s := by
  rw [Nat.div_lt_iff_lt_mul hs]
  exact Nat.lt_of_lt_of_le h (ceilDiv_le_mul a s hs)

theorem mul_add_lt (r c nrow ncol : Nat) (hr : r < nrow) (hc : c < ncol) : r * ncol + c < nrow * ncol := by
  have h : (r + 1) * ncol ≤ nrow * ncol := Nat.mul_le_mul_right ncol hr
  rw [Nat.add_mul] at h
  omega

theorem subidx2idx_row (p subncol cs ncol : Nat) (hc : (p % subncol) / cs < ncol) :
    subidx2idx p subncol cs ncol / ncol = p / subncol / cs := by
  unfold subidx2idx
  have hn : 0 < ncol := Nat.lt_of_le_of_lt (Nat.zero_le _) hc
  rw [Nat.add_comm, Nat.add_mul_div_right _ _ hn, Nat.div_eq_of_lt hc, Nat.zero_add]

theorem subidx2idx_col (p subncol cs ncol : Nat) (hc : (p % subncol) / cs < ncol) :
    subidx2idx p subncol cs ncol % ncol = (p % subncol) / cs := by
  unfold subidx2idx
  rw [Nat.add_comm, Nat.add_mul_mod_self_right, Nat.mod_eq_of_lt hc]

theorem subidx2idx_lt (p subnrow subncol cs : Nat) (hs : 0 < cs) (hp : p < subnrow * subncol) :
    subidx2idx p subncol cs (ceilDiv subncol cs) < ceilDiv subnrow cs * ceilDiv subncol cs := by
  have hsc : 0 < subncol := by
    rcases Nat.eq_zero_or_pos subncol with h | h
    · subst h; simp at hp
    · exact h
  unfold subidx2idx
  apply mul_add_lt
  · apply div_lt_ceilDiv _ _ _ hs
    rw [Nat.div_lt_iff_lt_mul hsc]; exact hp
  · exact div_lt_ceilDiv _ _ _ hs (Nat.mod_lt _ hsc)

theorem subidx2idx_one (p subncol : Nat) : subidx2idx p subncol 1 subncol = p := by
  unfold subidx2idx
  simp only [Nat.div_one]
  rw [Nat.mul_comm]; exact Nat.div_add_mod p subncol

theorem div_mod_inj {a b n : Nat} (hd : a / n = b / n) (hm : a % n = b % n) : a = b := by
  rw [← Nat.div_add_mod a n, ← Nat.div_add_mod b n, hd, hm]

theorem div_mod_of_bounds (x cs q : Nat) (h1 : q * cs ≤ x) (h2 : x < q * cs + cs) :
    x / cs = q ∧ x % cs + q * cs = x := by
  have hd : x / cs = q := Nat.div_eq_of_lt_le h1 (by rw [Nat.succ_mul]; exact h2)
  have := Nat.mod_add_div x cs
  rw [hd, Nat.mul_comm] at this
  exact ⟨hd, this⟩

/-- a coordinate within one cell size of the cell that starts at `R0 * cs` lies in that cell or a neighbouring one;
its offset inside its cell is given relative to `R0 * cs` -/
theorem three_cells (cs R0 x : Nat) (h1 : R0 * cs ≤ x + cs) (h2 : x < R0 * cs + 2 * cs) :
    (x / cs + 1 = R0 ∧ x % cs + R0 * cs = x + cs) ∨ (x / cs = R0 ∧ x % cs + R0 * cs = x) ∨
    (x / cs = R0 + 1 ∧ x % cs + R0 * cs + cs = x) := by
  by_cases ha : x < R0 * cs
  · obtain ⟨R, rfl⟩ : ∃ R, R0 = R + 1 := ⟨R0 - 1, by cases R0 with | zero => simp at ha | succ R => rfl⟩
    rw [Nat.succ_mul] at h1 ha ⊢
    obtain ⟨hd, hm⟩ := div_mod_of_bounds x cs R (Nat.le_of_add_le_add_right h1) ha
    exact Or.inl ⟨by rw [hd], by rw [← Nat.add_assoc, hm]⟩
  · by_cases hb : x < R0 * cs + cs
    · exact Or.inr (Or.inl (div_mod_of_bounds x cs R0 (Nat.le_of_not_lt ha) hb))
    · obtain ⟨hd, hm⟩ := div_mod_of_bounds x cs (R0 + 1) (by rw [Nat.succ_mul]; exact Nat.le_of_not_lt hb)
        (by rw [Nat.succ_mul, Nat.add_assoc, ← Nat.two_mul]; exact h2)
      exact Or.inr (Or.inr ⟨hd, by rw [Nat.add_assoc, ← Nat.succ_mul]; exact hm⟩)

/-- one D8 step along one axis -/
def StepAx (x x' : Nat) : Prop := x' ≤ x + 1 ∧ x ≤ x' + 1

theorem within_cell (cs R0 x : Nat) (h1 : R0 * cs ≤ x + cs) (h2 : x < R0 * cs + 2 * cs) : StepAx R0 (x / cs) := by
  unfold StepAx
  rcases three_cells cs R0 x h1 h2 with ⟨h, _⟩ | ⟨h, _⟩ | ⟨h, _⟩ <;> omega

/-- geometric hypotheses shared by the theorems: the fine array matches the fine shape, `s ≥ 1` -/
structure Geo.OK (g : Geo) (ds : Array Nat) : Prop where
  size : ds.size = g.subn
  cs : 0 < g.cs

theorem Geo.cell_lt (g : Geo) (ds : Array Nat) (h : g.OK ds) (p : Nat) (hp : p < ds.size) : g.cell p < g.ncell := by
  unfold Geo.cell Geo.ncell Geo.nrow Geo.ncol
  apply subidx2idx_lt _ _ _ _ h.cs
  have := h.size; unfold Geo.subn at this; omega

theorem Geo.subncol_pos (g : Geo) (ds : Array Nat) (h : g.OK ds) (p : Nat) (hp : p < ds.size) : 0 < g.subncol := by
  have := h.size; unfold Geo.subn at this
  rcases Nat.eq_zero_or_pos g.subncol with h0 | h0
  · rw [h0, Nat.mul_zero] at this; omega
  · exact h0

theorem Geo.cell_row (g : Geo) (ds : Array Nat) (h : g.OK ds) (p : Nat) (hp : p < ds.size) :
    g.cell p / g.ncol = p / g.subncol / g.cs :=
  subidx2idx_row _ _ _ _ (div_lt_ceilDiv _ _ _ h.cs (Nat.mod_lt _ (g.subncol_pos ds h p hp)))

theorem Geo.cell_col (g : Geo) (ds : Array Nat) (h : g.OK ds) (p : Nat) (hp : p < ds.size) :
    g.cell p % g.ncol = (p % g.subncol) / g.cs :=
  subidx2idx_col _ _ _ _ (div_lt_ceilDiv _ _ _ h.cs (Nat.mod_lt _ (g.subncol_pos ds h p hp)))

/-! ### scale factor 1 -/

theorem Geo.ncol_one (g : Geo) (h1 : g.cs = 1) : g.ncol = g.subncol := by
  unfold Geo.ncol; rw [h1, ceilDiv_one]

theorem Geo.ncell_one (g : Geo) (ds : Array Nat) (hg : g.OK ds) (h1 : g.cs = 1) : g.ncell = ds.size := by
  unfold Geo.ncell Geo.nrow Geo.ncol; rw [h1, ceilDiv_one, ceilDiv_one, hg.size]; rfl

theorem Geo.cell_one (g : Geo) (h1 : g.cs = 1) (p : Nat) : g.cell p = p := by
  unfold Geo.cell; rw [g.ncol_one h1, h1]; exact subidx2idx_one p g.subncol

end Pf
