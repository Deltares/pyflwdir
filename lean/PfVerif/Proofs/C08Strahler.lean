import PfVerif.Model.C08
import PfVerif.Proofs.C04
/-! The loop of `strahler_order` (C08): `headVal`, the step as one write of `phi` per work array (`strahlerStep_masked`)
and its reads, `kidsM` / `foldKids`, the statement about the loop from any start state (`strahlerFold_spec`) and the
recursion it gives for the model (`strahlerOrder_rec`). The loop is not an instance of Core's `sweepUp`: a step also
rewrites the cell's OWN entry (headwater rule) and the state is two arrays; the proof follows that of `sweepUp_spec`. -/
namespace Pf

/-- the order a cell hands to its downstream cell: its own order after the headwater rule -/
def headVal (so : Array Nat) (i : Nat) : Nat := if so[i]! = 0 then 1 else so[i]!

theorem strahlerStep_not_masked (ds : Array Nat) {mask : Option (Array Bool)} {i : Nat}
    (hm : ¬ maskAt mask i = true) (st : Array Nat × Array Nat) : strahlerStep ds mask i st = st := by
  simp [strahlerStep, hm]

/-- a masked cell takes the headwater rule and, unless it is a pit, hands its order to the junction update `phi` of
its downstream cell: the three guarded writes of the loop body are one write of `phi` per work array -/
theorem strahlerStep_masked (ds : Array Nat) {mask : Option (Array Bool)} {i : Nat} (hm : maskAt mask i = true)
    (st : Array Nat × Array Nat) :
    strahlerStep ds mask i st =
      (let so := st.1.setIfInBounds i (headVal st.1 i)
       if ds[i]! = i then (so, st.2) else
         (so.setIfInBounds ds[i]! (phi (so[ds[i]!]!, st.2[ds[i]!]!) so[i]!).1,
          st.2.setIfInBounds ds[i]! (phi (so[ds[i]!]!, st.2[ds[i]!]!) so[i]!).2)) := by
  simp only [strahlerStep, headVal, phi, hm, Bool.not_true, Bool.false_eq_true, if_false,
    setIfInBounds_ite, setIfInBounds_self]

theorem size_strahlerStep (ds : Array Nat) (mask : Option (Array Bool)) (i : Nat)
    (st : Array Nat × Array Nat) :
    (strahlerStep ds mask i st).1.size = st.1.size ∧ (strahlerStep ds mask i st).2.size = st.2.size := by
  by_cases hm : maskAt mask i = true
  · rw [strahlerStep_masked ds hm]; dsimp only; split <;> simp
  · rw [strahlerStep_not_masked ds hm]; exact ⟨rfl, rfl⟩

/-- reads of the two work arrays at one cell -/
def rd2 (st : Array Nat × Array Nat) (j : Nat) : Nat × Nat := (st.1[j]!, st.2[j]!)

theorem strahlerStep_rd_other (ds : Array Nat) (mask : Option (Array Bool)) {i j : Nat} (st : Array Nat × Array Nat)
    (hji : j ≠ i) (hk : ¬ (ds[i]! = j ∧ maskAt mask i = true)) :
    rd2 (strahlerStep ds mask i st) j = rd2 st j := by
  by_cases hm : maskAt mask i = true
  · have hd : j ≠ ds[i]! := fun h => hk ⟨h.symm, hm⟩
    rw [strahlerStep_masked ds hm]
    dsimp only [rd2]
    split <;> simp only [get!_set_ne hd, get!_set_ne hji]
  · rw [strahlerStep_not_masked ds hm]

theorem strahlerStep_rd_self (ds : Array Nat) (mask : Option (Array Bool)) {i : Nat} (st : Array Nat × Array Nat)
    (hi : i < st.1.size) :
    rd2 (strahlerStep ds mask i st) i = (if maskAt mask i = true then headVal st.1 i else st.1[i]!, st.2[i]!) := by
  by_cases hm : maskAt mask i = true
  · rw [strahlerStep_masked ds hm, if_pos hm]
    dsimp only [rd2]
    split
    · rw [get!_set_self hi]
    · next hp => rw [get!_set_ne (Ne.symm hp), get!_set_ne (Ne.symm hp), get!_set_self hi]
  · rw [strahlerStep_not_masked ds hm, if_neg hm]; rfl

theorem strahlerStep_rd_kid (ds : Array Nat) (mask : Option (Array Bool)) {i : Nat} (st : Array Nat × Array Nat)
    (hm : maskAt mask i = true) (hp : ds[i]! ≠ i) (hi : i < st.1.size) (hd1 : ds[i]! < st.1.size)
    (hd2 : ds[i]! < st.2.size) :
    rd2 (strahlerStep ds mask i st) ds[i]! = phi (rd2 st ds[i]!) (headVal st.1 i) := by
  rw [strahlerStep_masked ds hm]
  dsimp only [rd2]
  rw [if_neg hp, get!_set_self (by simpa using hd1), get!_set_self hd2, get!_set_self hi, get!_set_ne hp]
/-- the inflowing cells of `j` among `seq` that lie in the mask, in processing order -/
def kidsM (ds : Array Nat) (seq : List Nat) (mask : Option (Array Bool)) (j : Nat) : List Nat :=
  (kids ds seq j).filter (maskAt mask)

theorem mem_kidsM (ds : Array Nat) (seq : List Nat) (mask : Option (Array Bool)) (j c : Nat) :
    c ∈ kidsM ds seq mask j ↔ c ∈ seq ∧ ds[c]! = j ∧ c ≠ j ∧ maskAt mask c = true := by
  simp only [kidsM, kids, List.mem_filter, List.mem_reverse, Bool.and_eq_true, beq_iff_eq,
    bne_iff_ne, ne_eq]
  constructor
  · rintro ⟨⟨h1, h2, h3⟩, h4⟩; exact ⟨h1, h2, h3, h4⟩
  · rintro ⟨h1, h2, h3, h4⟩; exact ⟨⟨h1, h2, h3⟩, h4⟩

theorem kidsM_snoc (ds : Array Nat) (mask : Option (Array Bool)) (pre : List Nat) (i j : Nat) :
    kidsM ds (pre ++ [i]) mask j =
      (if ds[i]! = j ∧ i ≠ j ∧ maskAt mask i = true then [i] else []) ++ kidsM ds pre mask j := by
  simp only [kidsM, kids_snoc, List.filter_append]
  by_cases h1 : ds[i]! = j <;> by_cases h2 : i = j <;> by_cases h3 : maskAt mask i = true <;>
    simp [h1, h2, h3]

def strahlerFold (ds : Array Nat) (mask : Option (Array Bool)) (seq : List Nat)
    (st : Array Nat × Array Nat) : Array Nat × Array Nat :=
  seq.foldr (strahlerStep ds mask) st

/-- fold of the junction update over the (final) orders of the masked inflows of `j` -/
def foldKids (ds : Array Nat) (seq : List Nat) (mask : Option (Array Bool)) (F : Array Nat)
    (a : Nat × Nat) (j : Nat) : Nat × Nat :=
  ((kidsM ds seq mask j).map (F[·]!)).foldl phi a

theorem foldKids_snoc (ds : Array Nat) (mask : Option (Array Bool)) (pre : List Nat) (i j : Nat) (F : Array Nat)
    (a : Nat × Nat) :
    foldKids ds (pre ++ [i]) mask F a j =
      foldKids ds pre mask F (if ds[i]! = j ∧ i ≠ j ∧ maskAt mask i = true then phi a F[i]! else a) j := by
  simp only [foldKids, kidsM_snoc]
  split <;> simp

/-- Generic statement about the loop of `strahler_order` started in an arbitrary state: every cell
ends with the junction update folded over the final orders of its masked inflows (in processing
order), followed by the headwater rule if the cell itself is processed. -/
theorem strahlerFold_spec (ds : Array Nat) (mask : Option (Array Bool)) (seq : List Nat)
    (htopo : Topo ds seq) :
    ∀ (st : Array Nat × Array Nat), (∀ i ∈ seq, i < st.1.size ∧ i < st.2.size) → ∀ j,
      (strahlerFold ds mask seq st).1[j]! =
        (if j ∈ seq ∧ maskAt mask j = true ∧
            (foldKids ds seq mask (strahlerFold ds mask seq st).1 (st.1[j]!, st.2[j]!) j).1 = 0 then 1
         else (foldKids ds seq mask (strahlerFold ds mask seq st).1 (st.1[j]!, st.2[j]!) j).1) ∧
      (strahlerFold ds mask seq st).2[j]! =
        (foldKids ds seq mask (strahlerFold ds mask seq st).1 (st.1[j]!, st.2[j]!) j).2 := by
  induction htopo with
  | nil => intro st _ j; simp [strahlerFold, foldKids, kidsM, kids]
  | @snoc pre i hpre hi hds ih =>
    intro st hb j
    have hkids_i : kidsM ds pre mask i = [] := by
      rw [List.eq_nil_iff_forall_not_mem]
      intro c hc
      have hc' := (mem_kidsM ds pre mask i c).1 hc
      exact hi (hc'.2.1 ▸ hpre.ds_mem c hc'.1)
    have hi1 := hb i (by simp)
    have hd : ds[i]! < st.1.size ∧ ds[i]! < st.2.size := by
      rcases hds with h | h
      · rw [h]; exact hi1
      · exact hb _ (by simp [h])
    have hsz := size_strahlerStep ds mask i st
    have ihj := ih (strahlerStep ds mask i st) (fun k hk => by
      rw [hsz.1, hsz.2]; exact hb k (List.mem_append_left _ hk))
    have hfold : strahlerFold ds mask (pre ++ [i]) st =
        strahlerFold ds mask pre (strahlerStep ds mask i st) := by
      simp [strahlerFold, List.foldr_append]
    rw [hfold]
    generalize strahlerFold ds mask pre (strahlerStep ds mask i st) = F at ihj ⊢
    -- the value of `i` right after its own iteration is final
    have hFi : (F.1[i]!, F.2[i]!) = rd2 (strahlerStep ds mask i st) i := by
      have := ihj i
      simp only [foldKids, hkids_i, List.map_nil, List.foldl_nil, hi, false_and, if_false] at this
      exact Prod.ext this.1 this.2
    rw [strahlerStep_rd_self ds mask st hi1.1] at hFi
    obtain ⟨hF1, hF2⟩ := Prod.mk.inj hFi
    simp only [foldKids_snoc]
    by_cases hji : j = i
    · subst hji
      have hc : ¬ (ds[j]! = j ∧ j ≠ j ∧ maskAt mask j = true) := fun h => h.2.1 rfl
      simp only [if_neg hc, foldKids, hkids_i, List.map_nil, List.foldl_nil, List.mem_append, List.mem_singleton,
        or_true, true_and]
      rw [hF1, hF2]
      unfold headVal
      by_cases hm : maskAt mask j = true <;> simp [hm]
    · have hmem : j ∈ pre ++ [i] ↔ j ∈ pre := mem_snoc_of_ne hji
      have hrd : rd2 (strahlerStep ds mask i st) j =
          if ds[i]! = j ∧ i ≠ j ∧ maskAt mask i = true then phi (st.1[j]!, st.2[j]!) F.1[i]! else (st.1[j]!, st.2[j]!) := by
        by_cases hc : ds[i]! = j ∧ i ≠ j ∧ maskAt mask i = true
        · obtain ⟨hdj, hne, hm⟩ := hc
          rw [if_pos ⟨hdj, hne, hm⟩, hF1, if_pos hm, ← hdj]
          exact strahlerStep_rd_kid ds mask st hm (hdj ▸ Ne.symm hne) hi1.1 hd.1 hd.2
        · rw [if_neg hc]
          exact strahlerStep_rd_other ds mask st hji fun h => hc ⟨h.1, Ne.symm hji, h.2⟩
      have h := ihj j
      rw [show ((strahlerStep ds mask i st).1[j]!, (strahlerStep ds mask i st).2[j]!) = _ from hrd] at h
      simpa only [hmem] using h

theorem strahler_ge_mx (l : List Nat) (hne : l ≠ []) : mx l ≤ strahler l := by
  unfold strahler; simp only [hne, if_false]; split <;> omega

theorem strahler_pos_of (l : List Nat) (hne : l ≠ []) (hpos : ∀ x ∈ l, 0 < x) : 0 < strahler l := by
  cases l with
  | nil => exact absurd rfl hne
  | cons x r =>
    have h1 := le_mx (x :: r) x (by simp)
    have h2 := hpos x (by simp)
    have h3 := strahler_ge_mx (x :: r) hne
    omega

/-- recursive characterisation of the model's Strahler order (any mask, any downstream-first order) -/
theorem strahlerOrder_rec (ds : Array Nat) (mask : Option (Array Bool)) (seq : List Nat)
    (htopo : Topo ds seq) (hb : ∀ i ∈ seq, i < ds.size) :
    (∀ j ∈ seq, maskAt mask j = true → 0 < (strahlerOrder ds seq mask)[j]!) ∧
    ∀ j, (strahlerOrder ds seq mask)[j]! =
      strahlerRule (decide (j ∈ seq) && maskAt mask j)
        ((kidsM ds seq mask j).map ((strahlerOrder ds seq mask)[·]!)) := by
  have hspec := strahlerFold_spec ds mask seq htopo
    (Array.replicate ds.size 0, Array.replicate ds.size 0)
    (fun i hi => by simpa using hb i hi)
  have hfold : strahlerFold ds mask seq (Array.replicate ds.size 0, Array.replicate ds.size 0) =
      strahlerState ds seq mask := rfl
  rw [hfold] at hspec
  simp only [get!_replicate (a := (0 : Nat)) _ _ (.inr rfl)] at hspec
  have hpos : ∀ j ∈ seq, maskAt mask j = true → 0 < (strahlerOrder ds seq mask)[j]! := by
    intro j hj hm
    have := (hspec j).1
    show 0 < (strahlerState ds seq mask).1[j]!
    rw [this]
    split
    · omega
    · rename_i hn
      have : (foldKids ds seq mask (strahlerState ds seq mask).1 (0, 0) j).1 ≠ 0 :=
        fun h0 => hn ⟨hj, hm, h0⟩
      omega
  refine ⟨hpos, fun j => ?_⟩
  have hl : ∀ x ∈ (kidsM ds seq mask j).map ((strahlerState ds seq mask).1[·]!), 0 < x := by
    intro x hx
    obtain ⟨c, hc, rfl⟩ := List.mem_map.1 hx
    have hc' := (mem_kidsM ds seq mask j c).1 hc
    exact hpos c hc'.1 hc'.2.2.2
  have hphi := phi_fold _ hl
  have h1 := (hspec j).1
  simp only [foldKids, hphi] at h1
  show (strahlerState ds seq mask).1[j]! = strahlerRule _ ((kidsM ds seq mask j).map ((strahlerState ds seq mask).1[·]!))
  rw [h1]
  unfold strahlerRule
  by_cases hnil : (kidsM ds seq mask j).map ((strahlerState ds seq mask).1[·]!) = []
  · rw [hnil]
    simp only [strahler, if_true]
    by_cases hj : j ∈ seq <;> by_cases hm : maskAt mask j = true <;> simp [hj, hm]
  · have := strahler_pos_of _ hnil hl
    simp only [hnil, if_false]
    rw [if_neg (by omega)]

end Pf
