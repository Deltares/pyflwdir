import PfVerif.Proofs.C06Flood
/-! The loop invariant `Inv` of the priority flood (monotone pop levels, every cell pushed once, popped
cells have all neighbours visited) and its preservation by one pop. -/
namespace Pf.C06
open Pf

def InHeap (s : St) (c : Nat) : Prop := ∃ e, e ∈ s.q ∧ e.idx = c

/-- pushed at some time and no longer in the heap -/
def Popped (s : St) (c : Nat) : Prop := s.queued[c]! = true ∧ ¬ InHeap s c

/-- loop invariant of `while len(q) > 0` (between two pops); `rk` is the ghost rank -/
structure Inv (G : Grid) (conn : Nat) (elev : Array Int) (nod seed : Array Bool) (rk : Nat → Nat)
    (s : St) : Prop where
  sized : Sized G s
  -- nodata cells: done from the start, untouched, never queued
  nodc : ∀ c : Nat, c < G.n → nod[c]! = true →
    s.done[c]! = true ∧ s.f[c]! = elev[c]! ∧ s.d8[c]! = 247 ∧ s.queued[c]! = false
  -- heap entries: valid queued cells, at their current level
  hp : ∀ e : HE, e ∈ s.q →
    e.idx < G.n ∧ nod[e.idx]! = false ∧ s.queued[e.idx]! = true ∧ e.z = s.f[e.idx]!
  nodup : (s.q.map (·.idx)).Nodup
  sorted : HSorted s.q
  -- popped cells lie at or below every heap entry
  mono : ∀ p : Nat, p < G.n → Popped s p → ∀ e : HE, e ∈ s.q → s.f[p]! ≤ e.z
  seedq : ∀ c : Nat, c < G.n → seed[c]! = true → s.queued[c]! = true ∧ s.f[c]! = elev[c]!
  -- done valid cells are queued
  dq : ∀ c : Nat, c < G.n → s.done[c]! = true → nod[c]! = false → s.queued[c]! = true
  -- valid cells that are not done are untouched; if queued they are outlets waiting in the heap
  und : ∀ c : Nat, c < G.n → nod[c]! = false → s.done[c]! = false →
    s.f[c]! = elev[c]! ∧ s.d8[c]! = 0 ∧ (s.queued[c]! = true → seed[c]! = true ∧ InHeap s c)
  -- popped cells are done
  pd : ∀ p : Nat, p < G.n → Popped s p → s.done[p]! = true
  -- done valid cells: code 0 only on outlets; otherwise the code points back to a popped cell of lower rank
  -- from which the level was taken
  dn : ∀ c : Nat, c < G.n → nod[c]! = false → s.done[c]! = true →
    (s.d8[c]! = 0 → seed[c]! = true) ∧
    (s.d8[c]! ≠ 0 → ∃ (d : Nat) (o : Int × Int), o ∈ offsets conn ∧ o ≠ (0, 0) ∧
      shift G d o.1 o.2 = some c ∧ d < G.n ∧ s.d8[c]! = usCode o.1 o.2 ∧ Popped s d ∧
      s.f[c]! = max elev[c]! s.f[d]! ∧ rk d < rk c)
  -- every valid neighbour `a` of a popped cell `b` is done, at a level at most `max elev[a] f[b]` (clause L1
  -- of the certificate)
  l1 : ∀ b : Nat, b < G.n → Popped s b → ∀ a : Nat, Nbr G conn nod a b →
    s.done[a]! = true ∧ s.f[a]! ≤ max elev[a]! s.f[b]!

/-- the three things that can happen to a cell during the neighbour loop of the popped cell `b` -/
theorem eff_cases {G : Grid} {conn : Nat} {elev : Array Int} {z0 : Int} {b : Nat} {s s' : St}
    (E : Eff G elev z0 b (offsets conn) s s') (c : Nat) :
    (s.done[c]! = true ∧ s'.done[c]! = true ∧ s'.f[c]! = s.f[c]! ∧ s'.d8[c]! = s.d8[c]! ∧
      s'.queued[c]! = s.queued[c]!) ∨
    (s.done[c]! = false ∧ (∀ o : Int × Int, o ∈ offsets conn → shift G b o.1 o.2 ≠ some c) ∧
      s'.done[c]! = false ∧ s'.f[c]! = s.f[c]! ∧ s'.d8[c]! = s.d8[c]! ∧ s'.queued[c]! = s.queued[c]!) ∨
    (s.done[c]! = false ∧ ∃ o : Int × Int, o ∈ offsets conn ∧ shift G b o.1 o.2 = some c ∧
      s'.done[c]! = true ∧ s'.queued[c]! = true ∧
      s'.f[c]! = (if z0 - elev[c]! > 0 then z0 else s.f[c]!) ∧ s'.d8[c]! = usCode o.1 o.2) := by
  cases hd : s.done[c]! with
  | true => exact Or.inl ⟨rfl, E.keep c hd⟩
  | false =>
    right
    cases hf : (offsets conn).find? (tgt G b c) with
    | none =>
      left
      refine ⟨rfl, fun o ho hs => ?_, E.miss c hd hf⟩
      have := List.find?_eq_none.1 hf o ho
      exact this (tgt_iff.2 hs)
    | some o =>
      right
      exact ⟨rfl, o, List.mem_of_find?_eq_some hf, tgt_iff.1 (List.find?_some hf), E.hit c o hd hf⟩

theorem eff_inheap {G : Grid} {conn : Nat} {elev : Array Int} {z0 : Int} {b : Nat} {s s' : St}
    (E : Eff G elev z0 b (offsets conn) s s') (c : Nat) :
    InHeap s' c ↔ InHeap s c ∨ (s.done[c]! = false ∧ s.queued[c]! = false ∧
      ∃ o : Int × Int, o ∈ offsets conn ∧ shift G b o.1 o.2 = some c) := by
  unfold InHeap
  constructor
  · rintro ⟨e, he, hec⟩
    rcases (E.heap e).1 he with h | ⟨c', h1, h2, h3, h4⟩
    · exact Or.inl ⟨e, h, hec⟩
    · right
      have : c' = c := by rw [h4] at hec; exact hec
      subst this
      obtain ⟨o, ho, hso⟩ := List.find?_isSome.1 h3
      exact ⟨h1, h2, o, ho, tgt_iff.1 hso⟩
  · rintro (⟨e, he, hec⟩ | ⟨h1, h2, o, ho, hso⟩)
    · exact ⟨e, (E.heap e).2 (Or.inl he), hec⟩
    · refine ⟨⟨lvl z0 elev[c]!, 0, c⟩, (E.heap _).2 (Or.inr ⟨c, h1, h2, ?_, rfl⟩), rfl⟩
      exact List.find?_isSome.2 ⟨o, ho, tgt_iff.2 hso⟩

/-- ghost rank after the pop of `b`: the cells it marks done get rank `rk b + 1` -/
def popRank (rk : Nat → Nat) (s s' : St) (b : Nat) (c : Nat) : Nat :=
  if s.done[c]! = false ∧ s'.done[c]! = true ∧ c ≠ b then rk b + 1 else rk c

theorem popRank_old {rk : Nat → Nat} {s s' : St} {b c : Nat} (h : s.done[c]! = true ∨ c = b) :
    popRank rk s s' b c = rk c := by
  unfold popRank
  rw [if_neg]
  rintro ⟨h1, _, h3⟩
  rcases h with h | h
  · rw [h] at h1; cases h1
  · exact h3 h

section pop
variable {G : Grid} {conn : Nat} {elev : Array Int} {nod seed : Array Bool} {rk : Nat → Nat}
  {s s' : St} {h : HE} {rest : List HE}
  (I : Inv G conn elev nod seed rk s) (hq : s.q = h :: rest)
  (E : Eff G elev h.z h.idx (offsets conn) { s with q := rest } s')
include I hq

/-- the popped entry is a valid queued cell at its level -/
theorem pop_head : h.idx < G.n ∧ nod[h.idx]! = false ∧ s.queued[h.idx]! = true ∧ h.z = s.f[h.idx]! :=
  I.hp h (by rw [hq]; exact List.mem_cons_self)

/-- the entries that stay in the heap belong to other cells and lie at or above the popped level -/
theorem pop_rest {e : HE} (he : e ∈ rest) : e ∈ s.q ∧ e.idx ≠ h.idx ∧ h.z ≤ e.z := by
  have hnd := I.nodup
  have hso := I.sorted
  rw [hq] at hnd hso
  simp only [List.map_cons, List.nodup_cons] at hnd
  exact ⟨by rw [hq]; exact List.mem_cons_of_mem _ he, fun hei => hnd.1 (List.mem_map.2 ⟨e, he, hei⟩),
    hsorted_head_le hso e (List.mem_cons_of_mem _ he)⟩

/-- cells popped before lie at or below the popped level -/
theorem popped_le_head {p : Nat} (hp : p < G.n) (hpp : Popped s p) : s.f[p]! ≤ h.z :=
  I.mono p hp hpp h (by rw [hq]; exact List.mem_cons_self)

/-- every heap entry is at or above the popped level -/
theorem pop_le_entry {e : HE} (he : e ∈ s.q) : h.z ≤ e.z := by
  rw [hq] at he
  rcases List.mem_cons.1 he with rfl | he
  · exact Int.le_refl _
  · exact (pop_rest I hq he).2.2

theorem pop_inheap_rest (c : Nat) : InHeap { s with q := rest } c ↔ (InHeap s c ∧ c ≠ h.idx) := by
  have hrest := fun e he => pop_rest I hq (e := e) he
  constructor
  · rintro ⟨e, he, hec⟩
    exact ⟨⟨e, (hrest e he).1, hec⟩, fun hc => (hrest e he).2.1 (hec.trans hc)⟩
  · rintro ⟨⟨e, he, hec⟩, hne⟩
    rw [hq] at he
    rcases List.mem_cons.1 he with rfl | he
    · exact absurd hec.symm hne
    · exact ⟨e, he, hec⟩

include E

omit hq in
/-- what the pop of `h` does to a cell, with what the invariant says about cells that are not done: a done
cell is kept; a cell that is not done is valid and at its input elevation, and is either outside the window
(kept) or visited from `h` (done, queued, at the higher of its elevation and the popped level) -/
theorem pop_cases {c : Nat} (hc : c < G.n) :
    (s.done[c]! = true ∧ s'.done[c]! = true ∧ s'.f[c]! = s.f[c]! ∧ s'.d8[c]! = s.d8[c]! ∧
      s'.queued[c]! = s.queued[c]!) ∨
    (s.done[c]! = false ∧ nod[c]! = false ∧ s.f[c]! = elev[c]! ∧
      (((∀ o : Int × Int, o ∈ offsets conn → shift G h.idx o.1 o.2 ≠ some c) ∧ s'.done[c]! = false ∧
          s'.f[c]! = s.f[c]! ∧ s'.d8[c]! = s.d8[c]! ∧ s'.queued[c]! = s.queued[c]!) ∨
        ∃ o : Int × Int, o ∈ offsets conn ∧ shift G h.idx o.1 o.2 = some c ∧ s'.done[c]! = true ∧
          s'.queued[c]! = true ∧ s'.f[c]! = lvl h.z elev[c]! ∧ s'.d8[c]! = usCode o.1 o.2)) := by
  rcases eff_cases E c with h1 | ⟨hd, h2⟩ | ⟨hd, o, ho, hso, h2, h3, h4, h5⟩
  · exact Or.inl h1
  all_goals
    have hd' : s.done[c]! = false := hd
    have hn : nod[c]! = false := by
      cases hn : nod[c]! with
      | false => rfl
      | true => rw [(I.nodc c hc hn).1] at hd'; cases hd'
    have hf : s.f[c]! = elev[c]! := (I.und c hc hn hd').1
    refine Or.inr ⟨hd', hn, hf, ?_⟩
  · exact Or.inl h2
  · refine Or.inr ⟨o, ho, hso, h2, h3, ?_, h5⟩
    rw [h4]
    show (if h.z - elev[c]! > 0 then h.z else s.f[c]!) = lvl h.z elev[c]!
    rw [hf]; rfl

omit hq in
theorem pop_queued_mono {c : Nat} (hc : c < G.n) (hqc : s.queued[c]! = true) : s'.queued[c]! = true := by
  rcases pop_cases I E hc with ⟨_, _, _, _, h5⟩ | ⟨_, _, _, ⟨_, _, _, _, h5⟩ | ⟨_, _, _, _, h3, _⟩⟩
  · rw [h5]; exact hqc
  · rw [h5]; exact hqc
  · exact h3

/-- the popped cell after its pop: done, queued, at the popped level; it carries its old code, or code 0 if
it is an outlet popped for the first time -/
theorem pop_self : s'.done[h.idx]! = true ∧ s'.f[h.idx]! = h.z ∧ s'.queued[h.idx]! = true ∧
    ((s.done[h.idx]! = true ∧ s'.d8[h.idx]! = s.d8[h.idx]!) ∨
      (s.done[h.idx]! = false ∧ s'.d8[h.idx]! = 0 ∧ seed[h.idx]! = true)) := by
  obtain ⟨hb, hbv, hbq, hbz⟩ := pop_head I hq
  rcases pop_cases I E hb with ⟨h1, h2, h3, h4, h5⟩ | ⟨h1, _, hf, ⟨h2, _⟩ | ⟨o, _, hso, h2, h3, h4, h5⟩⟩
  · exact ⟨h2, by rw [h3]; exact hbz.symm, by rw [h5]; exact hbq, Or.inl ⟨h1, h4⟩⟩
  · exact absurd (shift_self hb) (h2 (0, 0) (zero_mem_offsets conn))
  · refine ⟨h2, ?_, h3, Or.inr ⟨h1, ?_, ((I.und h.idx hb hbv h1).2.2 hbq).1⟩⟩
    · rw [h4, ← hf, ← hbz]; unfold lvl; split <;> rfl
    · rw [h5, shift_eq_self hso]; rfl

theorem popped_old {p : Nat} (hp : p < G.n) (hpp : Popped s p) :
    Popped s' p ∧ s'.f[p]! = s.f[p]! ∧ s'.done[p]! = true := by
  have hd := I.pd p hp hpp
  obtain ⟨k1, k2, _, k4⟩ := E.keep p hd
  refine ⟨⟨by rw [k4]; exact hpp.1, fun hi => ?_⟩, k2, k1⟩
  rcases (eff_inheap E p).1 hi with hi | ⟨hd', _⟩
  · exact hpp.2 ((pop_inheap_rest I hq p).1 hi).1
  · rw [show ({ s with q := rest } : St).done[p]! = true from hd] at hd'; cases hd'

theorem popped_self : Popped s' h.idx := by
  obtain ⟨_, _, hbq, _⟩ := pop_head I hq
  refine ⟨(pop_self I hq E).2.2.1, fun hi => ?_⟩
  rcases (eff_inheap E h.idx).1 hi with hi | ⟨_, hqf, _⟩
  · exact ((pop_inheap_rest I hq _).1 hi).2 rfl
  · rw [show ({ s with q := rest } : St).queued[h.idx]! = true from hbq] at hqf; cases hqf

/-- the cells popped after the pop are those popped before, and the popped cell -/
theorem popped_new {p : Nat} (hp : p < G.n) (hpp : Popped s' p) : Popped s p ∨ p = h.idx := by
  by_cases hpb : p = h.idx
  · exact Or.inr hpb
  refine Or.inl ⟨?_, fun hi => hpp.2 ((eff_inheap E p).2 (Or.inl ((pop_inheap_rest I hq p).2 ⟨hi, hpb⟩)))⟩
  rcases pop_cases I E hp with ⟨_, _, _, _, h5⟩ | ⟨h1, _, _, ⟨_, _, _, _, h5⟩ | ⟨o, ho, hso, _⟩⟩
  · rw [← h5]; exact hpp.1
  · rw [← h5]; exact hpp.1
  · cases hqp : s.queued[p]! with
    | true => rfl
    | false => exact absurd ((eff_inheap E p).2 (Or.inr ⟨h1, hqp, o, ho, hso⟩)) hpp.2

/-- popped cells lie at or below the popped level after the pop -/
theorem popped_le {p : Nat} (hp : p < G.n) (hpp : Popped s' p) : s'.f[p]! ≤ h.z := by
  rcases popped_new I hq E hp hpp with hps | rfl
  · rw [(popped_old I hq E hp hps).2.1]; exact popped_le_head I hq hp hps
  · rw [(pop_self I hq E).2.1]; exact Int.le_refl _

theorem pop_hp {e : HE} (he : e ∈ s'.q) :
    e.idx < G.n ∧ nod[e.idx]! = false ∧ s'.queued[e.idx]! = true ∧ e.z = s'.f[e.idx]! := by
  rcases (E.heap e).1 he with he | ⟨c, h1, h2, h3, rfl⟩
  · have hes := (pop_rest I hq he).1
    obtain ⟨p1, p2, p3, p4⟩ := I.hp e hes
    refine ⟨p1, p2, pop_queued_mono I E p1 p3, ?_⟩
    rcases pop_cases I E p1 with ⟨_, _, h3, _⟩ | ⟨_, _, hf, ⟨_, _, h3, _⟩ | ⟨_, _, _, _, _, h4, _⟩⟩
    · rw [h3]; exact p4
    · rw [h3]; exact p4
    · -- visited again from a level that is not above its own
      have := pop_le_entry I hq hes
      rw [h4, ← hf, ← p4]; unfold lvl; rw [if_neg (by omega)]
  · obtain ⟨o, ho, hso⟩ := List.find?_isSome.1 h3
    have hc : c < G.n := (shift_spec.1 (tgt_iff.1 hso)).1
    rcases pop_cases I E hc with ⟨h1', _⟩ | ⟨_, hn, _, ⟨h2', _⟩ | ⟨_, _, _, _, h3', h4', _⟩⟩
    · rw [show s.done[c]! = false from h1] at h1'; cases h1'
    · exact absurd (tgt_iff.1 hso) (h2' o ho)
    · exact ⟨hc, hn, h3', h4'.symm⟩

theorem pop_mono {p : Nat} (hp : p < G.n) (hpp : Popped s' p) {e : HE} (he : e ∈ s'.q) : s'.f[p]! ≤ e.z := by
  have hfp := popped_le I hq E hp hpp
  rcases (E.heap e).1 he with he | ⟨c, _, _, _, rfl⟩
  · have := (pop_rest I hq he).2.2; omega
  · have := (lvl_ge h.z elev[c]!).1
    show s'.f[p]! ≤ lvl h.z elev[c]!
    omega

theorem pop_seedq {c : Nat} (hc : c < G.n) (hs : seed[c]! = true) :
    s'.queued[c]! = true ∧ s'.f[c]! = elev[c]! := by
  obtain ⟨q1, q2⟩ := I.seedq c hc hs
  refine ⟨pop_queued_mono I E hc q1, ?_⟩
  rcases pop_cases I E hc with ⟨_, _, h3, _⟩ | ⟨h1, hn, _, ⟨_, _, h3, _⟩ | ⟨_, _, _, _, _, h4, _⟩⟩
  · rw [h3]; exact q2
  · rw [h3]; exact q2
  · -- an outlet that is not done is still in the heap, at its own elevation
    obtain ⟨e, he, hec⟩ := ((I.und c hc hn h1).2.2 q1).2
    have hef := (I.hp e he).2.2.2
    have := pop_le_entry I hq he
    rw [hec, q2] at hef
    rw [h4]; unfold lvl; rw [if_neg (by omega)]

theorem pop_und {c : Nat} (hc : c < G.n) (hn : nod[c]! = false) (hd : s'.done[c]! = false) :
    s'.f[c]! = elev[c]! ∧ s'.d8[c]! = 0 ∧ (s'.queued[c]! = true → seed[c]! = true ∧ InHeap s' c) := by
  rcases pop_cases I E hc with ⟨_, h2, _⟩ | ⟨h1, _, _, ⟨h2, _, h4, h5, h6⟩ | ⟨_, _, _, h2, _⟩⟩
  · rw [hd] at h2; cases h2
  · obtain ⟨u1, u2, u3⟩ := I.und c hc hn h1
    refine ⟨by rw [h4]; exact u1, by rw [h5]; exact u2, fun hqc => ?_⟩
    rw [h6] at hqc
    have hcb : c ≠ h.idx := fun hcb =>
      h2 (0, 0) (zero_mem_offsets conn) (by rw [hcb]; exact shift_self (pop_head I hq).1)
    exact ⟨(u3 hqc).1, (eff_inheap E c).2 (Or.inl ((pop_inheap_rest I hq c).2 ⟨(u3 hqc).2, hcb⟩))⟩
  · rw [hd] at h2; cases h2

theorem pop_dn {c : Nat} (hc : c < G.n) (hn : nod[c]! = false) (hd : s'.done[c]! = true) :
    (s'.d8[c]! = 0 → seed[c]! = true) ∧
    (s'.d8[c]! ≠ 0 → ∃ (d : Nat) (o : Int × Int), o ∈ offsets conn ∧ o ≠ (0, 0) ∧
      shift G d o.1 o.2 = some c ∧ d < G.n ∧ s'.d8[c]! = usCode o.1 o.2 ∧ Popped s' d ∧
      s'.f[c]! = max elev[c]! s'.f[d]! ∧ popRank rk s s' h.idx d < popRank rk s s' h.idx c) := by
  obtain ⟨hb, hbv, hbq, _⟩ := pop_head I hq
  rcases pop_cases I E hc with ⟨h1, _, h3, h4, _⟩ | ⟨h1, _, _, ⟨_, h3, _⟩ | ⟨o, ho, hso, _, _, h4, h5⟩⟩
  · -- done before: direction, level and parent are kept
    obtain ⟨d1, d2⟩ := I.dn c hc hn h1
    rw [h4, h3]
    refine ⟨d1, fun h0 => ?_⟩
    obtain ⟨d, o, ho, ho0, hso, hdn, hcode, hpd, hf, hrk⟩ := d2 h0
    obtain ⟨p1, p2, _⟩ := popped_old I hq E hdn hpd
    refine ⟨d, o, ho, ho0, hso, hdn, hcode, p1, by rw [p2]; exact hf, ?_⟩
    rw [popRank_old (Or.inl h1), popRank_old (Or.inl (I.pd d hdn hpd))]; exact hrk
  · rw [hd] at h3; cases h3
  · -- visited by this pop: the parent is the popped cell, unless it is the popped cell itself
    have hz := usCode_eq_zero_iff ho
    rw [h5]
    by_cases ho0 : o = (0, 0)
    · have hcb : c = h.idx := by rw [ho0] at hso; exact shift_zero hso
      refine ⟨fun _ => ?_, fun h0 => absurd (hz.2 ho0) h0⟩
      rw [hcb]; exact ((I.und h.idx hb hbv (hcb ▸ h1)).2.2 hbq).1
    · have hcb : c ≠ h.idx := fun hcb => ho0 (shift_eq_self (hcb ▸ hso))
      refine ⟨fun h0 => absurd (hz.1 h0) ho0, fun _ =>
        ⟨h.idx, o, ho, ho0, hso, hb, rfl, popped_self I hq E, ?_, ?_⟩⟩
      · rw [h4, (pop_self I hq E).2.1]; exact lvl_eq_max _ _
      · rw [popRank_old (Or.inr rfl)]
        unfold popRank
        rw [if_pos ⟨h1, hd, hcb⟩]
        omega

theorem pop_l1 {b : Nat} (hbn : b < G.n) (hpb : Popped s' b) {a : Nat} (hnbr : Nbr G conn nod a b) :
    s'.done[a]! = true ∧ s'.f[a]! ≤ max elev[a]! s'.f[b]! := by
  have han : a < G.n := hnbr.1.1
  rcases popped_new I hq E hbn hpb with hps | rfl
  · obtain ⟨l1a, l1b⟩ := I.l1 b hbn hps a hnbr
    obtain ⟨k1, k2, _⟩ := E.keep a l1a
    exact ⟨k1, by rw [k2, (popped_old I hq E hbn hps).2.1]; exact l1b⟩
  · -- the popped cell: all its neighbours have been visited now or before
    obtain ⟨o, ho, _, hso⟩ := (adj_iff_shift hbn).1 hnbr.1.symm
    rw [(pop_self I hq E).2.1]
    rcases pop_cases I E han with ⟨h1, h2, h3, _⟩ | ⟨_, _, _, ⟨h2, _⟩ | ⟨_, _, _, h2, _, h4, _⟩⟩
    · refine ⟨h2, ?_⟩
      rw [h3]
      obtain ⟨d1, d2⟩ := I.dn a han hnbr.2.1.2 h1
      by_cases h0 : s.d8[a]! = 0
      · rw [(I.seedq a han (d1 h0)).2]; omega
      · obtain ⟨d, _, _, _, _, hdn, _, hpd, hf, _⟩ := d2 h0
        have := popped_le_head I hq hdn hpd
        rw [hf]; omega
    · exact absurd hso (h2 o ho)
    · exact ⟨h2, by rw [h4, lvl_eq_max]; exact Int.le_refl _⟩

/-- **one pop preserves the invariant** -/
theorem inv_pop_eff : Inv G conn elev nod seed (popRank rk s s' h.idx) s' where
  sized := E.sized
  nodc := fun c hc hn => by
    obtain ⟨n1, n2, n3, n4⟩ := I.nodc c hc hn
    obtain ⟨k1, k2, k3, k4⟩ := E.keep c n1
    exact ⟨k1, by rw [k2]; exact n2, by rw [k3]; exact n3, by rw [k4]; exact n4⟩
  hp := fun e he => pop_hp I hq E he
  nodup := by
    have hnd := I.nodup
    rw [hq] at hnd
    exact (E.nd (fun e he => (I.hp e (pop_rest I hq he).1).2.2.1)
      (List.nodup_cons.1 hnd).2).1
  sorted := by
    have hso := I.sorted
    rw [hq] at hso
    exact E.sorted (List.pairwise_cons.1 hso).2
  mono := fun p hp hpp e he => pop_mono I hq E hp hpp he
  seedq := fun c hc hs => pop_seedq I hq E hc hs
  dq := fun c hc hd hn => by
    rcases pop_cases I E hc with ⟨h1, _, _, _, h5⟩ | ⟨_, _, _, ⟨_, h3, _⟩ | ⟨_, _, _, _, h3, _⟩⟩
    · rw [h5]; exact I.dq c hc h1 hn
    · rw [hd] at h3; cases h3
    · exact h3
  und := fun c hc hn hd => pop_und I hq E hc hn hd
  pd := fun p hp hpp => by
    rcases popped_new I hq E hp hpp with hps | rfl
    · exact (popped_old I hq E hp hps).2.2
    · exact (pop_self I hq E).1
  dn := fun c hc hn hd => pop_dn I hq E hc hn hd
  l1 := fun b hb hpb a hnbr => pop_l1 I hq E hb hpb hnbr

omit E in
theorem inv_pop : ∃ rk', Inv G conn elev nod seed rk' (popStep G conn elev h { s with q := rest }) :=
  ⟨_, inv_pop_eff I hq (eff_fold h.z h.idx (offsets conn) { s with q := rest } I.sized)⟩

end pop
end Pf.C06
