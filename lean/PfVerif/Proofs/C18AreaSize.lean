import PfVerif.Proofs.C18AreaMain
/-! From the region bound of the loop to the size clause: the total cell area carrying the label of a
non-pit outlet equals its region area `reg o` (`region_sum`, `area_size_of_labels`); the hypotheses of the invariant
from those of the theorem (`areaHyp_of`, `acc_nonneg`), and the executable rank-order check (`rankOrderOK_sound`). -/
namespace Pf.C18
open Pf

section
variable {D M : Nat → Nat} {A a : Nat → Int} {amin : Int} {seq : List Nat} {rk : Nat → Nat}

/-- the cell areas owned by the outlet `o` add up to `A o` minus the accumulated areas of the
outlets directly upstream of its sub-basin -/
theorem region_sum {outs : List Nat} {own : Nat → Nat} (H : AHyp D M A a seq rk)
    (hS : SInv D M A amin seq rk seq outs own) {o : Nat} (ho : o ∈ outs) :
    csum (fun x => own x == o) a seq =
      A o - csum (fun c => outs.contains c && decide (D c ≠ c) && (own (D c) == o)) A seq := by
  have e1 : csum (fun x => own x == o) a seq =
      csum (fun x => own x == o) (fun x => A x - csum (fun c => decide (D c = x ∧ c ≠ x)) A seq) seq :=
    csum_congr (fun x hx => ⟨rfl, fun _ => by have := H.acc x hx; omega⟩)
  rw [e1, csum_sub, csum_kids D _ A seq seq H.nd]
  rw [csum_split (fun x => own x == o) (fun x => outs.contains x) A seq]
  rw [csum_split (fun c => decide (D c ≠ c) && seq.contains (D c) && (own (D c) == o))
    (fun c => outs.contains c) A seq]
  have f1 : csum (fun x => (own x == o) && outs.contains x) A seq = A o := by
    apply csum_single H.nd (hS.inSeq o (hS.sub o ho))
    intro y _
    by_cases hy : y ∈ outs
    · simp [hS.ownO y hy, hy]
    · have : y ≠ o := fun hc => hy (hc ▸ ho)
      simp [hy, this]
  have f2 : csum (fun c => (decide (D c ≠ c) && seq.contains (D c) && (own (D c) == o)) && outs.contains c) A seq =
      csum (fun c => outs.contains c && decide (D c ≠ c) && (own (D c) == o)) A seq := by
    apply csum_congr
    intro c hc
    refine ⟨?_, fun _ => rfl⟩
    have : seq.contains (D c) = true := by simpa using H.dsSeq c hc
    rw [this]
    by_cases h2 : D c = c
    · simp [h2]
    · simp [h2, Bool.and_comm]
  have f3 : csum (fun c => (decide (D c ≠ c) && seq.contains (D c) && (own (D c) == o)) && !outs.contains c) A seq =
      csum (fun x => (own x == o) && !outs.contains x) A seq := by
    apply csum_congr
    intro c hc
    refine ⟨?_, fun _ => rfl⟩
    have hds : seq.contains (D c) = true := by simpa using H.dsSeq c hc
    rw [hds]
    by_cases hco : c ∈ outs
    · simp [hco]
    · have h1 := hS.pitO c hc hco
      have h2 := hS.ownN c hc hco
      simp [hco, h1, h2]
  rw [f1, f2, f3]; omega

end

/-- `labelArea` as a conditional sum -/
theorem labelArea_csum (area labels : Array Int) (l : Int) :
    labelArea area labels l =
      csum (fun i => labels[i]! == l) (fun i => area[i]!) (List.range labels.size) := by
  unfold labelArea
  suffices h : ∀ (xs : List Nat) (s : Int),
      xs.foldl (fun s i => if (labels[i]! == l) = true then s + area[i]! else s) s =
        s + csum (fun i => labels[i]! == l) (fun i => area[i]!) xs by
    rw [h]; simp
  intro xs
  induction xs with
  | nil => intro s; simp [csum]
  | cons x xs ih =>
    intro s
    simp only [List.foldl_cons, csum, ih]
    by_cases hp : (labels[x]! == l) = true
    · simp only [hp, if_true]; omega
    · simp only [hp]; simp

/-- a sum over `0..n-1` whose predicate holds only on cells of the duplicate-free list `l` -/
theorem csum_range_eq (f : Nat → Int) (n : Nat) : ∀ (l : List Nat) (p : Nat → Bool), l.Nodup →
    (∀ x ∈ l, x < n) → (∀ i, i < n → p i = true → i ∈ l) →
    csum p f (List.range n) = csum p f l := by
  intro l
  induction l with
  | nil =>
    intro p _ _ hsup
    rw [csum_zero]; · rfl
    intro x hx
    have hx' := List.mem_range.1 hx
    cases hp : p x with
    | false => rfl
    | true => exact absurd (hsup x hx' hp) (by simp)
  | cons x l ih =>
    intro p hnd hlt hsup
    have hnd' := List.nodup_cons.1 hnd
    by_cases hp : p x = true
    · rw [csum_remove (q := fun y => p y && y != x) List.nodup_range
        (List.mem_range.2 (hlt x (by simp))) hp (fun _ _ => rfl)]
      rw [ih (fun y => p y && y != x) hnd'.2 (fun y hy => hlt y (by simp [hy]))]
      · simp only [csum, if_pos hp]
        congr 1
        apply csum_congr
        intro y hy
        have : y ≠ x := fun hc => hnd'.1 (hc ▸ hy)
        simp [this]
      · intro i hi hpi
        simp only [Bool.and_eq_true, bne_iff_ne, ne_eq] at hpi
        rcases List.mem_cons.1 (hsup i hi hpi.1) with h | h
        · exact absurd h hpi.2
        · exact h
    · rw [ih p hnd'.2 (fun y hy => hlt y (by simp [hy]))]
      · simp [csum, hp]
      · intro i hi hpi
        rcases List.mem_cons.1 (hsup i hi hpi) with h | h
        · exact absurd (h ▸ hpi) hp
        · exact h

theorem topo_before {ds : Array Nat} {seq : List Nat} (h : Topo ds seq) (pre : List Nat) (c : Nat)
    (suf : List Nat) (hs : seq = pre ++ c :: suf) : ds[c]! = c ∨ ds[c]! ∈ pre :=
  (Topo.prefix suf (pre ++ [c]) (by rw [List.append_assoc]; exact hs ▸ h)).snoc_inv.2.2

/-- accumulated areas of non-negative cell areas are non-negative -/
theorem acc_nonneg {D : Nat → Nat} {A a : Nat → Int} {seq : List Nat}
    (hbefore : ∀ pre c suf, seq = pre ++ c :: suf → D c = c ∨ D c ∈ pre) (hnd : seq.Nodup)
    (hacc : ∀ d ∈ seq, A d = a d + csum (fun c => decide (D c = d ∧ c ≠ d)) A seq)
    (ha0 : ∀ d ∈ seq, 0 ≤ a d) : ∀ d ∈ seq, 0 ≤ A d := by
  suffices h : ∀ (suf pre : List Nat), seq = pre ++ suf → ∀ d ∈ suf, 0 ≤ A d from h seq [] (by simp)
  intro suf
  induction suf with
  | nil => intro _ _ d hd; cases hd
  | cons x suf ih =>
    intro pre hseq
    have ih' := ih (pre ++ [x]) (by rw [hseq]; simp)
    have hx : 0 ≤ A x := by
      have hxs : x ∈ seq := by rw [hseq]; simp
      rw [hacc x hxs]
      have h0 := ha0 x hxs
      have : 0 ≤ csum (fun c => decide (D c = x ∧ c ≠ x)) A seq := by
        apply csum_nonneg
        intro c hc hp
        simp only [decide_eq_true_eq] at hp
        rw [hseq] at hc
        rcases List.mem_append.1 hc with hc | hc
        · -- c before x: impossible, its downstream cell x would come first
          exfalso
          obtain ⟨p1, p2, hp12⟩ := List.append_of_mem hc
          have hs2 : seq = p1 ++ c :: (p2 ++ x :: suf) := by rw [hseq, hp12]; simp
          rcases hbefore p1 c _ hs2 with h | h
          · exact hp.2 (by rw [← hp.1, h])
          · rw [hp.1] at h
            rw [hs2] at hnd
            have := (List.nodup_append.1 hnd).2.2 x h x (by simp)
            exact this rfl
        · rcases List.mem_cons.1 hc with hc | hc
          · exact absurd hc hp.2
          · exact ih' c hc
      omega
    intro d hd
    rcases List.mem_cons.1 hd with hd | hd
    · rw [hd]; exact hx
    · exact ih' d hd

/-- the static hypotheses of the invariant from the hypotheses of the size theorem -/
theorem areaHyp_of (ds usMain : Array Nat) (uparea area : Array Int) (seq : List Nat) (rk : Nat → Nat)
    (htopo : Topo ds seq) (hb : ∀ i ∈ seq, i < ds.size) (hus : usMainOK ds usMain = true)
    (hrk : ∀ i ∈ seq, ds[i]! ≠ i → rk i = rk ds[i]! + 1)
    (ha0 : ∀ i ∈ seq, 0 ≤ area[i]!)
    (hacc : ∀ d ∈ seq, uparea[d]! = area[d]! +
      csum (fun c => decide (ds[c]! = d ∧ c ≠ d)) (fun c => uparea[c]!) seq) :
    AHyp (fun x => ds[x]!) (fun d => usMain[d]!) (fun x => uparea[x]!) (fun x => area[x]!) seq rk where
  nd := htopo.nodup
  dsSeq := htopo.ds_mem
  rkS := hrk
  main := fun d hd hm =>
    let h := usMainOK_spec hus d (hb d hd) (hb _ hm)
    ⟨h.2, h.1⟩
  acc := hacc
  a0 := ha0
  A0 := acc_nonneg (topo_before htopo) htopo.nodup hacc ha0

/-- **size clause from label facts**: if `lab` is 0 outside the network, upstream closed off the
outlets of the model, and gives distinct non-zero labels to the outlets, then every non-pit outlet's
label covers a total cell area `> area_min`. -/
theorem area_size_of_labels (ds usMain : Array Nat) (uparea area : Array Int) (amin : Int)
    (seq : List Nat) (rk : Nat → Nat)
    (htopo : Topo ds seq) (hb : ∀ i ∈ seq, i < ds.size) (hus : usMainOK ds usMain = true)
    (hsz : uparea.size = ds.size)
    (hrk : ∀ i ∈ seq, ds[i]! ≠ i → rk i = rk ds[i]! + 1)
    (hsorted : seq.Pairwise (fun x y => rk x ≤ rk y))
    (ha0 : ∀ i ∈ seq, 0 ≤ area[i]!)
    (hacc : ∀ d ∈ seq, uparea[d]! = area[d]! +
      csum (fun c => decide (ds[c]! = d ∧ c ≠ d)) (fun c => uparea[c]!) seq)
    (lab : Array Int) (hlsz : lab.size = ds.size)
    (hout0 : ∀ i, i ∉ seq → lab[i]! = 0)
    (hclosed : ∀ x ∈ seq, x ∉ (areaSeeds ds seq usMain uparea amin).2 → lab[x]! = lab[ds[x]!]!)
    (hinj : ∀ o ∈ (areaSeeds ds seq usMain uparea amin).2, ∀ o' ∈ (areaSeeds ds seq usMain uparea amin).2,
      lab[o]! = lab[o']! → o = o')
    (hnz : ∀ o ∈ (areaSeeds ds seq usMain uparea amin).2, lab[o]! ≠ 0) :
    ∀ o ∈ (areaSeeds ds seq usMain uparea amin).2, ds[o]! ≠ o → amin < labelArea area lab lab[o]! := by
  have H := areaHyp_of ds usMain uparea area seq rk htopo hb hus hrk ha0 hacc
  obtain ⟨own, reg, hS, hG, hregE⟩ := areaSeeds_region (amin := amin) H htopo hb hsz hsorted
  have hlabown : ∀ x ∈ seq, lab[x]! = lab[own x]! := by
    apply Topo.induction htopo
    intro i hi ih
    by_cases hio : i ∈ (areaSeeds ds seq usMain uparea amin).2
    · rw [hS.ownO i hio]
    · have hp := hS.pitO i hi hio
      rw [hclosed i hi hio, (ih hp).2, hS.ownN i hi hio]
  intro o ho hnp
  rw [labelArea_csum, csum_range_eq _ _ seq _ htopo.nodup (fun x hx => by rw [hlsz]; exact hb x hx)
    (fun i _ hp => by
      apply Classical.byContradiction
      intro hc
      simp only [beq_iff_eq] at hp
      exact hnz o ho (by rw [← hp, hout0 i hc]))]
  have e : csum (fun i => lab[i]! == lab[o]!) (fun i => area[i]!) seq =
      csum (fun x => own x == o) (fun x => area[x]!) seq := by
    apply csum_congr
    intro x hx
    refine ⟨?_, fun _ => rfl⟩
    show (lab[x]! == lab[o]!) = (own x == o)
    rw [hlabown x hx]
    by_cases hxo : own x = o
    · simp [hxo]
    · have : lab[own x]! ≠ lab[o]! := fun hc => hxo (hinj _ (hS.ownM x hx) _ ho hc)
      rw [beq_false_of_ne this, beq_false_of_ne hxo]
  rw [e, region_sum H hS ho, ← hregE o ho]
  exact hG o ho hnp

theorem adjSorted_pairwise (r : Array Nat) : ∀ (l : List Nat), adjSorted r l = true →
    l.Pairwise (fun x y => r[x]! ≤ r[y]!) := by
  intro l
  induction l with
  | nil => intro _; exact List.Pairwise.nil
  | cons a l ih =>
    intro h
    cases l with
    | nil => exact List.pairwise_singleton _ _
    | cons b rest =>
      simp only [adjSorted, Bool.and_eq_true, decide_eq_true_eq] at h
      have ih' := ih h.2
      refine List.Pairwise.cons ?_ ih'
      intro y hy
      rcases List.mem_cons.1 hy with hy | hy
      · rw [hy]; exact h.1
      · have := (List.pairwise_cons.1 ih').1 y hy
        omega

/-- the executable order check gives the two rank hypotheses of `area_size` -/
theorem rankOrderOK_sound (ds : Array Nat) (seq : List Nat) (h : rankOrderOK ds seq = true) :
    (∀ i ∈ seq, ds[i]! ≠ i → (seqRanks ds seq)[i]! = (seqRanks ds seq)[ds[i]!]! + 1) ∧
    seq.Pairwise (fun x y => (seqRanks ds seq)[x]! ≤ (seqRanks ds seq)[y]!) := by
  unfold rankOrderOK at h
  simp only [Bool.and_eq_true, List.all_eq_true, Bool.or_eq_true, beq_iff_eq] at h
  refine ⟨fun i hi hp => ?_, adjSorted_pairwise _ _ h.2⟩
  rcases h.1 i hi with h1 | h1
  · exact absurd h1 hp
  · exact h1

end Pf.C18
