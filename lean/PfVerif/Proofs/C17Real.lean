import Mathlib.Analysis.SpecialFunctions.Trigonometric.Basic
import PfVerif.Model.C17
/-! # C17 over ℝ (Mathlib): the real sine, π and `Real.sqrt`

The executable model (`Model/C17.lean`) is rational and treats sine, π, `degree_metres_x/y` and `math.hypot`
as parameters.  This file states the same formulas over ℝ with Mathlib's `Real.sin`, `Real.pi`, `Real.cos`,
`Real.sqrt`, proves the real-analysis halves of the property (sphere sum, hypotenuse, facts about the
degree-length series) and the casts that tie the rational model to the real formulas.

Trusted: `radians`, `cellareaR`, `hypotR`, `dmyR`, `dmxR` are typed in from `gis_utils.py` (`cellarea`, `math.hypot`,
`degree_metres_y/x` with their coefficients); no run compares them with the code.  What relates them to the rational
model: `isHypot_cast` (the model's `IsHypot` is `hypotR` on rationals); `cellareaM_cast` and `cellareaR_eq` say that
`cellareaM` and `cellareaR` are both instances of one formula `cellareaG`, the first for any `s : ℝ → ℝ` that agrees on
all rationals with the model's parameter `sinD : ℚ → ℚ` (a rational sine table), the second for the real sine.  The real
sine is not such an `s` (sin 45° is irrational), so no theorem identifies values of the model with values of `cellareaR`.
The two series have no tie to the model.  Floating-point rounding of sin/cos/sqrt is outside. -/
open Finset
namespace Pf.C17

/-- `np.radians` -/
noncomputable def radians (x : ℝ) : ℝ := x * (Real.pi / 180)

theorem radians_neg (x : ℝ) : radians (-x) = -radians x := by simp only [radians]; ring

theorem radians_90 : radians 90 = Real.pi / 2 := by simp only [radians]; ring

/-- `gis_utils.cellarea(lat, xres, yres)` over ℝ with the real sine; `R = _R` -/
noncomputable def cellareaR (R lat xres yres : ℝ) : ℝ :=
  R ^ 2 * radians |xres| * (Real.sin (radians (lat + |yres| / 2)) - Real.sin (radians (lat - |yres| / 2)))

/-- latitude of the cell centres of row `r` (`affine_to_coords`): `yoff + (r + ½)·yres` -/
noncomputable def rowLat (yoff yres : ℝ) (r : ℕ) : ℝ := yoff + ((r : ℝ) + 1 / 2) * yres

/-- the differences over the rows telescope, whatever the function: the two arguments are the latitudes of the row's
edges `yoff + r·yres`, `yoff + (r+1)·yres`, in the order the sign of `yres` gives them -/
theorem sum_rows (g : ℝ → ℝ) (yoff yres : ℝ) (n : ℕ) :
    ∑ r ∈ range n, (g (rowLat yoff yres r + |yres| / 2) - g (rowLat yoff yres r - |yres| / 2)) =
      if yres < 0 then g yoff - g (yoff + n * yres) else g (yoff + n * yres) - g yoff := by
  have hi : ∀ r : ℕ, rowLat yoff yres r + yres / 2 = yoff + ((r + 1 : ℕ) : ℝ) * yres := fun r => by
    rw [rowLat]; push_cast; ring
  have lo : ∀ r : ℕ, rowLat yoff yres r - yres / 2 = yoff + (r : ℝ) * yres := fun r => by rw [rowLat]; ring
  have h0 : yoff + ((0 : ℕ) : ℝ) * yres = yoff := by rw [Nat.cast_zero, zero_mul, add_zero]
  split
  · rename_i h
    simp only [abs_of_neg h, neg_div, ← sub_eq_add_neg, sub_neg_eq_add, hi, lo]
    rw [Finset.sum_range_sub' (fun r : ℕ => g (yoff + (r : ℝ) * yres)), h0]
  · rename_i h
    simp only [abs_of_nonneg (not_lt.mp h), hi, lo]
    rw [Finset.sum_range_sub (fun r : ℕ => g (yoff + (r : ℝ) * yres)), h0]

/-- telescoping over ℝ: all cells of any geographic raster -/
theorem sphere_sum_real_general (R xres yres yoff : ℝ) (nrow ncol : ℕ) :
    ∑ _r ∈ range nrow, ∑ _c ∈ range ncol, cellareaR R (rowLat yoff yres _r) xres yres =
      R ^ 2 * radians ((ncol : ℝ) * |xres|) *
        (if yres < 0 then Real.sin (radians yoff) - Real.sin (radians (yoff + nrow * yres))
         else Real.sin (radians (yoff + nrow * yres)) - Real.sin (radians yoff)) := by
  simp only [sum_const, card_range, nsmul_eq_mul, cellareaR]
  rw [← Finset.mul_sum, ← Finset.mul_sum, sum_rows fun d => Real.sin (radians d)]
  simp only [radians]; ring

theorem sin_radians_90 : Real.sin (radians 90) = 1 := by
  rw [radians_90, Real.sin_pi_div_two]

theorem sin_radians_neg90 : Real.sin (radians (-90)) = -1 := by
  rw [radians_neg, Real.sin_neg, sin_radians_90]

/-- global grid = the sphere over ℝ -/
theorem sphere_sum_real (R xres yres yoff : ℝ) (nrow ncol : ℕ)
    (hcols : (ncol : ℝ) * |xres| = 360) (hrows : (nrow : ℝ) * |yres| = 180)
    (htop : (yres < 0 ∧ yoff = 90) ∨ (0 < yres ∧ yoff = -90)) :
    ∑ _r ∈ range nrow, ∑ _c ∈ range ncol, cellareaR R (rowLat yoff yres _r) xres yres =
      4 * Real.pi * R ^ 2 := by
  have hs : (if yres < 0 then Real.sin (radians yoff) - Real.sin (radians (yoff + nrow * yres))
      else Real.sin (radians (yoff + nrow * yres)) - Real.sin (radians yoff)) = 1 - -1 := by
    rcases htop with ⟨h, rfl⟩ | ⟨h, rfl⟩
    · rw [abs_of_neg h] at hrows
      rw [if_pos h, show (90 : ℝ) + nrow * yres = -90 by linear_combination -hrows, sin_radians_90,
        sin_radians_neg90]
    · rw [abs_of_pos h] at hrows
      rw [if_neg (not_lt.mpr h.le), show (-90 : ℝ) + nrow * yres = 90 by linear_combination hrows,
        sin_radians_90, sin_radians_neg90]
  rw [sphere_sum_real_general, hcols, hs]
  simp only [radians]; ring

/-! ### hypot -/
/-- the real value of `math.hypot(p, q)` -/
noncomputable def hypotR (p q : ℝ) : ℝ := Real.sqrt (p ^ 2 + q ^ 2)

/-- `IsHypot` over ℝ -/
def IsHypotR (d p q : ℝ) : Prop := 0 ≤ d ∧ d * d = p * p + q * q

theorem isHypotR_iff (d p q : ℝ) : IsHypotR d p q ↔ d = hypotR p q := by
  unfold IsHypotR hypotR
  constructor
  · rintro ⟨h0, h⟩
    rw [show p ^ 2 + q ^ 2 = d ^ 2 by rw [sq, sq, sq]; exact h.symm, Real.sqrt_sq h0]
  · rintro rfl
    refine ⟨Real.sqrt_nonneg _, ?_⟩
    rw [← sq, Real.sq_sqrt (by positivity)]; ring

theorem absQ_eq_abs (x : ℚ) : absQ x = |x| := by
  unfold absQ
  split
  · rename_i h; exact (abs_of_neg h).symm
  · rename_i h; exact (abs_of_nonneg (not_lt.mp h)).symm

/-- the rational `IsHypot` of the model is the real one: a rational `d` with `IsHypot d p q` is `math.hypot` -/
theorem isHypot_cast (d p q : ℚ) : IsHypot d p q ↔ (d : ℝ) = hypotR p q := by
  rw [← isHypotR_iff]
  simp only [IsHypot, IsHypotR, ← Rat.cast_mul, ← Rat.cast_add, Rat.cast_inj, Rat.cast_nonneg]

theorem hypotR_zero_left (q : ℝ) : hypotR 0 q = |q| := by
  unfold hypotR; simp [Real.sqrt_sq_eq_abs]
theorem hypotR_zero_right (p : ℝ) : hypotR p 0 = |p| := by
  unfold hypotR; simp [Real.sqrt_sq_eq_abs]
theorem hypotR_congr {p q p' q' : ℝ} (h : p * p + q * q = p' * p' + q' * q') : hypotR p q = hypotR p' q' := by
  unfold hypotR; rw [sq, sq, sq, sq, h]

/-- real length computed by `distance` from the model's legs -/
noncomputable def distR (legs : ℚ × ℚ) : ℝ := hypotR legs.1 legs.2

/-! ### `degree_metres_y`, `degree_metres_x` as real functions -/
/-- `gis_utils.degree_metres_y` -/
noncomputable def dmyR (lat : ℝ) : ℝ :=
  111132.92 + (-559.82) * Real.cos (2 * radians lat) + 1.175 * Real.cos (4 * radians lat)
    + (-0.0023) * Real.cos (6 * radians lat)

/-- `gis_utils.degree_metres_x` -/
noncomputable def dmxR (lat : ℝ) : ℝ :=
  111412.84 * Real.cos (radians lat) + (-93.5) * Real.cos (3 * radians lat)
    + 0.118 * Real.cos (5 * radians lat)

theorem dmyR_even (lat : ℝ) : dmyR (-lat) = dmyR lat := by
  simp only [dmyR, radians_neg, mul_neg, Real.cos_neg]

theorem dmxR_even (lat : ℝ) : dmxR (-lat) = dmxR lat := by
  simp only [dmxR, radians_neg, mul_neg, Real.cos_neg]

theorem dmyR_pos (lat : ℝ) : 0 < dmyR lat := by
  unfold dmyR
  have a1 := Real.cos_le_one (2 * radians lat)
  have a2 := Real.neg_one_le_cos (4 * radians lat)
  have a3 := Real.cos_le_one (6 * radians lat)
  linear_combination 559.82 * a1 + 1.175 * a2 + 0.0023 * a3

theorem cos_five_mul (x : ℝ) :
    Real.cos (5 * x) = 16 * Real.cos x ^ 5 - 20 * Real.cos x ^ 3 + 5 * Real.cos x := by
  have h5 : 5 * x = 2 * x + 3 * x := by ring
  have hs : Real.sin x ^ 2 = 1 - Real.cos x ^ 2 := Real.sin_sq x
  rw [h5, Real.cos_add, Real.cos_two_mul, Real.cos_three_mul, Real.sin_two_mul, Real.sin_three_mul]
  have key : 2 * Real.sin x * Real.cos x * (3 * Real.sin x - 4 * Real.sin x ^ 3) =
      2 * Real.cos x * (3 * Real.sin x ^ 2 - 4 * (Real.sin x ^ 2) ^ 2) := by ring
  rw [key, hs]; ring

/-- `degree_metres_x = cos φ · (positive polynomial in cos² φ)` -/
theorem dmxR_factor (lat : ℝ) :
    dmxR lat = Real.cos (radians lat) *
      (111693.93 - 376.36 * Real.cos (radians lat) ^ 2 + 1.888 * Real.cos (radians lat) ^ 4) := by
  unfold dmxR
  rw [Real.cos_three_mul, cos_five_mul]; ring

theorem dmxR_nonneg (lat : ℝ) (h : |lat| ≤ 90) : 0 ≤ dmxR lat := by
  rw [dmxR_factor]
  have hk : 0 ≤ Real.pi / 180 := by positivity
  have hc : 0 ≤ Real.cos (radians lat) := by
    apply Real.cos_nonneg_of_neg_pi_div_two_le_of_le
    · rw [show -(Real.pi / 2) = -90 * (Real.pi / 180) by ring]
      exact mul_le_mul_of_nonneg_right (abs_le.mp h).1 hk
    · rw [show Real.pi / 2 = 90 * (Real.pi / 180) by ring]
      exact mul_le_mul_of_nonneg_right (abs_le.mp h).2 hk
  have h2 := Real.cos_sq_le_one (radians lat)
  have h4 := pow_nonneg hc 4
  exact mul_nonneg hc (by linear_combination 376.36 * h2 + 1.888 * h4)

theorem dmxR_pole : dmxR 90 = 0 ∧ dmxR (-90) = 0 := by
  have h : Real.cos (radians 90) = 0 := by rw [radians_90, Real.cos_pi_div_two]
  constructor
  · rw [dmxR_factor, h]; ring
  · rw [dmxR_even, dmxR_factor, h]; ring

/-- east–west / north–south geographic step lengths with the real `degree_metres` functions -/
theorem geo_step_ew (lat dx : ℝ) (h : |lat| ≤ 90) : hypotR (dmyR lat * 0) (dmxR lat * dx) = dmxR lat * |dx| := by
  rw [mul_zero, hypotR_zero_left, abs_mul, abs_of_nonneg (dmxR_nonneg lat h)]
theorem geo_step_ns (lat dy : ℝ) : hypotR (dmyR lat * dy) (dmxR lat * 0) = dmyR lat * |dy| := by
  rw [mul_zero, hypotR_zero_right, abs_mul, abs_of_pos (dmyR_pos lat)]

/-- the formula of `cellarea` over ℝ with an arbitrary sine-of-degrees `s` and constant `pi180` -/
noncomputable def cellareaG (R2 pi180 : ℝ) (s : ℝ → ℝ) (lat xres yres : ℝ) : ℝ :=
  R2 * (pi180 * |xres|) * (s (lat + |yres| / 2) - s (lat - |yres| / 2))

/-- `cellareaM` is this formula on rationals, for any `s` that agrees with the parameter `sinD` on every rational
(a rational table; not the real sine, whose values at rationals are not all rational) -/
theorem cellareaM_cast (R2 pi180 : ℚ) (sinD : ℚ → ℚ) (s : ℝ → ℝ) (hs : ∀ q : ℚ, s q = sinD q)
    (lat xres yres : ℚ) :
    ((cellareaM R2 pi180 sinD lat xres yres : ℚ) : ℝ) = cellareaG R2 pi180 s lat xres yres := by
  simp only [cellareaM, cellareaG, absQ_eq_abs, Rat.cast_mul, Rat.cast_sub, ← hs, Rat.cast_add, Rat.cast_div,
    Rat.cast_abs, Rat.cast_ofNat]

/-- ... and `cellareaR` (real sine, real π) is the same formula -/
theorem cellareaR_eq (R lat xres yres : ℝ) :
    cellareaR R lat xres yres =
      cellareaG (R ^ 2) (Real.pi / 180) (fun d => Real.sin (radians d)) lat xres yres := by
  simp only [cellareaR, cellareaG, radians]; ring

end Pf.C17
