import PfVerif.Proofs.C18PfStem
/-! Pfafstetter: the loop of `stream_order` as a downstream sweep, static facts about the classic stream order
(`streamOrderClassic`, unreduced) and its reductions `pfStrord … depth`; the tributaries of the reduced order are
non-main inflows. -/
namespace Pf.C18
open Pf

/-- the loop body of `stream_order` as a downstream sweep -/
def soStepG (ds usMain : Array Nat) (mask : Option (Array Bool)) (nup : Array Int) (i : Nat)
    (own dsv : Int) : Int :=
  if !(maskAt mask i) then own
  else if ds[i]! = i then 1
  else if nup[ds[i]!]! > 1 ∧ usMain[ds[i]!]! ≠ i then dsv + 1 else dsv

theorem streamOrderClassic_sweep (ds : Array Nat) (seq : List Nat) (usMain : Array Nat)
    (mask : Option (Array Bool)) :
    streamOrderClassic ds seq usMain mask =
      sweepDown ds (soStepG ds usMain mask (upstreamCount ds mask)) seq (Array.replicate ds.size 0) := by
  unfold streamOrderClassic sweepDown
  show List.foldl _ _ _ = List.foldl _ _ _
  congr 1
  funext so i
  unfold stepDown soStepG
  by_cases hm : maskAt mask i = true
  · simp only [hm, Bool.not_true, Bool.false_eq_true, if_false]
    by_cases hp : ds[i]! = i
    · simp [hp]
    · simp only [hp, if_false]
      split <;> rfl
  · simp only [hm, Bool.not_false, if_true]
    simp only [Bool.not_eq_true] at hm
    simp [setIfInBounds_self]

variable {ds usMain : Array Nat} {seq : List Nat} {uparea : Array Int}

theorem soraw_size (ds : Array Nat) (seq : List Nat) (usMain : Array Nat) (mask : Option (Array Bool)) :
    (streamOrderClassic ds seq usMain mask).size = ds.size := by
  rw [streamOrderClassic_sweep]; simp

theorem pfStrord_get (ds : Array Nat) (seq : List Nat) (usMain : Array Nat) (mask : Option (Array Bool))
    (depth : Nat) {u : Nat} (hu : u < ds.size) :
    (pfStrord ds seq usMain mask depth)[u]! =
      if (streamOrderClassic ds seq usMain mask)[u]! ≤ (depth : Int) + 1
      then (streamOrderClassic ds seq usMain mask)[u]! else 0 := by
  unfold pfStrord
  rw [amap_get! _ u (by rw [soraw_size]; exact hu)]

/-- the recurrence of the classic stream order on the cells of the order -/
theorem soraw_rec (ds : Array Nat) (seq : List Nat) (usMain : Array Nat) (mask : Option (Array Bool))
    (htopo : Topo ds seq) (hb : ∀ i ∈ seq, i < ds.size) (t : Nat) (ht : t ∈ seq) :
    (streamOrderClassic ds seq usMain mask)[t]! =
      soStepG ds usMain mask (upstreamCount ds mask) t 0
        (if ds[t]! = t then 0 else (streamOrderClassic ds seq usMain mask)[ds[t]!]!) := by
  have hrec := (sweepDown_rec ds (soStepG ds usMain mask (upstreamCount ds mask))
    (Array.replicate ds.size (0 : Int)) seq htopo (fun i hi => by simp; exact hb i hi)).1 t ht
  rw [← streamOrderClassic_sweep] at hrec
  have h0 : (Array.replicate ds.size (0 : Int))[t]! = 0 := get!_replicate _ t (.inr rfl)
  rw [h0] at hrec
  exact hrec

theorem soraw_step (ds : Array Nat) (seq : List Nat) (usMain : Array Nat) (mask : Option (Array Bool))
    (htopo : Topo ds seq) (hb : ∀ i ∈ seq, i < ds.size) (t : Nat) (ht : t ∈ seq) (hnp : ds[t]! ≠ t) :
    (streamOrderClassic ds seq usMain mask)[t]! = 0 ∨
    (streamOrderClassic ds seq usMain mask)[t]! = (streamOrderClassic ds seq usMain mask)[ds[t]!]! ∨
    ((streamOrderClassic ds seq usMain mask)[t]! = (streamOrderClassic ds seq usMain mask)[ds[t]!]! + 1 ∧
      usMain[ds[t]!]! ≠ t) := by
  have hrec := soraw_rec ds seq usMain mask htopo hb t ht
  unfold soStepG at hrec
  simp only [hnp, if_false] at hrec
  split at hrec
  · exact Or.inl hrec
  · split at hrec
    · rename_i hc; exact Or.inr (Or.inr ⟨hrec, hc.2⟩)
    · exact Or.inr (Or.inl hrec)

theorem soraw_pit (ds : Array Nat) (seq : List Nat) (usMain : Array Nat) (mask : Option (Array Bool))
    (htopo : Topo ds seq) (hb : ∀ i ∈ seq, i < ds.size) (t : Nat) (ht : t ∈ seq) (hp : ds[t]! = t) :
    (streamOrderClassic ds seq usMain mask)[t]! = 0 ∨ (streamOrderClassic ds seq usMain mask)[t]! = 1 := by
  have hrec := soraw_rec ds seq usMain mask htopo hb t ht
  unfold soStepG at hrec
  simp only [hp, if_true] at hrec
  split at hrec
  · exact Or.inl hrec
  · exact Or.inr hrec

theorem tributaries_nodup {ds : Array Nat} {seq : List Nat} (htopo : Topo ds seq) (so : Array Int) :
    (tributaries ds seq so).Nodup :=
  htopo.nodup.sublist List.filter_sublist

/-- a tributary (reduced order positive and larger than downstream) is not a pit and not the main upstream cell
of its downstream cell: along a main-upstream link the order does not grow -/
theorem tributaries_nonmain (ds : Array Nat) (seq : List Nat) (usMain : Array Nat)
    (mask : Option (Array Bool)) (depth : Nat) (htopo : Topo ds seq) (hb : ∀ i ∈ seq, i < ds.size) :
    ∀ t ∈ tributaries ds seq (pfStrord ds seq usMain mask depth),
      t ∈ seq ∧ ds[t]! ≠ t ∧ usMain[ds[t]!]! ≠ t := by
  intro t ht
  unfold tributaries at ht
  obtain ⟨hts, hcond⟩ := List.mem_filter.1 ht
  simp only [Bool.and_eq_true, decide_eq_true_eq] at hcond
  obtain ⟨hpos, hgt⟩ := hcond
  have hne : ds[t]! ≠ t := fun hp => by rw [hp] at hgt; omega
  refine ⟨hts, hne, fun hmain => ?_⟩
  rw [pfStrord_get ds seq usMain mask depth (hb t hts)] at hpos hgt
  rw [pfStrord_get ds seq usMain mask depth (hb _ (htopo.ds_mem t hts))] at hgt
  rcases soraw_step ds seq usMain mask htopo hb t hts hne with h | h | h
  · rw [h] at hpos; split at hpos <;> omega
  · rw [h] at hgt; omega
  · exact h.2 hmain

/-- the main upstream cell keeps the order (or is masked out) -/
theorem soraw_main (c : PfCtx ds usMain seq uparea) (mask : Option (Array Bool)) (x : Nat)
    (hx : x < ds.size) (hu : usMain[x]! < ds.size) :
    (streamOrderClassic ds seq usMain mask)[usMain[x]!]! = 0 ∨
    (streamOrderClassic ds seq usMain mask)[usMain[x]!]! = (streamOrderClassic ds seq usMain mask)[x]! := by
  obtain ⟨hm, hd, hne, _⟩ := c.ustep hx hu
  rcases soraw_step ds seq usMain mask c.topo c.hb _ hm (by rw [hd]; exact Ne.symm hne) with h | h | h
  · exact Or.inl h
  · right; rw [hd] at h; exact h
  · exfalso; rw [hd] at h; exact h.2 rfl

theorem pfStrord_ne_zero (ds : Array Nat) (seq : List Nat) (usMain : Array Nat) (mask : Option (Array Bool))
    (depth : Nat) (s : Nat) (h : (pfStrord ds seq usMain mask depth)[s]! ≠ 0) :
    (streamOrderClassic ds seq usMain mask)[s]! ≠ 0 := by
  by_cases hs : s < ds.size
  · rw [pfStrord_get ds seq usMain mask depth hs] at h
    intro h0; rw [h0] at h; simp at h
  · exfalso; apply h
    unfold pfStrord amap
    have : ¬ s < (streamOrderClassic ds seq usMain mask).size := by rw [soraw_size]; exact hs
    simp [this]

theorem soraw_nonneg (ds : Array Nat) (seq : List Nat) (usMain : Array Nat) (mask : Option (Array Bool))
    (htopo : Topo ds seq) (hb : ∀ i ∈ seq, i < ds.size) :
    ∀ s : Nat, 0 ≤ (streamOrderClassic ds seq usMain mask)[s]! := by
  have hin : ∀ s ∈ seq, 0 ≤ (streamOrderClassic ds seq usMain mask)[s]! := by
    refine htopo.induction _ (fun s hs ih => ?_)
    by_cases hp : ds[s]! = s
    · rcases soraw_pit ds seq usMain mask htopo hb s hs hp with h | h <;> omega
    · have := (ih hp).2
      rcases soraw_step ds seq usMain mask htopo hb s hs hp with h | h | h <;> omega
  intro s
  by_cases hs : s ∈ seq
  · exact hin s hs
  · have h2 := (sweepDown_rec ds (soStepG ds usMain mask (upstreamCount ds mask))
      (Array.replicate ds.size (0 : Int)) seq htopo (fun i hi => by simp; exact hb i hi)).2 s hs
    rw [← streamOrderClassic_sweep] at h2
    rw [h2, get!_replicate (a := (0 : Int)) _ s (.inr rfl)]
    omega

end Pf.C18
