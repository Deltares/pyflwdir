import PfVerif.Proofs.C18
/-! Pfafstetter part of C18: forward induction principles for the loops of `subbasins_pfafstetter` (from the
one-iteration lemmas of Proofs/C18.lean), array sizes through the loops, soundness of the digit and link certificates. -/
namespace Pf

theorem stemFill_size (usMain : Array Nat) (n : Nat) (h : Nat → Int → Bool) (v : Int) :
    ∀ (f idx : Nat) (br r : Array Int), stemFill usMain n h v f idx br = some r → r.size = br.size := by
  intro f
  induction f with
  | zero => intro idx br r hr; simp [stemFill] at hr
  | succ f ih =>
    intro idx br r hr
    simp only [stemFill] at hr
    split at hr
    · simp only [Option.some.injEq] at hr; subst hr; rfl
    · rw [ih _ _ _ hr]; simp

/-- A predicate on (tributaries left, index, state) holds of the result of `pfInner` if every iteration keeps it:
the sub-basin fill followed either by nothing (inter-basin outlet returned already) or by the inter-basin fill. -/
theorem pfInner_induction (ds usMain : Array Nat) (so : Array Int) (depth : Nat) (pfaf0 : Int) (d0 : Nat)
    {P : List Nat → Nat → PfSt × Int × Bool → Prop}
    (step : ∀ (t : Nat) (rest : List Nat) (i : Nat) (br : Array Int) (idxs : List Nat)
      (labs : List (Int × Nat)) (intDs : Int) (ok : Bool) (p sub pint : Int) (br1 : Array Int),
      p = (10 : Int) ^ (depth - d0) → sub = pfaf0 + (2 * (i : Int) + 1) * p →
      pint = pfaf0 + ((i : Int) + 1) * 2 * p → P (t :: rest) i ((br, idxs, labs), intDs, ok) →
      stemFill usMain ds.size (fun u _ => so[u]! == 0) sub (ds.size + 2) t (br.setIfInBounds t sub) = some br1 →
      (usMain[ds[t]!]! ∈ idxs ++ [t] →
        P rest (i + 1) ((br1, idxs ++ [t], if d0 < depth then labs ++ [(sub, d0 + 1)] else labs), intDs, ok)) ∧
      (usMain[ds[t]!]! ∉ idxs ++ [t] → ∀ br2,
        stemFill usMain ds.size (fun _ x => x != intDs) pint (ds.size + 2) usMain[ds[t]!]!
          (br1.setIfInBounds usMain[ds[t]!]! pint) = some br2 →
        P rest (i + 1) ((br2, idxs ++ [t] ++ [usMain[ds[t]!]!],
          if d0 < depth then (if d0 < depth then labs ++ [(sub, d0 + 1)] else labs) ++ [(pint, d0 + 1)]
          else if d0 < depth then labs ++ [(sub, d0 + 1)] else labs), pint,
          ok && decide (usMain[ds[t]!]! < ds.size) &&
            (br1[usMain[ds[t]!]!]! == 0 || br1[usMain[ds[t]!]!]! == intDs)))) :
    ∀ (l : List Nat) (i : Nat) (st r : PfSt × Int × Bool),
      pfInner ds usMain so depth pfaf0 d0 l i st = some r → P l i st → P [] (i + l.length) r := by
  intro l
  induction l with
  | nil => intro i st r hr h; simp only [pfInner_nil, Option.some.injEq] at hr; subst hr; exact h
  | cons t rest ih =>
    intro i st r hr h
    obtain ⟨⟨br, idxs, labs⟩, intDs, ok⟩ := st
    have hlen : i + (t :: rest).length = i + 1 + rest.length := by simp only [List.length_cons]; omega
    rw [hlen]
    obtain ⟨br1, h1, ⟨hc, hr'⟩ | ⟨hc, br2, h2, hr'⟩⟩ := pfInner_cons hr
    · exact ih _ _ _ hr' ((step t rest i br idxs labs intDs ok _ _ _ br1 rfl rfl rfl h h1).1 hc)
    · exact ih _ _ _ hr' ((step t rest i br idxs labs intDs ok _ _ _ br1 rfl rfl rfl h h1).2 hc br2 h2)

/-- A predicate on the states of `pfLoop` holds of the result if it is kept when the head of the worklist is dropped
(no tributaries) and when it is popped and `pfInner` has run on the selected tributaries `pfSel` (`pfLoop_induct` read
forwards). -/
theorem pfLoop_induction (ds usMain : Array Nat) (so uparea : Array Int) (trib : List Nat) (depth : Nat)
    {P : PfSt × Bool × Bool → Prop}
    (skip : ∀ br idxs pfaf0 d0 labs tie ok, P ((br, idxs, (pfaf0, d0) :: labs), tie, ok) →
      P ((br, idxs, labs), tie, ok))
    (pop : ∀ br idxs pfaf0 d0 labs tie ok st x ok' tie', P ((br, idxs, (pfaf0, d0) :: labs), tie, ok) →
      pfInner ds usMain so depth pfaf0 d0 (pfSel ds uparea br trib pfaf0) 0 ((br, idxs, labs), pfaf0, ok) =
        some (st, x, ok') → P (st, tie', ok')) :
    ∀ (f : Nat) (st r : PfSt × Bool × Bool),
      pfLoop ds usMain so uparea trib depth f st = some r → P st → P r :=
  fun f st r h => pfLoop_induct (fun s => P s → P r) (fun _ => id)
    (fun br idxs pfaf0 d0 labs tie ok _ ih hP => ih (skip br idxs pfaf0 d0 labs tie ok hP))
    (fun br idxs pfaf0 d0 labs tie tie' ok st' x ok' _ hin ih hP => ih (pop _ _ _ _ _ _ _ _ _ _ tie' hP hin)) f st h

theorem pfPits_induction (usMain : Array Nat) (n : Nat) (so : Array Int) (depth : Nat)
    {P : List Nat → Nat → PfSt → Prop}
    (step : ∀ x rest (i : Nat) br idxs labs v br1, v = pfBase depth + ((i : Int) + 1) * (10 : Int) ^ depth →
      P (x :: rest) i (br, idxs, labs) →
      stemFill usMain n (fun u _ => so[u]! == 0) v (n + 2) x (br.setIfInBounds x v) = some br1 →
      P rest (i + 1) (br1, idxs ++ [x], labs ++ [(v, 1)])) :
    ∀ (l : List Nat) (i : Nat) (st r : PfSt), pfPits usMain n so depth l i st = some r → P l i st →
      P [] (i + l.length) r := by
  intro l
  induction l with
  | nil => intro i st r hr h; simp only [pfPits_nil, Option.some.injEq] at hr; subst hr; exact h
  | cons x rest ih =>
    intro i st r hr h
    obtain ⟨br, idxs, labs⟩ := st
    obtain ⟨br1, h1, hr'⟩ := pfPits_cons hr
    have hlen : i + (x :: rest).length = i + 1 + rest.length := by simp only [List.length_cons]; omega
    rw [hlen]
    exact ih _ _ _ hr' (step _ _ _ _ _ _ _ _ rfl h h1)

/-! ### sizes -/

theorem pfInner_size (ds usMain : Array Nat) (so : Array Int) (depth : Nat) (pfaf0 : Int) (d0 : Nat)
    (l : List Nat) (i : Nat) (st r : PfSt × Int × Bool)
    (h : pfInner ds usMain so depth pfaf0 d0 l i st = some r) : r.1.1.size = st.1.1.size := by
  refine pfInner_induction ds usMain so depth pfaf0 d0 (P := fun _ _ s => s.1.1.size = st.1.1.size)
    (fun t rest i br idxs labs intDs ok p sub pint br1 _ _ _ hP h1 => ?_) l i st r h rfl
  have s1 := stemFill_size _ _ _ _ _ _ _ _ h1
  simp only [Array.size_setIfInBounds] at s1
  refine ⟨fun _ => s1.trans hP, fun _ br2 h2 => ?_⟩
  have s2 := stemFill_size _ _ _ _ _ _ _ _ h2
  simp only [Array.size_setIfInBounds] at s2
  exact s2.trans (s1.trans hP)

theorem pfPits_size (usMain : Array Nat) (n : Nat) (so : Array Int) (depth : Nat)
    (l : List Nat) (i : Nat) (st r : PfSt) (h : pfPits usMain n so depth l i st = some r) :
    r.1.size = st.1.size := by
  refine pfPits_induction usMain n so depth (P := fun _ _ s => s.1.size = st.1.size)
    (fun x rest i br idxs labs v br1 _ hP h1 => ?_) l i st r h rfl
  have s1 := stemFill_size _ _ _ _ _ _ _ _ h1
  simp only [Array.size_setIfInBounds] at s1
  exact s1.trans hP

theorem pfLoop_size (ds usMain : Array Nat) (so uparea : Array Int) (trib : List Nat) (depth : Nat)
    (f : Nat) (st r : PfSt × Bool × Bool) (h : pfLoop ds usMain so uparea trib depth f st = some r) :
    r.1.1.size = st.1.1.size :=
  pfLoop_induction ds usMain so uparea trib depth (P := fun s => s.1.1.size = st.1.1.size)
    (fun _ _ _ _ _ _ _ hP => hP)
    (fun _ _ _ _ _ _ _ _ _ _ _ hP hin => (pfInner_size _ _ _ _ _ _ _ _ _ _ hin).trans hP) f st r h rfl

theorem pfBranch_size (pits : List Nat) (ds : Array Nat) (seq : List Nat) (usMain : Array Nat)
    (uparea : Array Int) (mask : Option (Array Bool)) (depth : Nat)
    (br : Array Int) (idxs : List Nat) (tie ok : Bool)
    (h : pfBranch pits ds seq usMain uparea mask depth = some (br, idxs, tie, ok)) :
    br.size = ds.size := by
  obtain ⟨st0, labs, hp, hl⟩ := pfBranch_some h
  rw [pfLoop_size _ _ _ _ _ _ _ _ _ hl, pfPits_size _ _ _ _ _ _ _ _ hp]
  simp

/-! ### digits -/

theorem digitsOK_sound (depth : Nat) (labels : Array Int) (h : digitsOK depth labels = true) :
    ∀ i, i < labels.size → labels[i]! = 0 ∨
      (0 < labels[i]! ∧ labels[i]! < (10 : Int) ^ depth ∧
        ∀ k, k < depth → 1 ≤ dig k labels[i]! ∧ dig k labels[i]! ≤ 9) := by
  intro i hi
  unfold digitsOK at h
  rw [List.all_eq_true] at h
  have hget : labels[i]! = labels[i] := by simp [hi]
  have := h labels[i] (by simp)
  rw [hget]
  simp only [Bool.or_eq_true, beq_iff_eq, Bool.and_eq_true, decide_eq_true_eq, List.all_eq_true,
    List.mem_range] at this
  rcases this with h0 | ⟨⟨hpos, hlt⟩, hd⟩
  · exact Or.inl h0
  · refine Or.inr ⟨hpos, hlt, fun k hk => ⟨hd k hk, ?_⟩⟩
    unfold dig
    omega

/-! ### link rule -/

/-- the link rule at level `k` as a proposition -/
def PfLink (ds : Array Nat) (L : Array Int) (k : Nat) : Prop :=
  ∀ i, isValid ds i = true → L[i]! ≠ 0 → L[ds[i]!]! ≠ 0 → pre k L[i]! = pre k L[ds[i]!]! →
    dig k L[ds[i]!]! = dig k L[i]! ∨ (dig k L[ds[i]!]! % 2 = 1 ∧ dig k L[ds[i]!]! < dig k L[i]!)

theorem linkOK_sound (ds : Array Nat) (depth : Nat) (L : Array Int) (h : linkOK ds depth L = true)
    (k : Nat) (hk : k < depth) : PfLink ds L k := by
  intro i hv hi hj hpre
  unfold linkOK at h
  simp only [List.all_eq_true, List.mem_range, Bool.or_eq_true, Bool.not_eq_true'] at h
  have hi' : i < ds.size := by
    simp only [isValid, Bool.and_eq_true, decide_eq_true_eq] at hv; exact hv.1
  rcases h k hk i hi' with hc | hc
  · rw [hv] at hc; cases hc
  · unfold linkOKAt at hc
    simp only [Bool.or_eq_true, beq_iff_eq, bne_iff_ne, ne_eq, Bool.and_eq_true,
      decide_eq_true_eq] at hc
    rcases hc with (((hc | hc) | hc) | hc) | hc
    · exact absurd hc hi
    · exact absurd hc hj
    · exact absurd hpre hc
    · exact Or.inl hc
    · exact Or.inr hc

theorem pfLink_path (ds : Array Nat) (L : Array Int) (k : Nat) (hl : PfLink ds L k) :
    ∀ (m i : Nat),
      (∀ t, t ≤ m → isValid ds (iterA ds t i) = true ∧ L[iterA ds t i]! ≠ 0 ∧
        pre k L[iterA ds t i]! = pre k L[i]!) →
      dig k L[iterA ds m i]! ≤ dig k L[i]! ∧
      (dig k L[iterA ds m i]! ≠ dig k L[i]! → dig k L[iterA ds m i]! % 2 = 1) := by
  intro m
  induction m with
  | zero => intro i _; exact ⟨Int.le_refl _, fun h => absurd rfl h⟩
  | succ m ih =>
    intro i hp
    have h0 := hp 0 (Nat.zero_le _)
    have h1 := hp 1 (by omega)
    simp only [iterA] at h0 h1
    have hstep := hl i h0.1 h0.2.1 h1.2.1 h1.2.2.symm
    have hrec := ih ds[i]! (fun t ht => by
      have := hp (t + 1) (by omega)
      simp only [iterA] at this
      exact ⟨this.1, this.2.1, by rw [this.2.2, h1.2.2]⟩)
    show dig k L[iterA ds m ds[i]!]! ≤ dig k L[i]! ∧
      (dig k L[iterA ds m ds[i]!]! ≠ dig k L[i]! → dig k L[iterA ds m ds[i]!]! % 2 = 1)
    obtain ⟨hle, hodd⟩ := hrec
    rcases hstep with he | ⟨ho, hlt⟩
    · rw [← he]; exact ⟨hle, hodd⟩
    · refine ⟨by omega, fun hne => ?_⟩
      by_cases heq : dig k L[iterA ds m ds[i]!]! = dig k L[ds[i]!]!
      · rw [heq]; exact ho
      · exact hodd heq

end Pf
