import PfVerif.Model.C19
/-! `core.upstream_count` (model `upstreamCount`) equals the declarative inflow count `nupM` on valid
cells (C19). -/
namespace Pf.C19
open Pf

/-- body of the loop of `upstream_count` -/
def nupStep (ds : Array Nat) (mask : Option (Array Bool)) (nup : Array Int) (idx0 : Nat) : Array Int :=
  let d := ds[idx0]!
  if d ≠ ds.size then
    let nup := nup.setIfInBounds idx0 (max nup[idx0]! 0)
    if idx0 ≠ d ∧ maskAt mask idx0 then nup.setIfInBounds d (max nup[d]! 0 + 1) else nup
  else nup

theorem upstreamCount_eq (ds : Array Nat) (mask : Option (Array Bool)) :
    upstreamCount ds mask = (List.range ds.size).foldl (nupStep ds mask) (Array.replicate ds.size (-9)) := rfl

def inflow (ds : Array Nat) (mask : Option (Array Bool)) (v j : Nat) : Bool :=
  ds[j]! != ds.size && j != ds[j]! && maskAt mask j && ds[j]! == v

theorem inflow_iff (ds : Array Nat) (mask : Option (Array Bool)) (v j : Nat) : inflow ds mask v j = true ↔
      (ds[j]! ≠ ds.size ∧ j ≠ ds[j]! ∧ maskAt mask j = true ∧ ds[j]! = v) := by
  simp [inflow, and_assoc]

theorem nupStep_size (ds : Array Nat) (mask : Option (Array Bool)) (nup : Array Int) (j : Nat) :
    (nupStep ds mask nup j).size = nup.size := by
  unfold nupStep
  simp only
  split
  · split <;> simp
  · rfl

theorem nupStep_get (ds : Array Nat) (mask : Option (Array Bool)) (nup : Array Int) (j v : Nat)
    (hsz : nup.size = ds.size) (hj : j < ds.size) (hv : v < ds.size) :
    (nupStep ds mask nup j)[v]! =
      if (j = v ∧ ds[j]! ≠ ds.size) ∨ inflow ds mask v j = true then
        max nup[v]! 0 + (if inflow ds mask v j = true then 1 else 0)
      else nup[v]! := by
  simp only [inflow_iff, nupStep]
  by_cases hd : ds[j]! = ds.size
  · simp [hd]
  · simp only [ne_eq, hd, not_false_eq_true, if_true, true_and, and_true]
    by_cases hc : ¬j = ds[j]! ∧ maskAt mask j = true
    · simp only [hc, if_true, true_and, not_false_eq_true, and_self, get!_setIfInBounds, Array.size_setIfInBounds, hsz, hj, and_true]
      -- `j` flows into `ds j ≠ j`: the counter of `ds j` is clipped and increased, that of `j` clipped
      by_cases hdv : ds[j]! = v
      · have hjv : ¬ j = v := fun h => hc.1 (h.trans hdv.symm)
        simp [hdv, hv, hjv]
      · by_cases hjv : j = v
        · subst hjv; simp [hdv]
        · simp [hdv, hjv]
    · have : ¬(¬j = ds[j]! ∧ maskAt mask j = true ∧ ds[j]! = v) := fun h => hc ⟨h.1, h.2.1⟩
      simp only [hc, this, if_false, or_false, get!_setIfInBounds, hsz, hj, and_true, Int.add_zero]
      split
      · rename_i h; rw [h]
      · rfl

/-- two updates of the form "clip at 0, then add" compose to one -/
theorem touch_comp (t1 t2 : Prop) [Decidable t1] [Decidable t2] (c1 c2 x : Int) (h1 : 0 ≤ c1)
    (hc1 : ¬ t1 → c1 = 0) (hc2 : ¬ t2 → c2 = 0) :
    (if t2 then max (if t1 then max x 0 + c1 else x) 0 + c2 else if t1 then max x 0 + c1 else x) =
      if t1 ∨ t2 then max x 0 + (c1 + c2) else x := by
  by_cases ht1 : t1 <;> by_cases ht2 : t2 <;> simp only [ht1, ht2, if_true, if_false, or_self, or_true, true_or]
  · omega
  · have := hc2 ht2; omega
  · have := hc1 ht1; omega

/-- the counter of cell `v` after the loop has run over the cells `l`: untouched, or clipped at 0 and
increased by the number of cells of `l` flowing into `v` -/
theorem nup_fold (ds : Array Nat) (mask : Option (Array Bool)) (v : Nat) (hv : v < ds.size) :
    ∀ (l : List Nat) (nup0 : Array Int), nup0.size = ds.size → (∀ j ∈ l, j < ds.size) →
      (l.foldl (nupStep ds mask) nup0)[v]! =
        if (v ∈ l ∧ ds[v]! ≠ ds.size) ∨ 0 < (l.filter (inflow ds mask v)).length then
          max nup0[v]! 0 + ((l.filter (inflow ds mask v)).length : Int)
        else nup0[v]! := by
  intro l
  induction l with
  | nil => intro nup0 _ _; simp
  | cons j l ih =>
    intro nup0 hsz hb
    rw [List.foldl_cons, ih _ (by rw [nupStep_size, hsz]) (fun i hi => hb i (by simp [hi])),
      nupStep_get ds mask nup0 j v hsz (hb j (by simp)) hv,
      touch_comp _ _ _ _ _ (by split <;> decide) (by intro h; rw [if_neg (fun hi => h (Or.inr hi))])
        (by intro h; have : ¬ 0 < (l.filter (inflow ds mask v)).length := fun hp => h (Or.inr hp); omega)]
    have hjv : (j = v ∧ ds[j]! ≠ ds.size) ↔ (v = j ∧ ds[v]! ≠ ds.size) :=
      ⟨fun h => ⟨h.1.symm, h.1 ▸ h.2⟩, fun h => ⟨h.1.symm, h.1 ▸ h.2⟩⟩
    simp only [hjv, List.mem_cons, List.filter_cons, or_and_right]
    by_cases hi : inflow ds mask v j = true
    · simp only [hi, if_true, List.length_cons, or_true, true_or, Nat.succ_pos, Int.natCast_add]
      omega
    · simp only [Bool.not_eq_true] at hi
      simp only [hi, Bool.false_eq_true, if_false, false_or, Int.zero_add, or_assoc]

/-- `upstream_count` counts the inflowing stream cells of every valid cell -/
theorem upstreamCount_spec (ds : Array Nat) (mask : Option (Array Bool)) (v : Nat)
    (hv : isValid ds v = true) : (upstreamCount ds mask)[v]! = (nupM ds mask v : Int) := by
  simp only [isValid, Bool.and_eq_true, decide_eq_true_eq, bne_iff_ne, ne_eq] at hv
  rw [upstreamCount_eq, nup_fold ds mask v hv.1 _ _ (by simp) (fun j hj => List.mem_range.mp hj),
    if_pos (Or.inl ⟨List.mem_range.mpr hv.1, hv.2⟩)]
  have h9 : (Array.replicate ds.size (-9 : Int))[v]! = -9 := by simp [hv.1]
  rw [h9]
  have hf : (List.range ds.size).filter (inflow ds mask v) =
      (List.range ds.size).filter (fun j => inStream ds mask j && ds[j]! == v && j != v) := by
    apply List.filter_congr
    intro j hj
    have hj' := List.mem_range.mp hj
    simp only [inflow, inStream, isValid, hj', decide_true, Bool.true_and]
    rw [Bool.eq_iff_iff]
    simp only [Bool.and_eq_true, bne_iff_ne, ne_eq, beq_iff_eq]
    constructor
    · rintro ⟨⟨⟨h1, h2⟩, h3⟩, h4⟩
      exact ⟨⟨⟨h1, h3⟩, h4⟩, fun h => h2 (by rw [h4, h])⟩
    · rintro ⟨⟨⟨h1, h3⟩, h4⟩, h2⟩
      exact ⟨⟨⟨h1, fun h => h2 (by rw [← h4, ← h])⟩, h3⟩, h4⟩
  rw [hf]
  unfold nupM
  omega

end Pf.C19
