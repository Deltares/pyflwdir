import PfVerif.Proofs.C03Rank
/-! Relative to a rank certificate: sorted lists are downstream-first orders; repair of the loop cells. -/
namespace Pf

theorem RankCertA.nonneg_iff {ds : Array Nat} {rk : Array Int} (h : RankCertA ds rk) (i : Nat) :
    (i < ds.size ∧ 0 ≤ rk[i]!) ↔ (Valid ds i ∧ ReachesPit ds i) := by
  constructor
  · rintro ⟨hi, h0⟩
    have hv := h.valid_of_ne hi (by omega)
    exact ⟨hv, (h.rank_nonneg_iff hv).1 h0⟩
  · rintro ⟨hv, hr⟩
    exact ⟨hv.1, (h.rank_nonneg_iff hv).2 hr⟩

/-! ### sorted lists are downstream-first -/

theorem snoc_induction {α : Type} {P : List α → Prop} (nil : P [])
    (snoc : ∀ l x, P l → P (l ++ [x])) : ∀ l, P l := by
  intro l
  rw [← l.reverse_reverse]
  induction l.reverse with
  | nil => exact nil
  | cons x l ih => rw [List.reverse_cons]; exact snoc _ x ih

/-- a duplicate-free list sorted by a key that strictly decreases along the flow, and containing the
downstream cell of each of its non-pit members, is downstream-first -/
theorem Topo.of_sorted {ds : Array Nat} (key : Nat → Int) : ∀ (l : List Nat),
    l.Pairwise (fun a b => key a ≤ key b) → l.Nodup →
    (∀ i ∈ l, ds[i]! ≠ i → ds[i]! ∈ l ∧ key ds[i]! < key i) → Topo ds l := by
  refine snoc_induction (fun _ _ _ => Topo.nil) fun l x ih hs hn hc => ?_
  rw [List.pairwise_append] at hs
  rw [List.nodup_append] at hn
  have hx : x ∉ l := fun hx => hn.2.2 x hx x List.mem_cons_self rfl
  -- the downstream cell of a non-pit member has a smaller key than the last entry, so it is not the last
  have hds : ∀ i ∈ l ++ [x], ds[i]! ≠ i → ds[i]! ∈ l := by
    intro i hi hp
    obtain ⟨hm, hlt⟩ := hc i hi hp
    rcases List.mem_append.1 hm with hm | hm
    · exact hm
    · rw [List.mem_singleton.1 hm] at hlt
      rcases List.mem_append.1 hi with hi | hi
      · have := hs.2.2 i hi x List.mem_cons_self
        omega
      · rw [List.mem_singleton.1 hi] at hlt
        exact absurd hlt (Int.lt_irrefl _)
  refine Topo.snoc (ih hs.1 hn.1 fun i hi hp => ⟨hds i (List.mem_append_left _ hi) hp,
    (hc i (List.mem_append_left _ hi) hp).2⟩) hx ?_
  by_cases hp : ds[x]! = x
  · exact Or.inl hp
  · exact Or.inr (hds x (List.mem_append_right _ List.mem_cons_self) hp)

/-! ### repair -/

theorem addPits_size (ds : Array Nat) (l : List Nat) : (addPits ds l).size = ds.size :=
  size_foldl_set id l ds

theorem addPits_get (ds : Array Nat) (l : List Nat) (j : Nat) :
    (addPits ds l)[j]! = if j ∈ l ∧ j < ds.size then j else ds[j]! :=
  get!_foldl_set id l ds j

theorem repairBy_get (ds : Array Nat) (rk : Array Int) (j : Nat) :
    (repairBy ds rk)[j]! = if rk[j]! = -1 ∧ j < ds.size then j else ds[j]! := by
  unfold repairBy
  rw [addPits_get]
  simp only [List.mem_filter, List.mem_range, beq_iff_eq]
  by_cases h1 : rk[j]! = -1 <;> by_cases h2 : j < ds.size <;> simp [h1, h2]

theorem repairBy_size (ds : Array Nat) (rk : Array Int) : (repairBy ds rk).size = ds.size :=
  addPits_size _ _

theorem rankAfterRepair_get (rk : Array Int) (j : Nat) :
    (rankAfterRepair rk)[j]! = if rk[j]! = -1 then 0 else rk[j]! := by
  unfold rankAfterRepair
  by_cases hj : j < rk.size <;> simp [hj]

/-- after the repair the former loop cells are pits of rank 0 and every other cell keeps link and rank -/
theorem repairBy_cert {ds : Array Nat} {rk : Array Int} (h : RankCertA ds rk) :
    RankCertA (repairBy ds rk) (rankAfterRepair rk) := by
  obtain ⟨hsz, hloc⟩ := (rankCertA_iff ds rk).1 h
  refine (rankCertA_iff _ _).2 ⟨by rw [repairBy_size, rankAfterRepair, Array.size_map, hsz], fun i hi => ?_⟩
  rw [repairBy_size] at hi ⊢
  unfold DoneAt
  simp only [repairBy_get, rankAfterRepair_get]
  by_cases h1 : rk[i]! = -1
  · simp only [h1, hi, and_self, if_true]
    exact Or.inr ⟨trivial, Or.inl trivial⟩
  · simp only [h1, false_and, if_false]
    refine (hloc i hi).imp_right fun hd => ⟨hd.1, hd.2.imp_right fun hs => ⟨hs.1, Or.inr ?_⟩⟩
    -- a cell that drains is not of rank -1, and neither is its downstream cell
    rcases hs.2 with ⟨h2, _⟩ | ⟨h2, h3⟩
    · exact absurd h2 h1
    · rw [if_neg (by omega)]
      exact ⟨h2, h3⟩

theorem repairBy_valid {ds : Array Nat} {rk : Array Int} (h : RankCertA ds rk) (i : Nat) :
    Valid (repairBy ds rk) i ↔ Valid ds i := by
  simp only [Valid, repairBy_size, repairBy_get]
  refine and_congr_right fun hi => ?_
  by_cases h1 : rk[i]! = -1
  · simp only [h1, hi, and_self, if_true, true_iff]
    exact (h.valid_of_ne hi (by omega)).2
  · simp only [h1, false_and, if_false]

/-- repair relative to any rank certificate: turning the cells of rank `-1` into pits gives a network
with the same cells in which every cell drains to a pit; a cell that drained before keeps its link and
its number of steps to the pit -/
theorem repairBy_spec {ds : Array Nat} {r : Array Int} (h2 : RankCertA ds r) :
    WF (repairBy ds r) ∧ (repairBy ds r).size = ds.size ∧ (∀ i, Valid (repairBy ds r) i ↔ Valid ds i) ∧
    (∀ i, Valid (repairBy ds r) i → ReachesPit (repairBy ds r) i) ∧
    (∀ i, Valid ds i → ReachesPit ds i →
      (repairBy ds r)[i]! = ds[i]! ∧ ∀ k, StepsToPit ds i k → StepsToPit (repairBy ds r) i k) := by
  have h3 := repairBy_cert h2
  have hval := repairBy_valid h2
  refine ⟨h3.wf, repairBy_size ds r, hval, fun i hv => ?_, fun i hv hr => ?_⟩
  · refine (h3.rank_nonneg_iff hv).1 ?_
    rw [rankAfterRepair_get]
    split
    · exact Int.le_refl 0
    · exact (h2.range ((hval i).1 hv)).resolve_left ‹_›
  · have h0 := (h2.rank_nonneg_iff hv).2 hr
    have hne : r[i]! ≠ -1 := by omega
    refine ⟨by rw [repairBy_get, if_neg fun h => hne h.1], fun k hk => ?_⟩
    refine (h3.rank_eq_iff ((hval i).2 hv) k).1 ?_
    rw [rankAfterRepair_get, if_neg hne]
    exact (h2.rank_eq_iff hv k).2 hk

end Pf
