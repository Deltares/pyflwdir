import PfVerif.Proofs.C20Cert
/-! C20: partial correctness of the spreading loop itself (`spLoop`), for non-negative step costs.

The invariant is the one of a label-correcting shortest-path algorithm and does not depend on the
order in which heap entries are popped:
 * every reached cell carries the cost of an actual walk from its reported origin (`CellInv.walk`);
 * every reached cell is either *pending* (its current `(dst, cell)` is in the heap) or *relaxed*
   (all its allowed neighbours are reached and satisfy `dst b ≤ dst a + w(a, b)`).
When the heap is empty every reached cell is relaxed, which is feasibility; together with the
walks this is optimality. The pop order (Dijkstra) only matters for the number of iterations.

The loop changes the state through two operations only, `SpState.pop` and `SpState.upd`. `spStep_rule` says
once how an iteration is made of them; each invariant (`SpBase`, `PendAll`, in C20Term `SpTermIn`) has a lemma
`.pop` and a lemma `.upd`. -/
namespace Pf
open SpGrid Sp

theorem keyLt_respects_fst (y m : Rat × Nat) : (keyLt y m = true → y.1 ≤ m.1) ∧ (¬ keyLt y m = true → m.1 ≤ y.1) := by
  simp only [keyLt, Bool.or_eq_true, Bool.and_eq_true, decide_eq_true_eq, beq_iff_eq]
  exact ⟨fun h => h.elim Rat.le_of_lt fun h => Std.le_of_eq h.1, fun h => Rat.not_lt.1 fun hlt => h (.inl hlt)⟩

theorem heapMin_spec {h : List (Rat × Nat)} {e : Rat × Nat} (he : heapMin h = some e) :
    e ∈ h ∧ ∀ x ∈ h, e.1 ≤ x.1 := by
  cases h with
  | nil => simp [heapMin] at he
  | cons x t =>
    cases Option.some.inj he
    exact foldl_argmin (fun x : Rat × Nat => x.1) (fun y m => keyLt y m = true) keyLt_respects_fst t x

theorem heapMin_eq_none {h : List (Rat × Nat)} (he : heapMin h = none) : h = [] := by
  cases h with
  | nil => rfl
  | cons x t => simp [heapMin] at he

/-- the state after `heappop` has returned `e` -/
abbrev SpState.pop (st : SpState) (e : Rat × Nat) : SpState := { st with heap := st.heap.erase e }

/-- one iteration of the `while` loop, for the popped entry `e` -/
def spStep (G : SpGrid) (st : SpState) (e : Rat × Nat) : SpState :=
  if st.dst[e.2]! < e.1 then st.pop e else nbrOffsets.foldl (relax G e.2 e.1) (st.pop e)

theorem spLoop_succ (G : SpGrid) (fuel : Nat) (st : SpState) :
    spLoop G (fuel + 1) st = match heapMin st.heap with
      | none => some st
      | some e => spLoop G fuel (spStep G st e) := by
  simp only [spLoop, spStep]
  cases heapMin st.heap with
  | none => rfl
  | some e => exact (apply_ite (spLoop G fuel) _ _ _).symm

/-- a property that every iteration keeps, whichever entry of the heap it pops, holds when the loop
ends, and the heap is then empty -/
theorem spLoop_inv {G : SpGrid} {I : SpState → Prop} (hstep : ∀ st e, I st → e ∈ st.heap → I (spStep G st e)) :
    ∀ (fuel : Nat) (st st' : SpState), I st → spLoop G fuel st = some st' → I st' ∧ st'.heap = [] := by
  intro fuel
  induction fuel with
  | zero =>
    intro st st' hi h
    simp only [spLoop] at h
    split at h
    · rename_i he
      cases Option.some.inj h
      exact ⟨hi, by simpa using he⟩
    · simp at h
  | succ fuel ih =>
    intro st st' hi h
    rw [spLoop_succ] at h
    split at h
    · rename_i hm
      cases Option.some.inj h
      exact ⟨hi, heapMin_eq_none hm⟩
    · rename_i e hm
      exact ih _ _ (hstep st e hi (heapMin_spec hm).1) h

/-- the loop ends within its fuel if every iteration keeps `I` and decreases the measure `μ`. Here the step is
only asked for the entry `heapMin` returns (termination needs Dijkstra's order), in `spLoop_inv` for every
entry of the heap (correctness does not). -/
theorem spLoop_total {G : SpGrid} {I : SpState → Prop} {μ : SpState → Nat}
    (hstep : ∀ st e, I st → heapMin st.heap = some e → I (spStep G st e) ∧ μ (spStep G st e) < μ st) :
    ∀ (fuel : Nat) (st : SpState), I st → μ st ≤ fuel → ∃ st', spLoop G fuel st = some st' := by
  intro fuel
  induction fuel with
  | zero =>
    intro st hi hm
    cases hmin : heapMin st.heap with
    | none => exact ⟨st, by simp [spLoop, heapMin_eq_none hmin]⟩
    | some e => have := (hstep st e hi hmin).2; omega
  | succ fuel ih =>
    intro st hi hm
    rw [spLoop_succ]
    split
    · exact ⟨st, rfl⟩
    · rename_i e hmin
      obtain ⟨h1, h2⟩ := hstep st e hi hmin
      exact ih _ h1 (by omega)

/-- the state after the update branch of `relax` -/
def SpState.upd (G : SpGrid) (st : SpState) (a b : Nat) (d : Rat) : SpState :=
  { src := st.src.setIfInBounds b st.src[a]!, dst := st.dst.setIfInBounds b d,
    out := st.out.setIfInBounds b G.obs[(st.src[a]!).toNat]!, heap := (d, b) :: st.heap }

theorem relax_cases (G : SpGrid) (a : Nat) (d0 : Rat) (st : SpState) (o : Int × Int) :
    (relax G a d0 st o = st ∧ ∀ b, G.nbrOf a o = some b → G.allowed b = true →
        st.src[b]! ≠ -1 ∧ st.dst[b]! ≤ d0 + G.wgt a o) ∨
    (∃ b, G.nbrOf a o = some b ∧ G.allowed b = true ∧ (st.src[b]! = -1 ∨ d0 + G.wgt a o < st.dst[b]!) ∧
        relax G a d0 st o = st.upd G a b (d0 + G.wgt a o)) := by
  unfold relax
  cases G.nbrOf a o with
  | none => exact .inl ⟨rfl, fun b hb => nomatch hb⟩
  | some b =>
    simp only [Option.some.injEq]
    by_cases hab : G.allowed b = false
    · exact .inl ⟨if_pos hab, fun b' hb' ha' => by rw [← hb', hab] at ha'; cases ha'⟩
    · by_cases hc : st.src[b]! = -1 ∨ d0 + G.wgt a o < st.dst[b]!
      · exact .inr ⟨b, rfl, by simpa using hab, hc, by rw [if_neg hab, if_pos hc]; rfl⟩
      · refine .inl ⟨by rw [if_neg hab, if_neg hc], fun b' hb' _ => ?_⟩
        subst hb'
        exact ⟨fun h => hc (.inl h), Rat.not_lt.1 fun h => hc (.inr h)⟩

/-- invariant of one cell: what is fixed for it (`CellFixed`), `0 ≤ d`, and, if it is reached, a walk of cost
`d` from its reported origin whose observation is its value -/
structure CellInv (G : SpGrid) (i : Nat) (s : Int) (d : Rat) (v : Int) : Prop extends CellFixed G i s d v where
  nonneg : 0 ≤ d
  walk : G.allowed i = true → s ≠ -1 → ∃ s' : Nat, s = (s' : Int) ∧ SpWalk G s' i d ∧ v = G.obs[s']!

/-- invariant of every state of the loop. `ssz/dsz/osz`: the arrays have one entry per cell; `cell`: `CellInv`
for every cell; `heap`: every entry belongs to a reached allowed cell and its key is at least that cell's
current distance — so an entry whose key is larger (a stale one) can be dropped without loss. -/
structure SpBase (G : SpGrid) (st : SpState) : Prop where
  ssz : st.src.size = G.n
  dsz : st.dst.size = G.n
  osz : st.out.size = G.n
  cell : ∀ i, i < G.n → CellInv G i st.src[i]! st.dst[i]! st.out[i]!
  heap : ∀ e ∈ st.heap, e.2 < G.n ∧ G.allowed e.2 = true ∧ st.src[e.2]! ≠ -1 ∧ st.dst[e.2]! ≤ e.1

theorem SpBase.pop {G : SpGrid} {st : SpState} (hb : SpBase G st) (e : Rat × Nat) : SpBase G (st.pop e) :=
  { hb with heap := fun e' he' => hb.heap e' (List.mem_of_mem_erase he') }

/-- the base invariant during the neighbour loop of the popped entry `(d0, a0)` -/
structure SpBaseAt (G : SpGrid) (st : SpState) (a0 : Nat) (d0 : Rat) : Prop where
  base : SpBase G st
  lt : a0 < G.n
  allowed : G.allowed a0 = true
  reached : st.src[a0]! ≠ -1
  dst : st.dst[a0]! = d0

/-- cell `a` is pending: the entry with its current distance is in the heap -/
abbrev SpState.pending (st : SpState) (a : Nat) : Prop := (st.dst[a]!, a) ∈ st.heap

theorem pending_pop {st : SpState} {e : Rat × Nat} {a : Nat} (hne : (st.dst[a]!, a) ≠ e) :
    (st.pop e).pending a ↔ st.pending a :=
  List.mem_erase_of_ne hne

section upd
variable {G : SpGrid} {st : SpState} {a0 b : Nat} {d0 : Rat} {o : Int × Int}

theorem upd_other (G : SpGrid) (st : SpState) (a0 : Nat) (d : Rat) {i : Nat} (h : i ≠ b) :
    (st.upd G a0 b d).src[i]! = st.src[i]! ∧ (st.upd G a0 b d).dst[i]! = st.dst[i]! ∧
      (st.upd G a0 b d).out[i]! = st.out[i]! := by
  have h' : ∀ n, ¬ (b = i ∧ b < n) := fun _ x => h x.1.symm
  simp only [SpState.upd, get!_setIfInBounds, h', if_false, and_self]

theorem upd_self (hb : SpBase G st) (a0 : Nat) (d : Rat) (hbn : b < G.n) :
    (st.upd G a0 b d).src[b]! = st.src[a0]! ∧ (st.upd G a0 b d).dst[b]! = d ∧
      (st.upd G a0 b d).out[b]! = G.obs[(st.src[a0]!).toNat]! := by
  simp only [SpState.upd, get!_setIfInBounds, hb.ssz, hb.dsz, hb.osz, hbn, and_self, if_true]

/-- the updated cell is pending, and no other cell changes its status -/
theorem pending_upd (hb : SpBase G st) (a0 : Nat) (d : Rat) (hbn : b < G.n) (a : Nat) :
    (st.upd G a0 b d).pending a ↔ a = b ∨ st.pending a := by
  by_cases hab : a = b
  · subst hab
    refine iff_of_true ?_ (.inl rfl)
    unfold SpState.pending
    rw [(upd_self hb a0 d hbn).2.1]
    exact List.mem_cons_self
  · unfold SpState.pending
    rw [(upd_other G st a0 d hab).2.1]
    exact ⟨fun h => .inr ((List.mem_cons.1 h).resolve_left fun h => hab (congrArg Prod.snd h)),
      fun h => List.mem_cons_of_mem _ (h.resolve_left hab)⟩

theorem upd_mono (hb : SpBase G st) (has : st.src[a0]! ≠ -1) (hbn : b < G.n) {d : Rat}
    (hc : st.src[b]! = -1 ∨ d < st.dst[b]!) {i : Nat} (his : st.src[i]! ≠ -1) :
    (st.upd G a0 b d).src[i]! ≠ -1 ∧ (st.upd G a0 b d).dst[i]! ≤ st.dst[i]! := by
  by_cases hib : i = b
  · subst hib
    obtain ⟨us, ud, _⟩ := upd_self hb a0 d hbn
    rw [us, ud]
    exact ⟨has, Rat.le_of_lt (hc.resolve_left his)⟩
  · obtain ⟨e1, e2, _⟩ := upd_other G st a0 d hib
    rw [e1, e2]
    exact ⟨his, Rat.le_refl⟩

/-- the update branch preserves the base invariant: the updated cell `b` inherits the walk to `a0`
extended by one step; it is not an observation cell since those have distance 0 -/
theorem SpBaseAt.upd (hB : SpBaseAt G st a0 d0) (hw : 0 ≤ G.wgt a0 o) (ho : o ∈ nbrOffsets)
    (hn : G.nbrOf a0 o = some b) (hab : G.allowed b = true)
    (hc : st.src[b]! = -1 ∨ d0 + G.wgt a0 o < st.dst[b]!) :
    b ≠ a0 ∧ SpBaseAt G (st.upd G a0 b (d0 + G.wgt a0 o)) a0 d0 := by
  obtain ⟨hb, ha0, haa, has, hd⟩ := hB
  have hbn : b < G.n := G.nbrOf_lt hn
  have hd0 : 0 ≤ d0 := hd ▸ (hb.cell a0 ha0).nonneg
  have hnew : 0 ≤ d0 + G.wgt a0 o := Rat.add_nonneg hd0 hw
  have hne : b ≠ a0 := by
    rintro rfl
    exact Rat.not_le.2 (hc.resolve_left has) (hd ▸ rat_le_add_of_nonneg hw)
  obtain ⟨us, ud, uo⟩ := upd_self hb a0 (d0 + G.wgt a0 o) hbn
  obtain ⟨e1, e2, _⟩ := upd_other G st a0 (d0 + G.wgt a0 o) hne.symm
  refine ⟨hne, ⟨Array.size_setIfInBounds.trans hb.ssz, Array.size_setIfInBounds.trans hb.dsz,
    Array.size_setIfInBounds.trans hb.osz,
    fun i hi => ?_, fun e he => ?_⟩, ha0, haa, by rw [e1]; exact has, e2.trans hd⟩
  · by_cases hib : i = b
    · subst hib
      rw [us, ud, uo]
      obtain ⟨s, h1, h2, _⟩ := (hb.cell a0 ha0).walk haa has
      rw [hd] at h2
      refine ⟨⟨fun h => (by rw [hab] at h; cases h), fun hs => ?_, fun _ h => absurd h has⟩, hnew,
        fun _ _ => ⟨s, h1, SpWalk.step o h2 ho hn hab, by rw [h1, Int.toNat_natCast]⟩⟩
      obtain ⟨g1, g2, _⟩ := (hb.cell i hi).srcs hs
      rw [g1, g2] at hc
      exact (hc.elim (by omega) (Rat.not_lt.2 hnew)).elim
    · obtain ⟨e1, e2, e3⟩ := upd_other G st a0 (d0 + G.wgt a0 o) hib
      rw [e1, e2, e3]
      exact hb.cell i hi
  · rcases List.mem_cons.1 he with rfl | he
    · exact ⟨hbn, hab, by rw [us]; exact has, Std.le_of_eq ud⟩
    · obtain ⟨h1, h2, h3, h4⟩ := hb.heap e he
      obtain ⟨m1, m2⟩ := upd_mono hb has hbn hc h3
      exact ⟨h1, h2, m1, Rat.le_trans m2 h4⟩

theorem upd_relaxedOn (hb : SpBase G st) (has : st.src[a0]! ≠ -1) (hbn : b < G.n) {d : Rat}
    (hc : st.src[b]! = -1 ∨ d < st.dst[b]!) {a : Nat} (hab : a ≠ b) {ds : List (Int × Int)}
    (h : RelaxedOn G st.src st.dst a ds) : RelaxedOn G (st.upd G a0 b d).src (st.upd G a0 b d).dst a ds := by
  intro d' hd' b' hn' hab'
  obtain ⟨h1, h2⟩ := h d' hd' b' hn' hab'
  obtain ⟨m1, m2⟩ := upd_mono hb has hbn hc h1
  rw [(upd_other G st a0 d hab).2.1]
  exact ⟨m1, Rat.le_trans m2 h2⟩

end upd

/-- What one iteration of the loop does, as a proof rule: it pops `e`; if `e` is stale that is all (`stale`).
Otherwise the cell `e.2` has distance `e.1` (`enter`), a number of updates follow, each of a cell that is not
reached or lies farther than the new key, which is at least `e.1` (`lower`), and in the end the cell `e.2` is
relaxed in all directions and at most 8 entries have been pushed (`exit`). The base invariant holds in all states
on the way. To show that the iteration keeps `P`, choose what `P` becomes during the neighbour loop (`J`); the four
premises then speak of `SpState.pop` and `SpState.upd` only. -/
theorem spStep_rule {G : SpGrid} (hw : ∀ a d, 0 ≤ G.wgt a d) {st : SpState} {e : Rat × Nat} (hb : SpBase G st)
    (he : e ∈ st.heap) {P J : SpState → Prop}
    (stale : st.dst[e.2]! < e.1 → P (st.pop e))
    (enter : st.dst[e.2]! = e.1 → J (st.pop e))
    (lower : ∀ s b d, SpBaseAt G s e.2 e.1 → J s → b < G.n → e.1 ≤ d → (s.src[b]! = -1 ∨ d < s.dst[b]!) →
      J (s.upd G e.2 b d))
    (exit : ∀ s, SpBaseAt G s e.2 e.1 → J s → RelaxedOn G s.src s.dst e.2 nbrOffsets →
      s.heap.length ≤ (st.pop e).heap.length + nbrOffsets.length → P s) :
    SpBase G (spStep G st e) ∧ P (spStep G st e) := by
  obtain ⟨he1, he2, he3, he4⟩ := hb.heap e he
  unfold spStep
  split
  · rename_i hstale
    exact ⟨hb.pop e, stale hstale⟩
  · rename_i hns
    have hd := Rat.le_antisymm he4 (Rat.not_lt.1 hns)
    obtain ⟨g1, g2, g3, g4⟩ := foldl_induct (relax G e.2 e.1) (fun done s => SpBaseAt G s e.2 e.1 ∧ J s ∧
        RelaxedOn G s.src s.dst e.2 done ∧ s.heap.length ≤ (st.pop e).heap.length + done.length) nbrOffsets
      (fun done o s ho ⟨hB, hJ, hr, hl⟩ => by
        rw [relaxedOn_snoc, List.length_append]
        rcases relax_cases G e.2 e.1 s o with ⟨heq, hinfo⟩ | ⟨b, hn, hab, hc, heq⟩
        · rw [heq, hB.dst]; exact ⟨hB, hJ, ⟨hr, hinfo⟩, Nat.le_succ_of_le hl⟩
        · obtain ⟨hne, hB'⟩ := hB.upd (hw e.2 o) ho hn hab hc
          have hbn : b < G.n := G.nbrOf_lt hn
          rw [heq]
          refine ⟨hB', lower s b _ hB hJ hbn (rat_le_add_of_nonneg (hw e.2 o)) hc,
            ⟨upd_relaxedOn hB.base hB.reached hbn hc hne.symm hr, fun b' hn' _ => ?_⟩, Nat.succ_le_succ hl⟩
          cases hn.symm.trans hn'
          obtain ⟨us, ud, _⟩ := upd_self hB.base e.2 (e.1 + G.wgt e.2 o) hbn
          rw [us, ud, hB'.dst]
          exact ⟨hB.reached, Rat.le_refl⟩)
      [] _ ⟨⟨hb.pop e, he1, he2, he3, hd⟩, enter hd, (fun _ h => nomatch h), Nat.le_refl _⟩
    exact ⟨g1.base, exit _ g1 g2 g3 g4⟩

/-- every reached allowed cell outside `ex` is pending or relaxed in all directions; `ex` is empty between
iterations and is the popped cell during its neighbour loop -/
def PendAll (G : SpGrid) (st : SpState) (ex : Nat → Prop) : Prop :=
  ∀ a, a < G.n → ¬ ex a → G.allowed a = true → st.src[a]! ≠ -1 →
    st.pending a ∨ RelaxedOn G st.src st.dst a nbrOffsets

section
variable {G : SpGrid} {st : SpState} {a0 b : Nat}

theorem PendAll.pop (h : PendAll G st fun _ => False) {e : Rat × Nat} {ex : Nat → Prop}
    (hne : ∀ a, ¬ ex a → (st.dst[a]!, a) ≠ e) : PendAll G (st.pop e) ex :=
  fun a ha hex haa has => (h a ha id haa has).imp (pending_pop (hne a hex)).2 id

theorem PendAll.upd {ex : Nat → Prop} (h : PendAll G st ex) (hb : SpBase G st) (has : st.src[a0]! ≠ -1)
    (hbn : b < G.n) {d : Rat} (hc : st.src[b]! = -1 ∨ d < st.dst[b]!) : PendAll G (st.upd G a0 b d) ex := by
  intro a ha hex haa has'
  by_cases hab : a = b
  · exact .inl ((pending_upd hb a0 d hbn a).2 (.inl hab))
  · rw [(upd_other G st a0 d hab).1] at has'
    exact (h a ha hex haa has').imp (fun hp => (pending_upd hb a0 d hbn a).2 (.inr hp))
      (upd_relaxedOn hb has hbn hc hab)

/-- the label-correcting invariant is kept whichever entry of the heap is popped -/
theorem spStep_inv (hw : ∀ a d, 0 ≤ G.wgt a d) {e : Rat × Nat} (h : SpBase G st ∧ PendAll G st fun _ => False)
    (he : e ∈ st.heap) : SpBase G (spStep G st e) ∧ PendAll G (spStep G st e) fun _ => False :=
  spStep_rule hw h.1 he (P := fun s => PendAll G s fun _ => False) (J := fun s => PendAll G s (· = e.2))
    (fun hstale => h.2.pop fun a _ heq => by rw [← heq] at hstale; exact Rat.lt_irrefl hstale)
    (fun _ => h.2.pop fun a hae heq => hae (heq ▸ rfl))
    (fun s b d hB hJ hbn _ hc => hJ.upd hB.base hB.reached hbn hc)
    (fun s _ hJ hr _ a ha _ haa has => if hae : a = e.2 then hae ▸ .inr hr else hJ a ha hae haa has)

end

/-- body of the initial loops -/
def spInitStep (G : SpGrid) (st : SpState) (i : Nat) : SpState :=
  if G.obs[i]! ≠ G.nodata then
    { st with heap := if G.allowed i then (0, i) :: st.heap else st.heap,
              src := st.src.setIfInBounds i (i : Int) }
  else st

/-- the two fields the initial loops write, in closed form: `src` is written at the observation cells, the heap
receives those of them that are allowed -/
theorem foldl_spInitStep (G : SpGrid) (l : List Nat) (st : SpState) : l.foldl (spInitStep G) st =
    { st with
      src := (l.filter fun i => G.obs[i]! != G.nodata).foldl (fun a i => a.setIfInBounds i (i : Int)) st.src
      heap := ((l.filter fun i => G.obs[i]! != G.nodata && G.allowed i).map fun i => ((0 : Rat), i)).reverse ++
        st.heap } := by
  induction l generalizing st with
  | nil => rfl
  | cons x l ih =>
    rw [List.foldl_cons, ih]
    unfold spInitStep
    by_cases ho : G.obs[x]! = G.nodata <;> cases ha : G.allowed x <;> simp [ho, ha]

theorem spInit_spec (G : SpGrid) :
    (spInit G).dst = Array.replicate G.n 0 ∧ (spInit G).out = G.obs ∧ (spInit G).src.size = G.n ∧
    (∀ i, i < G.n → (spInit G).src[i]! = if G.obs[i]! ≠ G.nodata then (i : Int) else -1) ∧
    (spInit G).heap = (((List.range G.n).filter G.isSource).map fun i => ((0 : Rat), i)).reverse := by
  have h : spInit G = _ := foldl_spInitStep G (List.range G.n) _
  rw [h]
  refine ⟨rfl, rfl, (size_foldl_set ..).trans Array.size_replicate, fun i hi => ?_, ?_⟩
  · simp only [get!_foldl_set, List.mem_filter, List.mem_range, hi, Array.size_replicate, true_and, and_true,
      bne_iff_ne, get!_replicate _ _ (.inl hi)]
  · simp only [List.append_nil]
    congr 2
    exact List.filter_congr fun i hi => by simp [isSource, List.mem_range.1 hi]

theorem spInit_heap (G : SpGrid) : (∀ e, e ∈ (spInit G).heap ↔ e.1 = 0 ∧ G.isSource e.2 = true) ∧
    (spInit G).heap.Nodup ∧ (spInit G).heap.length ≤ G.n := by
  rw [(spInit_spec G).2.2.2.2]
  refine ⟨fun e => ?_, ?_, ?_⟩
  · simp only [List.mem_reverse, List.mem_map, List.mem_filter, List.mem_range]
    exact ⟨fun ⟨i, ⟨_, hs⟩, hi⟩ => hi ▸ ⟨rfl, hs⟩,
      fun ⟨h0, hs⟩ => ⟨e.2, ⟨((G.isSource_iff _).1 hs).1, hs⟩, Prod.ext h0.symm rfl⟩⟩
  · exact List.pairwise_reverse.2 (List.pairwise_map.2 ((List.Pairwise.filter _ List.nodup_range).imp
      fun h h' => h (congrArg Prod.snd h').symm))
  · rw [List.length_reverse, List.length_map]
    exact Nat.le_trans (List.length_filter_le ..) (Nat.le_of_eq List.length_range)

theorem spInit_inv (G : SpGrid) (hobs : G.obs.size = G.n) :
    SpBase G (spInit G) ∧ PendAll G (spInit G) (fun _ => False) := by
  obtain ⟨hd, ho, hsz, hs, _⟩ := spInit_spec G
  have hheap := (spInit_heap G).1
  generalize spInit G = st at hd ho hsz hs hheap
  have hdst : ∀ i : Nat, st.dst[i]! = 0 := fun i => by rw [hd]; exact get!_replicate _ _ (.inr rfl)
  have hsrc : ∀ i, i < G.n → (st.src[i]! ≠ -1 ↔ G.obs[i]! ≠ G.nodata) := by
    intro i hi
    rw [hs i hi]
    by_cases ho : G.obs[i]! = G.nodata
    · simp [ho]
    · simp [ho]
  have hsrc' : ∀ i, i < G.n → G.obs[i]! ≠ G.nodata → st.src[i]! = (i : Int) := fun i hi ho => by
    rw [hs i hi, if_pos ho]
  refine ⟨⟨hsz, by rw [hd]; simp, by rw [ho]; exact hobs, fun i hi => ?_, ?_⟩, ?_⟩
  · rw [hdst i, ho]
    refine ⟨⟨fun _ => ⟨hs i hi, rfl, rfl⟩, fun hs => ⟨hsrc' i hi ((G.isSource_iff i).1 hs).2.1, rfl, rfl⟩,
      fun _ _ => ⟨rfl, rfl⟩⟩, Rat.le_refl, fun ha hs => ?_⟩
    have ho := (hsrc i hi).1 hs
    exact ⟨i, hsrc' i hi ho, SpWalk.src i ((G.isSource_iff i).2 ⟨hi, ho, ha⟩), rfl⟩
  · intro e he
    obtain ⟨h1, h2⟩ := (hheap e).1 he
    obtain ⟨h2, h3, h4⟩ := (G.isSource_iff _).1 h2
    exact ⟨h2, h4, (hsrc e.2 h2).2 h3, by rw [hdst, h1]; exact Rat.le_refl⟩
  · intro a ha _ haa has
    exact .inl ((hheap _).2 ⟨hdst a, (G.isSource_iff a).2 ⟨ha, (hsrc a ha).1 has, haa⟩⟩)

section
variable {G : SpGrid} {st : SpState} (hobs : G.obs.size = G.n) (hw : ∀ a d, 0 ≤ G.wgt a d)
  (hrun : spread2d G = some st)
include hobs hw hrun

theorem spread2d_inv : SpBase G st ∧ Feasible G st.src st.dst := by
  obtain ⟨⟨hb, hp⟩, hheap⟩ := spLoop_inv (I := fun st => SpBase G st ∧ PendAll G st fun _ => False)
    (fun _ _ h he => spStep_inv hw h he) _ _ _ (spInit_inv G hobs) hrun
  refine ⟨hb, fun a ha haa has => (hp a ha id haa has).resolve_left ?_⟩
  unfold SpState.pending
  rw [hheap]; exact List.not_mem_nil

theorem spread2d_fixed : SpFixed G st.src st.dst st.out :=
  fun i hi => ((spread2d_inv hobs hw hrun).1.cell i hi).toCellFixed

theorem spread2d_leastCost : LeastCost G st.src st.dst st.out :=
  ⟨walk_lower (spread2d_fixed hobs hw hrun) (spread2d_inv hobs hw hrun).2,
    fun c hc hca hcs => ((spread2d_inv hobs hw hrun).1.cell c hc).walk hca hcs⟩

end

end Pf
