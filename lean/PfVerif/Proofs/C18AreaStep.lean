import PfVerif.Proofs.C18AreaInv
/-! Preservation of the `subbasins_area` invariant by each of the five branches of the loop body (abstract form):
two kinds of step, `UInv.nocut` (the cell joins the sub-basin of its downstream cell) and `UInv.cut_np` (a cell that
is not a pit becomes an outlet), of which the branches other than the pit are instances. -/
namespace Pf.C18
section
variable {D M : Nat → Nat} {A a : Nat → Int} {amin : Int} {seq : List Nat} {rk : Nat → Nat}

/-- the region formula when no outlet is created -/
theorem regE_nocut {P outs : List Nat} {own : Nat → Nat} {reg : Nat → Int}
    (hS : SInv D M A amin seq rk P outs own) {idx : Nat} (hnP : idx ∉ P) (v : Nat)
    (h : ∀ o ∈ outs, reg o = A o -
      csum (fun c => outs.contains c && decide (D c ≠ c) && (own (D c) == o)) A seq) :
    ∀ o ∈ outs, reg o = A o -
      csum (fun c => outs.contains c && decide (D c ≠ c) && (upd own idx v (D c) == o)) A seq := by
  intro o ho
  rw [h o ho]
  congr 1
  apply csum_congr
  intro c _
  refine ⟨?_, fun _ => rfl⟩
  by_cases hc : c ∈ outs
  · have : D c ≠ idx := fun hcc => hnP (hcc ▸ hS.closed c (hS.sub c hc))
    rw [upd_ne own v this]
  · simp [hc]

/-- the region formula when `idx` becomes an outlet: its own region starts as `A idx`, and unless it is a pit the
region of the outlet that owns its downstream cell loses `A idx` -/
theorem regE_cut {P outs : List Nat} {own : Nat → Nat} {reg reg' : Nat → Int}
    (H : AHyp D M A a seq rk)
    (hS : SInv D M A amin seq rk P outs own) {idx : Nat} (hidx : idx ∈ seq) (hnP : idx ∉ P)
    (hd : D idx = idx ∨ D idx ∈ P)
    (h : ∀ o ∈ outs, reg o = A o -
      csum (fun c => outs.contains c && decide (D c ≠ c) && (own (D c) == o)) A seq)
    (hnew : reg' idx = A idx)
    (hlose : D idx ≠ idx → reg' (own (D idx)) = reg (own (D idx)) - A idx)
    (hkeep : ∀ o ∈ outs, ¬ (D idx ≠ idx ∧ own (D idx) = o) → reg' o = reg o) :
    ∀ o ∈ outs ++ [idx], reg' o = A o -
      csum (fun c => (outs ++ [idx]).contains c && decide (D c ≠ c) && (upd own idx idx (D c) == o)) A seq := by
  have hno : idx ∉ outs := fun hc => hnP (hS.sub _ hc)
  have hDc : ∀ c ∈ outs, D c ≠ idx := fun c hc hcc => hnP (hcc ▸ hS.closed c (hS.sub c hc))
  have hdP : D idx ≠ idx → D idx ∈ P := fun hnp => hd.resolve_left hnp
  -- on cells other than `idx` the predicate is the old one
  have hpred : ∀ o c, c ≠ idx →
      ((outs ++ [idx]).contains c && decide (D c ≠ c) && (upd own idx idx (D c) == o)) =
      (outs.contains c && decide (D c ≠ c) && (own (D c) == o)) := by
    intro o c hci
    by_cases hc : c ∈ outs
    · rw [upd_ne own _ (hDc c hc)]; simp [hc]
    · simp [hc, hci]
  intro o ho
  rcases List.mem_append.1 ho with ho | ho
  · by_cases hoo : D idx ≠ idx ∧ own (D idx) = o
    · obtain ⟨hnp, rfl⟩ := hoo
      have hownd : upd own idx idx (D idx) = own (D idx) := upd_ne own _ hnp
      rw [hlose hnp, csum_remove
        (q := fun c => outs.contains c && decide (D c ≠ c) && (own (D c) == own (D idx)))
        H.nd hidx (by simp [hownd, hnp]), h _ ho]
      · omega
      · intro y _
        by_cases hyi : y = idx
        · subst hyi; simp [hno]
        · rw [← hpred _ y hyi]; simp [hyi]
    · rw [hkeep o ho hoo, h o ho]
      congr 1
      apply csum_congr
      intro c _
      refine ⟨?_, fun _ => rfl⟩
      by_cases hci : c = idx
      · subst hci
        by_cases hnp : D c = c
        · simp [hnp]
        · have : own (D c) ≠ o := fun hcc => hoo ⟨hnp, hcc⟩
          simp [hno, upd_ne own _ hnp, this]
      · exact (hpred o c hci).symm
  · rw [List.mem_singleton.1 ho, hnew, csum_zero]; · simp
    -- no outlet's downstream cell is owned by the new outlet
    intro c _
    by_cases hci : c = idx
    · subst hci
      by_cases hnp : D c = c
      · simp [hnp]
      · have : own (D c) ≠ c := fun hcc => hno (hcc ▸ hS.ownM _ (hdP hnp))
        simp [upd_ne own _ hnp, this]
    · rw [hpred idx c hci]
      by_cases hc : c ∈ outs
      · have : own (D c) ≠ idx := fun hcc => hno (hcc ▸ hS.ownM _ (hS.closed c (hS.sub c hc)))
        simp [this]
      · simp [hc]


theorem rest_mono (H : AHyp D M A a seq rk) {outs outs' : List Nat} (hsub : ∀ c, c ∈ outs → c ∈ outs')
    (d : Nat) :
    csum (fun c => decide (D c = d ∧ c ≠ d) && !outs'.contains c) A seq ≤
      csum (fun c => decide (D c = d ∧ c ≠ d) && !outs.contains c) A seq := by
  apply csum_mono H.A0
  intro y _ h
  simp only [Bool.and_eq_true, decide_eq_true_eq, Bool.not_eq_true', List.contains_eq_mem,
    decide_eq_false_iff_not] at h ⊢
  exact ⟨h.1, fun hc => h.2 (hsub _ hc)⟩

/-- cutting the inflowing cell `idx` of `d` takes `A idx` out of the lower bound of `d` -/
theorem rest_remove (H : AHyp D M A a seq rk) {outs : List Nat} {idx : Nat} (hidx : idx ∈ seq)
    (hno : idx ∉ outs) (hnp : D idx ≠ idx) :
    csum (fun c => decide (D c = D idx ∧ c ≠ D idx) && !outs.contains c) A seq =
      A idx + csum (fun c => decide (D c = D idx ∧ c ≠ D idx) && !(outs ++ [idx]).contains c) A seq := by
  refine csum_remove H.nd hidx (by simp [hno]; exact fun h => hnp h.symm) (fun y _ => ?_)
  by_cases hy : y = idx
  · subst hy; simp
  · simp [hy]

/-- a cell of the grown list that is not among the grown outlets is an old cell and not an old outlet -/
theorem mem_cut {P outs : List Nat} {x idx : Nat} (hx : x ∈ P ++ [idx]) (hxo : x ∉ outs ++ [idx]) :
    x ∈ P ∧ x ∉ outs :=
  ⟨(List.mem_append.1 hx).resolve_right fun h => hxo (List.mem_append.2 (Or.inr h)),
    fun h => hxo (List.mem_append.2 (Or.inl h))⟩

/-- when `idx` is processed with a big upstream area, the budget of its downstream cell is bounded by the region of
that cell's outlet, and the main upstream cell of the downstream cell is not an outlet -/
theorem UInv.cap_parent {P outs : List Nat} {own : Nat → Nat} {uo reg : Nat → Int}
    (H : AHyp D M A a seq rk) (hS : SInv D M A amin seq rk P outs own)
    (hU : UInv D M A a amin seq rk P outs own uo reg)
    {idx : Nat} (hidx : idx ∈ seq) (hnP : idx ∉ P) (hrkP : ∀ y ∈ P, rk y ≤ rk idx)
    (hd : D idx ∈ P) (hnp : D idx ≠ idx) (hq2 : amin < A idx) :
    M (D idx) ∉ outs ∧ amin < A (D idx) ∧ uo (D idx) ≤ reg (own (D idx)) := by
  have hrk := H.rkS idx hidx hnp
  have hbd : amin < A (D idx) := by have := H.mono hidx hnp; omega
  have hmo : M (D idx) ∉ outs := by
    intro hmo
    have hmP := hS.sub _ hmo
    have hmS := hS.inSeq _ hmP
    obtain ⟨hm1, hm2⟩ := H.main _ (hS.inSeq _ hd) hmS
    have hmi : M (D idx) ≠ idx := fun hc => hnP (hc ▸ hmP)
    have h1 := hS.mainO _ hmo (by rw [hm1]; exact fun h => hm2 h.symm) (by rw [hm1])
    rw [hm1] at h1
    have h2 := H.two (hS.inSeq _ hd) hmS hidx hmi hm1 hm2 rfl (fun h => hnp h.symm)
    omega
  exact ⟨hmo, hbd, hU.cap _ hd hbd (fun y hy => by have := hrkP y hy; omega) hmo⟩

/-- while the inflowing cells of `d` are being processed, no processed cell drains to the main upstream cell of `d`
(it would lie a rank above `idx`) -/
theorem no_kid_of_main {P outs : List Nat} {own : Nat → Nat} (H : AHyp D M A a seq rk)
    (hS : SInv D M A amin seq rk P outs own) {idx : Nat} (hidx : idx ∈ seq)
    (hrkP : ∀ y ∈ P, rk y ≤ rk idx) (hd : D idx ∈ P) (hnp : D idx ≠ idx) :
    ∀ y ∈ P, D y = M (D idx) → y = M (D idx) := by
  intro y hy hym
  apply Classical.byContradiction
  intro hne
  have hmS : M (D idx) ∈ seq := hym ▸ H.dsSeq y (hS.inSeq y hy)
  obtain ⟨hm1, hm2⟩ := H.main _ (hS.inSeq _ hd) hmS
  have h1 := H.rkS y (hS.inSeq y hy) (by rw [hym]; exact fun h => hne h.symm)
  have h2 := H.rkS _ hmS (by rw [hm1]; exact fun h => hm2 h.symm)
  have h3 := H.rkS idx hidx hnp
  have h4 := hrkP y hy
  rw [hym] at h1
  rw [hm1] at h2
  omega

/-! ### the two kinds of step -/

/-- `idx` joins the sub-basin of its downstream cell: no outlet is created, `upa_out` changes at most at `idx`, to a
value between `A idx` and the budget of the downstream cell -/
theorem UInv.nocut {P outs : List Nat} {own : Nat → Nat} {uo uo' reg : Nat → Int}
    (H : AHyp D M A a seq rk) (hS : SInv D M A amin seq rk P outs own)
    (hU : UInv D M A a amin seq rk P outs own uo reg)
    {idx : Nat} (hidx : idx ∈ seq) (hnP : idx ∉ P) (hrkP : ∀ y ∈ P, rk y ≤ rk idx)
    (hd : D idx ∈ P) (hnp : D idx ≠ idx)
    (hfr : ∀ x, x ≠ idx → uo' x = uo x) (hlo : A idx ≤ uo' idx) (hhi : uo' idx ≤ uo (D idx))
    (htr : M (D idx) ≠ idx → amin < A idx → uo (D idx) - A idx ≤ amin)
    (hch : ∀ c ∈ P, c ∉ outs → D c = D idx → D c ≠ c → amin < A c → amin < A idx → False) :
    UInv D M A a amin seq rk (P ++ [idx]) outs (upd own idx (own (D idx))) uo' reg := by
  have hP : ∀ x ∈ P, x ≠ idx := fun x hx hc => hnP (hc ▸ hx)
  have hown : ∀ x ∈ P, upd own idx (own (D idx)) x = own x := fun x hx => upd_ne own _ (hP x hx)
  refine ⟨?_, ?_, ?_, ?_, ?_, hU.regBig, regE_nocut hS hnP _ hU.regE⟩
  · intro x hx hxP
    have hxP' : x ∉ P := fun hc => hxP (List.mem_append.2 (Or.inl hc))
    rw [hfr x (fun hc => hxP (List.mem_append.2 (Or.inr (List.mem_singleton.2 hc))))]
    rcases hU.init x hx hxP' with h | ⟨h1, h2, h3, y, hy, h4⟩
    · exact Or.inl h
    · refine Or.inr ⟨h1, h2, ?_, y, List.mem_append.2 (Or.inl hy), h4⟩
      rw [hfr _ (hP _ (h4.1 ▸ hS.closed y hy))]; exact h3
  · intro d hdP
    rcases List.mem_append.1 hdP with hdP | hdP
    · rw [hfr d (hP d hdP)]; exact hU.low d hdP
    · rw [List.mem_singleton.1 hdP]
      have := H.rest_le outs hidx
      omega
  · intro x hx hxo hpx hmx hbx
    rcases List.mem_append.1 hx with hx | hx
    · rw [hfr _ (hP _ (hS.closed x hx))]; exact hU.trib x hx hxo hpx hmx hbx
    · rw [List.mem_singleton.1 hx] at hmx hbx ⊢
      rw [hfr _ hnp]; exact htr hmx hbx
  · intro c1 h1 c2 h2 hne hdd hp1 hp2 ho1 ho2 hb1
    rcases List.mem_append.1 h1 with g1 | g1
    · rcases List.mem_append.1 h2 with g2 | g2
      · exact hU.chain c1 g1 c2 g2 hne hdd hp1 hp2 ho1 ho2 hb1
      · rw [List.mem_singleton.1 g2] at hdd ⊢
        exact Int.not_lt.1 (hch c1 g1 ho1 hdd hp1 hb1)
    · rw [List.mem_singleton.1 g1] at hdd hb1
      rcases List.mem_append.1 h2 with g2 | g2
      · exact Int.not_lt.1 fun hb2 => hch c2 g2 ho2 hdd.symm hp2 hb2 hb1
      · exact absurd ((List.mem_singleton.1 g2).trans (List.mem_singleton.1 g1).symm).symm hne
  · intro x hx hbx hfx hmx
    rcases List.mem_append.1 hx with hx | hx
    · rw [hown x hx, hfr x (hP x hx)]
      exact hU.cap x hx hbx (fun y hy => hfx y (List.mem_append.2 (Or.inl hy))) hmx
    · rw [List.mem_singleton.1 hx] at hbx ⊢
      rw [upd_same]
      have := (hU.cap_parent H hS hidx hnP hrkP hd hnp hbx).2.2
      omega

/-- the part of a step that makes the non-pit cell `idx` an outlet which does not depend on how `upa_out` is written:
`uo'` is the new `upa_out`, of which the caller shows the fields `init` and `low`, that the budgets that `trib` and `cap`
speak of did not grow, and the bound `cap` for the big cells in the sub-basin that `idx` is cut out of -/
theorem UInv.cut_np {P outs : List Nat} {own : Nat → Nat} {uo uo' reg : Nat → Int}
    (H : AHyp D M A a seq rk) (hS : SInv D M A amin seq rk P outs own)
    (hU : UInv D M A a amin seq rk P outs own uo reg)
    {idx : Nat} (hidx : idx ∈ seq) (hnP : idx ∉ P) (hrkP : ∀ y ∈ P, rk y ≤ rk idx)
    (hd : D idx ∈ P) (hnp : D idx ≠ idx)
    (hq1 : amin < uo (D idx) - A idx) (hq2 : amin < A idx) (h1 : uo' idx = A idx)
    (hinit : ∀ x ∈ seq, x ∉ P ++ [idx] → uo' x = A x ∨
      (M (D x) = x ∧ D x ≠ x ∧ uo' x = uo' (D x) ∧ ∃ y ∈ P ++ [idx], D y = D x ∧ y ≠ D x))
    (hlow : ∀ d ∈ P,
      a d + csum (fun c => decide (D c = d ∧ c ≠ d) && !(outs ++ [idx]).contains c) A seq ≤ uo' d)
    (hleT : ∀ x ∈ P, x ∉ outs → D x ≠ x → uo' (D x) ≤ uo (D x))
    (hleK : ∀ x ∈ P, own x ≠ own (D idx) → uo' x ≤ uo x)
    (hK : ∀ x ∈ P, own x = own (D idx) → amin < A x → rk (D idx) ≤ rk x → M x ∉ outs ++ [idx] →
      uo' x ≤ reg (own (D idx)) - A idx) :
    UInv D M A a amin seq rk (P ++ [idx]) (outs ++ [idx]) (upd own idx idx) uo'
      (upd (upd reg (own (D idx)) (reg (own (D idx)) - A idx)) idx (A idx)) := by
  have hno : idx ∉ outs := fun hc => hnP (hS.sub _ hc)
  have hrk := H.rkS idx hidx hnp
  have hKd := (hU.cap_parent H hS hidx hnP hrkP hd hnp hq2).2.2
  have hregO : ∀ o ∈ outs, o ≠ own (D idx) →
      upd (upd reg (own (D idx)) (reg (own (D idx)) - A idx)) idx (A idx) o = reg o := fun o ho hne => by
    rw [upd_ne _ _ (fun hc : o = idx => hno (hc ▸ ho)), upd_ne _ _ hne]
  have hregD : upd (upd reg (own (D idx)) (reg (own (D idx)) - A idx)) idx (A idx) (own (D idx)) =
      reg (own (D idx)) - A idx := by
    rw [upd_ne _ _ (fun hc : own (D idx) = idx => hno (hc ▸ hS.ownM _ hd)), upd_same]
  refine ⟨hinit, ?_, ?_, ?_, ?_, ?_, regE_cut H hS hidx hnP (Or.inr hd) hU.regE (upd_same _ _ _)
    (fun _ => hregD) (fun o ho hne => hregO o ho (fun hc => hne ⟨hnp, hc.symm⟩))⟩
  · intro d hdP
    rcases List.mem_append.1 hdP with hdP | hdP
    · exact hlow d hdP
    · rw [List.mem_singleton.1 hdP, h1]; exact H.rest_le _ hidx
  · intro x hx hxo hpx hmx hbx
    obtain ⟨hx, hxo⟩ := mem_cut hx hxo
    have := hleT x hx hxo hpx
    have := hU.trib x hx hxo hpx hmx hbx
    omega
  · intro c1 g1 c2 g2 hne hdd hp1 hp2 ho1 ho2
    obtain ⟨g1, ho1⟩ := mem_cut g1 ho1
    obtain ⟨g2, ho2⟩ := mem_cut g2 ho2
    exact hU.chain c1 g1 c2 g2 hne hdd hp1 hp2 ho1 ho2
  · intro x hx hbx hfx hmx
    rcases List.mem_append.1 hx with hx | hx
    · rw [upd_ne own idx (fun hc : x = idx => hnP (hc ▸ hx))]
      by_cases hcl : own x = own (D idx)
      · rw [hcl, hregD]
        have := hfx idx (List.mem_append.2 (Or.inr (List.mem_singleton.2 rfl)))
        exact hK x hx hcl hbx (by omega) hmx
      · rw [hregO _ (hS.ownM x hx) hcl]
        have := hleK x hx hcl
        have := hU.cap x hx hbx (fun y hy => hfx y (List.mem_append.2 (Or.inl hy)))
          (fun hc => hmx (List.mem_append.2 (Or.inl hc)))
        omega
    · rw [List.mem_singleton.1 hx, upd_same, upd_same, h1]; exact Int.le_refl _
  · intro o ho hnpo
    rcases List.mem_append.1 ho with ho | ho
    · by_cases hoo : o = own (D idx)
      · rw [hoo, hregD]; omega
      · rw [hregO o ho hoo]; exact hU.regBig o ho hnpo
    · rw [List.mem_singleton.1 ho, upd_same]; exact hq2

/-! ### the five branches of the loop body -/

/-- branch `idx_ds == idx` (pit) -/
theorem UInv.step_pit {P outs : List Nat} {own : Nat → Nat} {uo reg : Nat → Int}
    (H : AHyp D M A a seq rk) (hS : SInv D M A amin seq rk P outs own)
    (hU : UInv D M A a amin seq rk P outs own uo reg)
    {idx : Nat} (hidx : idx ∈ seq) (hnP : idx ∉ P) (hpit : D idx = idx) :
    UInv D M A a amin seq rk (P ++ [idx]) (outs ++ [idx]) (upd own idx idx) uo (upd reg idx (A idx)) := by
  have hno : idx ∉ outs := fun hc => hnP (hS.sub _ hc)
  have huo : uo idx = A idx := by
    rcases hU.init idx hidx hnP with h | ⟨_, h, _⟩
    · exact h
    · exact absurd hpit h
  refine ⟨?_, ?_, ?_, ?_, ?_, ?_, regE_cut H hS hidx hnP (Or.inl hpit) hU.regE (upd_same _ _ _)
    (fun h => absurd hpit h) (fun o ho _ => upd_ne reg _ (fun hc : o = idx => hno (hc ▸ ho)))⟩
  · intro x hx hxP
    rcases hU.init x hx (fun hc => hxP (List.mem_append.2 (Or.inl hc))) with h | ⟨h1, h2, h3, y, hy, h4⟩
    · exact Or.inl h
    · exact Or.inr ⟨h1, h2, h3, y, List.mem_append.2 (Or.inl hy), h4⟩
  · intro d hd
    rcases List.mem_append.1 hd with hd | hd
    · have := rest_mono H (outs := outs) (outs' := outs ++ [idx]) (fun c hc => List.mem_append.2 (Or.inl hc)) d
      have := hU.low d hd
      omega
    · rw [List.mem_singleton.1 hd, huo]; exact H.rest_le _ hidx
  · intro x hx hxo
    obtain ⟨hx, hxo⟩ := mem_cut hx hxo
    exact hU.trib x hx hxo
  · intro c1 g1 c2 g2 hne hdd hp1 hp2 ho1 ho2
    obtain ⟨g1, ho1⟩ := mem_cut g1 ho1
    obtain ⟨g2, ho2⟩ := mem_cut g2 ho2
    exact hU.chain c1 g1 c2 g2 hne hdd hp1 hp2 ho1 ho2
  · intro x hx hbx hfx hmx
    rcases List.mem_append.1 hx with hx | hx
    · rw [upd_ne own idx (fun hc : x = idx => hnP (hc ▸ hx)),
        upd_ne reg _ (fun hc : own x = idx => hno (hc ▸ hS.ownM x hx))]
      exact hU.cap x hx hbx (fun y hy => hfx y (List.mem_append.2 (Or.inl hy)))
        (fun hc => hmx (List.mem_append.2 (Or.inl hc)))
    · rw [List.mem_singleton.1 hx, upd_same, upd_same, huo]; exact Int.le_refl _
  · intro o ho hnp
    rcases List.mem_append.1 ho with ho | ho
    · rw [upd_ne reg _ (fun hc : o = idx => hno (hc ▸ ho))]; exact hU.regBig o ho hnp
    · rw [List.mem_singleton.1 ho] at hnp; exact absurd hpit hnp

/-- branch `else: upa_out[idx] = upa0` (the cell does not qualify) -/
theorem UInv.step_small {P outs : List Nat} {own : Nat → Nat} {uo reg : Nat → Int}
    (H : AHyp D M A a seq rk) (hS : SInv D M A amin seq rk P outs own)
    (hU : UInv D M A a amin seq rk P outs own uo reg)
    {idx : Nat} (hidx : idx ∈ seq) (hnP : idx ∉ P) (hrkP : ∀ y ∈ P, rk y ≤ rk idx)
    (hd : D idx ∈ P) (hnp : D idx ≠ idx)
    (hB : ¬ (amin < uo (D idx) - A idx ∧ amin < A idx)) :
    UInv D M A a amin seq rk (P ++ [idx]) outs (upd own idx (own (D idx))) (upd uo idx (uo (D idx))) reg := by
  have hno : idx ∉ outs := fun hc => hnP (hS.sub _ hc)
  have htr : amin < A idx → uo (D idx) - A idx ≤ amin := fun hb => Int.not_lt.1 fun hc => hB ⟨hc, hb⟩
  refine hU.nocut H hS hidx hnP hrkP hd hnp (fun x hx => upd_ne uo _ hx)
    (by rw [upd_same]; exact hU.lowOne H hS hd hidx rfl (fun h => hnp h.symm) hno)
    (by rw [upd_same]; exact Int.le_refl _) (fun _ => htr) (fun c hc hco hcd hcp hbc hbi => ?_)
  -- two big siblings `c`, `idx` that are not cut: the budget of `d` covers both, so beside `idx` it leaves at least
  -- `A c > area_min`, and `idx` would have qualified
  have := hU.lowTwo H hS hd (hS.inSeq c hc) hidx (fun h => hnP (h ▸ hc)) hcd
    (fun h => hcp (hcd.trans h.symm)) hco rfl (fun h => hnp h.symm) hno
  have := htr hbi
  omega

/-- branch: qualifies, main stem, `conf` — nothing is written -/
theorem UInv.step_main_conf {P outs : List Nat} {own : Nat → Nat} {uo reg : Nat → Int}
    (H : AHyp D M A a seq rk) (hS : SInv D M A amin seq rk P outs own)
    (hU : UInv D M A a amin seq rk P outs own uo reg)
    {idx : Nat} (hidx : idx ∈ seq) (hnP : idx ∉ P) (hrkP : ∀ y ∈ P, rk y ≤ rk idx)
    (hd : D idx ∈ P) (hnp : D idx ≠ idx)
    (hq2 : amin < A idx) (hmain : M (D idx) = idx) :
    UInv D M A a amin seq rk (P ++ [idx]) outs (upd own idx (own (D idx))) uo reg := by
  have hno : idx ∉ outs := fun hc => hnP (hS.sub _ hc)
  have hlow1 := hU.lowOne H hS hd hidx rfl (fun h => hnp h.symm) hno
  have huo : uo idx = A idx ∨ uo idx = uo (D idx) := by
    rcases hU.init idx hidx hnP with h | ⟨_, _, h, _⟩
    · exact Or.inl h
    · exact Or.inr h
  refine hU.nocut H hS hidx hnP hrkP hd hnp (fun _ _ => rfl) (by rcases huo with h | h <;> omega)
    (by rcases huo with h | h <;> omega) (fun h => absurd hmain h) (fun c hc hco hcd hcp hbc _ => ?_)
  -- a big tributary `c` of the same cell would have been cut: its `trib` bound leaves no room for `idx`
  have hci : c ≠ idx := fun h => hnP (h ▸ hc)
  have := hU.trib c hc hco hcp (by rw [hcd, hmain]; exact fun h => hci h.symm) hbc
  have := hU.lowTwo H hS hd (hS.inSeq c hc) hidx hci hcd (fun h => hcp (hcd.trans h.symm)) hco rfl
    (fun h => hnp h.symm) hno
  rw [hcd] at *
  omega

/-- branch: qualifies, main stem, `not conf` — `idx` becomes an outlet, `upa_out[idx] = upa` -/
theorem UInv.step_main_cut {P outs : List Nat} {own : Nat → Nat} {uo reg : Nat → Int}
    (H : AHyp D M A a seq rk) (hS : SInv D M A amin seq rk P outs own)
    (hU : UInv D M A a amin seq rk P outs own uo reg)
    {idx : Nat} (hidx : idx ∈ seq) (hnP : idx ∉ P) (hrkP : ∀ y ∈ P, rk y ≤ rk idx)
    (hd : D idx ∈ P) (hnp : D idx ≠ idx)
    (hq1 : amin < uo (D idx) - A idx) (hq2 : amin < A idx) (hmain : M (D idx) = idx)
    (hconf : A (D idx) - A idx ≤ amin) :
    UInv D M A a amin seq rk (P ++ [idx]) (outs ++ [idx]) (upd own idx idx) (upd uo idx (A idx))
      (upd (upd reg (own (D idx)) (reg (own (D idx)) - A idx)) idx (A idx)) := by
  have huoP : ∀ x ∈ P, upd uo idx (A idx) x = uo x := fun x hx => upd_ne uo _ (fun hc => hnP (hc ▸ hx))
  have hbd := (hU.cap_parent H hS hidx hnP hrkP hd hnp hq2).2.1
  refine hU.cut_np H hS hidx hnP hrkP hd hnp hq1 hq2 (upd_same _ _ _) ?_ ?_
    (fun x hx _ _ => Int.le_of_eq (huoP _ (hS.closed x hx))) (fun x hx _ => Int.le_of_eq (huoP x hx)) ?_
  · intro x hx hxP
    rw [upd_ne uo _ (fun hc => hxP (List.mem_append.2 (Or.inr (List.mem_singleton.2 hc))))]
    rcases hU.init x hx (fun hc => hxP (List.mem_append.2 (Or.inl hc))) with h | ⟨h1, h2, h3, y, hy, h4⟩
    · exact Or.inl h
    · refine Or.inr ⟨h1, h2, ?_, y, List.mem_append.2 (Or.inl hy), h4⟩
      rw [huoP _ (h4.1 ▸ hS.closed y hy)]; exact h3
  · intro d hdP
    have := rest_mono H (outs := outs) (outs' := outs ++ [idx]) (fun c hc => List.mem_append.2 (Or.inl hc)) d
    have := hU.low d hdP
    rw [huoP d hdP]; omega
  · -- a big cell `x` of the sub-basin at the frontier is `d` itself, whose main upstream cell `idx` is now an outlet,
    -- or a big inflowing cell of `d` beside `idx`, which `not conf` excludes
    intro x hx hcl hbx hrx hmx
    exfalso
    by_cases hxd : x = D idx
    · rw [hxd, hmain] at hmx
      exact hmx (List.mem_append.2 (Or.inr (List.mem_singleton.2 rfl)))
    · have := hrkP x hx
      have := H.rkS idx hidx hnp
      obtain ⟨_, hxD, hxp⟩ := class_child H hS hU hd hx hbd hbx hcl hxd hrx (by omega)
      have := H.two (hS.inSeq _ hd) (hS.inSeq x hx) hidx (fun hc => hnP (hc ▸ hx)) hxD
        (hxD ▸ fun h => hxp h.symm) rfl (fun h => hnp h.symm)
      omega

/-- branch: qualifies, tributary — `idx` becomes an outlet, the budget of the downstream cell and of
its main upstream cell drop by `upa` -/
theorem UInv.step_trib {P outs : List Nat} {own : Nat → Nat} {uo uo' reg : Nat → Int}
    (H : AHyp D M A a seq rk) (hS : SInv D M A amin seq rk P outs own)
    (hU : UInv D M A a amin seq rk P outs own uo reg)
    {idx : Nat} (hidx : idx ∈ seq) (hnP : idx ∉ P) (hrkP : ∀ y ∈ P, rk y ≤ rk idx)
    (hd : D idx ∈ P) (hnp : D idx ≠ idx)
    (hq1 : amin < uo (D idx) - A idx) (hq2 : amin < A idx) (htrib : M (D idx) ≠ idx)
    (h1 : uo' idx = A idx) (h2 : uo' (D idx) = uo (D idx) - A idx)
    (h3 : M (D idx) ∈ seq → uo' (M (D idx)) = uo (D idx) - A idx)
    (h4 : ∀ j, j ≠ idx → j ≠ D idx → j ≠ M (D idx) → uo' j = uo j) :
    UInv D M A a amin seq rk (P ++ [idx]) (outs ++ [idx]) (upd own idx idx) uo'
      (upd (upd reg (own (D idx)) (reg (own (D idx)) - A idx)) idx (A idx)) := by
  have hno : idx ∉ outs := fun hc => hnP (hS.sub _ hc)
  have hdS := hS.inSeq _ hd
  have hA0 := H.A0 idx hidx
  obtain ⟨hmo, hbd, hKd⟩ := hU.cap_parent H hS hidx hnP hrkP hd hnp hq2
  have hnokid := no_kid_of_main H hS hidx hrkP hd hnp
  have hold : ∀ x ∈ P, x ≠ D idx → x ≠ M (D idx) → uo' x = uo x :=
    fun x hx => h4 x (fun hc => hnP (hc ▸ hx))
  refine hU.cut_np H hS hidx hnP hrkP hd hnp hq1 hq2 h1 ?_ ?_ ?_ ?_ ?_
  · intro x hx hxP
    have hxP' : x ∉ P := fun hc => hxP (List.mem_append.2 (Or.inl hc))
    have hxi : x ≠ idx := fun hc => hxP (List.mem_append.2 (Or.inr (List.mem_singleton.2 hc)))
    by_cases hxm : x = M (D idx)
    · -- `m` not yet processed: it now shares the budget of `d`, with the processed sibling `idx` as witness
      subst hxm
      obtain ⟨hm1, hm2⟩ := H.main _ hdS hx
      refine Or.inr ⟨by rw [hm1], by rw [hm1]; exact fun h => hm2 h.symm, ?_, idx,
        List.mem_append.2 (Or.inr (List.mem_singleton.2 rfl)), hm1.symm, by rw [hm1]; exact fun h => hnp h.symm⟩
      rw [hm1, h3 hx, h2]
    · rw [h4 x hxi (fun hc => hxP' (hc ▸ hd)) hxm]
      rcases hU.init x hx hxP' with h | ⟨g1, g2, g3, y, hy, g4⟩
      · exact Or.inl h
      · refine Or.inr ⟨g1, g2, ?_, y, List.mem_append.2 (Or.inl hy), g4⟩
        rw [hold _ (g4.1 ▸ hS.closed y hy) (fun hc => hxm (by rw [← hc]; exact g1.symm))
          (fun hc => g4.2 ((hnokid y hy (g4.1.trans hc)).trans hc.symm))]
        exact g3
  · intro d hdP
    by_cases e2 : d = D idx
    · -- the budget of `d` and its lower bound both lose `A idx`
      rw [e2, h2]
      have := hU.low _ hd
      rw [rest_remove H hidx hno hnp] at this
      omega
    · by_cases e3 : d = M (D idx)
      · -- `m` inherits the new budget of `d`, which still covers the uncut inflow `m` of `d`
        have hmS : M (D idx) ∈ seq := e3 ▸ hS.inSeq d hdP
        obtain ⟨hm1, hm2⟩ := H.main _ hdS hmS
        rw [e3, h3 hmS]
        have g1 := hU.lowTwo H hS hd hmS hidx htrib hm1 hm2 hmo rfl (fun h => hnp h.symm) hno
        have g2 := H.rest_le (outs ++ [idx]) hmS
        omega
      · have := rest_mono H (outs := outs) (outs' := outs ++ [idx]) (fun c hc => List.mem_append.2 (Or.inl hc)) d
        have := hU.low d hdP
        rw [hold d hdP e2 e3]; omega
  · intro x hx _ hpx
    by_cases e2 : D x = D idx
    · rw [e2, h2]; exact Int.sub_le_self _ hA0
    · exact Int.le_of_eq (hold _ (hS.closed x hx) e2 (fun hc => hpx (hc.trans (hnokid x hx hc).symm)))
  · intro x hx hcl
    refine Int.le_of_eq (hold x hx (fun hc => hcl (by rw [hc])) (fun hc => hcl ?_))
    -- `m` is not an outlet, so it lies in the sub-basin of `d`
    rw [hc, hS.ownN _ (hc ▸ hx) hmo, (H.main _ hdS (hc ▸ hS.inSeq x hx)).1]
  · intro x hx hcl hbx hrx hmx
    by_cases hxd : x = D idx
    · rw [hxd, h2]; exact Int.sub_le_sub_right hKd _
    · by_cases hxm : x = M (D idx)
      · rw [hxm, h3 (hxm ▸ hS.inSeq x hx)]; exact Int.sub_le_sub_right hKd _
      · -- any other big cell of the sub-basin at the frontier is a big tributary of `d` that was not cut:
        -- its `trib` bound leaves no room for `idx`
        exfalso
        have := hrkP x hx
        have := H.rkS idx hidx hnp
        obtain ⟨hxo, hxD, hxp⟩ := class_child H hS hU hd hx hbd hbx hcl hxd hrx (by omega)
        have g3 := hU.trib x hx hxo hxp (by rw [hxD]; exact fun h => hxm h.symm) hbx
        have := hU.lowTwo H hS hd (hS.inSeq x hx) hidx (fun hc => hnP (hc ▸ hx)) hxD
          (hxD ▸ fun h => hxp h.symm) hxo rfl (fun h => hnp h.symm) hno
        rw [hxD] at g3
        omega

end
end Pf.C18
