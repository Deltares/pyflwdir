import PfVerif.Proofs.C18PfG
import PfVerif.Proofs.C18PfFresh
/-! Pfafstetter, joint invariant: the `for i, idx in enumerate(idxs_trib0s)` loop (`pfInner`).
Its invariant is the global invariant `PfG` + fresh codes `PfFreshIn` + the remaining tributaries `PfRem`
(unassigned non-main inflows whose confluence carries `pfaf_int_ds` or whose inter-basin outlet was already
returned, sorted from down- to upstream); this file: how `PfRem` passes the two fills of one iteration. -/
namespace Pf.C18
open Pf

/-- the tributaries still to be labelled by the running `pfInner` -/
structure PfRem (ds usMain : Array Nat) (seq : List Nat) (uparea br : Array Int) (idxs : List Nat)
    (intDs : Int) (l : List Nat) : Prop where
  r1 : ∀ t ∈ l, t ∈ seq ∧ ds[t]! ≠ t ∧ br[t]! = 0 ∧ usMain[ds[t]!]! ≠ t ∧ br[ds[t]!]! ≠ 0
  r2 : ∀ t ∈ l, br[ds[t]!]! = intDs ∨ usMain[ds[t]!]! ∈ idxs
  sorted : l.Pairwise (fun a b => uparea[ds[a]!]! ≥ uparea[ds[b]!]!)
  nodup : l.Nodup

variable {ds usMain : Array Nat} {seq : List Nat} {uparea so : Array Int}

theorem labsPos_push {labs : List (Int × Nat)} (h : LabsPos labs) {v : Int} (hv : 0 < v) (b : Prop)
    [Decidable b] (d : Nat) : LabsPos (if b then labs ++ [(v, d)] else labs) := by
  intro e he
  rcases mem_push he with he | ⟨_, rfl⟩
  · exact h e he
  · exact hv

/-- after the sub-basin fill above the head tributary: the others are still unassigned and their confluences
keep their codes -/
theorem PfRem.sub {t : Nat} {rest : List Nat} {br br1 : Array Int} {idxs : List Nat} {intDs v : Int}
    (rem : PfRem ds usMain seq uparea br idxs intDs (t :: rest)) (hint : intDs ≠ 0)
    (hw : ∀ s : Nat, br1[s]! = br[s]! ∨
      (br1[s]! = v ∧ br[s]! = 0 ∧ (s = t ∨ (ds[s]! ≠ s ∧ br[ds[s]!]! = 0)))) :
    PfRem ds usMain seq uparea br1 (idxs ++ [t]) intDs rest := by
  have hkeep : ∀ s : Nat, br[s]! ≠ 0 → br1[s]! = br[s]! := fun s hs =>
    (hw s).elim id fun h => absurd h.2.1 hs
  have hnd := List.nodup_cons.1 rem.nodup
  refine ⟨fun t' ht' => ?_, fun t' ht' => ?_, (List.pairwise_cons.1 rem.sorted).2, hnd.2⟩
  · obtain ⟨a1, a2, a3, a4, a5⟩ := rem.r1 t' (List.mem_cons_of_mem _ ht')
    refine ⟨a1, a2, ?_, a4, by rw [hkeep _ a5]; exact a5⟩
    rcases hw t' with h | ⟨_, _, h | h⟩
    · rw [h]; exact a3
    · exact absurd (h ▸ ht') hnd.1
    · exact absurd h.2 a5
  · rcases rem.r2 t' (List.mem_cons_of_mem _ ht') with h | h
    · left; rw [hkeep _ (by rw [h]; exact hint)]; exact h
    · right; exact List.mem_append_left _ h

/-- after the inter-basin fill `intDs ↦ v` above the confluence `d` of the head tributary: a confluence of another
tributary lies at or above `d` (upstream areas), so it is `d` itself, whose inter-basin outlet `usMain[d]` is now
returned, or it carries `v` now -/
theorem PfRem.int {d : Nat} {rest : List Nat} {br1 br2 : Array Int} {idxs : List Nat} {intDs v : Int}
    (rem : PfRem ds usMain seq uparea br1 idxs intDs rest) (c : PfCtx ds usMain seq uparea)
    (hint : intDs ≠ 0) (hv : v ≠ 0) (hdx : ds[usMain[d]!]! = d)
    (hhead : ∀ t' ∈ rest, uparea[d]! ≥ uparea[ds[t']!]!)
    (hw : ∀ s : Nat, br2[s]! = br1[s]! ∨
      (br2[s]! = v ∧ (s = usMain[d]! ∨ br1[s]! = intDs) ∧ uparea[s]! < uparea[d]!))
    (hreach : ∀ a ∈ seq, br1[a]! = intDs → uparea[a]! ≤ uparea[d]! → a = d ∨ br2[a]! = v) :
    PfRem ds usMain seq uparea br2 (idxs ++ [usMain[d]!]) v rest := by
  refine ⟨fun t' ht' => ?_, fun t' ht' => ?_, rem.sorted, rem.nodup⟩
  · obtain ⟨a1, a2, a3, a4, a5⟩ := rem.r1 t' ht'
    refine ⟨a1, a2, ?_, a4, ?_⟩
    · rcases hw t' with h | ⟨_, h | h, _⟩
      · rw [h]; exact a3
      · exact absurd (by rw [h, hdx]) a4
      · exact absurd (a3 ▸ h).symm hint
    · rcases hw ds[t']! with h | h
      · rw [h]; exact a5
      · rw [h.1]; exact hv
  · rcases rem.r2 t' ht' with h | h
    · rcases hreach _ (c.topo.ds_mem t' (rem.r1 t' ht').1) h (hhead t' ht') with h' | h'
      · right; rw [h']; simp
      · exact Or.inl h'
    · exact Or.inr (List.mem_append_left _ h)

end Pf.C18
