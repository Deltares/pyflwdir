import PfVerif.Model.C15
import PfVerif.Core.Sweep
/-! `adjust_elevation`: the streamline composition argument (traces, the loop invariant over the cell order). -/
namespace Pf.C15
open Pf

theorem topo_height {ds : Array Nat} {seq : List Nat} (h : Topo ds seq) :
    ∃ ht : Nat → Nat, (∀ c ∈ seq, ht c < seq.length) ∧ (∀ c ∈ seq, ds[c]! ≠ c → ht ds[c]! < ht c) := by
  -- the height of `Topo.exists_height` grows downstream: count it from the top
  obtain ⟨ht, h1, h2⟩ := h.exists_height
  refine ⟨fun c => seq.length - 1 - ht c, fun c hc => ?_, fun c hc hne => ?_⟩
  · have := h1 c hc
    dsimp only; omega
  · have := h2 c hc hne
    have := h1 _ (Topo.ds_mem h c hc)
    dsimp only; omega

theorem get!_map {α β : Type} [Inhabited α] [Inhabited β] (g : α → β) (l : List α) (j : Nat)
    (h : j < l.length) : (l.map g)[j]! = g l[j]! := by
  rw [getElem!_pos (l.map g) j (by simpa using h), getElem!_pos l j h]; simp

theorem get!_mem {α : Type} [Inhabited α] (l : List α) (j : Nat) (h : j < l.length) : l[j]! ∈ l := by
  rw [getElem!_pos l j h]; exact List.getElem_mem h

theorem mem_get! {α : Type} [Inhabited α] {l : List α} {c : α} (h : c ∈ l) :
    ∃ j, j < l.length ∧ l[j]! = c := by
  obtain ⟨j, hj, e⟩ := List.mem_iff_getElem.1 h
  exact ⟨j, hj, by rw [getElem!_pos l j hj]; exact e⟩

theorem scatter_size {α : Type} (a : Array α) (p : List Nat) (v : List α) :
    (scatter a p v).size = a.size := by
  unfold scatter
  generalize p.zip v = q
  induction q generalizing a with
  | nil => rfl
  | cons x q ih => simp [List.foldl_cons, ih]

theorem scatter_cons {α : Type} (a : Array α) (c : Nat) (p : List Nat) (x : α) (v : List α) :
    scatter a (c :: p) (x :: v) = scatter (a.setIfInBounds c x) p v := by
  simp [scatter]

theorem scatter_not_mem {α : Type} [Inhabited α] (a : Array α) (p : List Nat) (v : List α) (c : Nat)
    (h : c ∉ p) : (scatter a p v)[c]! = a[c]! := by
  induction p generalizing a v with
  | nil => simp [scatter]
  | cons d p ih =>
    cases v with
    | nil => simp [scatter]
    | cons x v =>
      rw [scatter_cons, ih _ _ (fun hc => h (by simp [hc])), get!_setIfInBounds]
      have : ¬ d = c := fun e => h (by simp [e])
      simp [this]

theorem scatter_get {α : Type} [Inhabited α] (a : Array α) (p : List Nat) (v : List α)
    (hnd : p.Nodup) (hb : ∀ c ∈ p, c < a.size) (j : Nat) (hj : j < p.length) (hjv : j < v.length) :
    (scatter a p v)[p[j]!]! = v[j]! := by
  induction p generalizing a v j with
  | nil => simp at hj
  | cons d p ih =>
    cases v with
    | nil => simp at hjv
    | cons x v =>
      rw [scatter_cons]
      have hnd' := List.nodup_cons.1 hnd
      cases j with
      | zero =>
        simp only [List.getElem!_cons_zero]
        rw [scatter_not_mem _ _ _ _ hnd'.1, get!_setIfInBounds]
        simp [hb d (by simp)]
      | succ j =>
        simp only [List.getElem!_cons_succ]
        exact ih _ _ hnd'.2 (fun c hc => by simpa using hb c (by simp [hc])) j
          (by simpa using hj) (by simpa using hjv)

theorem markAll_size (m : Array Bool) (p : List Nat) : (markAll m p).size = m.size :=
  size_foldl_set (fun _ => true) p m

theorem markAll_get (m : Array Bool) (p : List Nat) (c : Nat) :
    (markAll m p)[c]! = true ↔ m[c]! = true ∨ (c ∈ p ∧ c < m.size) := by
  unfold markAll
  rw [get!_foldl_set (fun _ => true)]
  split <;> simp [*]

/-- what `adjust_elevation` needs to know about a streamline `p` started at `i` -/
structure PathOK (ds : Array Nat) (mask : Array Bool) (S : List Nat) (i : Nat) (p : List Nat) : Prop where
  pos : 0 < p.length
  head : p[0]! = i
  link : ∀ j, j + 1 < p.length → mask[p[j]!]! = false ∧ ds[p[j]!]! ≠ p[j]! ∧ p[j+1]! = ds[p[j]!]!
  last : mask[p[p.length - 1]!]! = true ∨ ds[p[p.length - 1]!]! = p[p.length - 1]!
  nodup : p.Nodup
  sub : ∀ c ∈ p, c ∈ S

theorem PathOK.single {ds : Array Nat} {mask : Array Bool} {S : List Nat} {i : Nat} (hi : i ∈ S)
    (h : mask[i]! = true ∨ ds[i]! = i) : PathOK ds mask S i [i] :=
  ⟨Nat.one_pos, rfl, fun j hj => absurd hj (by simp), h, by simp,
    fun c hc => List.mem_singleton.1 hc ▸ hi⟩

theorem PathOK.cons {ds : Array Nat} {mask : Array Bool} {S : List Nat} {i : Nat} {rest : List Nat} (hi : i ∈ S)
    (hm : mask[i]! = false) (hp : ds[i]! ≠ i) (ok : PathOK ds mask S ds[i]! rest) (hni : i ∉ rest) :
    PathOK ds mask S i (i :: rest) := by
  refine ⟨Nat.succ_pos _, rfl, fun j hj => ?_, ?_, List.nodup_cons.2 ⟨hni, ok.nodup⟩, fun c hc => ?_⟩
  · cases j with
    | zero => exact ⟨hm, hp, ok.head⟩
    | succ j => exact ok.link j (Nat.lt_of_succ_lt_succ hj)
  · have : (i :: rest).length - 1 = (rest.length - 1) + 1 := by have := ok.pos; simp; omega
    rw [this]; exact ok.last
  · rcases List.mem_cons.1 hc with rfl | hc
    · exact hi
    · exact ok.sub c hc

theorem trace_ok (ds : Array Nat) (mask : Array Bool) (S : List Nat) (ht : Nat → Nat)
    (hmem : ∀ c ∈ S, ds[c]! ∈ S) (hbd : ∀ c ∈ S, c < ds.size)
    (hht : ∀ c ∈ S, ds[c]! ≠ c → ht ds[c]! < ht c) :
    ∀ fuel i, i ∈ S → ht i ≤ fuel →
      PathOK ds mask S i (traceMask ds mask fuel i) ∧ ∀ c ∈ traceMask ds mask fuel i, ht c ≤ ht i := by
  have single : ∀ i, i ∈ S → (mask[i]! = true ∨ ds[i]! = i) →
      PathOK ds mask S i [i] ∧ ∀ c ∈ [i], ht c ≤ ht i :=
    fun i hi h => ⟨.single hi h, fun c hc => List.mem_singleton.1 hc ▸ Nat.le_refl _⟩
  intro fuel
  induction fuel with
  | zero =>
    intro i hi hf
    -- no fuel left: the height is `0`, so `i` is a pit
    exact single i hi (Or.inr (Classical.byContradiction fun hne => by have := hht i hi hne; omega))
  | succ fuel ih =>
    intro i hi hf
    unfold traceMask
    by_cases hm : mask[i]! = true
    · rw [if_pos hm]; exact single i hi (Or.inl hm)
    rw [if_neg hm]
    by_cases hp : ds[i]! = i
    · rw [if_pos (Or.inl hp)]; exact single i hi (Or.inr hp)
    have hdsz : ds[i]! ≠ ds.size := Nat.ne_of_lt (hbd _ (hmem i hi))
    rw [if_neg fun h => h.elim hp hdsz]
    have hlt := hht i hi hp
    obtain ⟨ok, hle⟩ := ih ds[i]! (hmem i hi) (by omega)
    refine ⟨.cons hi (by simpa using hm) hp ok fun hin => ?_, fun c hc => ?_⟩
    · -- every cell of the rest lies at most as high as `ds[i]`, hence below `i`: no cell repeats
      exact Nat.not_le.2 hlt (hle i hin)
    · rcases List.mem_cons.1 hc with rfl | hc
      · exact Nat.le_refl _
      · exact Nat.le_trans (hle c hc) (Nat.le_of_lt hlt)

/-! ### the contract of the streamline fixer: five hypotheses -/
def LenKept (f : List Int → List Int) : Prop := ∀ v, (f v).length = v.length
def MonoOut (f : List Int → List Int) : Prop := ∀ v j, j + 1 < v.length → (f v)[j+1]! ≤ (f v)[j]!
def LastKept (f : List Int → List Int) : Prop := ∀ v, 0 < v.length → (f v)[v.length - 1]! = v[v.length - 1]!
def IdOnNonInc (f : List Int → List Int) : Prop :=
  ∀ v, (∀ j, j + 1 < v.length → v[j+1]! ≤ v[j]!) → f v = v
def RangeKept (f : List Int → List Int) : Prop :=
  ∀ v lo hi, (∀ x ∈ v, lo ≤ x ∧ x ≤ hi) → ∀ x ∈ f v, lo ≤ x ∧ x ≤ hi

/-- invariant of the loop of `adjust_elevation` (`st` = elevation, marks of the fixed cells). The marked cells lie
on the network (`msub`) and are closed downstream (`closed`: a marked cell is a pit or drains to a marked cell);
among them the elevation does not rise downstream (`mono`); an unmarked cell still holds its input value (`keep`). -/
structure AInv (ds : Array Nat) (S : List Nat) (elev0 : Array Int) (st : Array Int × Array Bool) : Prop where
  sz1 : st.1.size = elev0.size
  sz2 : st.2.size = elev0.size
  msub : ∀ c : Nat, st.2[c]! = true → c ∈ S
  closed : ∀ c : Nat, st.2[c]! = true → ds[c]! = c ∨ st.2[ds[c]!]! = true
  mono : ∀ c : Nat, st.2[c]! = true → st.1[ds[c]!]! ≤ st.1[c]!
  keep : ∀ c : Nat, st.2[c]! = false → st.1[c]! = elev0[c]!

theorem adjStep_sizes (f : List Int → List Int) (ds : Array Nat) (fuel : Nat) (st : Array Int × Array Bool)
    (i : Nat) : (adjStep f ds fuel st i).1.size = st.1.size ∧ (adjStep f ds fuel st i).2.size = st.2.size := by
  unfold adjStep
  split
  · exact ⟨rfl, rfl⟩
  · exact ⟨scatter_size _ _ _, markAll_size _ _⟩

theorem adjStep_masked (f : List Int → List Int) (ds : Array Nat) (fuel : Nat) (st : Array Int × Array Bool)
    (i : Nat) (h : st.2[i]! = true) : adjStep f ds fuel st i = st := by
  simp [adjStep, h]

section step
variable (f : List Int → List Int) (ds : Array Nat) (S : List Nat) (elev0 : Array Int) (ht : Nat → Nat)
  (hmem : ∀ c ∈ S, ds[c]! ∈ S) (hbd : ∀ c ∈ S, c < ds.size)
  (hht : ∀ c ∈ S, ds[c]! ≠ c → ht ds[c]! < ht c) (hb : ∀ c ∈ S, c < elev0.size)
include hmem hbd hht hb

/-- one executed streamline `p`: the cells off `p` keep their value, the cells of `p` get the fixed profile
and are marked -/
theorem step_facts (hlen : LenKept f) (fuel : Nat) (st : Array Int × Array Bool)
    (hs1 : st.1.size = elev0.size) (hs2 : st.2.size = elev0.size)
    (i : Nat) (hi : i ∈ S) (hfuel : ht i ≤ fuel) (hmi : st.2[i]! = false) :
    ∃ p : List Nat, PathOK ds st.2 S i p ∧
      (∀ c, c ∉ p → (adjStep f ds fuel st i).1[c]! = st.1[c]!) ∧
      (∀ j, j < p.length → (adjStep f ds fuel st i).1[p[j]!]! = (f (p.map (st.1[·]!)))[j]!) ∧
      (∀ c, (adjStep f ds fuel st i).2[c]! = true ↔ st.2[c]! = true ∨ c ∈ p) := by
  obtain ⟨ok, _⟩ := trace_ok ds st.2 S ht hmem hbd hht fuel i hi hfuel
  have heq : adjStep f ds fuel st i = (scatter st.1 (traceMask ds st.2 fuel i)
      (f ((traceMask ds st.2 fuel i).map (st.1[·]!))), markAll st.2 (traceMask ds st.2 fuel i)) := by
    simp [adjStep, hmi]
  rw [heq]
  refine ⟨_, ok, fun c hc => scatter_not_mem _ _ _ _ hc, fun j hj => ?_, fun c => ?_⟩
  · exact scatter_get _ _ _ ok.nodup (fun c hc => by rw [hs1]; exact hb c (ok.sub c hc)) j hj
      (by rw [hlen]; simpa using hj)
  · rw [markAll_get]
    exact or_congr_right ⟨fun h => h.1, fun h => ⟨h, by rw [hs2]; exact hb c (ok.sub c h)⟩⟩

/-- one iteration keeps `AInv`: a streamline ends on a pit or on a cell marked before, the fixer keeps the last
value of the profile, so no cell marked before is moved; along the streamline the fixer's profile is
non-increasing. The start cell ends up marked and no mark is lost. -/
theorem step_inv (hlen : LenKept f) (hmono : MonoOut f) (hlast : LastKept f) (fuel : Nat)
    (st : Array Int × Array Bool) (hinv : AInv ds S elev0 st) (i : Nat) (hi : i ∈ S) (hfuel : ht i ≤ fuel) :
    AInv ds S elev0 (adjStep f ds fuel st i) ∧ (adjStep f ds fuel st i).2[i]! = true ∧
      ∀ c : Nat, st.2[c]! = true → (adjStep f ds fuel st i).2[c]! = true := by
  by_cases hmi : st.2[i]! = true
  · rw [adjStep_masked f ds fuel st i hmi]; exact ⟨hinv, hmi, fun _ h => h⟩
  obtain ⟨p, ok, hout, hin, hmk⟩ :=
    step_facts f ds S elev0 ht hmem hbd hht hb hlen fuel st hinv.sz1 hinv.sz2 i hi hfuel (by simpa using hmi)
  have hsz := adjStep_sizes f ds fuel st i
  generalize adjStep f ds fuel st i = st' at hout hin hmk hsz ⊢
  have hlp : (p.map (st.1[·]!)).length = p.length := List.length_map _
  have hpos := ok.pos
  have hlt : p.length - 1 < p.length := Nat.sub_lt hpos Nat.one_pos
  -- the last cell of the streamline keeps its value
  have hlastv : st'.1[p[p.length - 1]!]! = st.1[p[p.length - 1]!]! := by
    have := hlast (p.map (st.1[·]!)) (hlp ▸ hpos)
    rw [hlp] at this
    rw [hin _ hlt, this, get!_map _ _ _ hlt]
  -- a cell of the streamline is the last one or has its downstream cell on the streamline
  have hcell : ∀ c ∈ p, (c = p[p.length - 1]!) ∨
      (∃ j, j + 1 < p.length ∧ c = p[j]! ∧ st.2[c]! = false ∧ ds[c]! ≠ c ∧ ds[c]! = p[j+1]!) := by
    intro c hc
    obtain ⟨j, hj, e⟩ := mem_get! hc
    by_cases hjl : j + 1 < p.length
    · obtain ⟨l1, l2, l3⟩ := ok.link j hjl
      exact Or.inr ⟨j, hjl, e.symm, e ▸ l1, e ▸ l2, e ▸ l3.symm⟩
    · exact Or.inl (by rw [← e, show j = p.length - 1 by omega])
  -- cells marked before this streamline keep their value
  have hold : ∀ c : Nat, st.2[c]! = true → st'.1[c]! = st.1[c]! := by
    intro c hc
    by_cases hcp : c ∈ p
    · rcases hcell c hcp with e | ⟨j, _, _, hf, _⟩
      · rw [e]; exact hlastv
      · rw [hf] at hc; exact absurd hc (by simp)
    · exact hout c hcp
  -- a marked cell is a pit or has a marked downstream cell, which is not higher
  have key : ∀ c : Nat, st'.2[c]! = true →
      (ds[c]! = c ∨ st'.2[ds[c]!]! = true) ∧ st'.1[ds[c]!]! ≤ st'.1[c]! := by
    intro c hc
    have pit : ds[c]! = c → (ds[c]! = c ∨ st'.2[ds[c]!]! = true) ∧ st'.1[ds[c]!]! ≤ st'.1[c]! :=
      fun h => ⟨Or.inl h, by rw [h]; exact Int.le_refl _⟩
    by_cases h : st.2[c]! = true
    · rcases hinv.closed c h with h1 | h1
      · exact pit h1
      · exact ⟨Or.inr ((hmk _).2 (Or.inl h1)), by rw [hold c h, hold _ h1]; exact hinv.mono c h⟩
    · rcases hcell c (((hmk c).1 hc).resolve_left h) with e | ⟨j, hj, ej, _, _, hd⟩
      · exact pit (e ▸ ok.last.resolve_left (e ▸ h))
      · refine ⟨Or.inr ((hmk _).2 (Or.inr (hd ▸ get!_mem p (j+1) hj))), ?_⟩
        rw [hd, ej, hin _ hj, hin _ (Nat.lt_of_succ_lt hj)]
        exact hmono _ j (hlp.symm ▸ hj)
  refine ⟨⟨hsz.1.trans hinv.sz1, hsz.2.trans hinv.sz2, fun c hc => ((hmk c).1 hc).elim (hinv.msub c) (ok.sub c),
    fun c hc => (key c hc).1, fun c hc => (key c hc).2, fun c hc => ?_⟩,
    (hmk i).2 (Or.inr (ok.head ▸ get!_mem p 0 hpos)), fun c hc => (hmk c).2 (Or.inl hc)⟩
  have h : ¬ (st.2[c]! = true ∨ c ∈ p) := fun h => by rw [(hmk c).2 h] at hc; exact absurd hc (by simp)
  rw [hout c fun hp => h (Or.inr hp)]
  exact hinv.keep c (by simpa using fun h1 => h (Or.inl h1))

end step

theorem fold_pres {σ : Type} (P : σ → Prop) (step : σ → Nat → σ) (S : List Nat) (init : σ) (hinit : P init)
    (hstep : ∀ st i, i ∈ S → P st → P (step st i)) :
    ∀ l : List Nat, (∀ c ∈ l, c ∈ S) → P (l.foldr (fun i st => step st i) init) := by
  intro l
  induction l with
  | nil => intro _; exact hinit
  | cons i l ih =>
    intro hl
    exact hstep _ i (hl i List.mem_cons_self) (ih fun c hc => hl c (List.mem_cons_of_mem _ hc))

section fold
variable (f : List Int → List Int) (ds : Array Nat) (seq : List Nat) (elev : Array Int)
  (htopo : Topo ds seq) (hbd : ∀ i ∈ seq, i < ds.size) (hb : ∀ i ∈ seq, i < elev.size)
include htopo hbd hb

/-- the loop invariant holds at the end, and every cell of the order has been marked -/
theorem adjust_inv (hlen : LenKept f) (hmono : MonoOut f) (hlast : LastKept f) :
    AInv ds seq elev (adjustWith f ds seq elev) ∧ ∀ c ∈ seq, (adjustWith f ds seq elev).2[c]! = true := by
  obtain ⟨ht, h1, h2⟩ := topo_height htopo
  unfold adjustWith
  suffices h : ∀ l : List Nat, (∀ c ∈ l, c ∈ seq) →
      AInv ds seq elev (l.foldr (fun i st => adjStep f ds seq.length st i) (elev, Array.replicate elev.size false)) ∧
      ∀ c ∈ l, (l.foldr (fun i st => adjStep f ds seq.length st i) (elev, Array.replicate elev.size false)).2[c]! = true
    from h seq fun _ h => h
  intro l
  induction l with
  | nil =>
    -- no cell is marked yet
    have hf : ∀ c : Nat, ¬ (Array.replicate elev.size false)[c]! = true :=
      fun c h => absurd ((get!_replicate _ c (.inr rfl)).symm.trans h) (by simp)
    exact fun _ => ⟨⟨rfl, Array.size_replicate, fun c h => absurd h (hf c), fun c h => absurd h (hf c),
      fun c h => absurd h (hf c), fun c _ => rfl⟩, fun c hc => absurd hc List.not_mem_nil⟩
  | cons i l ih =>
    intro hl
    obtain ⟨g1, g2⟩ := ih fun c hc => hl c (List.mem_cons_of_mem _ hc)
    have hi := hl i List.mem_cons_self
    obtain ⟨k1, k2, k3⟩ := step_inv f ds seq elev ht (Topo.ds_mem htopo) hbd h2 hb hlen hmono hlast seq.length _ g1 i
      hi (Nat.le_of_lt (h1 i hi))
    refine ⟨k1, fun c hc => ?_⟩
    rcases List.mem_cons.1 hc with rfl | h
    · exact k2
    · exact k3 c (g2 c h)

/-- a property of the elevation array that every executed streamline preserves holds of the result; the
streamline `p` is described by what `step_facts` gives -/
theorem adjust_elev (hlen : LenKept f) (P : Array Int → Prop) (h0 : P elev)
    (hstep : ∀ (a a' : Array Int) (m : Array Bool) (i : Nat) (p : List Nat), a.size = elev.size → a'.size = a.size →
      P a → PathOK ds m seq i p → (∀ c, c ∉ p → a'[c]! = a[c]!) →
      (∀ j, j < p.length → a'[p[j]!]! = (f (p.map (a[·]!)))[j]!) → P a') :
    P (adjustWith f ds seq elev).1 := by
  obtain ⟨ht, h1, h2⟩ := topo_height htopo
  refine (fold_pres
    (fun st : Array Int × Array Bool => st.1.size = elev.size ∧ st.2.size = elev.size ∧ P st.1)
    (fun st i => adjStep f ds seq.length st i) seq (elev, Array.replicate elev.size false)
    ⟨rfl, Array.size_replicate, h0⟩ (fun st i hi ⟨s1, s2, hP⟩ => ?_) seq (fun _ h => h)).2.2
  have hsz := adjStep_sizes f ds seq.length st i
  refine ⟨hsz.1.trans s1, hsz.2.trans s2, ?_⟩
  by_cases hmi : st.2[i]! = true
  · rw [adjStep_masked f ds _ st i hmi]; exact hP
  obtain ⟨p, ok, hout, hin, _⟩ := step_facts f ds seq elev ht (Topo.ds_mem htopo) hbd h2 hb hlen seq.length st
    s1 s2 i hi (Nat.le_of_lt (h1 i hi)) (by simpa using hmi)
  exact hstep st.1 _ st.2 i p s1 hsz.1 hP ok hout hin

end fold

end Pf.C15
