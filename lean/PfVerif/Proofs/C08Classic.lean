import PfVerif.Model.C08
import PfVerif.Proofs.C04
/-! The classic stream order (C08): recurrence, path relation `ClassicOrd`, the downstream walk; `IsInflow`. -/
namespace Pf

/-- 1 if the step from `i` to `d` joins a confluence (`nup[d] > 1`) from a branch that is not the main one, else 0 -/
def nonMain (nup : Array Int) (usMain : Array Nat) (d i : Nat) : Nat :=
  if nup[d]! > 1 ∧ usMain[d]! ≠ i then 1 else 0

theorem classicOrderWith_rec (ds : Array Nat) (seq : List Nat) (usMain : Array Nat) (nup : Array Int)
    (mask : Option (Array Bool)) (htopo : Topo ds seq) (hb : ∀ i ∈ seq, i < ds.size) :
    (∀ i ∈ seq, (classicOrderWith ds seq usMain nup mask)[i]! =
      if maskAt mask i = false then 0
      else if ds[i]! = i then 1
      else (classicOrderWith ds seq usMain nup mask)[ds[i]!]! + nonMain nup usMain ds[i]! i) ∧
    (∀ i, i ∉ seq → (classicOrderWith ds seq usMain nup mask)[i]! = 0) := by
  obtain ⟨h1, h2⟩ := sweepDown_rec ds (gClassic ds nup usMain mask) (Array.replicate ds.size 0) seq htopo
    (fun i hi => by simpa using hb i hi)
  constructor
  · intro i hi
    have := h1 i hi
    unfold classicOrderWith
    rw [this]
    simp only [gClassic, nonMain, get!_replicate (a := (0 : Nat)) _ _ (.inr rfl)]
    by_cases hm : maskAt mask i = true
    · by_cases hp : ds[i]! = i
      · simp [hm, hp]
      · by_cases hc : nup[ds[i]!]! > 1 ∧ usMain[ds[i]!]! ≠ i
        · simp [hm, hp, hc]
        · simp only [hm, hp, hc, if_false, Bool.not_true, Bool.false_eq_true]; simp
    · simp [hm]
  · intro i hi
    unfold classicOrderWith
    rw [h2 i hi, get!_replicate (a := (0 : Nat)) _ _ (.inr rfl)]

/-- `ClassicOrd … i v`: `v` is 1 + the number of non-main confluence steps on the way from `i` to its
pit (0 as soon as the path leaves the mask). -/
inductive ClassicOrd (ds : Array Nat) (mask : Option (Array Bool)) (nm : Nat → Nat → Nat) : Nat → Nat → Prop
  | off (i : Nat) : maskAt mask i = false → ClassicOrd ds mask nm i 0
  | pit (i : Nat) : maskAt mask i = true → ds[i]! = i → ClassicOrd ds mask nm i 1
  | down (i w : Nat) : maskAt mask i = true → ds[i]! ≠ i → ClassicOrd ds mask nm ds[i]! w →
      ClassicOrd ds mask nm i (w + nm ds[i]! i)

theorem ClassicOrd.unique {ds : Array Nat} {mask : Option (Array Bool)} {nm : Nat → Nat → Nat}
    {i v w : Nat} (h1 : ClassicOrd ds mask nm i v) (h2 : ClassicOrd ds mask nm i w) : v = w := by
  induction h1 generalizing w with
  | off i hm =>
    cases h2 with
    | off _ _ => rfl
    | pit _ hm' _ => simp [hm] at hm'
    | down _ _ hm' _ _ => simp [hm] at hm'
  | pit i hm hp =>
    cases h2 with
    | off _ hm' => simp [hm] at hm'
    | pit _ _ _ => rfl
    | down _ _ _ hp' _ => exact absurd hp hp'
  | down i v hm hp _ ih =>
    cases h2 with
    | off _ hm' => simp [hm] at hm'
    | pit _ _ hp' => exact absurd hp' hp
    | down _ w' _ _ h' => rw [ih h']

theorem classicWalk_sound (ds : Array Nat) (mask : Option (Array Bool)) (nup main : Nat → Nat) :
    ∀ fuel i v, classicWalk ds mask nup main fuel i = some v →
      ClassicOrd ds mask (fun d i => if nup d > 1 ∧ main d ≠ i then 1 else 0) i v := by
  intro fuel
  induction fuel with
  | zero => intro i v h; simp [classicWalk] at h
  | succ f ih =>
    intro i v h
    simp only [classicWalk] at h
    by_cases hm : maskAt mask i = true
    · by_cases hp : ds[i]! = i
      · simp only [hm, hp, Bool.not_true, Bool.false_eq_true, if_false, if_true, Option.some.injEq] at h
        subst h; exact ClassicOrd.pit i hm hp
      · simp only [hm, hp, Bool.not_true, Bool.false_eq_true, if_false, Option.map_eq_some_iff] at h
        obtain ⟨w, hw, rfl⟩ := h
        exact ClassicOrd.down i w hm hp (ih _ _ hw)
    · have hm' : maskAt mask i = false := by simpa using hm
      simp only [hm', Bool.not_false, if_true, Option.some.injEq] at h
      subst h; exact ClassicOrd.off i hm'

/-- number of non-main confluence steps among the first `k` steps downstream of `i` -/
def nonMainSteps (ds : Array Nat) (nm : Nat → Nat → Nat) : Nat → Nat → Nat
  | 0, _ => 0
  | k+1, i => nm ds[i]! i + nonMainSteps ds nm k ds[i]!

/-- `j` drains into `d` (and is not a pit or a missing cell) -/
def IsInflow (ds : Array Nat) (j d : Nat) : Prop := ds[j]! = d ∧ ds[j]! ≠ j ∧ ds[j]! ≠ ds.size

end Pf
