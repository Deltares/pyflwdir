import PfVerif.Model.C02
import PfVerif.Proofs.C01
/-! Lemmas for C02: the `to_array` loops cell by cell, finite table checks, round trip of a raster network through
each format, the canonical form of a re-exported raster, and the reading of a code through its meaning. -/
namespace Pf.Fd
open Pf Spec

/-- index into the flattened 3×3 `_ds` table -/
def tabIdx (dr dc : Int) : Nat := ((dr + 1) * 3 + (dc + 1)).toNat

/-- unless a link leaves the 8-neighbourhood (then it raises), the loop of `to_array` writes, cell by cell, the
table entry of the link's delta and skips the cells outside the network -/
theorem toArrayLoop_ok (tab : Array Nat) (ncol : Nat) (ds : Array Nat) :
    ∀ (l : List Nat) (flw : Array Nat),
      (∀ i ∈ l, ds[i]! ≠ ds.size → in8 (drOf ncol i ds[i]!) (dcOf ncol i ds[i]!) = true) →
      toArrayLoop tab ncol ds l flw = .ok (l.foldl (fun a k => if ds[k]! == ds.size then a else
        a.setIfInBounds k tab[tabIdx (drOf ncol k ds[k]!) (dcOf ncol k ds[k]!)]!) flw) := by
  intro l
  induction l with
  | nil => intro flw _; rfl
  | cons k l ih =>
    intro flw h
    have ih' := fun flw' => ih flw' (fun i hi => h i (List.mem_cons_of_mem _ hi))
    unfold toArrayLoop
    rw [List.foldl_cons]
    by_cases hmv : ds[k]! = ds.size
    · rw [if_pos hmv, if_pos (beq_iff_eq.2 hmv)]; exact ih' flw
    · rw [if_neg hmv, if_pos (h k (List.mem_cons_self ..) hmv), if_neg (fun e => hmv (beq_iff_eq.1 e))]; exact ih' _

theorem toArrayLoop_err (tab : Array Nat) (ncol : Nat) (ds : Array Nat) :
    ∀ (l : List Nat) (flw : Array Nat), (∃ i ∈ l, ds[i]! ≠ ds.size ∧ in8 (drOf ncol i ds[i]!) (dcOf ncol i ds[i]!) = false) →
      toArrayLoop tab ncol ds l flw = .error "ValueError" := by
  intro l
  induction l with
  | nil => intro flw ⟨i, hi, _⟩; simp at hi
  | cons idx0 rest ih =>
    intro flw ⟨i, hi, hne, hbad⟩
    unfold toArrayLoop
    by_cases hmv : ds[idx0]! = ds.size
    · simp only [hmv, if_true]
      rcases List.mem_cons.1 hi with rfl | hi'
      · exact absurd hmv hne
      · exact ih flw ⟨i, hi', hne, hbad⟩
    · simp only [hmv, if_false]
      by_cases hin : in8 (drOf ncol idx0 ds[idx0]!) (dcOf ncol idx0 ds[idx0]!) = true
      · simp only [hin, if_true]
        rcases List.mem_cons.1 hi with rfl | hi'
        · rw [hin] at hbad; cases hbad
        · exact ih _ ⟨i, hi', hne, hbad⟩
      · simp [hin]

/-- `to_array` of a table format succeeds when every link joins 8-neighbours, and then writes cell by cell -/
theorem toArrayTab_ok (tab : Array Nat) (mv ncol : Nat) (ds : Array Nat)
    (h : ∀ i, i < ds.size → ds[i]! ≠ ds.size → in8 (drOf ncol i ds[i]!) (dcOf ncol i ds[i]!) = true) :
    ∃ out, toArrayTab tab mv ncol ds = .ok out ∧ out.size = ds.size ∧
      ∀ i, i < ds.size → out[i]! = if ds[i]! = ds.size then mv
        else tab[tabIdx (drOf ncol i ds[i]!) (dcOf ncol i ds[i]!)]! := by
  obtain ⟨hs, hg⟩ := foldl_range_write (fun k => ds[k]! == ds.size)
    (fun k => tab[tabIdx (drOf ncol k ds[k]!) (dcOf ncol k ds[k]!)]!) (Array.replicate ds.size mv) ds.size (by simp)
  refine ⟨_, toArrayLoop_ok tab ncol ds _ _ (fun i hi => h i (List.mem_range.1 hi)), by simpa using hs,
    fun i hi => ?_⟩
  rw [hg i]
  simp [hi]

/-! ### finite table checks -/

/-- decidable check that the 3×3 `_ds` table inverts the compass table: the entry for a delta is a legal
code other than nodata, a pit code exactly for delta (0,0), and otherwise the code of that delta -/
def encOK (tab : Array Nat) (dirs : List (Nat × (Int × Int))) (pits : List Nat) (mv : Nat) : Bool :=
  [(-1 : Int), 0, 1].all fun dr => [(-1 : Int), 0, 1].all fun dc =>
    let v := tab[tabIdx dr dc]!
    v != mv && (alphabet dirs pits mv).contains v &&
    (if dr = 0 ∧ dc = 0 then pits.contains v else !pits.contains v && dirs.lookup v == some (dr, dc))

theorem encOK_spec {tab : Array Nat} {dirs : List (Nat × (Int × Int))} {pits : List Nat} {mv : Nat}
    (h : encOK tab dirs pits mv = true) (dr dc : Int) (hin : in8 dr dc = true) :
    tab[tabIdx dr dc]! ≠ mv ∧ tab[tabIdx dr dc]! ∈ alphabet dirs pits mv ∧
    (dr = 0 ∧ dc = 0 → tab[tabIdx dr dc]! ∈ pits) ∧
    (¬ (dr = 0 ∧ dc = 0) → tab[tabIdx dr dc]! ∉ pits ∧ dirs.lookup tab[tabIdx dr dc]! = some (dr, dc)) := by
  simp only [in8, Bool.and_eq_true, decide_eq_true_eq] at hin
  have hdr : dr ∈ [(-1 : Int), 0, 1] := by simp; omega
  have hdc : dc ∈ [(-1 : Int), 0, 1] := by simp; omega
  have := List.all_eq_true.1 (List.all_eq_true.1 h dr hdr) dc hdc
  simp only [Bool.and_eq_true, bne_iff_ne, ne_eq, List.contains_iff_mem] at this
  obtain ⟨⟨h1, h2⟩, h3⟩ := this
  refine ⟨h1, h2, ?_, ?_⟩
  · intro h0; rw [if_pos h0] at h3; simpa using h3
  · intro h0; rw [if_neg h0] at h3
    simp only [Bool.and_eq_true, Bool.not_eq_true', beq_iff_eq] at h3
    refine ⟨?_, h3.2⟩
    intro hm
    have : pits.contains tab[tabIdx dr dc]! = true := by simpa using hm
    rw [this] at h3; simp at h3

/-- decidable check used for the canonical form: every direction code of the compass table has a delta in
the 8-neighbourhood other than (0,0), and the `_ds` table holds that code at that delta -/
def canonOK (tab : Array Nat) (dirs : List (Nat × (Int × Int))) (pits : List Nat) (mv pit0 : Nat) : Bool :=
  tab[tabIdx 0 0]! == pit0 &&
  (alphabet dirs pits mv).all fun v =>
    match dirs.lookup v with
    | some d => in8 d.1 d.2 && tab[tabIdx d.1 d.2]! == v && d != (0, 0)
    | none => true

/-! ### round trip -/

theorem drdc_self (ncol i : Nat) : drOf ncol i i = 0 ∧ dcOf ncol i i = 0 := by
  unfold drOf dcOf; omega

theorem eq_of_rowcol_eq {ncol i j : Nat} (h1 : drOf ncol i j = 0) (h2 : dcOf ncol i j = 0) : j = i := by
  unfold drOf at h1
  unfold dcOf at h2
  have e1 : j / ncol = i / ncol := by omega
  have e2 : j % ncol = i % ncol := by omega
  rw [← Nat.div_add_mod j ncol, ← Nat.div_add_mod i ncol, e1, e2]

/-- a reading that designates, cell by cell, the links of a raster network has that network as its graph -/
theorem graph_eq_of_reads {nrow ncol : Nat} {ds : Array Nat} {read : Nat → Code} (hnet : RasterNet nrow ncol ds)
    (hnd : ∀ i, i < nrow * ncol → ds[i]! = nrow * ncol → read i = .nodata)
    (hpit : ∀ i, i < nrow * ncol → ds[i]! = i → read i = .pit)
    (hto : ∀ i, i < nrow * ncol → ds[i]! ≠ nrow * ncol → ds[i]! ≠ i →
      read i = .to ((ds[i]! / ncol : Nat) : Int) ((ds[i]! % ncol : Nat) : Int)) :
    graph nrow ncol read = ds := by
  have hvalid : ∀ j, j < nrow * ncol → ds[j]! ≠ nrow * ncol → read j ≠ .nodata := by
    intro j hj hne h
    by_cases hp : ds[j]! = j
    · rw [hpit j hj hp] at h; cases h
    · rw [hto j hj hne hp] at h; cases h
  apply array_ext_get! (by rw [graph_size, hnet.size])
  intro i hi
  rw [graph_size] at hi
  rw [graph_get _ _ _ _ hi]
  obtain ⟨hle, hcl⟩ := hnet.closed i hi
  by_cases hmv : ds[i]! = nrow * ncol
  · simp [dsOf, hnd i hi hmv, hmv]
  · by_cases hp : ds[i]! = i
    · simp [dsOf, hpit i hi hp, hp]
    · have hjlt : ds[i]! < nrow * ncol := by omega
      -- the target is a cell of the network (closedness), hence not nodata
      have hv := hvalid _ hjlt (by have := hcl hjlt; omega)
      unfold dsOf
      rw [hto i hi hmv hp]
      dsimp only
      rw [inRaster_self hjlt, cellIdx_self]
      simp [hv]

/-- exporting a raster network whose links join 8-neighbours writes a legal
raster whose declarative graph is the network itself -/
theorem tab_roundtrip {tab : Array Nat} {dirs : List (Nat × (Int × Int))} {pits : List Nat} {mv : Nat}
    (henc : encOK tab dirs pits mv = true) (nrow ncol : Nat) (ds : Array Nat)
    (hnet : RasterNet nrow ncol ds) (hl : D8links ncol ds) :
    ∃ codes, toArrayTab tab mv ncol ds = .ok codes ∧ codes.size = nrow * ncol ∧
      (∀ i, i < nrow * ncol → codes[i]! ∈ alphabet dirs pits mv) ∧
      graph nrow ncol (readTab dirs pits mv ncol codes) = ds := by
  have hsz := hnet.size
  have h8 : ∀ i, i < ds.size → ds[i]! ≠ ds.size → in8 (drOf ncol i ds[i]!) (dcOf ncol i ds[i]!) = true := by
    intro i hi hne
    have hle := (hnet.closed i (by omega)).1
    have := hl i hi (by omega)
    simp only [in8, Bool.and_eq_true, decide_eq_true_eq]
    omega
  obtain ⟨codes, e1, e2, e3⟩ := toArrayTab_ok tab mv ncol ds h8
  -- the code written at a cell of the network, and what `encOK` says about it
  have hcode : ∀ i, i < nrow * ncol → ds[i]! ≠ nrow * ncol →
      codes[i]! = tab[tabIdx (drOf ncol i ds[i]!) (dcOf ncol i ds[i]!)]! ∧
      in8 (drOf ncol i ds[i]!) (dcOf ncol i ds[i]!) = true := by
    intro i hi hmv
    rw [e3 i (by omega), if_neg (by omega)]
    exact ⟨rfl, h8 i (by omega) (by omega)⟩
  refine ⟨codes, e1, by omega, fun i hi => ?_, graph_eq_of_reads hnet (fun i hi hmv => ?_) (fun i hi hp => ?_)
    (fun i hi hmv hp => ?_)⟩
  · by_cases hmv : ds[i]! = nrow * ncol
    · rw [e3 i (by omega), if_pos (by omega)]; exact mv_mem_alphabet dirs pits mv
    · obtain ⟨hc, hin⟩ := hcode i hi hmv
      rw [hc]; exact (encOK_spec henc _ _ hin).2.1
  · exact readTab_nodata (by rw [e3 i (by omega), if_pos (by omega)])
  · obtain ⟨hc, hin⟩ := hcode i hi (by omega)
    obtain ⟨f1, _, f3, _⟩ := encOK_spec henc _ _ hin
    rw [← hc] at f1 f3
    exact readTab_pit f1 (f3 (by rw [hp]; exact drdc_self ncol i))
  · obtain ⟨hc, hin⟩ := hcode i hi hmv
    obtain ⟨f1, _, _, f4⟩ := encOK_spec henc _ _ hin
    rw [← hc] at f1 f4
    obtain ⟨g1, g2⟩ := f4 (fun h0 => hp (eq_of_rowcol_eq h0.1 h0.2))
    rw [readTab_dir f1 g1 g2]
    congr 1 <;> simp only [drOf, dcOf] <;> omega

/-! ### NEXTXY export -/

def xyCellX (ncol : Nat) (ds : Array Nat) (i : Nat) : Int :=
  if ds[i]! = ds.size then xyMv else if i = ds[i]! then xyPv0 else ((ds[i]! % ncol : Nat) : Int) + 1
def xyCellY (ncol : Nat) (ds : Array Nat) (i : Nat) : Int :=
  if ds[i]! = ds.size then xyMv else if i = ds[i]! then xyPv0 else ((ds[i]! / ncol : Nat) : Int) + 1

theorem toXYStep_eq (ncol : Nat) (ds : Array Nat) (st : Array Int × Array Int) (k : Nat) :
    toXYStep ncol ds st k =
      (if ds[k]! == ds.size then st.1 else
        st.1.setIfInBounds k (if k = ds[k]! then xyPv0 else ((ds[k]! % ncol : Nat) : Int) + 1),
       if ds[k]! == ds.size then st.2 else
        st.2.setIfInBounds k (if k = ds[k]! then xyPv0 else ((ds[k]! / ncol : Nat) : Int) + 1)) := by
  dsimp only [toXYStep]
  by_cases h1 : ds[k]! = ds.size
  · rw [if_pos h1, if_pos (beq_iff_eq.2 h1), if_pos (beq_iff_eq.2 h1)]
  · rw [if_neg h1, if_neg (fun e => h1 (beq_iff_eq.1 e)), if_neg (fun e => h1 (beq_iff_eq.1 e))]
    by_cases h2 : k = ds[k]!
    · rw [if_pos h2, if_pos h2, if_pos h2]
    · rw [if_neg h2, if_neg h2, if_neg h2]

/-- sizes and cell-wise values of the two exported layers -/
theorem toArrayXY_get (ncol : Nat) (ds : Array Nat) :
    (toArrayXY ncol ds).1.size = ds.size ∧ (toArrayXY ncol ds).2.size = ds.size ∧
    ∀ i, i < ds.size → (toArrayXY ncol ds).1[i]! = xyCellX ncol ds i ∧ (toArrayXY ncol ds).2[i]! = xyCellY ncol ds i := by
  have hx := foldl_range_write (fun k => ds[k]! == ds.size)
    (fun k => if k = ds[k]! then xyPv0 else ((ds[k]! % ncol : Nat) : Int) + 1) (Array.replicate ds.size xyMv) ds.size (by simp)
  have hy := foldl_range_write (fun k => ds[k]! == ds.size)
    (fun k => if k = ds[k]! then xyPv0 else ((ds[k]! / ncol : Nat) : Int) + 1) (Array.replicate ds.size xyMv) ds.size (by simp)
  have h1 : ∀ (st : Array Int × Array Int), ((List.range ds.size).foldl (toXYStep ncol ds) st).1 = _ := fun st =>
    (List.foldl_hom Prod.fst (g₂ := fun a k => if ds[k]! == ds.size then a else
      a.setIfInBounds k (if k = ds[k]! then xyPv0 else ((ds[k]! % ncol : Nat) : Int) + 1))
      (fun st k => by rw [toXYStep_eq])).symm
  have h2 : ∀ (st : Array Int × Array Int), ((List.range ds.size).foldl (toXYStep ncol ds) st).2 = _ := fun st =>
    (List.foldl_hom Prod.snd (g₂ := fun a k => if ds[k]! == ds.size then a else
      a.setIfInBounds k (if k = ds[k]! then xyPv0 else ((ds[k]! / ncol : Nat) : Int) + 1))
      (fun st k => by rw [toXYStep_eq])).symm
  unfold toArrayXY
  rw [h1, h2]
  refine ⟨by simpa using hx.1, by simpa using hy.1, fun i hi => ?_⟩
  rw [hx.2 i, hy.2 i]
  unfold xyCellX xyCellY
  simp [hi]

/-- the declarative graph of the NEXTXY export of a raster network is the network
(no condition on the links) -/
theorem xy_roundtrip (nrow ncol : Nat) (ds : Array Nat) (hnet : RasterNet nrow ncol ds) :
    graph nrow ncol (readXY (toArrayXY ncol ds).1 (toArrayXY ncol ds).2) = ds := by
  have hsz := hnet.size
  obtain ⟨_, _, hget⟩ := toArrayXY_get ncol ds
  refine graph_eq_of_reads hnet (fun i hi hmv => ?_) (fun i hi hp => ?_) (fun i hi hmv hp => ?_)
  · rw [readXY_nodata_iff, (hget i (by omega)).1, xyCellX, if_pos (by omega)]; rfl
  · rw [readXY_pit_iff, (hget i (by omega)).1, xyCellX, if_neg (by omega), if_pos hp.symm]; decide
  · obtain ⟨hx, hy⟩ := hget i (by omega)
    rw [readXY_to_iff, hx, hy, xyCellX, xyCellY, if_neg (by omega), if_neg (fun e => hp e.symm), if_neg (by omega),
      if_neg (fun e => hp e.symm)]
    simp only [xyNodata, xyPits, List.mem_cons, List.mem_nil_iff, or_false]
    omega

/-! ### canonical form, links of decoded graphs -/

theorem canonOK_spec {tab : Array Nat} {dirs : List (Nat × (Int × Int))} {pits : List Nat} {mv pit0 : Nat}
    (h : canonOK tab dirs pits mv pit0 = true) :
    tab[tabIdx 0 0]! = pit0 ∧
    ∀ v, v ∈ alphabet dirs pits mv → ∀ d, dirs.lookup v = some d →
      in8 d.1 d.2 = true ∧ tab[tabIdx d.1 d.2]! = v ∧ d ≠ (0, 0) := by
  simp only [canonOK, Bool.and_eq_true, beq_iff_eq] at h
  refine ⟨h.1, ?_⟩
  intro v hv d hd
  have := List.all_eq_true.1 h.2 v hv
  rw [hd] at this
  simp only [Bool.and_eq_true, beq_iff_eq, bne_iff_ne, ne_eq] at this
  exact ⟨this.1.1, this.1.2, this.2⟩

/-- a link of the graph of a legal table raster: outside the graph, a self-link, or the link to the
8-neighbour with the delta of the cell's code -/
theorem tab_graph_link {tab : Array Nat} {dirs : List (Nat × (Int × Int))} {pits : List Nat} {mv pit0 : Nat}
    (hcan : canonOK tab dirs pits mv pit0 = true) (nrow ncol : Nat) (codes : Array Nat)
    (hlegal : ∀ i, i < nrow * ncol → codes[i]! ∈ alphabet dirs pits mv) (i : Nat) (hi : i < nrow * ncol) :
    let j := dsOf nrow ncol (readTab dirs pits mv ncol codes) i
    j = nrow * ncol ∨ j = i ∨
    (j < nrow * ncol ∧ j ≠ i ∧ in8 (drOf ncol i j) (dcOf ncol i j) = true ∧
      tab[tabIdx (drOf ncol i j) (dcOf ncol i j)]! = codes[i]!) := by
  intro j
  rcases dsOf_cases nrow ncol (readTab dirs pits mv ncol codes) i with ⟨_, e⟩ | ⟨_, e⟩ | ⟨r, c, hr, hin, _, e⟩
  · exact Or.inl e
  · exact Or.inr (Or.inl e)
  · right; right
    obtain ⟨_, _, d, hd, er, ec⟩ := readTab_to hr
    obtain ⟨f1, f2, f3⟩ := (canonOK_spec hcan).2 _ (hlegal i hi) d hd
    obtain ⟨_, hlt, e3, e4⟩ := cellIdx_of_inRaster hin
    have hdr : drOf ncol i j = d.1 := by
      show drOf ncol i (dsOf nrow ncol (readTab dirs pits mv ncol codes) i) = d.1
      rw [e]; unfold drOf; rw [e3, er]; omega
    have hdc : dcOf ncol i j = d.2 := by
      show dcOf ncol i (dsOf nrow ncol (readTab dirs pits mv ncol codes) i) = d.2
      rw [e]; unfold dcOf; rw [e4, ec]; omega
    refine ⟨by show dsOf nrow ncol _ i < _; rw [e]; exact hlt, ?_, by rw [hdr, hdc]; exact f1, by rw [hdr, hdc]; exact f2⟩
    intro hji
    apply f3
    have h1 : drOf ncol i j = 0 := by rw [hji]; unfold drOf; omega
    have h2 : dcOf ncol i j = 0 := by rw [hji]; unfold dcOf; omega
    exact Prod.ext (by rw [← hdr, h1]) (by rw [← hdc, h2])

/-- exporting the decoded graph of a legal raster to its own format gives the
documented canonical form of the raster -/
theorem tab_canon {tab : Array Nat} {dirs : List (Nat × (Int × Int))} {pits : List Nat} {mv pit0 : Nat}
    (hcan : canonOK tab dirs pits mv pit0 = true) (nrow ncol : Nat) (codes : Array Nat)
    (hlegal : ∀ i, i < nrow * ncol → codes[i]! ∈ alphabet dirs pits mv) :
    toArrayTab tab mv ncol (graph nrow ncol (readTab dirs pits mv ncol codes)) =
      .ok (canonTab pit0 mv nrow ncol (readTab dirs pits mv ncol codes) codes) ∧
    D8links ncol (graph nrow ncol (readTab dirs pits mv ncol codes)) := by
  have hsz := graph_size nrow ncol (readTab dirs pits mv ncol codes)
  have hget := graph_get nrow ncol (readTab dirs pits mv ncol codes)
  have h8 : ∀ i, i < (graph nrow ncol (readTab dirs pits mv ncol codes)).size →
      (graph nrow ncol (readTab dirs pits mv ncol codes))[i]! ≠ (graph nrow ncol (readTab dirs pits mv ncol codes)).size →
      in8 (drOf ncol i (graph nrow ncol (readTab dirs pits mv ncol codes))[i]!)
        (dcOf ncol i (graph nrow ncol (readTab dirs pits mv ncol codes))[i]!) = true := by
    intro i hi hne
    rw [hsz] at hi hne
    rw [hget i hi] at hne ⊢
    rcases tab_graph_link hcan nrow ncol codes hlegal i hi with h | h | ⟨_, _, h, _⟩
    · exact absurd h hne
    · rw [h, (drdc_self ncol i).1, (drdc_self ncol i).2]; rfl
    · exact h
  constructor
  · obtain ⟨out, e1, e2, e3⟩ := toArrayTab_ok tab mv ncol _ h8
    rw [e1]
    congr 1
    apply array_ext_get! (by rw [e2, hsz]; simp [canonTab])
    intro i hi
    rw [e2, hsz] at hi
    rw [e3 i (by rw [hsz]; exact hi), hsz, hget i hi]
    have hc : (canonTab pit0 mv nrow ncol (readTab dirs pits mv ncol codes) codes)[i]! =
        if dsOf nrow ncol (readTab dirs pits mv ncol codes) i = nrow * ncol then mv
        else if dsOf nrow ncol (readTab dirs pits mv ncol codes) i = i then pit0 else codes[i]! := by
      simp [canonTab, hi]
    rw [hc]
    rcases tab_graph_link hcan nrow ncol codes hlegal i hi with h | h | ⟨hlt, hne, _, h⟩
    · rw [if_pos h, if_pos h]
    · have hn : ¬ (dsOf nrow ncol (readTab dirs pits mv ncol codes) i = nrow * ncol) := by omega
      rw [if_neg hn, if_neg hn, if_pos h, h, (drdc_self ncol i).1, (drdc_self ncol i).2]
      exact (canonOK_spec hcan).1
    · have hn : ¬ (dsOf nrow ncol (readTab dirs pits mv ncol codes) i = nrow * ncol) := by omega
      rw [if_neg hn, if_neg hn, if_neg hne, h]
  · intro i hi hlt
    have h := h8 i hi (by omega)
    simp only [in8, Bool.and_eq_true, decide_eq_true_eq] at h
    omega

/-- the same for NEXTXY, without any legality hypothesis -/
theorem xy_canon (nrow ncol : Nat) (xs ys : Array Int) :
    toArrayXY ncol (graph nrow ncol (readXY xs ys)) = canonXY nrow ncol xs ys := by
  have hsz := graph_size nrow ncol (readXY xs ys)
  obtain ⟨s1, s2, hget⟩ := toArrayXY_get ncol (graph nrow ncol (readXY xs ys))
  have key : ∀ i, i < nrow * ncol →
      xyCellX ncol (graph nrow ncol (readXY xs ys)) i =
        (if dsOf nrow ncol (readXY xs ys) i = nrow * ncol then xyNodata
         else if dsOf nrow ncol (readXY xs ys) i = i then (-9 : Int) else xs[i]!) ∧
      xyCellY ncol (graph nrow ncol (readXY xs ys)) i =
        (if dsOf nrow ncol (readXY xs ys) i = nrow * ncol then xyNodata
         else if dsOf nrow ncol (readXY xs ys) i = i then (-9 : Int) else ys[i]!) := by
    intro i hi
    unfold xyCellX xyCellY
    rw [hsz, graph_get _ _ _ _ hi]
    rcases dsOf_cases nrow ncol (readXY xs ys) i with ⟨_, e⟩ | ⟨_, e⟩ | ⟨r, c, hr, hin, _, e⟩
    · simp only [e, if_true]; exact ⟨rfl, rfl⟩
    · have hiN : ¬ (i = nrow * ncol) := by omega
      simp [e, hiN, xyPv0]
    · obtain ⟨_, hlt, e3, e4⟩ := cellIdx_of_inRaster hin
      have hn : ¬ (dsOf nrow ncol (readXY xs ys) i = nrow * ncol) := by omega
      have hxy : xs[i]! = c + 1 ∧ ys[i]! = r + 1 := by
        obtain ⟨_, _, hr', hc'⟩ := readXY_to_iff.1 hr
        constructor <;> omega
      by_cases hs : dsOf nrow ncol (readXY xs ys) i = i
      · have hs' : i = dsOf nrow ncol (readXY xs ys) i := hs.symm
        constructor
        · rw [if_neg hn, if_neg hn, if_pos hs', if_pos hs]; rfl
        · rw [if_neg hn, if_neg hn, if_pos hs', if_pos hs]; rfl
      · have hs' : ¬ (i = dsOf nrow ncol (readXY xs ys) i) := fun h => hs h.symm
        constructor
        · rw [if_neg hn, if_neg hn, if_neg hs', if_neg hs, e, e4, hxy.1]
        · rw [if_neg hn, if_neg hn, if_neg hs', if_neg hs, e, e3, hxy.2]
  apply Prod.ext
  · apply array_ext_get! (by rw [s1, hsz]; simp [canonXY])
    intro i h1
    have hi : i < nrow * ncol := by rw [s1, hsz] at h1; exact h1
    rw [(hget i (by rw [hsz]; exact hi)).1, (key i hi).1]
    simp [canonXY, hi]
  · apply array_ext_get! (by rw [s2, hsz]; simp [canonXY])
    intro i h1
    have hi : i < nrow * ncol := by rw [s2, hsz] at h1; exact h1
    rw [(hget i (by rw [hsz]; exact hi)).2, (key i hi).2]
    simp [canonXY, hi]

/-! ### remapping -/

theorem readTab_eq_meaning (dirs : List (Nat × (Int × Int))) (pits : List Nat) (mv ncol : Nat) (codes : Array Nat) (i : Nat) :
    readTab dirs pits mv ncol codes i =
      match meaning dirs pits mv codes[i]! with
      | none => .nodata
      | some none => .pit
      | some (some d) => .to ((i / ncol : Nat) + d.1) ((i % ncol : Nat) + d.2) := by
  unfold readTab meaning
  by_cases h1 : codes[i]! = mv
  · simp [h1]
  · by_cases h2 : codes[i]! ∈ pits
    · simp [h1, h2]
    · cases h3 : dirs.lookup codes[i]! <;> simp [h1, h2, h3]

end Pf.Fd
