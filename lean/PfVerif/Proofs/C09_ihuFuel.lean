import PfVerif.Model.C09_ihu
import PfVerif.Proofs.C09Trace
/-! Fuel of the `while` loops of the iterative IHU stages (C09 extension): once the flow path from the start pixel
reaches a pit after `k` steps, every fuel `> k` gives the same result, and that result is `some _`. -/
namespace Pf.C09ihu
open Pf

theorem pitAt_zero {ds : Array Nat} {p : Nat} (h : PitAt ds 0 p) : ds[p]! = p := by
  simpa [PitAt, iterA] using h

/-- `F fuel p s` walks down `ds`: at a pixel `p` that is at a pit after at most `K` steps, two calls with fuel left
either both answer, with the same answer, or both hand over to the downstream pixel `ds[p]! ≠ p` with the same new state
and one unit of fuel less. Every `while` of the stages that follows the fine network has this shape. -/
def IsWalk {σ ρ : Type} (ds : Array Nat) (K : Nat) (F : Nat → Nat → σ → Option ρ) : Prop :=
  ∀ k p s, k ≤ K → PitAt ds k p → ∀ f1 f2,
    (F (f1 + 1) p s = F (f2 + 1) p s ∧ (F (f1 + 1) p s).isSome = true) ∨
      (ds[p]! ≠ p ∧ ∃ s', F (f1 + 1) p s = F f1 ds[p]! s' ∧ F (f2 + 1) p s = F f2 ds[p]! s')

section walk
variable {σ ρ : Type} {ds : Array Nat} {K : Nat} {F : Nat → Nat → σ → Option ρ}

theorem IsWalk.stable (hF : IsWalk ds K F) : ∀ k p, k ≤ K → PitAt ds k p → ∀ f1 f2, k < f1 → k < f2 → ∀ s,
    F f1 p s = F f2 p s ∧ (F f1 p s).isSome = true := by
  intro k
  induction k with
  | zero =>
    intro p hk hp f1 f2 h1 h2 s
    obtain ⟨g1, rfl⟩ : ∃ g, f1 = g + 1 := ⟨f1 - 1, by omega⟩
    obtain ⟨g2, rfl⟩ : ∃ g, f2 = g + 1 := ⟨f2 - 1, by omega⟩
    exact (hF 0 p s hk hp g1 g2).resolve_right fun h => h.1 (pitAt_zero hp)
  | succ k ih =>
    intro p hk hp f1 f2 h1 h2 s
    obtain ⟨g1, rfl⟩ : ∃ g, f1 = g + 1 := ⟨f1 - 1, by omega⟩
    obtain ⟨g2, rfl⟩ : ∃ g, f2 = g + 1 := ⟨f2 - 1, by omega⟩
    rcases hF (k + 1) p s hk hp g1 g2 with h | ⟨_, s', e1, e2⟩
    · exact h
    · rw [e1, e2]
      exact ih _ (by omega) hp.pred g1 g2 (by omega) (by omega) s'

/-- every fuel above `k` is as good as `k + 1`, and the result is defined -/
theorem IsWalk.fuel (hF : IsWalk ds K F) {k p : Nat} (hk : k ≤ K) (hp : PitAt ds k p) {fuel : Nat} (hf : k < fuel)
    (s : σ) : F fuel p s = F (k + 1) p s ∧ (F (k + 1) p s).isSome = true :=
  ⟨(hF.stable k p hk hp fuel (k + 1) hf (by omega) s).1, (hF.stable k p hk hp (k + 1) (k + 1) (by omega) (by omega) s).2⟩

/-- the fuel the models use suffices on a network on which `p` reaches a pit within `ds.size` steps -/
theorem IsWalk.isSome (hF : IsWalk ds ds.size F) {p : Nat} (hr : ∃ k, k ≤ ds.size ∧ PitAt ds k p) (s : σ) :
    (F (ds.size + 1) p s).isSome = true := by
  obtain ⟨k, hk, hp⟩ := hr
  exact (hF.stable k p hk hp (ds.size + 1) (ds.size + 1) (by omega) (by omega) s).2

end walk

/-! ### the walks of the stages -/

theorem nextOutlet_walk (e : Env) (out : Array Nat) (K : Nat) :
    IsWalk e.ds K fun f p (_ : Unit) => nextOutlet e out f p := by
  intro k p _ _ _ f1 f2
  dsimp only
  rw [nextOutlet, nextOutlet]
  split
  · exact .inl ⟨rfl, rfl⟩
  · rename_i h
    simp only [Bool.or_eq_true, beq_iff_eq, not_or] at h
    exact .inr ⟨h.2, (), rfl, rfl⟩

theorem relocTrace_walk (e : Env) (cds out : Array Nat) (K : Nat) :
    IsWalk e.ds K fun f p (s : Nat × Nat × List Nat × List Nat) => relocTrace e cds out f p s.1 s.2.1 s.2.2.1 s.2.2.2 := by
  intro k p ⟨idx0, idxds0, cells, pixs⟩ _ _ f1 f2
  dsimp only
  rw [relocTrace, relocTrace]
  extract_lets stop
  by_cases h1 : (e.ds[p]! == p || idx0 != e.cell e.ds[p]!) = true
  · rw [if_pos h1, if_pos h1]
    by_cases h2 : stop = true
    · rw [if_pos h2, if_pos h2]; exact .inl ⟨rfl, rfl⟩
    · rw [if_neg h2, if_neg h2]
      simp only [stop, Bool.or_eq_true, beq_iff_eq, not_or] at h2
      exact .inr ⟨h2.1, (_, _, _, _), rfl, rfl⟩
  · rw [if_neg h1, if_neg h1]
    simp only [Bool.or_eq_true, beq_iff_eq, not_or] at h1
    exact .inr ⟨h1.1, (_, _, _, _), rfl, rfl⟩

/-- the connect loop @3B: its own guard `ii <= 10` only shortens it -/
theorem connLoop_walk (e : Env) (pixs : List Nat) (idx0 K : Nat) :
    IsWalk e.ds K fun f p (s : Nat × Nat × Conn) => connLoop e pixs idx0 f p s.1 s.2.1 s.2.2 := by
  intro k p ⟨idx, ii, c⟩ _ _ f1 f2
  dsimp only
  rw [connLoop, connLoop]
  extract_lets subidx1 idx1 c1 ii1 c2
  by_cases h1 : ii > 10
  · rw [if_pos h1, if_pos h1]; exact .inl ⟨rfl, rfl⟩
  · rw [if_neg h1, if_neg h1]
    by_cases h2 : (p == subidx1 || idx != idx1) = true
    · rw [if_pos h2, if_pos h2]
      by_cases h3 : (c2.j1 + 1 == pixs.length || p == subidx1) = true
      · rw [if_pos h3, if_pos h3]; exact .inl ⟨rfl, rfl⟩
      · rw [if_neg h3, if_neg h3]
        simp only [Bool.or_eq_true, beq_iff_eq, not_or] at h3
        exact .inr ⟨fun heq => h3.2 heq.symm, (idx1, ii1, c2), rfl, rfl⟩
    · rw [if_neg h2, if_neg h2]
      simp only [Bool.or_eq_true, beq_iff_eq, not_or] at h2
      exact .inr ⟨fun heq => h2.1 heq.symm, (idx1, ii, c1), rfl, rfl⟩

theorem errPath_walk (e : Env) (streams : Array Int) (idx0 K : Nat) :
    IsWalk e.ds K fun f p (idxs : List Nat) => errPath e streams idx0 f p idxs := by
  intro k p idxs _ _ f1 f2
  dsimp only
  rw [errPath, errPath]
  extract_lets idx1 idxs'
  by_cases h1 : (e.ds[p]! == p) = true
  · rw [if_pos h1, if_pos h1]; exact .inl ⟨rfl, rfl⟩
  · rw [if_neg h1, if_neg h1]
    simp only [beq_iff_eq] at h1
    by_cases h2 : streams[e.ds[p]!]! ≥ 0
    · rw [if_pos h2, if_pos h2]
      by_cases h3 : (idxs'.length == 100 || idxs'.length == 1 && inD8 idx0 idx1 e.ncol) = true
      · rw [if_pos h3, if_pos h3]; exact .inl ⟨rfl, rfl⟩
      · rw [if_neg h3, if_neg h3]; exact .inr ⟨h1, _, rfl, rfl⟩
    · rw [if_neg h2, if_neg h2]; exact .inr ⟨h1, _, rfl, rfl⟩

/-- the tributary loop @4D; the nested `next_outlet` is called with fuel `ds.size + 1`, hence the bound -/
theorem tribLoop_walk (e : Env) (idx0 sds0 : Nat) :
    IsWalk e.ds e.ds.size fun f p (s : Nat × List Nat × S4) => tribLoop e idx0 sds0 f p s.1 s.2.1 s.2.2 := by
  intro k p ⟨idxds0, path, s⟩ hk hp f1 f2
  have hno := (nextOutlet_walk e s.out e.ds.size).isSome ⟨k, hk, hp⟩ ()
  dsimp only at hno ⊢
  rw [tribLoop, tribLoop]
  extract_lets ds0Edit ind8 go1 go2
  by_cases h1 : (e.ds[p]! == s.out[e.cell e.ds[p]!]! || e.ds[p]! == p) = true
  · rw [if_pos h1, if_pos h1]
    refine .inl ⟨rfl, ?_⟩
    split
    · rfl
    · split <;> rfl
  · rw [if_neg h1, if_neg h1]
    simp only [Bool.or_eq_true, beq_iff_eq, not_or] at h1
    by_cases h2 : (idxds0 != e.cell e.ds[p]! && idxds0 != idx0 && path.contains sds0 && !s.outEdited idxds0 &&
        inD8 idx0 idxds0 e.ncol) = true
    · rw [if_pos h2, if_pos h2]
      obtain ⟨⟨p1, c00, o0⟩, hn⟩ := Option.isSome_iff_exists.mp hno
      rw [hn]
      dsimp only
      by_cases h3 : ((upstreamD8 s.cds idxds0 e.nrow e.ncol).isEmpty && o0 && !s.outEdited c00 && idxds0 != c00 &&
          inD8 idxds0 c00 e.ncol) = true
      · rw [if_pos h3, if_pos h3]; exact .inl ⟨rfl, rfl⟩
      · rw [if_neg h3, if_neg h3]; exact .inr ⟨h1.2, (e.cell e.ds[p]!, path ++ [e.ds[p]!], s), rfl, rfl⟩
    · rw [if_neg h2, if_neg h2]; exact .inr ⟨h1.2, (e.cell e.ds[p]!, path ++ [e.ds[p]!], s), rfl, rfl⟩

theorem newOutletWalk_walk (ds : Array Nat) (streams : Array Int) (K : Nat) :
    IsWalk ds K fun f p (path : List Nat) => newOutletWalk ds streams f p path := by
  intro k p path _ _ f1 f2
  dsimp only
  rw [newOutletWalk, newOutletWalk]
  split
  · exact .inl ⟨rfl, rfl⟩
  · rename_i h
    simp only [not_or] at h
    exact .inr ⟨fun heq => h.2 heq.symm, _, rfl, rfl⟩

theorem checkWalk_walk (ds : Array Nat) (K : Nat) :
    IsWalk ds K fun f p (s : Nat × Array Int) => checkWalk ds f p s.1 s.2 := by
  intro k p ⟨d, streams⟩ _ _ f1 f2
  dsimp only
  rw [checkWalk, checkWalk]
  split
  · exact .inl ⟨rfl, rfl⟩
  · rename_i h
    simp only [not_or] at h
    exact .inr ⟨h.2, (_, _), rfl, rfl⟩

end Pf.C09ihu
