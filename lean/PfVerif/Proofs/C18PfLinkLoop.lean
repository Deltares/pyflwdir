import PfVerif.Proofs.C18PfLinkInner
import PfVerif.Proofs.C18PfLoop
import PfVerif.Proofs.C18PfSo
/-! Pfafstetter, the worklist loop: one pop keeps all single-run invariants and the flag `ok` (`pfPop_all`), hence the
loop does (`pfLoop_all`); results for `pfBranch` (`pfBranch_link`: the flag `ok` is never cleared, `PfG`, link
invariant `PfH`) and for the reduced, filled map. -/
namespace Pf.C18
open Pf

variable {ds usMain : Array Nat} {seq : List Nat} {uparea so : Array Int}

/-- one pop with tributaries: all invariants are kept, the flag is kept, the codes evolve inside the
popped block -/
theorem pfPop_all (c : PfCtx ds usMain seq uparea) (trib : List Nat) (depth : Nat)
    (htrib : ∀ t ∈ trib, t ∈ seq ∧ ds[t]! ≠ t ∧ usMain[ds[t]!]! ≠ t) (hnd : trib.Nodup)
    (W : Prop) (soraw : Array Int)
    (hS : W → SoRaw ds usMain so soraw)
    (hstep : W → ∀ t ∈ seq, ds[t]! ≠ t → soraw[t]! ≤ soraw[ds[t]!]! + 1)
    {br : Array Int} {idxs : List Nat} {labs : List (Int × Nat)} {pfaf0 : Int} {d0 : Nat} {ok : Bool}
    (a : PfAll ds usMain so depth br idxs ((pfaf0, d0) :: labs))
    (ho : W → PfOrd soraw br ((pfaf0, d0) :: labs))
    {r : PfSt × Int × Bool}
    (hin : pfInner ds usMain so depth pfaf0 d0 (pfSel ds uparea br trib pfaf0) 0
      ((br, idxs, labs), pfaf0, ok) = some r) :
    PfAll ds usMain so depth r.1.1 r.1.2.1 r.1.2.2 ∧ r.2.2 = ok ∧ (W → PfOrd soraw r.1.1 r.1.2.2) ∧
      PfEvo ds br r.1.1 pfaf0 (pfaf0 + 9 * (10 : Int) ^ (depth - d0)) ∧ (∀ en ∈ r.1.2.2, d0 ≤ en.2) ∧
      1 ≤ d0 ∧ d0 ≤ depth ∧ pfaf0 % (10 : Int) ^ (depth - d0 + 1) = R1 (depth - d0 + 1) ∧ 0 < pfaf0 := by
  obtain ⟨hmem, hlen, hsorted, hnodup⟩ := pfSel_props ds uparea br trib pfaf0 hnd
  obtain ⟨g, fr, hl, hh, hq⟩ := a
  have hp0 : 0 < pfaf0 := hl (pfaf0, d0) (by simp)
  have hl' : LabsPos labs := fun p hp => hl p (by simp [hp])
  have hrem : PfRem ds usMain seq uparea br idxs pfaf0 (pfSel ds uparea br trib pfaf0) := by
    refine ⟨fun t ht => ?_, fun t ht => Or.inl (hmem t ht).2.2, hsorted, hnodup⟩
    obtain ⟨h1, h2, h3⟩ := hmem t ht
    obtain ⟨a1, a2, a3⟩ := htrib t h1
    exact ⟨a1, a2, h2, a3, by rw [h3]; omega⟩
  have hfr := fr.pop
  have hlo : pfaf0 + (10 : Int) ^ (depth - d0) =
      pfaf0 + (2 * ((0 : Nat) : Int) + 1) * (10 : Int) ^ (depth - d0) := by simp
  rw [hlo] at hfr
  obtain ⟨hlev1, hlev2, hbase⟩ := hq.lev (pfaf0, d0) (by simp)
  simp only at hlev1 hlev2 hbase
  have hqs := List.pairwise_cons.1 hq.sorted
  have hfb := List.pairwise_cons.1 fr.fb
  have hlk : PfLinkIn ds uparea depth br idxs labs pfaf0 d0 ((10 : Int) ^ (depth - d0))
      (pfaf0 + (2 * ((0 : Nat) : Int) + 1) * (10 : Int) ^ (depth - d0))
      (pfaf0 + 10 * (10 : Int) ^ (depth - d0)) 0 pfaf0 (pfSel ds uparea br trib pfaf0) := by
    refine ⟨?_, ⟨fun en hen => ?_, hqs.2, fun en hen => ?_⟩, ⟨0, by omega, by omega, by simp⟩,
      fun t ht => ⟨0, by omega, by omega, by rw [(hmem t ht).2.2]; simp⟩⟩
    · have := hh.pop (uparea := uparea) (pfSel ds uparea br trib pfaf0)
        (pfaf0 + (2 * ((0 : Nat) : Int) + 1) * (10 : Int) ^ (depth - d0))
      rw [Bsz_pop] at this
      exact this
    · have h1 := hqs.1 en hen
      have h2 := hq.span (pfaf0, d0) (by simp) en (List.mem_cons_of_mem _ hen)
      obtain ⟨_, h4, h5⟩ := hq.lev en (List.mem_cons_of_mem _ hen)
      exact ⟨h1, h2, h4, h5⟩
    · have := hfb.1 en hen
      simp only [Bsz_pop depth d0] at this
      rcases this with h1 | h1
      · exact Or.inr (Or.inl h1)
      · exact Or.inl h1
  have hod : W → PfOrdIn ds soraw br labs pfaf0 d0 (pfSel ds uparea br trib pfaf0) := by
    intro w
    have hhead : ∀ s : Nat, br[s]! = pfaf0 → soraw[s]! ≤ (d0 : Int) := fun s hs => ho w (pfaf0, d0) (by simp) s hs
    refine ⟨fun en hen => ho w en (List.mem_cons_of_mem _ hen), fun s hs => by have := hhead s hs; omega,
      fun t ht => ?_⟩
    obtain ⟨h1, _, h3⟩ := hmem t ht
    obtain ⟨a1, a2, _⟩ := htrib t h1
    have h4 := hhead _ h3
    have h5 := hstep w t a1 a2
    exact ⟨h4, by omega⟩
  obtain ⟨g', fr', hl'', hok, hh', hq', ho', hev, hlev⟩ := pfInner_link (so := so) c depth pfaf0 d0 hp0
    hlev1 hlev2 hbase W soraw hS br (pfSel ds uparea br trib pfaf0) 0 ((br, idxs, labs), pfaf0, ok) r
    (by rw [Nat.zero_add]; exact hlen) hin
    g hfr hrem (Int.ne_of_gt hp0) hl' hlk hod (PfEvo.refl _ _ _ _)
  exact ⟨⟨g', fr', hl'', hh', hq'⟩, hok, ho', hev, hlev, hlev1, hlev2, hbase, hp0⟩

theorem pfLoop_all (c : PfCtx ds usMain seq uparea) (trib : List Nat) (depth : Nat)
    (htrib : ∀ t ∈ trib, t ∈ seq ∧ ds[t]! ≠ t ∧ usMain[ds[t]!]! ≠ t) (hnd : trib.Nodup)
    (f : Nat) (st r : PfSt × Bool × Bool) (h : pfLoop ds usMain so uparea trib depth f st = some r)
    (a : PfAll ds usMain so depth st.1.1 st.1.2.1 st.1.2.2) :
    PfAll ds usMain so depth r.1.1 r.1.2.1 r.1.2.2 ∧ r.2.2 = st.2.2 :=
  pfLoop_induction ds usMain so uparea trib depth
    (P := fun s => PfAll ds usMain so depth s.1.1 s.1.2.1 s.1.2.2 ∧ s.2.2 = st.2.2)
    (fun _ _ _ _ _ _ _ hP => ⟨hP.1.tail, hP.2⟩)
    (fun _ _ _ _ _ _ _ _ _ _ _ hP hin =>
      have hpop := pfPop_all c trib depth htrib hnd False so (fun w => w.elim) (fun w => w.elim) hP.1
        (fun w => w.elim) hin
      ⟨hpop.1, hpop.2.1.trans hP.2⟩)
    f st r h ⟨a, rfl⟩

/-! ### the seeding as a whole -/

theorem pfBranch_link (pits : List Nat) (ds : Array Nat) (seq : List Nat) (usMain : Array Nat)
    (uparea : Array Int) (mask : Option (Array Bool)) (depth : Nat) (hd : 1 ≤ depth)
    (c : PfCtx ds usMain seq uparea) (hpn : pits.Nodup) (hpits : ∀ q ∈ pits, q ∈ seq ∧ ds[q]! = q)
    (br : Array Int) (idxs : List Nat) (tie ok : Bool)
    (h : pfBranch pits ds seq usMain uparea mask depth = some (br, idxs, tie, ok)) :
    ok = true ∧ PfG ds usMain (pfStrord ds seq usMain mask depth) br idxs ∧ PfH ds depth br idxs [] := by
  obtain ⟨st0, labs, hp, hl⟩ := pfBranch_some h
  have htrib := tributaries_nonmain ds seq usMain mask depth c.topo c.hb
  obtain ⟨a, hok⟩ := pfLoop_all c _ depth htrib (tributaries_nodup c.topo _) _ _ _ hl
    (pfPits_all c depth hd False (pfStrord ds seq usMain mask depth) (fun w => w.elim) pits hpn hpits
      (fun w => w.elim) hp).1
  refine ⟨?_, a.g, fun o ho hnp => ?_⟩
  · show ((br, idxs, labs), tie, ok).2.2 = true
    rw [hok]
    simp only [List.all_eq_true, decide_eq_true_eq]
    exact fun q hq => c.hb q (hpits q hq).1
  · obtain ⟨e, h1, h2, _⟩ := a.h o ho hnp
    exact ⟨e, h1, h2, nofun⟩

/-- a seeded cell keeps its seed (reduced) in the filled map -/
theorem pfaf_lab_seed (ds : Array Nat) (seq : List Nat) (br : Array Int) (depth : Nat)
    (htopo : Topo ds seq) (hb : ∀ i ∈ seq, i < ds.size) (hsz : br.size = ds.size) (o : Nat)
    (ho : o ∈ seq) (hne : br[o]! ≠ 0) :
    (amap (fun v => v % (10 : Int) ^ depth) (fillnodataUpstream ds seq br 0))[o]! =
      br[o]! % (10 : Int) ^ depth := by
  have hb' : ∀ i ∈ seq, i < br.size := fun i hi => by rw [hsz]; exact hb i hi
  have hfsz : (fillnodataUpstream ds seq br 0).size = ds.size := by simp [fillnodataUpstream, hsz]
  rw [amap_get! _ o (by rw [hfsz]; exact hb o ho)]
  congr 1
  exact (fill_first_valid ds br 0 seq htopo hb' o ho).unique (FirstValid.here o hne)

end Pf.C18
