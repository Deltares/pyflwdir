import PfVerif.Proofs.C06Depth
/-! `max_depth >= 0`: invariants of every state of every run (nodata never pushed / re-opened /
queued / given a direction; nothing lowered; nothing raised by `max_depth` or more). -/
namespace Pf.C06
open Pf

theorem reopen_nod (G : Grid) (conn : Nat) (nod : Array Bool) (j : Nat) (d : Array Bool) (c : Nat)
    (hn : nod[c]! = true) : (reopen G conn nod j d)[c]! = d[c]! := by
  unfold reopen
  generalize offsets conn = l
  induction l generalizing d with
  | nil => rfl
  | cons o l ih =>
    simp only [List.foldl_cons]
    rw [ih]
    split
    · rename_i k _
      split
      · rfl
      · rename_i hk
        apply get!_set_ne
        intro hkc
        rw [← hkc] at hk
        exact hk hn
    · rfl

/-- per-cell invariants of the depth-limited flood -/
def CellD (elev : Array Int) (nod : Array Bool) (md : Int) (s : StD) (c : Nat) : Prop :=
  (nod[c]! = true → s.done[c]! = true ∧ s.f[c]! = elev[c]! ∧ s.d8[c]! = 247 ∧ s.queued[c]! = false) ∧
  (nod[c]! = false → s.d8[c]! ≠ 247) ∧
  elev[c]! ≤ s.f[c]! ∧ (s.f[c]! = elev[c]! ∨ s.f[c]! - elev[c]! < md)

/-- invariants of the depth-limited flood that hold in every state of every run: nodata cells are
never pushed, never queued, never re-opened, keep elevation and code 247; valid cells are never coded
247, never lowered, and never raised by `max_depth` or more -/
def SafeD (G : Grid) (elev : Array Int) (nod : Array Bool) (md : Int) (s : StD) : Prop :=
  (∀ e : HE, e ∈ s.q → nod[e.idx]! = false) ∧ ∀ c : Nat, c < G.n → CellD elev nod md s c

variable {G : Grid} {conn : Nat} {elev : Array Int} {nod : Array Bool} {md : Int}

theorem safeD_deep (s : StD) (j : Nat) (hnj : nod[j]! = false) (h : SafeD G elev nod md s) :
    SafeD G elev nod md (deepStep G conn elev nod s j) := by
  obtain ⟨hq, hc⟩ := h
  refine ⟨?_, fun c hcn => ?_⟩
  · intro e he
    simp only [deepStep, mem_hpush] at he
    rcases he with rfl | he
    · exact hnj
    · exact hq e he
  · obtain ⟨c1, c2, c3, c4⟩ := hc c hcn
    refine ⟨fun hn => ?_, c2, c3, c4⟩
    obtain ⟨a, b, d, e⟩ := c1 hn
    have hjc : j ≠ c := fun hjc => by rw [hjc] at hnj; rw [hnj] at hn; cases hn
    refine ⟨?_, b, d, ?_⟩
    · simp only [deepStep]; rw [reopen_nod G conn nod j s.done c hn]; exact a
    · simp only [deepStep]; rw [get!_set_ne (Ne.symm hjc) _]; exact e

/-- a cell whose reads did not change keeps its invariants -/
theorem cellD_congr {s s' : StD} {c : Nat}
    (h : s'.done[c]! = s.done[c]! ∧ s'.queued[c]! = s.queued[c]! ∧ s'.f[c]! = s.f[c]! ∧ s'.d8[c]! = s.d8[c]!)
    (hc : CellD elev nod md s c) : CellD elev nod md s' c := by
  obtain ⟨h1, h2, h3, h4⟩ := h
  unfold CellD
  rw [h1, h2, h3, h4]
  exact hc

theorem safeD_normal (s : StD) (j : Nat) (o : Int × Int) (z0 : Int) (hs : SizedD G s) (hj : j < G.n)
    (hnj : nod[j]! = false) (hdeep : tooDeep md (z0 - elev[j]!) = false)
    (h : SafeD G elev nod md s) :
    SafeD G elev nod md (fillStep elev z0 (resetStep elev s j) j (usCode o.1 o.2)) := by
  obtain ⟨hne, _, _, hd8, hf, _, _, hq, _⟩ := fill_get (elev := elev) z0 s j (usCode o.1 o.2) hs hj
  refine ⟨fun e he => ?_, fun c hc => ?_⟩
  · rcases (hpush_or_facts hq).1 e he with rfl | he
    · exact hnj
    · exact h.1 e he
  · by_cases hcj : c = j
    · subst hcj
      obtain ⟨_, _, c3, c4⟩ := h.2 c hc
      unfold CellD
      refine ⟨fun hn => (by rw [hnj] at hn; cases hn), fun _ => (by rw [hd8]; exact usCode_ne_247 _ _), ?_⟩
      rw [hf]
      by_cases hpos : z0 - elev[c]! > 0
      · -- raised to the popped level, which is not too deep
        rw [if_pos hpos]
        unfold tooDeep at hdeep
        simp only [Bool.and_eq_false_iff, decide_eq_false_iff_not] at hdeep
        exact ⟨by omega, Or.inr (by omega)⟩
      · rw [if_neg hpos]
        split
        · exact ⟨Int.le_refl _, Or.inl rfl⟩
        · exact ⟨c3, c4⟩
    · exact cellD_congr (hne c hcj) (h.2 c hc)

theorem safeD_visit {z0 : Int} {i0 : Nat} (s : StD) (o : Int × Int) (hs : SizedD G s)
    (h : SafeD G elev nod md s) : SafeD G elev nod md (visitD G conn elev nod md z0 i0 s o) := by
  rcases visitD_cases (G := G) (conn := conn) (elev := elev) (nod := nod) (md := md) z0 i0 s o with
    ⟨heq, _⟩ | ⟨j, hsh, hd, _, heq⟩ | ⟨j, hsh, hd, ht, heq⟩
  · rw [heq]; exact h
  all_goals
    have hj : j < G.n := (shift_spec.1 hsh).1
    have hnj : nod[j]! = false := by
      cases hn : nod[j]! with
      | false => rfl
      | true => rw [((h.2 j hj).1 hn).1] at hd; cases hd
    rw [heq]
  · exact safeD_deep s j hnj h
  · exact safeD_normal s j o z0 hs hj hnj ht h

theorem safeD_fold {z0 : Int} {i0 : Nat} (l : List (Int × Int)) (s : StD) (hs : SizedD G s)
    (h : SafeD G elev nod md s) :
    SafeD G elev nod md (l.foldl (visitD G conn elev nod md z0 i0) s) := by
  induction l generalizing s with
  | nil => exact h
  | cons o l ih => exact ih _ (sizedD_visit s o hs) (safeD_visit s o hs h)

/-- removing the head of the heap keeps the invariants -/
theorem safeD_tail {s : StD} {hd : HE} {rest : List HE} (hq : s.q = hd :: rest)
    (h : SafeD G elev nod md s) : SafeD G elev nod md { s with q := rest } :=
  ⟨fun e he => h.1 e (by rw [hq]; exact List.mem_cons_of_mem _ he), h.2⟩

/-- the invariants hold after any number of iterations of the `while` loop -/
theorem safeD_loop (fuel : Nat) (s : StD) (hs : SizedD G s) (h : SafeD G elev nod md s) :
    SafeD G elev nod md (fillLoopD G conn elev nod md fuel s) :=
  (fillLoopD_induct (fun s => SizedD G s ∧ SafeD G elev nod md s)
    (fun _ _ _ ⟨hs, h⟩ hq => ⟨sizedD_fold _ _ hs, safeD_fold _ _ hs (safeD_tail hq h)⟩) fuel s ⟨hs, h⟩).2

theorem safeD_init {seed : Array Bool} (hN : nod.size = G.n)
    (hSV : ∀ c : Nat, c < G.n → seed[c]! = true → nod[c]! = false) :
    SafeD G elev nod md (initStateD G elev nod seed) := by
  refine ⟨?_, fun c hc => ?_⟩
  · intro e he
    obtain ⟨i, hi, hsi, rfl⟩ := (mem_initHeap G elev seed e).1 he
    exact hSV i hi hsi
  · have hc' : c < nod.size := by omega
    have hd8 : (initStateD G elev nod seed).d8[c]! = if nod[c]! = true then 247 else 0 := init_d8 nod hc'
    refine ⟨fun hn => ⟨hn, rfl, by rw [hd8, if_pos hn], ?_⟩, fun hn => ?_, Int.le_refl _, Or.inl rfl⟩
    · show seed[c]! = false
      cases hs : seed[c]! with
      | false => rfl
      | true => have := hSV c hc hs; rw [hn] at this; cases this
    · rw [hd8, if_neg (by rw [hn]; simp)]; decide

end Pf.C06
