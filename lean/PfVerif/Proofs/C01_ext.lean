import PfVerif.Model.C01_ext
import PfVerif.Proofs.C01
/-! Lemmas for the C01 extension: `_downstream_idx` and `_upstream_idx` against the declarative
reading. -/
namespace Pf.Fd.Ext
open Pf Spec

/-! ### table facts -/

/-- decidable check tying the `_us` table to the direction table: a direction code is neither a pit code nor
nodata, its delta is one of the eight offsets and the `_us` entry at the *opposite* offset is the code itself;
conversely the `_us` entry of every offset is the direction code of the opposite delta. -/
def usOK (dirs : List (Nat × (Int × Int))) (pits : List Nat) (mv : Nat) (us : List Nat) : Bool :=
  (dirs.all fun p =>
    p.1 != mv && !pits.contains p.1 && dirs.lookup p.1 == some p.2 &&
    offs8.contains (-p.2.1, -p.2.2) && us[((-p.2.1 + 1) * 3 + (-p.2.2 + 1)).toNat]! == p.1) &&
  (offs8.all fun o => dirs.lookup us[((o.1 + 1) * 3 + (o.2 + 1)).toNat]! == some (-o.1, -o.2)) &&
  (pits.all fun p => p != mv)

theorem usOK_pit {dirs : List (Nat × (Int × Int))} {pits : List Nat} {mv : Nat} {us : List Nat}
    (h : usOK dirs pits mv us = true) {v : Nat} (hv : v ∈ pits) : v ≠ mv := by
  simp only [usOK, Bool.and_eq_true] at h
  simpa using List.all_eq_true.1 h.2 _ hv

theorem usOK_mem {dirs : List (Nat × (Int × Int))} {pits : List Nat} {mv : Nat} {us : List Nat}
    (h : usOK dirs pits mv us = true) {v : Nat} {d : Int × Int} (hm : (v, d) ∈ dirs) :
    v ≠ mv ∧ v ∉ pits ∧ dirs.lookup v = some d := by
  simp only [usOK, Bool.and_eq_true] at h
  have := List.all_eq_true.1 h.1.1 _ hm
  simp only [Bool.and_eq_true, bne_iff_ne, ne_eq, Bool.not_eq_true', beq_iff_eq, List.contains_eq_mem,
    decide_eq_true_eq, decide_eq_false_iff_not] at this
  obtain ⟨⟨⟨⟨h1, h2⟩, h3⟩, _⟩, _⟩ := this
  exact ⟨h1, h2, h3⟩

theorem usOK_dir {dirs : List (Nat × (Int × Int))} {pits : List Nat} {mv : Nat} {us : List Nat}
    (h : usOK dirs pits mv us = true) {v : Nat} {d : Int × Int} (hl : dirs.lookup v = some d) :
    v ≠ mv ∧ v ∉ pits ∧ (-d.1, -d.2) ∈ offs8 ∧ us[((-d.1 + 1) * 3 + (-d.2 + 1)).toNat]! = v := by
  simp only [usOK, Bool.and_eq_true] at h
  have := List.all_eq_true.1 h.1.1 _ (lookup_mem hl)
  simp only [Bool.and_eq_true, bne_iff_ne, ne_eq, Bool.not_eq_true', beq_iff_eq, List.contains_eq_mem,
    decide_eq_true_eq, decide_eq_false_iff_not] at this
  obtain ⟨⟨⟨⟨h1, h2⟩, _⟩, h4⟩, h5⟩ := this
  exact ⟨h1, h2, h4, h5⟩

theorem usOK_off {dirs : List (Nat × (Int × Int))} {pits : List Nat} {mv : Nat} {us : List Nat}
    (h : usOK dirs pits mv us = true) {o : Int × Int} (ho : o ∈ offs8) :
    dirs.lookup us[((o.1 + 1) * 3 + (o.2 + 1)).toNat]! = some (-o.1, -o.2) := by
  simp only [usOK, Bool.and_eq_true] at h
  have := List.all_eq_true.1 h.1.2 _ ho
  simpa using this

theorem offs8_bounds {o : Int × Int} (ho : o ∈ offs8) :
    -1 ≤ o.1 ∧ o.1 ≤ 1 ∧ -1 ≤ o.2 ∧ o.2 ≤ 1 ∧ ¬ (o.1 = 0 ∧ o.2 = 0) := by
  simp only [offs8, List.mem_cons, List.mem_nil_iff, or_false] at ho
  rcases ho with h | h | h | h | h | h | h | h <;> subst h <;> decide

/-! ### `_downstream_idx` -/

theorem downstreamIdx_eq (drdc : Nat → Int × Int) (nrow ncol : Nat) (codes : Array Nat) (i : Nat) :
    downstreamIdx drdc nrow ncol codes i =
      if inRaster nrow ncol (((i / ncol : Nat) : Int) + (drdc codes[i]!).1) (((i % ncol : Nat) : Int) + (drdc codes[i]!).2)
      then cellIdx ncol (((i / ncol : Nat) : Int) + (drdc codes[i]!).1) (((i % ncol : Nat) : Int) + (drdc codes[i]!).2)
      else nrow * ncol := by
  unfold downstreamIdx
  simp only
  by_cases hin : inRaster nrow ncol (((i / ncol : Nat) : Int) + (drdc codes[i]!).1)
      (((i % ncol : Nat) : Int) + (drdc codes[i]!).2) = true
  · rw [if_pos hin, if_pos (by have := inRaster_iff.1 hin; omega)]
    exact (cellIdx_of_inRaster hin).1
  · rw [if_neg hin, if_neg]
    intro h
    exact hin (inRaster_iff.2 (by omega))

/-- on a legal code other than nodata the model of `_downstream_idx` is the declarative `downOf` of the
specification tables -/
theorem tab_downstream_eq {drdc : Nat → Int × Int} {dirs : List (Nat × (Int × Int))} {pits : List Nat} {mv : Nat}
    (hok : tabOK drdc dirs pits mv = true) (nrow ncol : Nat) (codes : Array Nat) (i : Nat) (hi : i < nrow * ncol)
    (hleg : codes[i]! ∈ alphabet dirs pits mv) (hne : codes[i]! ≠ mv) :
    downstreamIdx drdc nrow ncol codes i = downOf nrow ncol (readTab dirs pits mv ncol codes) i := by
  rw [downstreamIdx_eq]
  unfold downOf readTab
  rcases tabOK_key hok hleg hne with ⟨hp, hd⟩ | ⟨hp, d, hl, hd, _⟩
  · simp only [hne, hp, if_false, if_true, hd, Int.add_zero]
    rw [if_pos (inRaster_self hi), cellIdx_self]
  · simp only [hne, hp, hl, if_false, hd]

/-- `downOf` of a cell that designates `(r, c)` -/
theorem downOf_to {nrow ncol : Nat} {read : Nat → Code} {i : Nat} {r c : Int} (h : read i = .to r c) :
    downOf nrow ncol read i = if inRaster nrow ncol r c then cellIdx ncol r c else nrow * ncol := by
  simp [downOf, h]

theorem downOf_not_to {nrow ncol : Nat} {read : Nat → Code} {i : Nat} (h : ∀ r c, read i ≠ .to r c) :
    downOf nrow ncol read i = i := by
  unfold downOf
  cases hr : read i with
  | nodata => rfl
  | pit => rfl
  | to r c => exact absurd hr (h r c)

/-- if `j ≠ i` designates the cell `i` of the raster then `j` reads as a link whose target is `i`'s row and column -/
theorem downOf_eq_iff {nrow ncol : Nat} {read : Nat → Code} {i j : Nat} (hi : i < nrow * ncol) (hji : j ≠ i) :
    downOf nrow ncol read j = i ↔
      read j = .to ((i / ncol : Nat) : Int) ((i % ncol : Nat) : Int) := by
  constructor
  · intro h
    cases hr : read j with
    | nodata => rw [downOf_not_to (by simp [hr])] at h; exact absurd h hji
    | pit => rw [downOf_not_to (by simp [hr])] at h; exact absurd h hji
    | to r c =>
      rw [downOf_to hr] at h
      by_cases hin : inRaster nrow ncol r c = true
      · rw [if_pos hin] at h
        obtain ⟨_, _, e3, e4⟩ := cellIdx_of_inRaster hin
        rw [h] at e3 e4
        rw [e3, e4]
      · rw [if_neg hin] at h; omega
  · intro h
    rw [downOf_to h, if_pos (inRaster_self hi), cellIdx_self]

/-! ### `_upstream_idx` as a filter over the eight offsets -/

theorem foldl_cand {α : Type} (g : α → Option Nat) (l : List α) (acc : List Nat) :
    l.foldl (fun lst x => pushCand lst (g x)) acc = acc ++ l.filterMap g := by
  induction l generalizing acc with
  | nil => simp
  | cons x l ih =>
    rw [List.foldl_cons, ih]
    cases hg : g x with
    | none => simp [pushCand, hg]
    | some v => simp [pushCand, hg]

theorem foldl_append_each {α : Type} (L : α → List Nat) (l : List α) (acc : List Nat) :
    l.foldl (fun lst x => lst ++ L x) acc = acc ++ l.flatMap L := by
  induction l generalizing acc with
  | nil => simp
  | cons x l ih => rw [List.foldl_cons, ih]; simp

/-- loop-order form: the list `_upstream_idx` builds is the list of accepted candidates of the eight
offsets `(-1,-1), (-1,0), (-1,1), (0,-1), (0,1), (1,-1), (1,0), (1,1)` in this order -/
theorem upstreamIdx_eq_filterMap (us : List Nat) (nrow ncol : Nat) (codes : Array Nat) (i : Nat) :
    upstreamIdx us nrow ncol codes i = offs8.filterMap fun o => usCand us nrow ncol codes i o.1 o.2 := by
  unfold upstreamIdx
  have h1 : ∀ (lst : List Nat) (dr : Int),
      range3.foldl (fun lst dc => pushCand lst (usCand us nrow ncol codes i dr dc)) lst =
      lst ++ range3.filterMap (usCand us nrow ncol codes i dr) := fun lst dr => foldl_cand _ _ _
  simp only [h1]
  rw [foldl_append_each]
  have h0 : usCand us nrow ncol codes i 0 0 = none := by simp [usCand]
  have hc : ∀ {α : Type} (f : α → Option Nat) (a : α) (l : List α),
      (a :: l).filterMap f = (f a).toList ++ l.filterMap f := by
    intro α f a l
    rw [List.filterMap_cons]
    cases f a <;> simp
  simp only [range3, offs8, List.flatMap_cons, List.flatMap_nil, hc, List.filterMap_nil, h0, Option.toList,
    List.append_nil, List.nil_append, List.append_assoc]

/-- an accepted candidate, spelled out -/
theorem usCand_some {us : List Nat} {nrow ncol : Nat} {codes : Array Nat} {i : Nat} {dr dc : Int} {j : Nat} :
    usCand us nrow ncol codes i dr dc = some j ↔
      ¬ (dr = 0 ∧ dc = 0) ∧ inRaster nrow ncol (((i / ncol : Nat) : Int) + dr) (((i % ncol : Nat) : Int) + dc) = true ∧
      j = cellIdx ncol (((i / ncol : Nat) : Int) + dr) (((i % ncol : Nat) : Int) + dc) ∧
      codes[j]! = us[((dr + 1) * 3 + (dc + 1)).toNat]! := by
  unfold usCand
  by_cases h0 : dr = 0 ∧ dc = 0
  · simp [h0]
  · rw [if_neg h0]
    simp only
    by_cases hin : inRaster nrow ncol (((i / ncol : Nat) : Int) + dr) (((i % ncol : Nat) : Int) + dc) = true
    · have hb := inRaster_iff.1 hin
      rw [if_pos (by omega)]
      have e : ((((i / ncol : Nat) : Int) + dr) * (ncol : Int) + (((i % ncol : Nat) : Int) + dc)).toNat =
          cellIdx ncol (((i / ncol : Nat) : Int) + dr) (((i % ncol : Nat) : Int) + dc) := by
        rw [Int.add_comm]; exact (cellIdx_of_inRaster hin).1
      rw [e]
      constructor
      · intro h
        by_cases hc : codes[cellIdx ncol (((i / ncol : Nat) : Int) + dr) (((i % ncol : Nat) : Int) + dc)]! =
            us[((dr + 1) * 3 + (dc + 1)).toNat]!
        · rw [if_pos hc] at h
          injection h with h
          subst h
          exact ⟨h0, hin, rfl, hc⟩
        · rw [if_neg hc] at h; cases h
      · rintro ⟨_, _, rfl, hc⟩
        rw [if_pos hc]
    · rw [if_neg (by intro h; exact hin (inRaster_iff.2 (by omega)))]
      constructor
      · intro h; cases h
      · rintro ⟨_, h, _⟩; exact absurd h hin

/-- membership in the model's list -/
theorem mem_upstreamIdx {us : List Nat} {nrow ncol : Nat} {codes : Array Nat} {i j : Nat} :
    j ∈ upstreamIdx us nrow ncol codes i ↔
      ∃ o ∈ offs8, inRaster nrow ncol (((i / ncol : Nat) : Int) + o.1) (((i % ncol : Nat) : Int) + o.2) = true ∧
        j = cellIdx ncol (((i / ncol : Nat) : Int) + o.1) (((i % ncol : Nat) : Int) + o.2) ∧
        codes[j]! = us[((o.1 + 1) * 3 + (o.2 + 1)).toNat]! := by
  rw [upstreamIdx_eq_filterMap, List.mem_filterMap]
  constructor
  · rintro ⟨o, ho, h⟩
    obtain ⟨_, h2, h3, h4⟩ := usCand_some.1 h
    exact ⟨o, ho, h2, h3, h4⟩
  · rintro ⟨o, ho, h2, h3, h4⟩
    exact ⟨o, ho, usCand_some.2 ⟨(offs8_bounds ho).2.2.2.2, h2, h3, h4⟩⟩

/-- characterisation against the declarative reading, for every raster over `uint8` codes (no legality
needed: a code outside the alphabet designates nothing and is in no `_us` table) -/
theorem tab_mem_upstream {dirs : List (Nat × (Int × Int))} {pits : List Nat} {mv : Nat} {us : List Nat}
    (hus : usOK dirs pits mv us = true) (nrow ncol : Nat) (codes : Array Nat) (i : Nat) (hi : i < nrow * ncol)
    (j : Nat) :
    j ∈ upstreamIdx us nrow ncol codes i ↔
      j < nrow * ncol ∧ j ≠ i ∧ downOf nrow ncol (readTab dirs pits mv ncol codes) j = i := by
  rw [mem_upstreamIdx]
  constructor
  · rintro ⟨o, ho, hin, hj, hc⟩
    obtain ⟨_, hlt, e3, e4⟩ := cellIdx_of_inRaster hin
    rw [← hj] at hlt e3 e4
    obtain ⟨b1, b2, b3, b4, b5⟩ := offs8_bounds ho
    have hl := usOK_off hus ho
    rw [← hc] at hl
    obtain ⟨n1, n2, _, _⟩ := usOK_dir hus hl
    have hji : j ≠ i := by
      intro e
      rw [e] at e3 e4
      apply b5
      constructor <;> omega
    refine ⟨hlt, hji, ?_⟩
    rw [downOf_eq_iff hi hji, readTab_dir n1 n2 hl]
    simp only [e3, e4]
    congr 1 <;> omega
  · rintro ⟨hj, hji, hd⟩
    rw [downOf_eq_iff hi hji] at hd
    obtain ⟨_, _, d, hl, hr, hc⟩ := readTab_to hd
    obtain ⟨_, _, hoff, hus'⟩ := usOK_dir hus hl
    refine ⟨(-d.1, -d.2), hoff, ?_, ?_, ?_⟩
    · have := inRaster_self (nrow := nrow) hj
      have e1 : ((i / ncol : Nat) : Int) + -d.1 = ((j / ncol : Nat) : Int) := by omega
      have e2 : ((i % ncol : Nat) : Int) + -d.2 = ((j % ncol : Nat) : Int) := by omega
      simp only [e1, e2]; exact this
    · have e1 : ((i / ncol : Nat) : Int) + -d.1 = ((j / ncol : Nat) : Int) := by omega
      have e2 : ((i % ncol : Nat) : Int) + -d.2 = ((j % ncol : Nat) : Int) := by omega
      simp only [e1, e2]; exact (cellIdx_self j).symm
    · exact hus'.symm

/-! ### order of the list -/

theorem rowmajor_lt {ncol a a' c c' : Nat} (ha : a < a') (hc : c < ncol) : a * ncol + c < a' * ncol + c' := by
  have h1 : (a + 1) * ncol ≤ a' * ncol := Nat.mul_le_mul_right ncol ha
  have h2 : (a + 1) * ncol = a * ncol + ncol := by rw [Nat.add_mul, Nat.one_mul]
  omega

/-- lexicographic order of offsets = the loop order -/
def offLt (a b : Int × Int) : Prop := a.1 < b.1 ∨ (a.1 = b.1 ∧ a.2 < b.2)

instance : DecidableRel offLt := fun a b => by unfold offLt; exact inferInstance

theorem offs8_sorted : offs8.Pairwise offLt := by decide

theorem cellIdx_lt_of_offLt {nrow ncol : Nat} {r c r' c' : Int} (h : r < r' ∨ (r = r' ∧ c < c'))
    (hin : inRaster nrow ncol r c = true) (hin' : inRaster nrow ncol r' c' = true) :
    cellIdx ncol r c < cellIdx ncol r' c' := by
  obtain ⟨a0, a1, a2, a3⟩ := inRaster_iff.1 hin
  obtain ⟨b0, b1, b2, b3⟩ := inRaster_iff.1 hin'
  unfold cellIdx
  rcases h with h | ⟨h1, h2⟩
  · exact rowmajor_lt (by omega) (by omega)
  · subst h1
    have : c.toNat < c'.toNat := by omega
    omega

/-- the list is strictly increasing (hence duplicate free), i.e. the loop order `(dr, dc)` is the order
of the linear indices -/
theorem upstreamIdx_sorted (us : List Nat) (nrow ncol : Nat) (codes : Array Nat) (i : Nat) :
    (upstreamIdx us nrow ncol codes i).Pairwise (· < ·) := by
  rw [upstreamIdx_eq_filterMap]
  refine List.Pairwise.filterMap _ ?_ offs8_sorted
  intro a a' hlt b hb b' hb'
  obtain ⟨_, hin, e, _⟩ := usCand_some.1 hb
  obtain ⟨_, hin', e', _⟩ := usCand_some.1 hb'
  rw [e, e']
  refine cellIdx_lt_of_offLt ?_ hin hin'
  unfold offLt at hlt
  omega

/-- two strictly increasing lists with the same members are equal -/
theorem sorted_ext : ∀ {l1 l2 : List Nat}, l1.Pairwise (· < ·) → l2.Pairwise (· < ·) →
    (∀ x, x ∈ l1 ↔ x ∈ l2) → l1 = l2
  | [], [], _, _, _ => rfl
  | [], b :: l2, _, _, h => by have := (h b).2 (by simp); simp at this
  | a :: l1, [], _, _, h => by have := (h a).1 (by simp); simp at this
  | a :: l1, b :: l2, h1, h2, h => by
    rw [List.pairwise_cons] at h1 h2
    have hab : a = b := by
      have ha := (h a).1 (by simp)
      have hb := (h b).2 (by simp)
      rw [List.mem_cons] at ha hb
      rcases ha with ha | ha
      · exact ha
      · rcases hb with hb | hb
        · exact hb.symm
        · have := h2.1 a ha
          have := h1.1 b hb
          omega
    subst hab
    congr 1
    apply sorted_ext h1.2 h2.2
    intro x
    have hx := h x
    rw [List.mem_cons, List.mem_cons] at hx
    constructor
    · intro hx1
      rcases hx.1 (Or.inr hx1) with e | e
      · have := h1.1 x hx1; omega
      · exact e
    · intro hx2
      rcases hx.2 (Or.inr hx2) with e | e
      · have := h2.1 x hx2; omega
      · exact e

theorem range_filter_sorted (n : Nat) (p : Nat → Bool) : ((List.range n).filter p).Pairwise (· < ·) :=
  List.Pairwise.filter _ (List.pairwise_lt_range)

/-- `_upstream_idx` = the declarative upstream list (as lists: same cells, same order) -/
theorem tab_upstream_eq {dirs : List (Nat × (Int × Int))} {pits : List Nat} {mv : Nat} {us : List Nat}
    (hus : usOK dirs pits mv us = true) (nrow ncol : Nat) (codes : Array Nat) (i : Nat) (hi : i < nrow * ncol) :
    upstreamIdx us nrow ncol codes i = upOf nrow ncol (readTab dirs pits mv ncol codes) i := by
  apply sorted_ext (upstreamIdx_sorted us nrow ncol codes i) (range_filter_sorted _ _)
  intro j
  rw [tab_mem_upstream hus nrow ncol codes i hi j]
  simp

/-! ### `_downstream_idx` by cases, and against the decoded graph of `from_array` -/

/-- `_downstream_idx` on a pit code and on a direction code, in terms of the specification tables only -/
theorem tab_downstream_cases {drdc : Nat → Int × Int} {dirs : List (Nat × (Int × Int))} {pits : List Nat} {mv : Nat}
    {us : List Nat} (hok : tabOK drdc dirs pits mv = true) (hus : usOK dirs pits mv us = true)
    (nrow ncol : Nat) (codes : Array Nat) (i : Nat) (hi : i < nrow * ncol) :
    (codes[i]! ∈ pits → downstreamIdx drdc nrow ncol codes i = i) ∧
    (∀ d, (codes[i]!, d) ∈ dirs →
      (inRaster nrow ncol (((i / ncol : Nat) : Int) + d.1) (((i % ncol : Nat) : Int) + d.2) = true →
        downstreamIdx drdc nrow ncol codes i =
          cellIdx ncol (((i / ncol : Nat) : Int) + d.1) (((i % ncol : Nat) : Int) + d.2) ∧
        downstreamIdx drdc nrow ncol codes i < nrow * ncol ∧
        ((downstreamIdx drdc nrow ncol codes i / ncol : Nat) : Int) = ((i / ncol : Nat) : Int) + d.1 ∧
        ((downstreamIdx drdc nrow ncol codes i % ncol : Nat) : Int) = ((i % ncol : Nat) : Int) + d.2) ∧
      (inRaster nrow ncol (((i / ncol : Nat) : Int) + d.1) (((i % ncol : Nat) : Int) + d.2) = false →
        downstreamIdx drdc nrow ncol codes i = nrow * ncol)) := by
  constructor
  · intro hp
    have hne := usOK_pit hus hp
    rw [tab_downstream_eq hok nrow ncol codes i hi (mem_alphabet_of_pit hp) hne]
    apply downOf_not_to
    intro r c
    simp [readTab, hne, hp]
  · intro d hd
    obtain ⟨h1, h2, hl⟩ := usOK_mem hus hd
    have hk := tab_downstream_eq hok nrow ncol codes i hi (mem_alphabet_of_dir hd) h1
    rw [hk, downOf_to (readTab_dir h1 h2 hl)]
    constructor
    · intro hin
      rw [if_pos hin]
      obtain ⟨_, e2, e3, e4⟩ := cellIdx_of_inRaster hin
      exact ⟨rfl, e2, e3, e4⟩
    · intro hin
      rw [hin]; rfl

/-- `_downstream_idx` next to the graph `from_array` decodes, case by case (legal rasters) -/
theorem tab_down_vs_decode {drdc : Nat → Int × Int} {dirs : List (Nat × (Int × Int))} {pits : List Nat} {mv : Nat}
    {us : List Nat} (hok : tabOK drdc dirs pits mv = true) (hus : usOK dirs pits mv us = true)
    (nrow ncol : Nat) (codes : Array Nat) (hlegal : ∀ i, i < nrow * ncol → codes[i]! ∈ alphabet dirs pits mv)
    (i : Nat) (hi : i < nrow * ncol) :
    let dec := (decode nrow ncol false (fun j => codes[j]! == mv) (tabTgt drdc ncol codes)).ds[i]!
    let k := downstreamIdx drdc nrow ncol codes i
    (codes[i]! = mv → dec = nrow * ncol) ∧
    (codes[i]! ∈ pits → dec = i ∧ k = i) ∧
    (∀ d, (codes[i]!, d) ∈ dirs →
      let r : Int := ((i / ncol : Nat) : Int) + d.1
      let c : Int := ((i % ncol : Nat) : Int) + d.2
      (inRaster nrow ncol r c = true → codes[cellIdx ncol r c]! ≠ mv → dec = cellIdx ncol r c ∧ k = cellIdx ncol r c) ∧
      (inRaster nrow ncol r c = true → codes[cellIdx ncol r c]! = mv → dec = i ∧ k = cellIdx ncol r c) ∧
      (inRaster nrow ncol r c = false → dec = i ∧ k = nrow * ncol)) := by
  intro dec k
  have ag := tab_agrees hok nrow ncol codes hlegal
  have hdec : dec = dsOf nrow ncol (readTab dirs pits mv ncol codes) i := by
    show (decode nrow ncol false (fun j => codes[j]! == mv) (tabTgt drdc ncol codes)).ds[i]! = _
    rw [(decode_eq_graph ag).1, graph_get _ _ _ _ hi]
  have hnd : ∀ j, j < nrow * ncol → (readTab dirs pits mv ncol codes j = .nodata ↔ codes[j]! = mv) := by
    intro j hj
    have := ag.nd_iff j hj
    simp only [beq_iff_eq] at this
    exact this.symm
  obtain ⟨hpit, hdir⟩ := tab_downstream_cases hok hus nrow ncol codes i hi
  refine ⟨?_, ?_, ?_⟩
  · intro h
    rw [hdec]
    simp [dsOf, (hnd i hi).2 h]
  · intro hp
    have hne := usOK_pit hus hp
    have hr : readTab dirs pits mv ncol codes i = .pit := by simp [readTab, hne, hp]
    exact ⟨by rw [hdec]; simp [dsOf, hr], hpit hp⟩
  · intro d hd r c
    obtain ⟨h1, h2, hl⟩ := usOK_mem hus hd
    have hr : readTab dirs pits mv ncol codes i = .to r c := readTab_dir h1 h2 hl
    obtain ⟨hin1, hin0⟩ := hdir d hd
    refine ⟨?_, ?_, ?_⟩
    · intro hin hne
      have hv := (not_congr (hnd _ (cellIdx_of_inRaster hin).2.1)).2 hne
      exact ⟨by rw [hdec]; simp [dsOf, hr, hin, hv], (hin1 hin).1⟩
    · intro hin he
      have hv := (hnd _ (cellIdx_of_inRaster hin).2.1).2 he
      exact ⟨by rw [hdec]; simp [dsOf, hr, hin, hv], (hin1 hin).1⟩
    · intro hin
      exact ⟨by rw [hdec]; simp [dsOf, hr, hin], hin0 hin⟩

/-- full characterisation of `_upstream_idx` through `_downstream_idx`: `j` is listed iff it is a cell of
the raster other than `i`, an 8-neighbour of `i`, carries a direction code (not a pit, not nodata, not an
illegal value) and `_downstream_idx(j) = i` -/
theorem tab_upstream_iff {drdc : Nat → Int × Int} {dirs : List (Nat × (Int × Int))} {pits : List Nat} {mv : Nat}
    {us : List Nat} (hok : tabOK drdc dirs pits mv = true) (hus : usOK dirs pits mv us = true)
    (nrow ncol : Nat) (codes : Array Nat) (i : Nat) (hi : i < nrow * ncol) (j : Nat) :
    j ∈ upstreamIdx us nrow ncol codes i ↔
      j < nrow * ncol ∧ j ≠ i ∧ nbr8 ncol i j ∧ (∃ d, (codes[j]!, d) ∈ dirs) ∧
      downstreamIdx drdc nrow ncol codes j = i := by
  rw [tab_mem_upstream hus nrow ncol codes i hi j]
  constructor
  · rintro ⟨hj, hji, hd⟩
    have hd' := (downOf_eq_iff hi hji).1 hd
    obtain ⟨h1, _, d, hl, hr, hc⟩ := readTab_to hd'
    have hm := lookup_mem hl
    obtain ⟨_, _, hoff, _⟩ := usOK_dir hus hl
    obtain ⟨b1, b2, b3, b4, _⟩ := offs8_bounds hoff
    refine ⟨hj, hji, ?_, ⟨d, hm⟩, ?_⟩
    · unfold nbr8
      simp only at b1 b2 b3 b4
      omega
    · rw [tab_downstream_eq hok nrow ncol codes j hj (mem_alphabet_of_dir hm) h1]; exact hd
  · rintro ⟨hj, hji, _, ⟨d, hm⟩, hd⟩
    obtain ⟨h1, _, _⟩ := usOK_mem hus hm
    rw [tab_downstream_eq hok nrow ncol codes j hj (mem_alphabet_of_dir hm) h1] at hd
    exact ⟨hj, hji, hd⟩

/-- a code with `drdc = (0, 0)` gives the cell itself -/
theorem downstreamIdx_zero {drdc : Nat → Int × Int} (nrow ncol : Nat) (codes : Array Nat) (i : Nat)
    (hi : i < nrow * ncol) (h : drdc codes[i]! = (0, 0)) : downstreamIdx drdc nrow ncol codes i = i := by
  rw [downstreamIdx_eq, h]
  simp only [Int.add_zero]
  rw [if_pos (inRaster_self hi), cellIdx_self]

/-! ### `downOf` next to `dsOf`, for any reading -/

theorem downOf_vs_dsOf (nrow ncol : Nat) (read : Nat → Code) (i : Nat) :
    (read i = .nodata → dsOf nrow ncol read i = nrow * ncol ∧ downOf nrow ncol read i = i) ∧
    (read i = .pit → dsOf nrow ncol read i = i ∧ downOf nrow ncol read i = i) ∧
    (∀ r c, read i = .to r c →
      (inRaster nrow ncol r c = true → read (cellIdx ncol r c) ≠ .nodata →
        dsOf nrow ncol read i = cellIdx ncol r c ∧ downOf nrow ncol read i = cellIdx ncol r c) ∧
      (inRaster nrow ncol r c = true → read (cellIdx ncol r c) = .nodata →
        dsOf nrow ncol read i = i ∧ downOf nrow ncol read i = cellIdx ncol r c) ∧
      (inRaster nrow ncol r c = false → dsOf nrow ncol read i = i ∧ downOf nrow ncol read i = nrow * ncol)) := by
  refine ⟨fun h => by simp [dsOf, downOf, h], fun h => by simp [dsOf, downOf, h], ?_⟩
  intro r c h
  refine ⟨fun h1 h2 => by simp [dsOf, downOf, h, h1, h2], fun h1 h2 => by simp [dsOf, downOf, h, h1, h2],
    fun h1 => by simp [dsOf, downOf, h, h1]⟩

/-! ### pieces of the composed `from_array` theorem -/

theorem legal_of_valid {alpha : List Nat} {codes : Array Nat} {n : Nat} (hs : codes.size = n)
    (hv : validTab alpha codes = true) : ∀ i, i < n → codes[i]! ∈ alpha := by
  intro i hi
  have hi' : i < codes.size := by omega
  rw [getElem!_pos codes i hi']
  exact (validTab_iff alpha codes).1 hv _ (Array.getElem_mem_toList hi')

theorem maskRead_true (read : Nat → Code) : maskRead (fun _ => true) read = read := by
  funext i; simp [maskRead]

theorem extract_get! (m : Array Bool) (s e j : Nat) (hj : j < e - s) : (m.extract s e)[j]! = m[s + j]! := by
  simp only [getElem!_def, Array.getElem?_extract]
  by_cases h : j < min e m.size - s
  · rw [if_pos h]
  · rw [if_neg h]
    have : m.size ≤ s + j := by omega
    simp [this]

theorem maskData_u8_kind {t : Ftype} {nrow ncol : Nat} {codes : Array Nat} {mask : Option (List Nat × Array Bool)}
    {data' : Data} (h : maskData t (.u8 nrow ncol codes) mask = .ok data') : ∃ codes', data' = .u8 nrow ncol codes' := by
  cases mask with
  | none => injection h with h; exact ⟨_, h.symm⟩
  | some sm =>
    simp only [maskData] at h
    split at h
    · injection h with h; exact ⟨_, h.symm⟩
    · cases h

/-- the mask lines on a `uint8` raster: the kernel gets a raster of the same shape that is legal if the input is and
reads, cell by cell, as the masked input (`mv` is the nodata code the lines write for the format) -/
theorem maskData_tab (dirs : List (Nat × (Int × Int))) (pits : List Nat) {mv : Nat} {t : Ftype} {nrow ncol : Nat}
    {codes : Array Nat} {mask : Option (List Nat × Array Bool)} {data' : Data}
    (ht : t = .d8 ∧ mv = d8Mv ∨ t = .ldd ∧ mv = lddMv) (h : maskData t (.u8 nrow ncol codes) mask = .ok data')
    (hsize : codes.size = nrow * ncol) (hlegal : ∀ i, i < nrow * ncol → codes[i]! ∈ alphabet dirs pits mv) :
    ∃ codes', data' = .u8 nrow ncol codes' ∧ (∀ i, i < nrow * ncol → codes'[i]! ∈ alphabet dirs pits mv) ∧
      ∀ j, j < nrow * ncol →
        readTab dirs pits mv ncol codes' j = maskRead (maskFun mask) (readTab dirs pits mv ncol codes) j := by
  cases mask with
  | none =>
    injection h with h
    exact ⟨codes, h.symm, hlegal, fun j _ => by rw [maskFun, maskRead_true]⟩
  | some sm =>
    obtain ⟨sh, m⟩ := sm
    have h : (if sh = [nrow, ncol] then .ok (.u8 nrow ncol (applyMask mv m codes)) else .error "ValueError") =
        Except.ok data' := by
      rcases ht with ⟨rfl, rfl⟩ | ⟨rfl, rfl⟩ <;> exact h
    by_cases hsh : sh = [nrow, ncol]
    · rw [if_pos hsh] at h
      injection h with h
      refine ⟨_, h.symm, fun i hi => ?_, fun j hj => readTab_mask dirs pits mv ncol codes m j (by omega)⟩
      rw [applyMask_get _ _ _ _ (by omega)]
      by_cases hm : m[i]! = true
      · rw [if_pos hm]; exact hlegal i hi
      · rw [if_neg hm]; exact mv_mem_alphabet dirs pits mv
    · rw [if_neg hsh] at h; cases h

/-- the mask lines on NEXTXY data (2-D mask on both layers, or a 3-D mask whose layers agree) -/
theorem maskData_xy {t : Ftype} {nrow ncol : Nat} {xs ys : Array Int} {mask : Option (List Nat × Array Bool)}
    {data' : Data} (h : maskData t (.xy nrow ncol xs ys) mask = .ok data')
    (hx : xs.size = nrow * ncol) (hy : ys.size = nrow * ncol) (hlayers : MaskLayersAgree (.xy nrow ncol xs ys) mask) :
    ∃ xs' ys', data' = .xy nrow ncol xs' ys' ∧
      ∀ j, j < nrow * ncol → readXY xs' ys' j = maskRead (maskFun mask) (readXY xs ys) j := by
  cases mask with
  | none =>
    injection h with h
    exact ⟨xs, ys, h.symm, fun j _ => by rw [maskFun, maskRead_true]⟩
  | some sm =>
    obtain ⟨sh, m⟩ := sm
    simp only [maskData] at h
    split at h
    · injection h with h
      exact ⟨_, _, h.symm, fun j hj => readXY_mask xs ys m j (by omega) (by omega)⟩
    · split at h
      · rename_i hsh3
        injection h with h
        refine ⟨_, _, h.symm, fun j hj => ?_⟩
        have e1 : (m.extract 0 (nrow * ncol))[j]! = m[j]! := by
          rw [extract_get! m 0 (nrow * ncol) j (by omega), Nat.zero_add]
        have e2 : (m.extract (nrow * ncol) (2 * (nrow * ncol)))[j]! = m[j]! := by
          rw [extract_get! m (nrow * ncol) (2 * (nrow * ncol)) j (by omega), hlayers hsh3 j hj]
        rw [readXY_mask2 xs ys _ _ j (by omega) (by omega) (e2.trans e1.symm)]
        simp only [maskRead, maskFun, e1]
        rfl
      · cases h

/-- the tail of the composition: size and pit conditions of the constructor, transported to the graph -/
theorem graph_result {nrow ncol : Nat} {rd : Nat → Code} {d : Dec}
    (h : d.ds = graph nrow ncol rd ∧ d.pits.toList = pitsOf (graph nrow ncol rd) ∧ d.n = nvalidOf (nrow * ncol) rd)
    (h2 : 2 ≤ d.ds.size) (h3 : d.pits.size ≠ 0) :
    d.ds = graph nrow ncol rd ∧ d.pits.toList = pitsOf (graph nrow ncol rd) ∧ d.n = nvalidOf (nrow * ncol) rd ∧
    2 ≤ nrow * ncol ∧ pitsOf (graph nrow ncol rd) ≠ [] := by
  obtain ⟨e1, e2, e3⟩ := h
  refine ⟨e1, e2, e3, ?_, ?_⟩
  · rw [e1, graph_size] at h2; exact h2
  · rw [← e2]
    intro hnil
    apply h3
    have : d.pits.toList.length = 0 := by rw [hnil]; rfl
    simpa using this

end Pf.Fd.Ext
