import PfVerif.Proofs.C06DepthSafe
/-! `max_depth >= 0`, preparation for "at most one too-deep event per cell": windows of the neighbour
loop (`Win`, `AtO`), the re-opening loop cell by cell, arithmetic of `tooDeep`, and what the too-deep branch
does to heap / `done` / `queued`. -/
namespace Pf.C06
open Pf

/-! ### `tooDeep` -/

theorem tooDeep_zero (md : Int) : tooDeep md 0 = false := by simp [tooDeep]

theorem tooDeep_self (md x : Int) : tooDeep md (x - x) = false := by
  rw [Int.sub_self]; exact tooDeep_zero md

theorem tooDeep_mono {md a b : Int} (hab : b ≤ a) (h : tooDeep md a = false) : tooDeep md b = false := by
  unfold tooDeep at *
  simp only [Bool.and_eq_false_iff, decide_eq_false_iff_not] at *
  omega

theorem tooDeep_add {md a b : Int} (ha : tooDeep md a = true) (hb : tooDeep md b = true) :
    tooDeep md (a + b) = true := by
  unfold tooDeep at *
  simp only [Bool.and_eq_true, decide_eq_true_eq] at *
  omega

/-! ### windows -/

/-- `c` is the cell at one of the offsets `os` from `i0` -/
def AtO (G : Grid) (i0 : Nat) (os : List (Int × Int)) (c : Nat) : Prop :=
  ∃ o, o ∈ os ∧ shift G i0 o.1 o.2 = some c

/-- `c` lies in the structure window of `m` (the cells the neighbour loop of `m` visits, `m` included) -/
def Win (G : Grid) (conn : Nat) (m c : Nat) : Prop := AtO G m (offsets conn) c

variable {G : Grid} {conn : Nat} {elev : Array Int} {nod : Array Bool} {md : Int}

theorem win_lt {m c : Nat} (h : Win G conn m c) : c < G.n := by
  obtain ⟨o, _, hs⟩ := h
  exact (shift_spec.1 hs).1

theorem win_self {j : Nat} (hj : j < G.n) : Win G conn j j :=
  ⟨(0, 0), zero_mem_offsets conn, shift_self hj⟩

theorem win_symm {m c : Nat} (hm : m < G.n) (h : Win G conn m c) : Win G conn c m := by
  obtain ⟨o, ho, hs⟩ := h
  exact ⟨(-o.1, -o.2), neg_mem_offsets ho, shift_inv hm hs⟩

theorem atO_tail {i0 c : Nat} {o : Int × Int} {os : List (Int × Int)} (h : AtO G i0 os c) :
    AtO G i0 (o :: os) c := by
  obtain ⟨o', ho, hs⟩ := h
  exact ⟨o', List.mem_cons_of_mem _ ho, hs⟩

theorem atO_of_cons {i0 c : Nat} {o : Int × Int} {os : List (Int × Int)} (h : AtO G i0 (o :: os) c)
    (hne : shift G i0 o.1 o.2 ≠ some c) : AtO G i0 os c := by
  obtain ⟨o', ho, hs⟩ := h
  rcases List.mem_cons.1 ho with rfl | ho
  · exact absurd hs hne
  · exact ⟨o', ho, hs⟩

theorem not_atO_head {i0 j : Nat} {o : Int × Int} {os : List (Int × Int)} (hnd : o ∉ os)
    (h : shift G i0 o.1 o.2 = some j) : ¬ AtO G i0 os j := by
  rintro ⟨o', ho, hs⟩
  have := shift_inj hs h
  subst this
  exact hnd ho

/-- after the visit at offset `o`, which lands on `j`, every other cell still to be visited is at a later offset -/
theorem atO_drop {i0 j x : Nat} {o : Int × Int} {os : List (Int × Int)} (hsh : shift G i0 o.1 o.2 = some j)
    (hx : x ≠ j) (h : AtO G i0 (o :: os) x) : AtO G i0 os x :=
  atO_of_cons h (by rw [hsh]; exact fun he => hx (Option.some.inj he).symm)

/-- a visit that does nothing (outside the raster, or onto a done cell) leaves every cell that is not done
among those still to be visited -/
theorem atO_skip {i0 c : Nat} {o : Int × Int} {os : List (Int × Int)} {done : Array Bool}
    (h : shift G i0 o.1 o.2 = none ∨ ∃ j, shift G i0 o.1 o.2 = some j ∧ done[j]! = true)
    (hd : done[c]! = false) (hat : AtO G i0 (o :: os) c) : AtO G i0 os c := by
  apply atO_of_cons hat
  rcases h with h | ⟨j, hj, hdj⟩
  · rw [h]; exact fun e => nomatch e
  · rw [hj]; intro he; injection he with he; subst he; rw [hdj] at hd; cases hd

theorem atO_nil {i0 c : Nat} : ¬ AtO G i0 [] c := by
  rintro ⟨o, ho, _⟩
  cases ho

/-! ### the re-opening loop, cell by cell -/

theorem reopen_fold_false (j : Nat) (l : List (Int × Int)) (d : Array Bool) (c : Nat) :
    (l.foldl (fun d o =>
      match shift G j o.1 o.2 with
      | some k => if nod[k]! then d else d.setIfInBounds k false
      | none => d) d)[c]! = false ↔
      (d[c]! = false ∨ (AtO G j l c ∧ nod[c]! = false ∧ c < d.size)) := by
  induction l generalizing d with
  | nil =>
    simp only [List.foldl_nil]
    constructor
    · exact Or.inl
    · rintro (h | ⟨h, _⟩)
      · exact h
      · exact absurd h atO_nil
  | cons o l ih =>
    simp only [List.foldl_cons]
    rw [ih]
    cases hs : shift G j o.1 o.2 with
    | none =>
      simp only
      constructor
      · rintro (h | ⟨h1, h2, h3⟩)
        · exact Or.inl h
        · exact Or.inr ⟨atO_tail h1, h2, h3⟩
      · rintro (h | ⟨h1, h2, h3⟩)
        · exact Or.inl h
        · exact Or.inr ⟨atO_of_cons h1 (by rw [hs]; simp), h2, h3⟩
    | some k =>
      simp only
      by_cases hk : nod[k]! = true
      · rw [if_pos hk]
        constructor
        · rintro (h | ⟨h1, h2, h3⟩)
          · exact Or.inl h
          · exact Or.inr ⟨atO_tail h1, h2, h3⟩
        · rintro (h | ⟨h1, h2, h3⟩)
          · exact Or.inl h
          · refine Or.inr ⟨atO_of_cons h1 ?_, h2, h3⟩
            rw [hs]
            intro hkc
            injection hkc with hkc
            rw [hkc, h2] at hk
            cases hk
      · rw [if_neg hk]
        have hk' : nod[k]! = false := by simpa using hk
        rw [get!_setIfInBounds, Array.size_setIfInBounds]
        constructor
        · rintro (h | ⟨h1, h2, h3⟩)
          · split at h
            · rename_i hkc
              exact Or.inr ⟨⟨o, List.mem_cons_self, by rw [hs, hkc.1]⟩, by rw [← hkc.1]; exact hk', by rw [← hkc.1]; exact hkc.2⟩
            · exact Or.inl h
          · exact Or.inr ⟨atO_tail h1, h2, h3⟩
        · rintro (h | ⟨h1, h2, h3⟩)
          · left
            split
            · rfl
            · exact h
          · by_cases hkc : k = c
            · left
              rw [if_pos ⟨hkc, by rw [hkc]; exact h3⟩]
            · exact Or.inr ⟨atO_of_cons h1 (by rw [hs]; intro h; injection h with h; exact hkc h), h2, h3⟩

/-- after re-opening the window of `j`: a cell is not done iff it was not done or is a valid cell of the window -/
theorem reopen_false_iff (j : Nat) (d : Array Bool) (c : Nat) :
    (reopen G conn nod j d)[c]! = false ↔
      (d[c]! = false ∨ (Win G conn j c ∧ nod[c]! = false ∧ c < d.size)) :=
  reopen_fold_false j (offsets conn) d c

/-! ### a visit touches one cell; the too-deep branch -/

theorem queued_mono {s s' : StD} {j : Nat} (qold : ∀ x : Nat, x ≠ j → s'.queued[x]! = s.queued[x]!)
    (qj : s'.queued[j]! = true) (x : Nat) (hx : s.queued[x]! = true) : s'.queued[x]! = true := by
  by_cases h : x = j
  · rw [h]; exact qj
  · rw [qold x h]; exact hx

/-- the three ways in which a touched cell `w` accounts for its window survive a visit at `j` that only
touches `j` and only adds to the heap -/
theorem popped_step {i0 j w : Nat} {o : Int × Int} {os : List (Int × Int)} {s s' : StD}
    (hsh : shift G i0 o.1 o.2 = some j)
    (qold : ∀ x : Nat, x ≠ j → s'.queued[x]! = s.queued[x]!) (qj : s'.queued[j]! = true)
    (hq : ∀ e, e ∈ s.q → e ∈ s'.q)
    (h : (∀ x, Win G conn w x → nod[x]! = false → s.queued[x]! = true) ∨ (∃ e, e ∈ s.q ∧ e.idx = w) ∨
      (w = i0 ∧ ∀ x, Win G conn w x → nod[x]! = false → s.queued[x]! = false → AtO G i0 (o :: os) x)) :
    (∀ x, Win G conn w x → nod[x]! = false → s'.queued[x]! = true) ∨ (∃ e, e ∈ s'.q ∧ e.idx = w) ∨
      (w = i0 ∧ ∀ x, Win G conn w x → nod[x]! = false → s'.queued[x]! = false → AtO G i0 os x) := by
  rcases h with h1 | ⟨e, he, hi⟩ | ⟨h3, h4⟩
  · exact Or.inl fun x hx hn => queued_mono qold qj x (h1 x hx hn)
  · exact Or.inr (Or.inl ⟨e, hq e he, hi⟩)
  · refine Or.inr (Or.inr ⟨h3, fun x hx hn hqx => ?_⟩)
    have hxj : x ≠ j := fun h => by rw [h, qj] at hqx; cases hqx
    rw [qold x hxj] at hqx
    exact atO_drop hsh hxj (h4 x hx hn hqx)

/-- the too-deep branch at `j`: one push, `j` queued, the valid cells of its window re-opened, one event counted -/
theorem deep_facts (s : StD) (j : Nat) (hs : SizedD G s) (hj : j < G.n) :
    let s' := deepStep G conn elev nod s j
    (∀ e, e ∈ s'.q ↔ e = ⟨elev[j]!, 0, j⟩ ∨ e ∈ s.q) ∧
    ((∀ c, c ≠ j → s'.queued[c]! = s.queued[c]!) ∧ s'.queued[j]! = true) ∧
    (∀ c, s'.done[c]! = false ↔ (s.done[c]! = false ∨ (Win G conn j c ∧ nod[c]! = false))) ∧
    s'.ev = s.ev + 1 ∧ (∀ c, s'.evc[c]! = if c = j ∧ j < s.evc.size then s.evc[j]! + 1 else s.evc[c]!) ∧
    (HSorted s.q → HSorted s'.q) ∧ s'.evc.size = s.evc.size ∧
    s'.queued = s.queued.setIfInBounds j true := by
  intro s'
  have hqs : s.queued.size = G.n := hs.2.1
  have hds : s.done.size = G.n := hs.1
  refine ⟨fun e => mem_hpush _ _ _, ⟨fun c hc => get!_set_ne hc _,
      get!_set_self (by omega) _⟩, fun c => ?_, rfl, fun c => ?_, fun h => hsorted_hpush _ _ h,
    by simp [s', deepStep], rfl⟩
  · simp only [s', deepStep]
    rw [reopen_false_iff]
    constructor
    · rintro (h | ⟨h1, h2, _⟩)
      · exact Or.inl h
      · exact Or.inr ⟨h1, h2⟩
    · rintro (h | ⟨h1, h2⟩)
      · exact Or.inl h
      · exact Or.inr ⟨h1, h2, by rw [hds]; exact win_lt h1⟩
  · simp only [s', deepStep]
    rw [get!_setIfInBounds]
    by_cases hc : c = j
    · subst hc
      by_cases hsz : c < s.evc.size
      · rw [if_pos (⟨rfl, hsz⟩ : c = c ∧ c < s.evc.size)]
      · rw [if_neg (fun h : c = c ∧ c < s.evc.size => hsz h.2)]
    · rw [if_neg (fun h => hc h.1.symm), if_neg (fun h => hc h.1)]

end Pf.C06
