import PfVerif.Proofs.C15Fix1d
/-! One iteration of `_adjust_elevation` keeps the last (most downstream) value, provided the fix at a pit does
not raise the cell the scan stands at: after `np.maximum(elevtn, elevtn[-1])` no value is below the last one,
and no candidate reaches beyond that cell. The proviso is discharged, and `adjust1d_last` concluded, in
`C15Mono.lean`. -/
namespace Pf.C15
open Pf

/-- no candidate reaches beyond cell `i` -/
theorem a1Fix_beyond (e : Array Int) (imin imax i : Nat) (zmin zmax : Int) (himax : imax ≤ i) (k : Nat)
    (hk : i < k) (hks : k < e.size) : (a1Fix e imin imax i zmin zmax)[k]! = e[k]! := by
  obtain ⟨c, hc, heq⟩ := a1Fix_ind (fun c => c.b ≤ i + 1) e imin imax i zmin zmax himax (Nat.le_succ i)
    (Nat.le_succ_of_le himax) (fun z _ _ j0 j1 _ _ _ hj1 _ _ => by show max (imax+1) j1 ≤ i + 1; omega)
  rw [heq, applyCand_get e c k hks, if_neg (by omega)]

/-- at the start of iteration `i`: no value the scan holds is below `last` (`vals`), and the last cell holds
`last` (`lastv`) -/
structure LInv (n : Nat) (last : Int) (i : Nat) (s : A1) : Prop where
  vals : VInv (last ≤ ·) n i s
  lastv : s.e[n - 1]! = last

theorem a1Init_last (e0 : Array Int) (hpos : 0 < e0.size) : LInv e0.size e0[e0.size - 1]! 0 (a1Init e0) := by
  refine ⟨a1Init_vals _ e0 fun k _ => Int.le_max_right _ _, ?_⟩
  simp only [a1Init]
  rw [map_get! _ _ (by omega), Int.max_self]

theorem a1Step_last (n : Nat) (last : Int) (s : A1) (i : Nat) (hi : i < n) (h : LInv n last i s)
    (hle : (a1Fixed s i)[i]! ≤ s.e[i]!) : LInv n last (i+1) (a1Step n s i) := by
  have hv := a1Step_vals _ n s i hi h.vals
  refine ⟨hv, ?_⟩
  have hlb := hv.cells (n - 1) (Nat.sub_lt (Nat.zero_lt_of_lt hi) Nat.one_pos)
  by_cases hc : (s.e[i]! > s.z1 ∧ s.z2 ≥ s.z1) ∨ (s.pit = true ∧ i + 1 = n)
  · rw [a1Step_event n s i hc] at hlb ⊢
    show (a1Fixed s i)[n - 1]! = last
    by_cases hl : i + 1 = n
    · -- last iteration: cell `n-1` is not raised, and it was the minimum
      have hn : n - 1 = i := by omega
      have hlast := h.lastv
      rw [hn] at hlb hlast ⊢
      exact Int.le_antisymm (hlast ▸ hle) hlb
    · by_cases hp : s.pit = true
      · have hm : (if s.e[i]! ≥ s.zmax then i else s.imax) ≤ i := by
          split
          · exact Nat.le_refl _
          · exact h.vals.imax_le
        rw [a1Fixed_pit i hp, a1Fix_beyond _ _ _ _ _ _ hm _ (by omega) (by rw [h.vals.sz]; omega)]
        exact h.lastv
      · rw [a1Fixed_nopit i hp]; exact h.lastv
  · rw [a1Step_noevent n s i hc]; exact h.lastv

end Pf.C15
