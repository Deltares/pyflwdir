import PfVerif.Proofs.C03Order
/-! Algorithm-level proof for `core.idxs_seq` (`order_cells('walk')`): the breadth-first loop from the
pits through the upstream matrix produces a downstream-first order that lists exactly the cells
draining to a pit. -/
namespace Pf

theorem upsOf_nodup (ds : Array Nat) (j : Nat) : (upsOf ds j).Nodup :=
  List.Nodup.sublist List.filter_sublist List.nodup_range

/-- invariant of the `while i < idxs_seq.size` loop: `acc` = processed cells (reversed),
`queue` = cells written to `idxs_seq` but not yet processed -/
structure WalkInv (ds : Array Nat) (fuel : Nat) (queue acc : List Nat) : Prop where
  topo : Topo ds acc.reverse
  nodup : (acc.reverse ++ queue).Nodup
  bound : ∀ i ∈ acc.reverse ++ queue, i < ds.size
  qds : ∀ q ∈ queue, ds[q]! = q ∨ ds[q]! ∈ acc
  pits : ∀ p, p < ds.size → ds[p]! = p → p ∈ acc ∨ p ∈ queue
  kids : ∀ x ∈ acc, ∀ u ∈ upsOf ds x, u ∈ acc ∨ u ∈ queue
  fuel : fuel + acc.length = ds.size

theorem WalkInv.step {ds : Array Nat} {fuel q : Nat} {rest acc : List Nat}
    (h : WalkInv ds (fuel+1) (q :: rest) acc) : WalkInv ds fuel (rest ++ upsOf ds q) (q :: acc) := by
  have hq_acc : q ∉ acc := fun hq =>
    (List.nodup_append.1 h.nodup).2.2 q (List.mem_reverse.2 hq) q List.mem_cons_self rfl
  have hqd : ds[q]! = q ∨ ds[q]! ∈ acc := h.qds q List.mem_cons_self
  -- a cell draining into q is neither processed nor queued
  have hfresh : ∀ u ∈ upsOf ds q, u ∉ acc ∧ u ∉ q :: rest := by
    intro u hu
    obtain ⟨_, hu2, hu3, _⟩ := (mem_upsOf ds q u).1 hu
    constructor
    · intro hua
      have := h.topo.ds_mem u (List.mem_reverse.2 hua)
      rw [hu2] at this
      exact hq_acc (List.mem_reverse.1 this)
    · intro huq
      rcases h.qds u huq with h1 | h1
      · exact hu3 (h1.symm.trans hu2)
      · exact hq_acc (hu2 ▸ h1)
  -- the cells written so far are the old ones followed by the cells draining into q
  have hall : (q :: acc).reverse ++ (rest ++ upsOf ds q) = (acc.reverse ++ q :: rest) ++ upsOf ds q := by
    simp
  have hmove : ∀ u, u ∈ acc ∨ u ∈ q :: rest → u ∈ q :: acc ∨ u ∈ rest ++ upsOf ds q := by
    intro u hu
    rcases hu with hu | hu
    · exact Or.inl (List.mem_cons_of_mem _ hu)
    · rcases List.mem_cons.1 hu with rfl | hu
      · exact Or.inl List.mem_cons_self
      · exact Or.inr (List.mem_append_left _ hu)
  refine ⟨?_, ?_, ?_, ?_, fun p hp hpp => hmove p (h.pits p hp hpp), ?_, ?_⟩
  · rw [List.reverse_cons]
    exact h.topo.snoc (mt List.mem_reverse.1 hq_acc) (hqd.imp_right List.mem_reverse.2)
  · rw [hall, List.nodup_append]
    refine ⟨h.nodup, upsOf_nodup ds q, fun a ha b hb hab => ?_⟩
    subst hab
    rcases List.mem_append.1 ha with ha | ha
    · exact (hfresh a hb).1 (List.mem_reverse.1 ha)
    · exact (hfresh a hb).2 ha
  · rw [hall]
    intro i hi
    rcases List.mem_append.1 hi with hi | hi
    · exact h.bound i hi
    · exact ((mem_upsOf ds q i).1 hi).1
  · intro x hx
    rcases List.mem_append.1 hx with hx | hx
    · exact (h.qds x (List.mem_cons_of_mem _ hx)).imp_right (List.mem_cons_of_mem _)
    · exact Or.inr (((mem_upsOf ds q x).1 hx).2.1 ▸ List.mem_cons_self)
  · intro x hx u hu
    rcases List.mem_cons.1 hx with rfl | hx
    · exact Or.inr (List.mem_append_right _ hu)
    · exact hmove u (h.kids x hx u hu)
  · have := h.fuel
    rw [List.length_cons]
    omega

/-- with the fuel spent, every cell has been processed and nothing can be waiting -/
theorem WalkInv.queue_nil {ds : Array Nat} {queue acc : List Nat} (h : WalkInv ds 0 queue acc) :
    queue = [] := by
  have hlen := nodup_length_le h.nodup h.bound
  have := h.fuel
  rw [List.length_append, List.length_reverse] at hlen
  exact List.eq_nil_of_length_eq_zero (by omega)

theorem seqWalkLoop_end (ds : Array Nat) :
    ∀ (fuel : Nat) (queue acc : List Nat), WalkInv ds fuel queue acc →
      ∃ fuel' acc', seqWalkLoop ds fuel queue acc = acc'.reverse ∧ WalkInv ds fuel' [] acc' := by
  intro fuel
  induction fuel with
  | zero =>
    intro queue acc h
    cases h.queue_nil
    exact ⟨0, acc, rfl, h⟩
  | succ fuel ih =>
    intro queue acc h
    cases queue with
    | nil => exact ⟨_, acc, rfl, h⟩
    | cons q rest => exact ih _ _ h.step

theorem walkInv_init (ds : Array Nat) : WalkInv ds ds.size (pitIndices ds) [] := by
  refine ⟨Topo.nil, ?_, ?_, ?_, ?_, ?_, rfl⟩
  · exact List.Nodup.sublist List.filter_sublist List.nodup_range
  · intro i hi; exact ((mem_pitIndices ds i).1 hi).1
  · intro q hq; exact Or.inl ((mem_pitIndices ds q).1 hq).2
  · intro p hp hpp; exact Or.inr ((mem_pitIndices ds p).2 ⟨hp, hpp⟩)
  · intro x hx; cases hx

end Pf
