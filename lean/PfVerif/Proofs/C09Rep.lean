import PfVerif.Proofs.C09Trace
/-! The pixel loop of `dmm_exitcell` / `eam_repcell` selects, per coarse cell, the first candidate pixel of
maximal (positive) upstream area (C09); `RepLinks`: a successful run of `dmm` / `eam` read cell by cell, with the
facts about its links that hold for every trace (`*Model_some` unpack the three pipelines). -/
namespace Pf

/-- candidate pixels: valid, and a pit or inside the candidate area (cell edge / effective area) -/
def IsCand (ds : Array Nat) (cand : Nat → Bool) (p : Nat) : Prop :=
  ds[p]! ≠ ds.size ∧ (ds[p]! = p ∨ cand p = true)

/-- state of the loop after the pixels `< k` have been processed, for coarse cell `c` -/
def RepCell (ds : Array Nat) (upa : Array Int) (cand : Nat → Bool) (cell : Nat → Nat)
    (k c r : Nat) (best : Int) : Prop :=
  (r = ds.size ∧ best = 0 ∧ ∀ j, j < k → IsCand ds cand j → cell j = c → upa[j]! ≤ 0) ∨
  (r < k ∧ IsCand ds cand r ∧ cell r = c ∧ best = upa[r]! ∧ 0 < upa[r]! ∧
    (∀ j, j < k → IsCand ds cand j → cell j = c → upa[j]! ≤ upa[r]!) ∧
    (∀ j, j < r → IsCand ds cand j → cell j = c → upa[j]! < upa[r]!))

variable {ds : Array Nat} {upa : Array Int} {cand : Nat → Bool} {cell : Nat → Nat} {k c r : Nat} {best : Int}

theorem RepCell.le_best (h : RepCell ds upa cand cell k c r best) :
    0 ≤ best ∧ ∀ j, j < k → IsCand ds cand j → cell j = c → upa[j]! ≤ best := by
  rcases h with ⟨_, h2, h3⟩ | ⟨_, _, _, h4, h5, h6, _⟩
  · exact ⟨h2 ▸ Int.le_refl 0, h2 ▸ h3⟩
  · exact ⟨h4 ▸ Int.le_of_lt h5, h4 ▸ h6⟩

/-- pixel `k` is a candidate of cell `c` that beats the running maximum -/
theorem RepCell.hit (h : RepCell ds upa cand cell k c r best) (hk : IsCand ds cand k) (hc : cell k = c)
    (hgt : best < upa[k]!) : RepCell ds upa cand cell (k+1) c k upa[k]! := by
  obtain ⟨h0, hle⟩ := h.le_best
  refine Or.inr ⟨Nat.lt_succ_self k, hk, hc, rfl, Int.lt_of_le_of_lt h0 hgt, fun j hj hcj hcc => ?_,
    fun j hj hcj hcc => Int.lt_of_le_of_lt (hle j hj hcj hcc) hgt⟩
  rcases Nat.lt_succ_iff_lt_or_eq.mp hj with hj | rfl
  · exact Int.le_of_lt (Int.lt_of_le_of_lt (hle j hj hcj hcc) hgt)
  · exact Int.le_refl _

/-- pixel `k` changes nothing for cell `c` -/
theorem RepCell.miss (h : RepCell ds upa cand cell k c r best)
    (hno : IsCand ds cand k → cell k = c → upa[k]! ≤ best) : RepCell ds upa cand cell (k+1) c r best := by
  have ext : ∀ j, j < k + 1 → IsCand ds cand j → cell j = c → upa[j]! ≤ best := fun j hj hcj hcc => by
    rcases Nat.lt_succ_iff_lt_or_eq.mp hj with hj | rfl
    · exact h.le_best.2 j hj hcj hcc
    · exact hno hcj hcc
  rcases h with ⟨h1, h2, _⟩ | ⟨h1, h2, h3, h4, h5, _, h7⟩
  · exact Or.inl ⟨h1, h2, h2 ▸ ext⟩
  · exact Or.inr ⟨Nat.lt_succ_of_lt h1, h2, h3, h4, h5, h4 ▸ ext, h7⟩

variable (ds upa cand cell)

/-- one iteration as a single test: pixel `p` is stored iff it is a candidate that beats the running maximum of
its cell -/
theorem repStep_eq (st : Array Nat × Array Int) (p : Nat) :
    repStep ds upa cand cell st p =
      if (ds[p]! ≠ ds.size ∧ (ds[p]! = p ∨ cand p = true)) ∧ st.2[cell p]! < upa[p]! then
        (st.1.setIfInBounds (cell p) p, st.2.setIfInBounds (cell p) upa[p]!)
      else st := by
  unfold repStep
  by_cases h1 : ds[p]! = ds.size
  · rw [if_pos h1, if_neg fun h => h.1.1 h1]
  · rw [if_neg h1]
    by_cases h2 : ds[p]! = p ∨ cand p = true
    · rw [if_pos h2]
      by_cases h3 : upa[p]! > st.2[cell p]!
      · rw [if_pos h3, if_pos ⟨⟨h1, h2⟩, h3⟩]
      · rw [if_neg h3, if_neg fun h => h3 h.2]
    · rw [if_neg h2, if_neg fun h => h2 h.1.2]

theorem repStep_size (st : Array Nat × Array Int) (p : Nat) :
    (repStep ds upa cand cell st p).1.size = st.1.size ∧ (repStep ds upa cand cell st p).2.size = st.2.size := by
  rw [repStep_eq]
  by_cases h : (ds[p]! ≠ ds.size ∧ (ds[p]! = p ∨ cand p = true)) ∧ st.2[cell p]! < upa[p]!
  · rw [if_pos h]; exact ⟨Array.size_setIfInBounds, Array.size_setIfInBounds⟩
  · rw [if_neg h]; exact ⟨rfl, rfl⟩

theorem repStep_hit (st : Array Nat × Array Int) (p c : Nat) (h1 : c < st.1.size) (h2 : c < st.2.size)
    (hp : IsCand ds cand p) (hc : cell p = c) (hgt : st.2[c]! < upa[p]!) :
    (repStep ds upa cand cell st p).1[c]! = p ∧ (repStep ds upa cand cell st p).2[c]! = upa[p]! := by
  subst hc
  rw [repStep_eq, if_pos ⟨hp, hgt⟩]
  simp only [get!_setIfInBounds, h1, h2, and_self, if_true]

theorem repStep_miss (st : Array Nat × Array Int) (p c : Nat)
    (hno : ¬ (IsCand ds cand p ∧ cell p = c ∧ st.2[c]! < upa[p]!)) :
    (repStep ds upa cand cell st p).1[c]! = st.1[c]! ∧ (repStep ds upa cand cell st p).2[c]! = st.2[c]! := by
  rw [repStep_eq]
  by_cases h : (ds[p]! ≠ ds.size ∧ (ds[p]! = p ∨ cand p = true)) ∧ st.2[cell p]! < upa[p]!
  · have hne : cell p ≠ c := fun e => hno ⟨h.1, e, e ▸ h.2⟩
    rw [if_pos h]
    simp only [get!_setIfInBounds, hne, false_and, if_false, and_self]
  · rw [if_neg h]; exact ⟨rfl, rfl⟩

theorem repFold_succ (ncell k : Nat) :
    repFold ds upa cand cell ncell (k+1) = repStep ds upa cand cell (repFold ds upa cand cell ncell k) k := by
  simp [repFold, List.range_succ, List.foldl_append]

theorem repFold_inv (ncell : Nat) : ∀ k,
    (repFold ds upa cand cell ncell k).1.size = ncell ∧ (repFold ds upa cand cell ncell k).2.size = ncell ∧
    ∀ c, c < ncell → RepCell ds upa cand cell k c (repFold ds upa cand cell ncell k).1[c]!
      (repFold ds upa cand cell ncell k).2[c]! := by
  intro k
  induction k with
  | zero =>
    refine ⟨Array.size_replicate, Array.size_replicate, fun c hc => Or.inl ?_⟩
    simp [repFold, hc]
  | succ k ih =>
    obtain ⟨hs1, hs2, hinv⟩ := ih
    rw [repFold_succ]
    generalize repFold ds upa cand cell ncell k = st at hs1 hs2 hinv ⊢
    have hsz := repStep_size ds upa cand cell st k
    refine ⟨hsz.1.trans hs1, hsz.2.trans hs2, fun c hc => ?_⟩
    by_cases hit : IsCand ds cand k ∧ cell k = c ∧ st.2[c]! < upa[k]!
    · obtain ⟨e1, e2⟩ := repStep_hit ds upa cand cell st k c (hs1 ▸ hc) (hs2 ▸ hc) hit.1 hit.2.1 hit.2.2
      rw [e1, e2]; exact (hinv c hc).hit hit.1 hit.2.1 hit.2.2
    · obtain ⟨e1, e2⟩ := repStep_miss ds upa cand cell st k c hit
      rw [e1, e2]; exact (hinv c hc).miss fun h1 h2 => Int.not_lt.mp fun h3 => hit ⟨h1, h2, h3⟩

/-- **characterisation of the representative / exit pixel** of every coarse cell -/
theorem repCells_spec (ncell : Nat) :
    (repCells ds upa cand cell ncell).size = ncell ∧
    ∀ c, c < ncell →
      let r := (repCells ds upa cand cell ncell)[c]!
      (r = ds.size ∧ ∀ j, j < ds.size → IsCand ds cand j → cell j = c → upa[j]! ≤ 0) ∨
      (r < ds.size ∧ IsCand ds cand r ∧ cell r = c ∧ 0 < upa[r]! ∧
        (∀ j, j < ds.size → IsCand ds cand j → cell j = c → upa[j]! ≤ upa[r]!) ∧
        (∀ j, j < r → IsCand ds cand j → cell j = c → upa[j]! < upa[r]!)) := by
  obtain ⟨h1, _, h3⟩ := repFold_inv ds upa cand cell ncell ds.size
  refine ⟨h1, fun c hc => ?_⟩
  rcases h3 c hc with ⟨a, _, b⟩ | ⟨a, b, c', _, d, e, f⟩
  · exact Or.inl ⟨a, b⟩
  · exact Or.inr ⟨a, b, c', d, e, f⟩

theorem repCells_some {ncell c : Nat} (hc : c < ncell) (hr : (repCells ds upa cand cell ncell)[c]! ≠ ds.size) :
    ValidPx ds (repCells ds upa cand cell ncell)[c]! ∧ cell (repCells ds upa cand cell ncell)[c]! = c ∧
    0 < upa[(repCells ds upa cand cell ncell)[c]!]! := by
  rcases (repCells_spec ds upa cand cell ncell).2 c hc with ⟨a, _⟩ | ⟨a, b, c', d, _⟩
  · exact absurd a hr
  · exact ⟨⟨a, b.1⟩, c', d⟩

/-- a cell that contains a candidate pixel of positive upstream area has a representative pixel of at least that
upstream area -/
theorem repCells_max {ncell j : Nat} (hc : cell j < ncell) (hj : j < ds.size) (hcand : IsCand ds cand j)
    (hpos : 0 < upa[j]!) :
    (repCells ds upa cand cell ncell)[cell j]! ≠ ds.size ∧ upa[j]! ≤ upa[(repCells ds upa cand cell ncell)[cell j]!]! := by
  rcases (repCells_spec ds upa cand cell ncell).2 (cell j) hc with ⟨_, b⟩ | ⟨a, _, _, _, e, _⟩
  · exact absurd (b j hj hcand rfl) (Int.not_le.mpr hpos)
  · exact ⟨Nat.ne_of_lt a, e j hj hcand rfl⟩

/-! ### a successful run of `dmm` / `eam` / `eam_plus`, cell by cell -/

/-- a cell is linked exactly where it has an outlet pixel, given what the loop of `*_nextidx` does in either case -/
theorem valid_iff_of_link {x n o mv : Nat} (hmv : o = mv → x = n) (hlt : o ≠ mv → x < n) :
    (x ≠ n ↔ o ≠ mv) ∧ x ≤ n := by
  by_cases h : o = mv
  · rw [hmv h]; exact ⟨⟨fun e => absurd rfl e, fun e => absurd h e⟩, Nat.le_refl _⟩
  · exact ⟨⟨fun _ => h, fun _ => Nat.ne_of_lt (hlt h)⟩, Nat.le_of_lt (hlt h)⟩

/-- what a successful run of `dmm` and of `eam` have in common: the outlet pixels are the representative pixels for a
candidate test `cand`, and the link of a cell with outlet pixel `p` is what the trace `tr c p` returns -/
structure RepLinks (ds : Array Nat) (upa : Array Int) (g : Geo) (cand : Nat → Bool) (tr : Nat → Nat → Option Nat)
    (cds out : Array Nat) : Prop where
  out_eq : out = repCells ds upa cand g.cell g.ncell
  size_cds : cds.size = g.ncell
  link : ∀ c, c < g.ncell →
    (out[c]! = ds.size → cds[c]! = g.ncell) ∧ (out[c]! ≠ ds.size → tr c out[c]! = some cds[c]!)

namespace RepLinks
variable {ds : Array Nat} {upa : Array Int} {g : Geo} {cand : Nat → Bool} {tr : Nat → Nat → Option Nat}
  {cds out : Array Nat} (h : RepLinks ds upa g cand tr cds out)
include h

theorem size_out : out.size = g.ncell := h.out_eq ▸ (repCells_spec ds upa cand g.cell g.ncell).1

theorem rep {c : Nat} (hc : c < g.ncell) (hv : out[c]! ≠ ds.size) :
    ValidPx ds out[c]! ∧ g.cell out[c]! = c ∧ 0 < upa[out[c]!]! := by
  obtain ⟨rfl, _, _⟩ := h
  exact repCells_some ds upa cand g.cell hc hv

/-- every link has the properties that every result of a trace started at the representative pixel of its cell has -/
theorem of_trace (P : Nat → Nat → Nat → Prop)
    (hP : ∀ c p r, c < g.ncell → ValidPx ds p → g.cell p = c → tr c p = some r → P c p r)
    {c : Nat} (hc : c < g.ncell) (hv : out[c]! ≠ ds.size) : P c out[c]! cds[c]! :=
  hP c _ _ hc (h.rep hc hv).1 (h.rep hc hv).2.1 ((h.link c hc).2 hv)

theorem out_ne {c : Nat} (hc : c < g.ncell) (hv : cds[c]! ≠ g.ncell) : out[c]! ≠ ds.size :=
  fun e => hv ((h.link c hc).1 e)

theorem valid_iff
    (hlt : ∀ c p r, c < g.ncell → ValidPx ds p → g.cell p = c → tr c p = some r → r < g.ncell) :
    ∀ c, c < g.ncell → (cds[c]! ≠ g.ncell ↔ out[c]! ≠ ds.size) ∧ cds[c]! ≤ g.ncell :=
  fun c hc => valid_iff_of_link (h.link c hc).1 (h.of_trace (fun _ _ r => r < g.ncell) hlt hc)

end RepLinks

/-- the loop of `dmm_nextidx` / `eam_nextidx` over the representative pixels -/
theorem RepLinks.of_collect {ds : Array Nat} {upa : Array Int} {g : Geo} {cand : Nat → Bool}
    {tr : Nat → Nat → Option Nat} {cds : Array Nat}
    (h : collect (repCells ds upa cand g.cell g.ncell).size (fun c =>
      if (repCells ds upa cand g.cell g.ncell)[c]! = ds.size then some (repCells ds upa cand g.cell g.ncell).size
      else tr c (repCells ds upa cand g.cell g.ncell)[c]!) = some cds) :
    RepLinks ds upa g cand tr cds (repCells ds upa cand g.cell g.ncell) := by
  obtain ⟨h1, h2⟩ := collect_ite_some h
  rw [(repCells_spec ds upa cand g.cell g.ncell).1] at h1 h2
  exact ⟨rfl, h1, h2⟩

theorem dmmModel_some {ds : Array Nat} {upa : Array Int} {g : Geo} {cds out : Array Nat}
    (h : dmmModel ds upa g = some (cds, out)) :
    RepLinks ds upa g (fun p => cellEdge p g.subncol g.cs)
      (fun c p => dmmTrace ds g.cell (dmmOutside g.subncol (dmmCentre g.subncol g.cs g.ncol c p).2.2
        (dmmCentre g.subncol g.cs g.ncol c p).1 (dmmCentre g.subncol g.cs g.ncol c p).2.1) c (ds.size + 1) p c)
      cds out := by
  unfold dmmModel at h
  simp only [Option.map_eq_some_iff, Prod.mk.injEq] at h
  obtain ⟨cds', hn, rfl, rfl⟩ := h
  exact RepLinks.of_collect hn

theorem eamModel_some {ds : Array Nat} {upa : Array Int} {ea : Array Bool} {g : Geo} {cds out : Array Nat}
    (h : eamModel ds upa ea g = some (cds, out)) :
    RepLinks ds upa g (fun p => ea[p]!) (fun c p => eamTrace ds ea g.cell c (ds.size + 1) p) cds out := by
  unfold eamModel at h
  simp only [Option.map_eq_some_iff, Prod.mk.injEq] at h
  obtain ⟨cds', hn, rfl, rfl⟩ := h
  exact RepLinks.of_collect hn

theorem eamPlusModel_some {ds : Array Nat} {upa : Array Int} {ea : Array Bool} {g : Geo} {cds out : Array Nat}
    {fix : List Nat} (h : eamPlusModel ds upa ea g = some (cds, out, fix)) :
    ihuOutlets ds (repCells ds upa (fun p => ea[p]!) g.cell g.ncell) g.subncol g.cs g.ncol = some out ∧
    ihuNextidx ds out ea g.subncol g.cs g.ncol = some (cds, fix) := by
  unfold eamPlusModel at h
  simp only at h
  split at h
  · cases h
  · rename_i out' hout
    simp only [Option.map_eq_some_iff, Prod.mk.injEq] at h
    obtain ⟨r, hn, rfl, rfl, rfl⟩ := h
    exact ⟨hout, hn⟩

end Pf
