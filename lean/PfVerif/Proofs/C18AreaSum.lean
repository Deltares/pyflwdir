import PfVerif.Proofs.C18
/-! Conditional sums over a list of cells (`csum`), used by the algorithm-level proof of the size
clause of `subbasins_area` (Proofs/C18Area*.lean). -/
namespace Pf.C18

theorem csum_congr {p q : Nat → Bool} {f g : Nat → Int} {l : List Nat}
    (h : ∀ x ∈ l, p x = q x ∧ (p x = true → f x = g x)) : csum p f l = csum q g l := by
  induction l with
  | nil => rfl
  | cons x l ih =>
    simp only [csum]
    rw [ih (fun y hy => h y (by simp [hy]))]
    obtain ⟨h1, h2⟩ := h x (by simp)
    by_cases hp : p x = true
    · rw [if_pos hp, if_pos (h1 ▸ hp), h2 hp]
    · rw [if_neg hp, if_neg (h1 ▸ hp)]

theorem csum_nonneg {p : Nat → Bool} {f : Nat → Int} {l : List Nat}
    (h : ∀ x ∈ l, p x = true → 0 ≤ f x) : 0 ≤ csum p f l := by
  induction l with
  | nil => simp [csum]
  | cons x l ih =>
    simp only [csum]
    have := ih (fun y hy => h y (List.mem_cons_of_mem _ hy))
    split
    · have := h x (List.mem_cons_self) ‹_›; omega
    · omega

theorem csum_zero {p : Nat → Bool} {f : Nat → Int} {l : List Nat}
    (h : ∀ x ∈ l, p x = false) : csum p f l = 0 := by
  induction l with
  | nil => rfl
  | cons x l ih =>
    simp only [csum]
    rw [ih (fun y hy => h y (by simp [hy])), h x (by simp)]
    simp

/-- taking one element out of the summation domain -/
theorem csum_remove {p q : Nat → Bool} {f : Nat → Int} {l : List Nat} {x : Nat}
    (hnd : l.Nodup) (hx : x ∈ l) (hp : p x = true) (hq : ∀ y ∈ l, q y = (p y && y != x)) :
    csum p f l = f x + csum q f l := by
  induction l with
  | nil => cases hx
  | cons y l ih =>
    have hnd' := List.nodup_cons.1 hnd
    simp only [csum]
    rcases List.mem_cons.1 hx with h | h
    · subst h
      have hq1 : q x = false := by rw [hq x (by simp)]; simp
      rw [if_pos hp, hq1]
      have : csum p f l = csum q f l := by
        apply csum_congr
        intro z hz
        refine ⟨?_, fun _ => rfl⟩
        rw [hq z (by simp [hz])]
        have : z ≠ x := fun hc => hnd'.1 (hc ▸ hz)
        simp [this]
      rw [this]; simp
    · have hne : y ≠ x := fun hc => hnd'.1 (hc ▸ h)
      have hqy : q y = p y := by rw [hq y (by simp)]; simp [hne]
      rw [ih hnd'.2 h (fun z hz => hq z (by simp [hz])), hqy]
      omega

theorem csum_ge_one {p : Nat → Bool} {f : Nat → Int} {l : List Nat} {x : Nat}
    (hnd : l.Nodup) (h0 : ∀ y ∈ l, 0 ≤ f y) (hx : x ∈ l) (hp : p x = true) : f x ≤ csum p f l := by
  rw [csum_remove (q := fun y => p y && y != x) hnd hx hp (fun _ _ => rfl)]
  have := csum_nonneg (p := fun y => p y && y != x) (f := f) (l := l) (fun y hy _ => h0 y hy)
  omega

theorem csum_ge_two {p : Nat → Bool} {f : Nat → Int} {l : List Nat} {x y : Nat}
    (hnd : l.Nodup) (h0 : ∀ z ∈ l, 0 ≤ f z) (hx : x ∈ l) (hy : y ∈ l) (hxy : x ≠ y)
    (hpx : p x = true) (hpy : p y = true) : f x + f y ≤ csum p f l := by
  rw [csum_remove (q := fun z => p z && z != x) hnd hx hpx (fun _ _ => rfl)]
  have := csum_ge_one (p := fun z => p z && z != x) hnd h0 hy
    (by simp [hpy]; exact fun h => hxy h.symm)
  omega

/-- weakening the predicate can only lower a sum of non-negative terms -/
theorem csum_mono {p q : Nat → Bool} {f : Nat → Int} {l : List Nat}
    (h0 : ∀ y ∈ l, 0 ≤ f y) (hpq : ∀ y ∈ l, p y = true → q y = true) : csum p f l ≤ csum q f l := by
  induction l with
  | nil => simp [csum]
  | cons x l ih =>
    simp only [csum]
    have := ih (fun y hy => h0 y (by simp [hy])) (fun y hy => hpq y (by simp [hy]))
    have hx0 := h0 x (by simp)
    by_cases hp : p x = true
    · rw [if_pos hp, if_pos (hpq x (by simp) hp)]; omega
    · rw [if_neg hp]
      by_cases hq : q x = true
      · rw [if_pos hq]; omega
      · rw [if_neg hq]; omega

theorem csum_add {p : Nat → Bool} {f g : Nat → Int} {l : List Nat} :
    csum p (fun x => f x + g x) l = csum p f l + csum p g l := by
  induction l with
  | nil => simp [csum]
  | cons x l ih => simp only [csum, ih]; split <;> omega

theorem csum_sub {p : Nat → Bool} {f g : Nat → Int} {l : List Nat} :
    csum p (fun x => f x - g x) l = csum p f l - csum p g l := by
  induction l with
  | nil => simp [csum]
  | cons x l ih => simp only [csum, ih]; split <;> omega

/-- splitting the domain by a second predicate -/
theorem csum_split (p r : Nat → Bool) (f : Nat → Int) (l : List Nat) :
    csum p f l = csum (fun x => p x && r x) f l + csum (fun x => p x && !r x) f l := by
  induction l with
  | nil => simp [csum]
  | cons x l ih =>
    simp only [csum, ih]
    by_cases hp : p x = true <;> by_cases hr : r x = true <;> simp [hp, hr] <;> omega

/-- a sum over a single element of a duplicate-free list -/
theorem csum_single {p : Nat → Bool} {f : Nat → Int} {l : List Nat} {x : Nat}
    (hnd : l.Nodup) (hx : x ∈ l) (hp : ∀ y ∈ l, p y = (y == x)) : csum p f l = f x := by
  rw [csum_remove (q := fun _ => false) hnd hx (by rw [hp x hx]; simp)
    (fun y hy => by rw [hp y hy]; by_cases h : y = x <;> simp [h])]
  rw [csum_zero (fun _ _ => rfl)]; simp

/-- exchanging a double sum over "cells and their inflowing cells":
`Σ_{x ∈ l1, p x} Σ_{c ∈ l2, D c = x, c ≠ x} f c = Σ_{c ∈ l2, D c ≠ c, D c ∈ l1, p (D c)} f c` -/
theorem csum_kids (D : Nat → Nat) (p : Nat → Bool) (f : Nat → Int) (l2 : List Nat) :
    ∀ l1 : List Nat, l1.Nodup →
    csum p (fun x => csum (fun c => decide (D c = x ∧ c ≠ x)) f l2) l1 =
      csum (fun c => decide (D c ≠ c) && l1.contains (D c) && p (D c)) f l2 := by
  intro l1
  induction l1 with
  | nil =>
    intro _
    simp only [csum]
    rw [csum_zero (fun c _ => by simp)]
  | cons x l1 ih =>
    intro hnd
    have hnd' := List.nodup_cons.1 hnd
    simp only [csum]
    rw [ih hnd'.2]
    rw [csum_split (fun c => decide (D c ≠ c) && (x :: l1).contains (D c) && p (D c))
      (fun c => D c == x) f l2]
    have h1 : csum (fun c => (decide (D c ≠ c) && (x :: l1).contains (D c) && p (D c)) && (D c == x)) f l2 =
        (if p x = true then csum (fun c => decide (D c = x ∧ c ≠ x)) f l2 else 0) := by
      by_cases hp : p x = true
      · rw [if_pos hp]
        apply csum_congr
        intro c _
        refine ⟨?_, fun _ => rfl⟩
        by_cases hc : D c = x
        · subst hc
          by_cases hcc : D c = c
          · simp [hcc]
          · have : c ≠ D c := fun h => hcc h.symm
            simp [hcc, hp, this]
        · simp [hc]
      · rw [if_neg hp]
        apply csum_zero
        intro c _
        by_cases hc : D c = x
        · subst hc; simp [hp]
        · simp [hc]
    have h2 : csum (fun c => (decide (D c ≠ c) && (x :: l1).contains (D c) && p (D c)) && !(D c == x)) f l2 =
        csum (fun c => decide (D c ≠ c) && l1.contains (D c) && p (D c)) f l2 := by
      apply csum_congr
      intro c _
      refine ⟨?_, fun _ => rfl⟩
      by_cases hc : D c = x
      · have : l1.contains (D c) = false := by
          rw [hc]; simpa using hnd'.1
        rw [hc] at this ⊢
        simp at this
        simp [this]
      · simp [hc]
    rw [h1, h2]

end Pf.C18
