import PfVerif.Proofs.C06Geo
/-! The heap of the priority flood as a sorted list; the seed heap; `outlets='min'`; the seed array of
user outlets. -/
namespace Pf.C06
open Pf


theorem HE.lt_iff (a b : HE) : a.lt b = true ↔
    (a.z < b.z ∨ (a.z = b.z ∧ (a.flag < b.flag ∨ (a.flag = b.flag ∧ a.idx < b.idx)))) := by
  simp [HE.lt]

/-- sorted heap list: no later entry is smaller than an earlier one -/
def HSorted (l : List HE) : Prop := l.Pairwise (fun a b => b.lt a = false)

theorem mem_hpush (x y : HE) (l : List HE) : y ∈ hpush x l ↔ y = x ∨ y ∈ l := by
  induction l with
  | nil => simp [hpush]
  | cons a r ih =>
    unfold hpush
    split
    · simp
    · simp only [List.mem_cons, ih]
      constructor
      · rintro (h | h | h)
        · exact Or.inr (Or.inl h)
        · exact Or.inl h
        · exact Or.inr (Or.inr h)
      · rintro (h | h | h)
        · exact Or.inr (Or.inl h)
        · exact Or.inl h
        · exact Or.inr (Or.inr h)

theorem not_lt_iff (a b : HE) : a.lt b = false ↔ ¬ (a.lt b = true) := by
  cases a.lt b <;> simp

theorem hsorted_hpush (x : HE) (l : List HE) (h : HSorted l) : HSorted (hpush x l) := by
  induction l with
  | nil => simp [hpush, HSorted]
  | cons a r ih =>
    unfold hpush
    have hr : HSorted r := (List.pairwise_cons.1 h).2
    have ha : ∀ e ∈ r, e.lt a = false := (List.pairwise_cons.1 h).1
    split
    · rename_i hxa
      refine List.pairwise_cons.2 ⟨?_, h⟩
      intro e he
      rw [not_lt_iff, HE.lt_iff]
      rw [HE.lt_iff] at hxa
      rcases List.mem_cons.1 he with rfl | he
      · omega
      · have := ha e he
        rw [not_lt_iff, HE.lt_iff] at this
        omega
    · rename_i hxa
      refine List.pairwise_cons.2 ⟨?_, ih hr⟩
      intro e he
      rcases (mem_hpush x e r).1 he with rfl | he
      · simpa using hxa
      · exact ha e he

theorem hsorted_head {h : HE} {t : List HE} (hs : HSorted (h :: t)) :
    ∀ e ∈ h :: t, e.lt h = false := by
  intro e he
  rcases List.mem_cons.1 he with rfl | he
  · rw [not_lt_iff, HE.lt_iff]; omega
  · exact (List.pairwise_cons.1 hs).1 e he

/-- the head of a sorted heap has the lowest level -/
theorem hsorted_head_le {h : HE} {t : List HE} (hs : HSorted (h :: t)) (e : HE) (he : e ∈ h :: t) :
    h.z ≤ e.z := by
  have := hsorted_head hs e he
  rw [not_lt_iff, HE.lt_iff] at this
  omega

/-- the seed heap: which entries it holds, and that it is sorted -/
theorem initHeap_fold (elev : Array Int) (queued : Array Bool) (l : List Nat) (q : List HE) :
    (∀ e, e ∈ l.foldl (fun q i => if queued[i]! then hpush ⟨elev[i]!, 1, i⟩ q else q) q ↔
      e ∈ q ∨ ∃ i, i ∈ l ∧ queued[i]! = true ∧ e = ⟨elev[i]!, 1, i⟩) ∧
    (HSorted q → HSorted (l.foldl (fun q i => if queued[i]! then hpush ⟨elev[i]!, 1, i⟩ q else q) q)) := by
  induction l generalizing q with
  | nil => simp
  | cons a l ih =>
    simp only [List.foldl_cons]
    by_cases hq : queued[a]! = true
    · rw [if_pos hq]
      obtain ⟨h1, h2⟩ := ih (hpush ⟨elev[a]!, 1, a⟩ q)
      refine ⟨fun e => ?_, fun hs => h2 (hsorted_hpush _ _ hs)⟩
      rw [h1 e, mem_hpush]
      constructor
      · rintro ((h | h) | ⟨i, hi, hqi, he⟩)
        · exact Or.inr ⟨a, List.mem_cons_self, hq, h⟩
        · exact Or.inl h
        · exact Or.inr ⟨i, List.mem_cons_of_mem _ hi, hqi, he⟩
      · rintro (h | ⟨i, hi, hqi, he⟩)
        · exact Or.inl (Or.inr h)
        · rcases List.mem_cons.1 hi with rfl | hi
          · exact Or.inl (Or.inl he)
          · exact Or.inr ⟨i, hi, hqi, he⟩
    · rw [if_neg hq]
      obtain ⟨h1, h2⟩ := ih q
      refine ⟨fun e => ?_, h2⟩
      rw [h1 e]
      constructor
      · rintro (h | ⟨i, hi, hqi, he⟩)
        · exact Or.inl h
        · exact Or.inr ⟨i, List.mem_cons_of_mem _ hi, hqi, he⟩
      · rintro (h | ⟨i, hi, hqi, he⟩)
        · exact Or.inl h
        · rcases List.mem_cons.1 hi with rfl | hi
          · exact absurd hqi hq
          · exact Or.inr ⟨i, hi, hqi, he⟩

theorem mem_initHeap (G : Grid) (elev : Array Int) (queued : Array Bool) (e : HE) :
    e ∈ initHeap G elev queued ↔ ∃ i, i < G.n ∧ queued[i]! = true ∧ e = ⟨elev[i]!, 1, i⟩ := by
  unfold initHeap
  rw [(initHeap_fold elev queued (List.range G.n) []).1 e]
  simp [List.mem_range]

theorem hsorted_initHeap (G : Grid) (elev : Array Int) (queued : Array Bool) :
    HSorted (initHeap G elev queued) :=
  (initHeap_fold elev queued (List.range G.n) []).2 (by simp [HSorted])

/-- the head of the seed heap: a candidate, minimal in `(elevation, index)` -/
theorem initHeap_head {G : Grid} {e : Array Int} {cand : Array Bool} {hd : HE} {tl : List HE}
    (heq : initHeap G e cand = hd :: tl) :
    hd.idx < G.n ∧ cand[hd.idx]! = true ∧ hd.z = e[hd.idx]! ∧
    ∀ c, c < G.n → cand[c]! = true → e[hd.idx]! < e[c]! ∨ (e[hd.idx]! = e[c]! ∧ hd.idx ≤ c) := by
  have hmem : hd ∈ initHeap G e cand := by rw [heq]; exact List.mem_cons_self
  obtain ⟨m, hm, hq, he⟩ := (mem_initHeap G e _ hd).1 hmem
  have hsort := hsorted_initHeap G e cand
  rw [heq] at hsort
  subst he
  refine ⟨hm, hq, rfl, fun c hc hqc => ?_⟩
  have hcm : (⟨e[c]!, 1, c⟩ : HE) ∈ (⟨e[m]!, 1, m⟩ : HE) :: tl := by
    rw [← heq]; exact (mem_initHeap G e _ _).2 ⟨c, hc, hqc, rfl⟩
  have := hsorted_head hsort _ hcm
  rw [not_lt_iff, HE.lt_iff] at this
  simp only [true_and, Nat.lt_irrefl, false_or] at this
  simp only
  omega

/-- the seed array of `outlets='min'` marks exactly the cell `m` -/
theorem single_seed {n m c : Nat} (hm : m < n) :
    ((Array.replicate n false).setIfInBounds m true)[c]! = true ↔ c = m := by
  rw [get!_setIfInBounds, Array.size_replicate]
  by_cases hcm : m = c
  · subst hcm; simp [hm]
  · rw [if_neg (fun h => hcm h.1)]
    have : (Array.replicate n false)[c]! = false := by
      by_cases hc : c < n <;> simp [hc]
    rw [this]
    exact ⟨fun h => (nomatch h), fun h => absurd h.symm hcm⟩

/-- **`outlets='min'`**: the single outlet the model starts from is a cell of the candidate set
(edge cells, or the user's cells) with the lowest elevation, the first such cell in row-major
order; `none` (the code's `IndexError`) exactly when there is no candidate -/
theorem seedsOf_min (G : Grid) (conn : Nat) (elev : Array Int) (nod : Array Bool)
    (pits : Option (List Nat)) (s : Array Bool)
    (h : seedsOf G conn elev nod pits true = some s) :
    ∃ m, m < G.n ∧ (seeds0 G conn nod pits)[m]! = true ∧
      (∀ c, c < G.n → (seeds0 G conn nod pits)[c]! = true →
        elev[m]! < elev[c]! ∨ (elev[m]! = elev[c]! ∧ m ≤ c)) ∧
      ∀ c, c < G.n → (s[c]! = true ↔ c = m) := by
  unfold seedsOf at h
  simp only [if_true] at h
  split at h
  · cases h
  · rename_i hd tl heq
    injection h with h
    obtain ⟨hm, hq, _, hmin⟩ := initHeap_head heq
    exact ⟨hd.idx, hm, hq, hmin, fun c _ => h ▸ single_seed hm⟩

/-! ### entries are distinct cells; sizes -/

theorem nodup_hpush (x : HE) (l : List HE) (hn : (l.map (·.idx)).Nodup) (hx : x.idx ∉ l.map (·.idx)) :
    ((hpush x l).map (·.idx)).Nodup := by
  induction l with
  | nil => simp [hpush]
  | cons a r ih =>
    simp only [List.map_cons, List.nodup_cons, List.mem_cons, not_or] at hn hx
    unfold hpush
    split
    · simp only [List.map_cons, List.nodup_cons, List.mem_cons, not_or]
      exact ⟨⟨hx.1, hx.2⟩, hn⟩
    · simp only [List.map_cons, List.nodup_cons]
      refine ⟨?_, ih hn.2 hx.2⟩
      intro hmem
      obtain ⟨e, he, hea⟩ := List.mem_map.1 hmem
      rcases (mem_hpush x e r).1 he with rfl | he
      · exact hx.1 hea
      · exact hn.1 (List.mem_map.2 ⟨e, he, hea⟩)

theorem mem_map_hpush (x : HE) (l : List HE) (i : Nat) :
    i ∈ (hpush x l).map (·.idx) ↔ i = x.idx ∨ i ∈ l.map (·.idx) := by
  simp only [List.mem_map]
  constructor
  · rintro ⟨e, he, hei⟩
    rcases (mem_hpush x e l).1 he with rfl | he
    · exact Or.inl hei.symm
    · exact Or.inr ⟨e, he, hei⟩
  · rintro (h | ⟨e, he, hei⟩)
    · exact ⟨x, (mem_hpush x x l).2 (Or.inl rfl), h.symm⟩
    · exact ⟨e, (mem_hpush x e l).2 (Or.inr he), hei⟩

theorem initHeap_nodup_fold (elev : Array Int) (queued : Array Bool) (l : List Nat) (q : List HE)
    (hl : l.Nodup) (hq : (q.map (·.idx)).Nodup) (hdis : ∀ i, i ∈ l → i ∉ q.map (·.idx)) :
    ((l.foldl (fun q i => if queued[i]! then hpush ⟨elev[i]!, 1, i⟩ q else q) q).map (·.idx)).Nodup := by
  induction l generalizing q with
  | nil => exact hq
  | cons a l ih =>
    simp only [List.foldl_cons]
    have hl' := List.nodup_cons.1 hl
    by_cases hqa : queued[a]! = true
    · rw [if_pos hqa]
      apply ih _ hl'.2
      · exact nodup_hpush _ _ hq (hdis a List.mem_cons_self)
      · intro i hi hmem
        rcases (mem_map_hpush _ _ _).1 hmem with h | h
        · simp only at h
          subst h
          exact hl'.1 hi
        · exact hdis i (List.mem_cons_of_mem _ hi) h
    · rw [if_neg hqa]
      exact ih _ hl'.2 hq (fun i hi => hdis i (List.mem_cons_of_mem _ hi))

theorem initHeap_nodup (G : Grid) (elev : Array Int) (queued : Array Bool) :
    ((initHeap G elev queued).map (·.idx)).Nodup :=
  initHeap_nodup_fold elev queued (List.range G.n) [] List.nodup_range (by simp) (by simp)

theorem length_hpush (x : HE) (l : List HE) : (hpush x l).length = l.length + 1 := by
  induction l with
  | nil => rfl
  | cons a r ih =>
    unfold hpush
    split
    · rfl
    · simp [ih]

theorem length_initHeap_fold (elev : Array Int) (queued : Array Bool) (l : List Nat) (q : List HE) :
    (l.foldl (fun q i => if queued[i]! then hpush ⟨elev[i]!, 1, i⟩ q else q) q).length =
      q.length + l.countP (fun c => queued[c]!) := by
  induction l generalizing q with
  | nil => simp
  | cons a l ih =>
    simp only [List.foldl_cons, List.countP_cons]
    rw [ih]
    by_cases hq : queued[a]! = true
    · simp [hq, length_hpush]; omega
    · simp [hq]

/-! ### user outlets -/

theorem userSeeds_fold (pits : List Nat) (a : Array Bool) (c : Nat) :
    (pits.foldl (fun a p => a.setIfInBounds p true) a)[c]! = true ↔
      a[c]! = true ∨ (c ∈ pits ∧ c < a.size) := by
  induction pits generalizing a with
  | nil => simp
  | cons p r ih =>
    simp only [List.foldl_cons]
    rw [ih, get!_setIfInBounds, Array.size_setIfInBounds]
    by_cases hpc : p = c
    · subst hpc
      by_cases hs : p < a.size
      · simp [hs]
      · simp [hs]
    · have : ¬ (p = c ∧ p < a.size) := fun h => hpc h.1
      rw [if_neg this]
      have hne : c ≠ p := fun h => hpc h.symm
      simp [hne]

end Pf.C06
