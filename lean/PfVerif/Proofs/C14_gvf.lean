import PfVerif.Model.C14_gvf
import PfVerif.Core.Folds
/-! The generic kernel of `rivers.rivdph_gvf` (`Model/C14_gvf.lean`): what one call does, the calls of a
sweep and of a run, invariants of the loop body lifted to the run, "last accepted call wins", and under a
downstream-first order: `h0` is the downstream cell's value of the same iteration, one iteration is an
instance of the shared `sweepDown`. -/
namespace Pf.C14g
open Pf

variable {α γ : Type} [Inhabited α]

theorem takePad_eq_map {β : Type} : ∀ (k : Nat) (l : List β), takePad k l = (List.range k).map (l[·]?) := by
  intro k
  induction k with
  | zero => intro l; rfl
  | succ k ih =>
    intro l
    rw [List.range_succ_eq_map, List.map_cons, List.map_map]
    cases l with
    | nil => rw [takePad, ih []]; rfl
    | cons x xs => rw [takePad, ih xs]; rfl

theorem takePad_length {β : Type} (k : Nat) (l : List β) : (takePad k l).length = k := by
  rw [takePad_eq_map, List.length_map, List.length_range]

theorem takePad_getElem? {β : Type} (k : Nat) (l : List β) (j : Nat) :
    (takePad k l)[j]? = if j < k then some l[j]? else none := by
  by_cases h : j < k
  · rw [if_pos h, takePad_eq_map, List.getElem?_map, List.getElem?_range h]; rfl
  · rw [if_neg h, List.getElem?_eq_none (by rw [takePad_length]; omega)]

theorem takePad_mem {β : Type} (k : Nat) (l : List β) (a : β) (h : some a ∈ takePad k l) : a ∈ l := by
  rw [takePad_eq_map] at h
  obtain ⟨j, _, hj⟩ := List.mem_map.1 h
  exact List.mem_of_getElem? hj

theorem takePad_add {β : Type} (a b : Nat) (l : List β) :
    takePad (a + b) l = takePad a l ++ takePad b (l.drop a) := by
  simp only [takePad_eq_map, List.range_add, List.map_append, List.map_map, List.getElem?_drop]
  rfl
theorem takePad_mem_some {β : Type} (k : Nat) (l : List β) (hk : k ≤ l.length) (x : Option β)
    (h : x ∈ takePad k l) : ∃ a ∈ l, x = some a := by
  rw [takePad_eq_map] at h
  obtain ⟨j, hj, rfl⟩ := List.mem_map.1 h
  have hl : j < l.length := Nat.lt_of_lt_of_le (List.mem_range.1 hj) hk
  exact ⟨l[j], List.getElem_mem hl, List.getElem?_eq_getElem hl⟩

theorem takePad_succ_head {β : Type} (k : Nat) (l : List β) :
    takePad (k + 1) l = l.head? :: takePad k l.tail := by
  cases l <;> simp [takePad]

theorem takePad_none_count {β : Type} : ∀ (k : Nat) (l : List β),
    ((takePad k l).filter Option.isNone).length = k - l.length := by
  intro k
  induction k with
  | zero => intro l; simp [takePad]
  | succ k ih =>
    intro l
    cases l with
    | nil => simp [takePad, ih []]
    | cons x xs => simp [takePad, ih xs]

theorem repeatList_length {β : Type} (n : Nat) (l : List β) : (repeatList n l).length = n * l.length := by
  induction n with
  | zero => simp [repeatList]
  | succ n ih => simp [repeatList, ih, Nat.succ_mul]

theorem mem_repeatList {β : Type} (n : Nat) (l : List β) (x : β) : x ∈ repeatList n l → x ∈ l := by
  induction n with
  | zero => intro h; simp [repeatList] at h
  | succ n ih =>
    intro h
    simp only [repeatList, List.mem_append] at h
    rcases h with h | h
    · exact ih h
    · exact h

theorem call_spec (K : Kernel α γ) (ds : Array Nat) (zb : Array α) (s : St α γ) (i : Nat) :
    ∃ e : Ev α γ, (call K ds zb s i).ev = s.ev ++ [e] ∧ e.cell = i ∧ e.h0 = s.out[ds[i]!]! ∧
      e.ext = K.ext zb i ∧ e.ans = s.orc.head? ∧ (call K ds zb s i).orc = s.orc.tail ∧
      e.acc = (match s.orc.head? with | some a => K.accept i s.out[ds[i]!]! a | none => false) ∧
      (call K ds zb s i).out =
        (match s.orc.head? with
         | some a => if K.accept i s.out[ds[i]!]! a then s.out.setIfInBounds i (K.store a.h1) else s.out
         | none => s.out) := by
  unfold call
  cases horc : s.orc with
  | nil => exact ⟨_, rfl, rfl, rfl, rfl, rfl, rfl, rfl, rfl⟩
  | cons a rest =>
    simp only [List.head?_cons, List.tail_cons]
    by_cases hacc : K.accept i s.out[ds[i]!]! a = true
    · rw [if_pos hacc]
      exact ⟨_, rfl, rfl, rfl, rfl, rfl, rfl, hacc.symm, (if_pos hacc).symm⟩
    · have hf : K.accept i s.out[ds[i]!]! a = false := by simpa using hacc
      rw [if_neg hacc]
      exact ⟨_, rfl, rfl, rfl, rfl, rfl, rfl, hf.symm, (if_neg hacc).symm⟩

theorem call_out_size (K : Kernel α γ) (ds : Array Nat) (zb : Array α) (s : St α γ) (i : Nat) :
    (call K ds zb s i).out.size = s.out.size := by
  obtain ⟨e, _, _, _, _, _, _, _, hout⟩ := call_spec K ds zb s i
  rw [hout]
  cases s.orc.head? with
  | none => rfl
  | some a => simp only []; split <;> simp

theorem call_out_ne (K : Kernel α γ) (ds : Array Nat) (zb : Array α) (s : St α γ) (i j : Nat) (h : i ≠ j) :
    (call K ds zb s i).out[j]! = s.out[j]! := by
  obtain ⟨e, _, _, _, _, _, _, _, hout⟩ := call_spec K ds zb s i
  rw [hout]
  cases s.orc.head? with
  | none => rfl
  | some a =>
    simp only []
    split
    · rw [get!_setIfInBounds]; simp [h]
    · rfl

theorem step_eligible (K : Kernel α γ) (ds : Array Nat) (zb : Array α) (s : St α γ) {i : Nat}
    (h : eligible K ds i = true) : step K ds zb s i = call K ds zb s i := if_pos h

theorem step_not_eligible (K : Kernel α γ) (ds : Array Nat) (zb : Array α) (s : St α γ) {i : Nat}
    (h : ¬ eligible K ds i = true) : step K ds zb s i = s := if_neg h

theorem step_inv (K : Kernel α γ) (ds : Array Nat) (zb : Array α) (s : St α γ) (i : Nat) (I : St α γ → Prop)
    (hs : I s) (hcall : eligible K ds i = true → I (call K ds zb s i)) : I (step K ds zb s i) := by
  by_cases h : eligible K ds i = true
  · rw [step_eligible K ds zb s h]; exact hcall h
  · rw [step_not_eligible K ds zb s h]; exact hs

theorem step_out_size (K : Kernel α γ) (ds : Array Nat) (zb : Array α) (s : St α γ) (i : Nat) :
    (step K ds zb s i).out.size = s.out.size :=
  step_inv K ds zb s i (fun t => t.out.size = s.out.size) rfl fun _ => call_out_size K ds zb s i

theorem step_out_ne (K : Kernel α γ) (ds : Array Nat) (zb : Array α) (s : St α γ) (i j : Nat) (h : i ≠ j) :
    (step K ds zb s i).out[j]! = s.out[j]! :=
  step_inv K ds zb s i (fun t => t.out[j]! = s.out[j]!) rfl fun _ => call_out_ne K ds zb s i j h

theorem sweep_snoc (K : Kernel α γ) (ds : Array Nat) (zb : Array α) (pre : List Nat) (i : Nat) (s : St α γ) :
    sweep K ds zb (pre ++ [i]) s = step K ds zb (sweep K ds zb pre s) i := by
  simp [sweep, List.foldl_append]

theorem run_succ (K : Kernel α γ) (ds : Array Nat) (seq : List Nat) (n : Nat) (p : Array α × St α γ) :
    (run K ds seq (n + 1) p).2 = sweep K ds (run K ds seq n p).1 seq (run K ds seq n p).2 := rfl

theorem run_succ_zb (K : Kernel α γ) (ds : Array Nat) (seq : List Nat) (n : Nat) (p : Array α × St α γ) :
    (run K ds seq (n + 1) p).1 = K.mkZb (run K ds seq (n + 1) p).2.out := rfl

theorem run_inv (K : Kernel α γ) (ds : Array Nat) (seq : List Nat) (I : St α γ → Prop)
    (hstep : ∀ zb s i, i ∈ seq → I s → I (step K ds zb s i)) :
    ∀ n p, I p.2 → I (run K ds seq n p).2 := by
  intro n
  induction n with
  | zero => intro p hp; exact hp
  | succ n ih =>
    intro p hp
    rw [run_succ]
    exact foldl_inv _ I seq (hstep _) _ (ih p hp)

/-- the same from the calls alone: the loop body is a call or nothing -/
theorem run_inv_call (K : Kernel α γ) (ds : Array Nat) (seq : List Nat) (I : St α γ → Prop)
    (hcall : ∀ zb s i, i ∈ seq → eligible K ds i = true → I s → I (call K ds zb s i)) :
    ∀ n p, I p.2 → I (run K ds seq n p).2 :=
  run_inv K ds seq I fun zb s i hi hs => step_inv K ds zb s i I hs fun hel => hcall zb s i hi hel hs

theorem sweep_eq_calls (K : Kernel α γ) (ds : Array Nat) (zb : Array α) (seq : List Nat) (s : St α γ) :
    sweep K ds zb seq s = (callers K ds seq).foldl (call K ds zb) s := by
  unfold sweep callers
  rw [List.foldl_filter]
  rfl

theorem calls_spec (K : Kernel α γ) (ds : Array Nat) (zb : Array α) : ∀ (cs : List Nat) (s : St α γ),
    ∃ new, (cs.foldl (call K ds zb) s).ev = s.ev ++ new ∧ new.map (·.cell) = cs ∧
      new.map (·.ans) = takePad cs.length s.orc ∧ (cs.foldl (call K ds zb) s).orc = s.orc.drop cs.length ∧
      ∀ e ∈ new, e.ext = K.ext zb e.cell := by
  intro cs
  induction cs with
  | nil => intro s; exact ⟨[], by simp, rfl, rfl, by simp, by simp⟩
  | cons c cs ih =>
    intro s
    obtain ⟨e, hev, hcell, _, hext, hans, horc, _, _⟩ := call_spec K ds zb s c
    obtain ⟨new, h1, h2, h3, h4, h5⟩ := ih (call K ds zb s c)
    refine ⟨e :: new, ?_, ?_, ?_, ?_, ?_⟩
    · simp only [List.foldl_cons]; rw [h1, hev]; simp
    · simp [h2, hcell]
    · simp only [List.map_cons, List.length_cons, takePad_succ_head, h3, hans, horc]
    · simp only [List.foldl_cons, List.length_cons]; rw [h4, horc]; simp
    · intro e' he'
      simp only [List.mem_cons] at he'
      rcases he' with rfl | he'
      · rw [hext, hcell]
      · exact h5 e' he'

/-- the calls of one sweep: one per caller, in the order of `seq`, consuming the oracle in step -/
theorem sweep_spec (K : Kernel α γ) (ds : Array Nat) (zb : Array α) (seq : List Nat) (s : St α γ) :
    ∃ new, (sweep K ds zb seq s).ev = s.ev ++ new ∧ new.map (·.cell) = callers K ds seq ∧
      new.map (·.ans) = takePad (callers K ds seq).length s.orc ∧
      (sweep K ds zb seq s).orc = s.orc.drop (callers K ds seq).length ∧
      ∀ e ∈ new, e.ext = K.ext zb e.cell := by
  rw [sweep_eq_calls]
  exact calls_spec K ds zb _ s

theorem run_spec (K : Kernel α γ) (ds : Array Nat) (seq : List Nat) : ∀ (n : Nat) (p : Array α × St α γ),
    ∃ new, (run K ds seq n p).2.ev = p.2.ev ++ new ∧ new.map (·.cell) = repeatList n (callers K ds seq) ∧
      new.map (·.ans) = takePad (n * (callers K ds seq).length) p.2.orc ∧
      (run K ds seq n p).2.orc = p.2.orc.drop (n * (callers K ds seq).length) := by
  intro n
  induction n with
  | zero => intro p; exact ⟨[], by simp [run], rfl, by simp [takePad], by simp [run]⟩
  | succ n ih =>
    intro p
    obtain ⟨new, h1, h2, h3, h4⟩ := ih p
    obtain ⟨nw, g1, g2, g3, g4, _⟩ := sweep_spec K ds (run K ds seq n p).1 seq (run K ds seq n p).2
    refine ⟨new ++ nw, ?_, ?_, ?_, ?_⟩
    · rw [run_succ, g1, h1]; simp
    · simp [repeatList, h2, g2]
    · rw [Nat.succ_mul, takePad_add, List.map_append, h3, g3, h4]
    · rw [run_succ, g4, h4, List.drop_drop, Nat.succ_mul]

omit [Inhabited α] in
theorem lastAcc_snoc (evs : List (Ev α γ)) (e : Ev α γ) (i : Nat) :
    lastAcc (evs ++ [e]) i = if (e.acc && e.cell == i) = true then some e else lastAcc evs i := by
  simp [lastAcc, List.find?_cons]
  split <;> simp_all

theorem valueAfter_nil (K : Kernel α γ) (init : Array α) (i : Nat) :
    valueAfter K init ([] : List (Ev α γ)) i = init[i]! := by
  simp [valueAfter, lastAcc]

theorem valueAfter_snoc (K : Kernel α γ) (init : Array α) (evs : List (Ev α γ)) (e : Ev α γ) (j : Nat) :
    valueAfter K init (evs ++ [e]) j =
      if (e.acc && e.cell == j) = true then (match e.ans with | some a => K.store a.h1 | none => init[j]!)
      else valueAfter K init evs j := by
  by_cases h : (e.acc && e.cell == j) = true
  · simp only [valueAfter, lastAcc_snoc, h, if_true]
    cases e.ans <;> rfl
  · simp [valueAfter, lastAcc_snoc, h]

/-- the invariant "every cell holds what its last accepted call stored, else its initial value" -/
def ValueInv (K : Kernel α γ) (init : Array α) (s : St α γ) : Prop :=
  s.out.size = init.size ∧ ∀ j, j < init.size → s.out[j]! = valueAfter K init s.ev j

theorem step_valueInv (K : Kernel α γ) (ds : Array Nat) (init : Array α) (zb : Array α) (s : St α γ) (i : Nat)
    (hI : ValueInv K init s) : ValueInv K init (step K ds zb s i) := by
  refine step_inv K ds zb s i (ValueInv K init) hI fun _ => ?_
  obtain ⟨hsz, hval⟩ := hI
  refine ⟨by rw [call_out_size]; exact hsz, ?_⟩
  intro j hj
  · obtain ⟨e, hev, hcell, _, _, hans, _, hacc, hout⟩ := call_spec K ds zb s i
    rw [hev, valueAfter_snoc, hout]
    cases hh : s.orc.head? with
    | none =>
      rw [hh] at hacc
      simp only [] at hacc
      simp [hacc, hval j hj]
    | some a =>
      rw [hh] at hacc hans
      simp only [] at hacc
      by_cases hc : K.accept i s.out[ds[i]!]! a = true
      · rw [hc] at hacc
        simp only [hc, if_true, hacc, hcell, Bool.true_and, hans]
        rw [get!_setIfInBounds]
        by_cases hij : i = j
        · subst hij; simp [hsz, hj]
        · simp [hij, hval j hj]
      · have hf : K.accept i s.out[ds[i]!]! a = false := by simpa using hc
        rw [hf] at hacc
        simp [hf, hacc, hval j hj]

omit [Inhabited α] in
theorem eligible_not_pit (K : Kernel α γ) (ds : Array Nat) (i : Nat) (h : eligible K ds i = true) :
    ds[i]! ≠ i := by
  simp [eligible] at h
  exact h.2

/-- under a downstream-first order every call of a sweep receives as `h0` the value its downstream cell holds
at the END of that sweep (the downstream cell was handled earlier in the same sweep and is not touched again) -/
theorem sweep_h0_topo (K : Kernel α γ) (ds : Array Nat) (zb : Array α) {seq : List Nat} (htopo : Topo ds seq)
    (s : St α γ) :
    ∃ new, (sweep K ds zb seq s).ev = s.ev ++ new ∧
      ∀ e ∈ new, e.cell ∈ seq ∧ eligible K ds e.cell = true ∧
        e.h0 = (sweep K ds zb seq s).out[ds[e.cell]!]! := by
  induction htopo with
  | nil => exact ⟨[], by simp [sweep], by simp⟩
  | @snoc pre i hpre hi hds ih =>
    obtain ⟨new, hev, hnew⟩ := ih
    rw [sweep_snoc]
    by_cases hel : eligible K ds i = true
    · rw [step_eligible K ds zb _ hel]
      obtain ⟨e, hev', hcell, hh0, _, _, _, _, _⟩ := call_spec K ds zb (sweep K ds zb pre s) i
      refine ⟨new ++ [e], by rw [hev', hev]; simp, ?_⟩
      intro e' he'
      simp only [List.mem_append, List.mem_singleton] at he'
      rcases he' with he' | rfl
      · obtain ⟨hm, hel', hh⟩ := hnew e' he'
        have hne : i ≠ ds[e'.cell]! := by
          intro h
          have := Topo.ds_mem hpre e'.cell hm
          rw [← h] at this
          exact hi this
        refine ⟨by simp [hm], hel', ?_⟩
        rw [call_out_ne _ _ _ _ _ _ hne]
        exact hh
      · refine ⟨by simp [hcell], by rw [hcell]; exact hel, ?_⟩
        rw [hcell, call_out_ne _ _ _ _ _ _ (Ne.symm (eligible_not_pit K ds i hel))]
        exact hh0
    · rw [step_not_eligible K ds zb _ hel]
      refine ⟨new, hev, ?_⟩
      intro e' he'
      obtain ⟨hm, hel', hh⟩ := hnew e' he'
      exact ⟨by simp [hm], hel', hh⟩

theorem takeWhile_ne_of_not_mem (pre post : List Nat) (i : Nat) (h : i ∉ pre) :
    (pre ++ i :: post).takeWhile (· != i) = pre := by
  induction pre with
  | nil => simp
  | cons x xs ih =>
    have hx : x ≠ i := fun hh => h (by simp [hh])
    have hxs : i ∉ xs := fun hh => h (by simp [hh])
    simp [hx, ih hxs]

omit [Inhabited α] in
theorem callers_snoc (K : Kernel α γ) (ds : Array Nat) (pre : List Nat) (i : Nat) :
    callers K ds (pre ++ [i]) = if eligible K ds i = true then callers K ds pre ++ [i] else callers K ds pre := by
  unfold callers
  rw [List.filter_append]
  by_cases h : eligible K ds i = true <;> simp [h]

/-- prefix form: after the cells `pre` of `seq` the depths are those of `sweepDown` over `pre` with the
position-indexed answers, and exactly `#callers pre` answers have been consumed -/
theorem sweep_prefix_sweepDown (K : Kernel α γ) (ds : Array Nat) (zb : Array α) (seq : List Nat) (s : St α γ) :
    ∀ pre, Topo ds pre → (∃ post, seq = pre ++ post) →
      (sweep K ds zb pre s).out = sweepDown ds (gStep K ds seq s.orc) pre s.out ∧
      (sweep K ds zb pre s).orc = s.orc.drop (callers K ds pre).length := by
  intro pre hpre
  induction hpre with
  | nil => intro _; simp [sweep, sweepDown, callers]
  | @snoc pre i hpre hi hds ih =>
    intro ⟨post, hpost⟩
    obtain ⟨ihout, ihorc⟩ := ih ⟨i :: post, by rw [hpost]; simp⟩
    have hpos : posOf K ds seq i = (callers K ds pre).length := by
      unfold posOf callers
      rw [hpost]
      have : pre ++ [i] ++ post = pre ++ i :: post := by simp
      rw [this, takeWhile_ne_of_not_mem pre post i hi]
    rw [sweep_snoc, sweepDown_snoc, callers_snoc]
    rw [← ihout]
    unfold stepDown gStep
    rw [hpos]
    by_cases hel : eligible K ds i = true
    · rw [step_eligible K ds zb _ hel]
      obtain ⟨e, _, _, _, _, _, horc, _, hout⟩ := call_spec K ds zb (sweep K ds zb pre s) i
      have hhead : (sweep K ds zb pre s).orc.head? = s.orc[(callers K ds pre).length]? := by
        rw [ihorc, List.head?_drop]
      rw [hout, horc, hhead, ihorc]
      simp only [hel, if_true]
      refine ⟨?_, by simp⟩
      cases s.orc[(callers K ds pre).length]? with
      | none => simp only []; rw [setIfInBounds_self]
      | some a =>
        simp only []
        split
        · rfl
        · rw [setIfInBounds_self]
    · rw [step_not_eligible K ds zb _ hel]
      simp only [hel]
      refine ⟨?_, ihorc⟩
      simp [setIfInBounds_self]

theorem sweep_eq_sweepDown (K : Kernel α γ) (ds : Array Nat) (zb : Array α) {seq : List Nat}
    (htopo : Topo ds seq) (s : St α γ) :
    (sweep K ds zb seq s).out = sweepDown ds (gStep K ds seq s.orc) seq s.out :=
  (sweep_prefix_sweepDown K ds zb seq s seq htopo ⟨[], by simp⟩).1

theorem run_succ_out (K : Kernel α γ) (ds : Array Nat) {seq : List Nat} (htopo : Topo ds seq) (n : Nat)
    (p : Array α × St α γ) :
    (run K ds seq (n + 1) p).2.out =
      sweepDown ds (gStep K ds seq (p.2.orc.drop (n * (callers K ds seq).length))) seq (run K ds seq n p).2.out := by
  obtain ⟨_, _, _, _, h4⟩ := run_spec K ds seq n p
  rw [run_succ, sweep_eq_sweepDown K ds _ htopo, h4]

end Pf.C14g
