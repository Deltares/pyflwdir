import PfVerif.Proofs.C04
import PfVerif.Proofs.C14Up
/-! Frontier form of `fillnodata_downstream(how='sum')`: the filled value of an empty cell is the sum
of the field over the nearest valid cells upstream (reached through empty cells only), each once.
Route: the sum fill is the guarded accumulation sweep of C04 (`sweepUp_add_sum`) with the field
"value or 0" and the guard "the downstream cell is empty". -/
namespace Pf

/-- the link `c → ds c` passes a value on iff the downstream cell is empty -/
def okEmpty (ds : Array Nat) (data : Array Int) (nd : Int) (c : Nat) : Bool := data[ds[c]!]! == nd

/-- the field with empty cells counted as 0 -/
def valOr0 (data : Array Int) (nd : Int) : Array Int := data.map fun v => if v = nd then 0 else v

theorem valOr0_get (data : Array Int) (nd : Int) (j : Nat) (hj : j < data.size) :
    (valOr0 data nd)[j]! = if data[j]! = nd then 0 else data[j]! := by
  simp [valOr0, hj]

/-- the accumulation sweep that mirrors the sum fill -/
def sumAcc (ds : Array Nat) (seq : List Nat) (data : Array Int) (nd : Int) : Array Int :=
  sweepUp ds (updAdd (okEmpty ds data nd)) seq (valOr0 data nd)

theorem foldl_updAdd_kids (ok : Nat → Bool) (A : Array Int) (b : Bool) :
    ∀ (l : List Nat) (acc : Int), (∀ c ∈ l, ok c = b) →
      l.foldl (fun acc c => updAdd ok c acc A[c]!) acc =
        acc + (if b then (l.map fun c => A[c]!).sum else 0) := by
  intro l
  induction l with
  | nil => intro acc _; cases b <;> simp
  | cons c l ih =>
    intro acc h
    rw [List.foldl_cons, ih _ (fun x hx => h x (by simp [hx]))]
    have hc := h c (by simp)
    cases b <;> simp [updAdd, hc, Int.add_assoc]

theorem mergeBranches_sum_getD (O : Nat → Option Int) (l : List Nat) :
    (mergeBranches 2 (l.map O)).getD 0 = (l.map fun c => (O c).getD 0).sum := by
  have hs : (somes (l.map O)).sum = (l.map fun c => (O c).getD 0).sum := by
    induction l with
    | nil => rfl
    | cons c l ih =>
      simp [somes] at ih ⊢
      cases h : O c <;> simp [ih]
  rw [← hs, mergeBranches_sum]
  split
  · rename_i hall
    rw [show somes (l.map O) = [] from List.filterMap_eq_nil_iff.2 fun x hx => by rw [hall x hx]; rfl]
    rfl
  · rfl

/-- the optional value of every cell after the sum fill is the accumulation (0 when empty) -/
theorem fillOpt_sum_eq_acc (ds : Array Nat) (seq : List Nat) (data : Array Int) (nd : Int)
    (htopo : Topo ds seq) (hb : ∀ i ∈ seq, i < data.size) :
    ∀ j ∈ seq, (fillOpt ds seq data nd 2 j).getD 0 = (sumAcc ds seq data nd)[j]! := by
  refine htopo.induction_kids _ (fun j hj ih => ?_)
  have hkids : ((kids ds seq j).map fun c => (fillOpt ds seq data nd 2 c).getD 0).sum =
      ((kids ds seq j).map fun c => (sumAcc ds seq data nd)[c]!).sum :=
    congrArg List.sum (List.map_congr_left ih)
  unfold fillOpt sumAcc at *
  rw [sweepUp_spec ds (updAdd (okEmpty ds data nd)) seq htopo (valOr0 data nd)
      (fun i hi => by simpa [valOr0] using hb i hi) j,
    foldl_updAdd_kids (okEmpty ds data nd) _ (data[j]! == nd) _ _
      (fun c hc => by rw [okEmpty, (mem_kids.1 hc).2.1]),
    valOr0_get _ _ _ (hb j hj), (fillDown_rec ds seq data nd 2 htopo hb j (hb j hj)).1]
  by_cases hd : data[j]! = nd
  · rw [if_neg (fun h => h hd), if_pos hd, beq_iff_eq.2 hd, if_pos rfl, Int.zero_add, ← hkids]
    exact mergeBranches_sum_getD _ _
  · rw [if_pos hd, if_neg hd, if_neg (by simpa using hd), Int.add_zero]
    rfl

/-- `Feeds k j` (inductive, ≥ 1 step through empty cells) in terms of C04's guarded reachability -/
theorem Feeds.upG {ds : Array Nat} {data : Array Int} {nd : Int} {k j : Nat}
    (h : Feeds ds data nd k j) : UpG ds (okEmpty ds data nd) j k := by
  induction h with
  | step _ hd => exact UpG.snoc (by simp [okEmpty, hd]) (UpG.refl ds _ k)
  | next c _ _ hd ih => exact UpG.snoc (by simp [okEmpty, hd]) ih

theorem Feeds.of_iterA {ds : Array Nat} {data : Array Int} {nd : Int} {k : Nat} :
    ∀ (m j : Nat), iterA ds m k = j → (∀ t, t < m → okEmpty ds data nd (iterA ds t k) = true) →
      k ≠ j → Feeds ds data nd k j := by
  intro m
  induction m with
  | zero => intro j h _ hne; exact absurd h hne
  | succ m ih =>
    intro j h hok hne
    rw [iterA_succ'] at h
    have hokm : data[ds[iterA ds m k]!]! = nd := by
      have := hok m (Nat.lt_succ_self m); simpa [okEmpty] using this
    have hok' : ∀ t, t < m → okEmpty ds data nd (iterA ds t k) = true :=
      fun t ht => hok t (Nat.lt_succ_of_lt ht)
    by_cases hp : ds[iterA ds m k]! = iterA ds m k
    · exact ih j (by rw [← h, hp]) hok' hne
    · subst h
      by_cases hk : k = iterA ds m k
      · have := Feeds.step (ds := ds) (data := data) (nd := nd) (k := k) (by rw [← hk] at hp; exact hp)
          (by rw [← hk] at hokm; exact hokm)
        rw [← hk]; exact this
      · exact Feeds.next _ (ih _ rfl hok' hk) hp hokm

/-- for a source `k` (holding a value) and an empty cell `j`: `k` feeds `j` iff `j` is reached from
`k` over links into empty cells -/
theorem feeds_iff_upG {ds : Array Nat} {data : Array Int} {nd : Int} {k j : Nat}
    (hk : data[k]! ≠ nd) (hj : data[j]! = nd) :
    Feeds ds data nd k j ↔ UpG ds (okEmpty ds data nd) j k :=
  ⟨Feeds.upG, fun ⟨m, hm, hok⟩ => Feeds.of_iterA m j hm hok (fun h => hk (h ▸ hj))⟩

theorem fillOpt_isSome_iff (ds : Array Nat) (seq : List Nat) (data : Array Int) (nd : Int) (how : Nat)
    (htopo : Topo ds seq) (hb : ∀ i ∈ seq, i < data.size) :
    ∀ j ∈ seq, (fillOpt ds seq data nd how j ≠ none ↔
      data[j]! ≠ nd ∨ ∃ k ∈ seq, data[k]! ≠ nd ∧ Feeds ds data nd k j) := by
  have hrec : ∀ j ∈ seq, fillOpt ds seq data nd how j = if data[j]! ≠ nd then some data[j]!
      else mergeBranches how ((kids ds seq j).map fun c => fillOpt ds seq data nd how c) :=
    fun j hj => (fillDown_rec ds seq data nd how htopo hb j (hb j hj)).1
  intro j hj
  constructor
  · revert j
    refine htopo.induction_kids _ (fun j hj ih hne => ?_)
    by_cases hd : data[j]! = nd
    · rw [hrec j hj, if_neg (fun h => h hd)] at hne
      -- some inflow cell holds a value
      obtain ⟨c, hck, hcv⟩ : ∃ c ∈ kids ds seq j, fillOpt ds seq data nd how c ≠ none :=
        Classical.byContradiction fun hcon => hne ((mergeBranches_none how _).2 fun x hx => by
          obtain ⟨c, hc, rfl⟩ := List.mem_map.1 hx
          exact Classical.byContradiction fun h => hcon ⟨c, hc, h⟩)
      obtain ⟨hfc, hfk⟩ := Feeds.of_kid (nd := nd) hck hd
      rcases ih c hck hcv with h1 | ⟨k, hk, h1, h2⟩
      · exact Or.inr ⟨c, (mem_kids.1 hck).1, h1, hfc⟩
      · exact Or.inr ⟨k, hk, h1, hfk k h2⟩
    · exact Or.inl hd
  · rintro (hd | ⟨k, hk, hdk, hf⟩)
    · rw [hrec j hj, if_pos hd]; exact Option.some_ne_none _
    · refine (Feeds.induction_seq (P := fun j => fillOpt ds seq data nd how j ≠ none) htopo hk
        (by rw [hrec k hk, if_pos hdk]; exact Option.some_ne_none _) (fun c hc hv hp hd hn => ?_) hf).2
      rw [hrec _ (Topo.ds_mem htopo c hc), if_neg (fun h => h hd)] at hn
      exact hv ((mergeBranches_none how _).1 hn _
        (List.mem_map.2 ⟨c, mem_kids.2 ⟨hc, rfl, fun h => hp h.symm⟩, rfl⟩))

/-- **frontier form for `sum`**: the value of an empty cell `j` after the fill is the sum of the field
over the sources that feed it (each index counted once); it stays empty iff there is none -/
theorem fillDown_sum_frontier (ds : Array Nat) (seq : List Nat) (data : Array Int) (nd : Int)
    (htopo : Topo ds seq) (hb : ∀ i ∈ seq, i < data.size) (j : Nat) (hj : j ∈ seq) (hd : data[j]! = nd) :
    ((¬ ∃ k ∈ seq, data[k]! ≠ nd ∧ Feeds ds data nd k j) → fillOpt ds seq data nd 2 j = none) ∧
    ((∃ k ∈ seq, data[k]! ≠ nd ∧ Feeds ds data nd k j) →
      fillOpt ds seq data nd 2 j =
        some (sumOver data.size (fun k => k ∈ seq ∧ data[k]! ≠ nd ∧ Feeds ds data nd k j) (fun k => data[k]!))) := by
  have hiff := fillOpt_isSome_iff ds seq data nd 2 htopo hb j hj
  constructor
  · intro hno
    apply Classical.byContradiction
    intro hne
    rcases hiff.1 hne with h | h
    · exact h hd
    · exact hno h
  · intro hex
    have hne : fillOpt ds seq data nd 2 j ≠ none := hiff.2 (Or.inr hex)
    have hacc := fillOpt_sum_eq_acc ds seq data nd htopo hb j hj
    have hb' : ∀ i ∈ seq, i < (valOr0 data nd).size := by
      intro i hi; simp [valOr0]; exact hb i hi
    have hsum := sweepUp_add_sum ds (okEmpty ds data nd) seq htopo data.size hb (valOr0 data nd) hb' j hj
    have hconv : sumOver data.size (fun k => k ∈ seq ∧ UpG ds (okEmpty ds data nd) j k) (fun k => (valOr0 data nd)[k]!) =
        sumOver data.size (fun k => k ∈ seq ∧ data[k]! ≠ nd ∧ Feeds ds data nd k j) (fun k => data[k]!) := by
      unfold sumOver
      apply sumRange_congr
      intro k hk
      show ite0 (k ∈ seq ∧ UpG ds (okEmpty ds data nd) j k) (valOr0 data nd)[k]! =
        ite0 (k ∈ seq ∧ data[k]! ≠ nd ∧ Feeds ds data nd k j) data[k]!
      rw [valOr0_get _ _ _ hk]
      by_cases hdk : data[k]! = nd
      · rw [if_pos hdk, ite0_neg (p := k ∈ seq ∧ data[k]! ≠ nd ∧ Feeds ds data nd k j) (fun h => h.2.1 hdk)]
        by_cases hp : k ∈ seq ∧ UpG ds (okEmpty ds data nd) j k
        · rw [ite0_pos hp]
        · rw [ite0_neg hp]
      · rw [if_neg hdk]
        exact ite0_congr ⟨fun h => ⟨h.1, hdk, (feeds_iff_upG hdk hd).2 h.2⟩,
          fun h => ⟨h.1, (feeds_iff_upG hdk hd).1 h.2.2⟩⟩ (fun _ => rfl)
    cases hv : fillOpt ds seq data nd 2 j with
    | none => exact absurd hv hne
    | some r =>
      rw [hv] at hacc
      simp only [Option.getD_some] at hacc
      rw [hacc]
      show some (sumAcc ds seq data nd)[j]! = _
      unfold sumAcc
      rw [hsum, hconv]

end Pf
