import PfVerif.Generated.Traces
import PfVerif.Model.C11_fn
import PfVerif.Proofs.C11Trace
/-! Bridge lemma of the `C11_fn` extension: one iteration of the generated recursion `Tr._trace_loop` (state
`idx0, idxs, dist, d`, list built by `++ [x]`), in the form in which `Props/C11_fn.lean` compares it with one
iteration of the hand-written `Pf.trace` (`trace_succ`). -/
namespace Pf.C11fn
open Pf Pf.Generated

/-- one iteration of the generated loop in the vocabulary of the model. The generated text is unfolded here and
nowhere else; nothing but a case distinction on the optional arguments and propositional reasoning is used, so the
lemma does not depend on how the translator lays out the tests. -/
theorem gen_loop_succ {Opaque : Type} (nxt : Array Nat) (ncol : Option Nat) (mask : Option (Array Bool))
    (maxLen : Option Int) (real latlon : Bool) (transform : Opaque) (mv : Nat) (one : Int)
    (distance : Nat → Nat → Nat → Bool → Opaque → Int) (fuel idx0 : Nat) (idxs : List Nat) (dist d : Int) :
    Tr._trace_loop nxt ncol mask maxLen real latlon transform mv one distance (fuel+1) idx0 idxs dist d =
      if maskHit mask idx0 = false then
        if nxt[idx0]! = idx0 ∨ nxt[idx0]! = mv then some (idx0, idxs, dist, d)
        else
          let rest := fun d' : Int =>
            if overLen maxLen (dist + d') then some (idx0, idxs, dist, d')
            else Tr._trace_loop nxt ncol mask maxLen real latlon transform mv one distance fuel nxt[idx0]!
              (idxs ++ [nxt[idx0]!]) (dist + d') d'
          if real && ncol.isSome then rest (distance idx0 nxt[idx0]! (ncol.getD 0) latlon transform) else rest d
      else some (idx0, idxs, dist, d) := by
  cases mask <;> cases maxLen <;>
    simp [Tr._trace_loop, Tr.optGetN, Tr.optGetL, Tr.optGetB, maskHit, overLen] <;> grind

end Pf.C11fn
