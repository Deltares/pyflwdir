import PfVerif.Model.C11
/-! Floor division and the cell containing a point. -/
namespace Pf

/-- `v` lies in the `k`-th interval of width `|res|` counted from `o` in the direction of `res`
(closed at the end nearer to `o`, open at the other) -/
def InCell (o res : Int) (k : Nat) (v : Int) : Prop :=
  if res > 0 then o + k * res ≤ v ∧ v < o + (k + 1) * res
  else o + (k + 1) * res < v ∧ v ≤ o + k * res

instance (o res : Int) (k : Nat) (v : Int) : Decidable (InCell o res k v) := by
  unfold InCell; exact inferInstance

theorem int_mul_self_nonneg (a : Int) : 0 ≤ a * a := by
  rcases Int.le_total 0 a with h | h
  · exact Int.mul_nonneg h h
  · exact Int.mul_nonneg_of_nonpos_of_nonpos h h

private theorem ediv_eq_iff {a b q : Int} (hb : 0 < b) : a / b = q ↔ q * b ≤ a ∧ a < (q + 1) * b := by
  rw [← Int.le_ediv_iff_mul_le hb, ← Int.ediv_lt_iff_lt_mul hb]; omega

theorem floorDiv_eq_iff_pos {a b q : Int} (hb : 0 < b) :
    floorDiv a b = q ↔ q * b ≤ a ∧ a < (q + 1) * b := by
  rw [floorDiv, if_pos hb, ediv_eq_iff hb]

theorem floorDiv_eq_iff_neg {a b q : Int} (hb : b < 0) :
    floorDiv a b = q ↔ (q + 1) * b < a ∧ a ≤ q * b := by
  rw [floorDiv, if_neg (by omega), ediv_eq_iff (by omega), Int.mul_neg, Int.mul_neg]; omega

/-- `floorDiv` picks the interval the point lies in, for both signs of the cell size -/
theorem floorDiv_eq_iff_inCell {o res v : Int} (hres : res ≠ 0) (k : Nat) :
    floorDiv (v - o) res = k ↔ InCell o res k v := by
  unfold InCell
  by_cases hp : res > 0
  · rw [if_pos hp, floorDiv_eq_iff_pos hp]; omega
  · rw [if_neg hp, floorDiv_eq_iff_neg (by omega)]; omega

end Pf
