import PfVerif.Model.C01_fn
import PfVerif.Model.C01_ext
import PfVerif.Model.C09
import PfVerif.Model.C10
/-! Lemmas for `Props/C01_fn.lean` that do not mention the generated definitions: Python's floor division / modulo
(`Int.fdiv`, `Int.fmod`) on casts of naturals are the casts of `Nat` division / modulo (all divisors, zero included);
`_downstream_idx` of the model as an integer; the division-free specifications against the models
of C09. -/
namespace Pf.FnBridge

theorem fdiv_nat (a b : Nat) : Int.fdiv (a : Int) (b : Int) = ((a / b : Nat) : Int) := by
  rw [Int.fdiv_eq_ediv_of_nonneg _ (Int.natCast_nonneg b)]; exact (Int.natCast_ediv a b).symm

theorem fmod_nat (a b : Nat) : Int.fmod (a : Int) (b : Int) = ((a % b : Nat) : Int) := by
  rw [Int.fmod_eq_emod_of_nonneg _ (Int.natCast_nonneg b)]; exact (Int.natCast_emod a b).symm

/-- the linear index of a position on the raster is below the number of cells -/
theorem inb_lt {r c : Int} {nrow ncol : Nat} (hr : r < nrow) (hc : c < ncol) :
    c + r * ncol < ((nrow * ncol : Nat) : Int) := by
  have h1 : (r + 1) * (ncol : Int) ≤ nrow * ncol :=
    Int.mul_le_mul_of_nonneg_right (by omega) (Int.natCast_nonneg _)
  rw [Int.add_mul, Int.one_mul] at h1
  rw [Int.natCast_mul]
  omega

/-- the model of `_downstream_idx` read as an integer: the `toNat` of the in-raster branch disappears -/
theorem downstreamIdx_cast (drdc : Nat → Int × Int) (nrow ncol : Nat) (codes : Array Nat) (idx0 : Nat) :
    ((Fd.downstreamIdx drdc nrow ncol codes idx0 : Nat) : Int) =
      if ((idx0 / ncol : Nat) : Int) + (drdc codes[idx0]!).1 ≥ 0 ∧ ((idx0 / ncol : Nat) : Int) + (drdc codes[idx0]!).1 < nrow ∧
         ((idx0 % ncol : Nat) : Int) + (drdc codes[idx0]!).2 ≥ 0 ∧ ((idx0 % ncol : Nat) : Int) + (drdc codes[idx0]!).2 < ncol
      then ((idx0 % ncol : Nat) : Int) + (drdc codes[idx0]!).2 + (((idx0 / ncol : Nat) : Int) + (drdc codes[idx0]!).1) * ncol
      else ((nrow * ncol : Nat) : Int) := by
  unfold Fd.downstreamIdx
  simp only
  split
  · rename_i h
    exact Int.toNat_of_nonneg (Int.add_nonneg h.2.2.1 (Int.mul_nonneg h.1 (Int.natCast_nonneg _)))
  · rfl

/-- floor semantics, stated without division: `Int.fdiv a b` is the `q` with `q * b ≤ a < (q + 1) * b` and
`Int.fmod` the remainder, for positive `b` and **every** `a` (negative ones included) -/
theorem fdiv_fmod_floor (a b : Int) (hb : 0 < b) :
    Int.fdiv a b * b ≤ a ∧ a < (Int.fdiv a b + 1) * b ∧ Int.fmod a b = a - Int.fdiv a b * b := by
  rw [Int.fdiv_eq_ediv_of_nonneg _ (Int.le_of_lt hb), Int.fmod_eq_emod_of_nonneg _ (Int.le_of_lt hb)]
  have h1 := Int.emod_add_mul_ediv a b
  have h2 := Int.emod_nonneg a (Int.ne_of_gt hb)
  have h3 := Int.emod_lt_of_pos a hb
  have h4 : (a / b + 1) * b = a / b * b + b := by rw [Int.add_mul, Int.one_mul]
  have h5 : b * (a / b) = a / b * b := Int.mul_comm _ _
  refine ⟨?_, ?_, ?_⟩ <;> omega

end Pf.FnBridge

namespace Pf.FnSpec

/-- the searched block is the quotient -/
theorem blockOf_eq_div (x n : Nat) (hn : 0 < n) : blockOf x n = x / n := by
  unfold blockOf
  have hq : (decide (x / n * n ≤ x) && decide (x < (x / n + 1) * n)) = true := by
    have := Nat.div_mul_le_self x n
    have := Nat.lt_succ_iff.mpr (Nat.le_refl (x / n))
    have h2 : x < (x / n + 1) * n := by
      have := Nat.lt_mul_div_succ x hn
      rw [Nat.mul_comm]; exact this
    simp [Nat.div_mul_le_self, h2]
  cases hf : (List.range (x + 1)).find? fun q => decide (q * n ≤ x) && decide (x < (q + 1) * n) with
  | none =>
    have := List.find?_eq_none.mp hf (x / n) (List.mem_range.mpr (Nat.lt_succ_of_le (Nat.div_le_self x n)))
    exact absurd hq this
  | some q =>
    have hp := List.find?_some hf
    simp only [Bool.and_eq_true, decide_eq_true_eq] at hp
    simp only [Option.getD_some]
    -- q * n ≤ x < (q + 1) * n  ⇒  q = x / n
    have h1 : q ≤ x / n := (Nat.le_div_iff_mul_le hn).mpr hp.1
    have h2 : x / n < q + 1 := (Nat.div_lt_iff_lt_mul hn).mpr hp.2
    omega

theorem offsetOf_eq_mod (x n : Nat) (hn : 0 < n) : offsetOf x n = x % n := by
  unfold offsetOf
  rw [blockOf_eq_div x n hn]
  have := Nat.div_add_mod x n
  have h : x / n * n = n * (x / n) := Nat.mul_comm _ _
  omega

/-- the coarse cell found by searching the blocks is the one the model computes by division -/
theorem cellOf_eq_model (subidx subncol cs ncol : Nat) (h1 : 0 < subncol) (h2 : 0 < cs) :
    cellOf subidx subncol cs ncol = Pf.subidx2idx subidx subncol cs ncol := by
  simp only [cellOf, Pf.subidx2idx, blockOf_eq_div _ _ h1, blockOf_eq_div _ _ h2, offsetOf_eq_mod _ _ h1]

theorem any_any_and {α β : Type} (l : List α) (m : List β) (p : α → Bool) (q : β → Bool) :
    (l.any fun a => m.any fun b => p a && q b) = (l.any p && m.any q) := by
  rw [Bool.eq_iff_iff]
  simp only [List.any_eq_true, Bool.and_eq_true]
  exact ⟨fun ⟨a, ha, b, hb, h1, h2⟩ => ⟨⟨a, ha, h1⟩, ⟨b, hb, h2⟩⟩,
    fun ⟨⟨a, ha, h1⟩, ⟨b, hb, h2⟩⟩ => ⟨a, ha, b, hb, h1, h2⟩⟩

theorem absDiff_le_one (a b : Nat) : Pf.absDiff a b ≤ 1 ↔ (a : Int) - b ≤ 1 ∧ (b : Int) - a ≤ 1 := by
  unfold Pf.absDiff; omega

/-- the test of the model over the integers -/
theorem inD8_int (i j n : Nat) : Pf.inD8 i j n =
    (decide (((j % n : Nat) : Int) - (i % n : Nat) ≤ 1 ∧ ((i % n : Nat) : Int) - (j % n : Nat) ≤ 1) &&
     decide (((j / n : Nat) : Int) - (i / n : Nat) ≤ 1 ∧ ((i / n : Nat) : Int) - (j / n : Nat) ≤ 1)) := by
  simp only [Pf.inD8, absDiff_le_one]

/-- the search over the nine offsets is two independent searches over `{-1, 0, 1}`, one for the rows and one for
the columns, and each succeeds iff the two coordinates differ by at most one: the test of the model -/
theorem near_eq_model (i j ncol : Nat) (h : 0 < ncol) : near i j ncol = Pf.inD8 i j ncol := by
  have step : ∀ a b : Nat, ([-1, 0, 1] : List Int).any (fun d => decide ((a : Int) + d = b)) =
      decide (Pf.absDiff b a ≤ 1) := by
    intro a b
    rw [Bool.eq_iff_iff]
    simp only [List.any_cons, List.any_nil, Bool.or_eq_true, decide_eq_true_eq, Bool.or_false, absDiff_le_one]
    omega
  simp only [near, Pf.inD8, blockOf_eq_div _ _ h, offsetOf_eq_mod _ _ h]
  rw [any_any_and, step, step, Bool.and_comm]

end Pf.FnSpec
