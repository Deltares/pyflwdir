import PfVerif.Proofs.C19Walk
import PfVerif.Proofs.C19Cert
import PfVerif.Proofs.C19Nup
import PfVerif.Proofs.Paths
/-! The model of `streams.streams` satisfies the certificate `StreamsOK` (C19): the invariant of the `done`
flags over a downstream-first order processed from its end (`Inv`), its preservation by one iteration of the
outer loop (`inv_skip`, `inv_walk`), the whole loop (`fold_inv`), and the clauses of the certificate read off
the final invariant (`streamsOK_of_inv`). -/
namespace Pf.C19
open Pf

variable {ds : Array Nat} {mask : Option (Array Bool)}

theorem closed_step (hcl : dsClosed ds mask = true) {i : Nat} (h : inStream ds mask i = true) :
    inStream ds mask ds[i]! = true := by
  have := List.all_eq_true.mp hcl i (List.mem_range.mpr (inStream_spec h).1)
  simpa [h] using this

/-- the array count and the declarative count agree on valid cells (as inequalities) -/
theorem nup_gt_iff {d : Nat} (hv : isValid ds d = true) :
    (upstreamCount ds mask)[d]! > 1 ↔ 1 < nupM ds mask d := by
  rw [upstreamCount_spec ds mask d hv]; omega

theorem nupM_le_one {d : Nat} (hv : isValid ds d = true) (h : ¬ (upstreamCount ds mask)[d]! > 1) :
    nupM ds mask d ≤ 1 :=
  Nat.le_of_not_lt (mt (nup_gt_iff hv).mpr h)

def isInflow (ds : Array Nat) (mask : Option (Array Bool)) (v j : Nat) : Bool :=
  inStream ds mask j && ds[j]! == v && j != v

theorem nupM_eq (v : Nat) : nupM ds mask v = ((List.range ds.size).filter (isInflow ds mask v)).length := rfl

theorem unique_inflow {a u c : Nat} (hN : nupM ds mask a ≤ 1)
    (hu : inStream ds mask u = true) (hc : inStream ds mask c = true)
    (hua : ds[u]! = a) (hca : ds[c]! = a) (hune : u ≠ a) (hcne : c ≠ a) : u = c := by
  apply Classical.byContradiction
  intro hne
  have hnd : [u, c].Nodup := by simp [hne]
  have hsub : [u, c] ⊆ (List.range ds.size).filter (isInflow ds mask a) := by
    intro x hx
    simp only [List.mem_cons, List.not_mem_nil, or_false] at hx
    rw [List.mem_filter, List.mem_range]
    rcases hx with rfl | rfl
    · exact ⟨(inStream_spec hu).1, by simp [isInflow, hu, hua, hune]⟩
    · exact ⟨(inStream_spec hc).1, by simp [isInflow, hc, hca, hcne]⟩
  have := List.Nodup.length_le_of_subset hnd hsub
  rw [← nupM_eq] at this
  simp at this
  omega

theorem exists_inflow {a : Nat} (hN : 0 < nupM ds mask a) :
    ∃ u, inStream ds mask u = true ∧ ds[u]! = a ∧ u ≠ a := by
  rw [nupM_eq] at hN
  obtain ⟨u, hu⟩ := List.exists_mem_of_length_pos hN
  rw [List.mem_filter] at hu
  have := hu.2
  simp only [isInflow, Bool.and_eq_true, beq_iff_eq, bne_iff_ne, ne_eq] at this
  exact ⟨u, this.1.1, this.1.2, this.2⟩

/-! ### what one walk adds to the features -/

/-- the upstream ends of the emitted pairs -/
def srcA (out : List (List Nat)) : List Nat := (allPairs out).map (·.1)
/-- the pits that have a zero-length feature -/
def srcB (out : List (List Nat)) : List Nat := (pitFeats out).map (·.head!)

theorem streamFeats_append (a b : List (List Nat)) : streamFeats (a ++ b) = streamFeats a ++ streamFeats b := by
  simp [streamFeats]

theorem pitFeats_append (a b : List (List Nat)) : pitFeats (a ++ b) = pitFeats a ++ pitFeats b := by
  simp [pitFeats]

theorem streamFeats_walk (w : WalkRes) (m : Nat) (hne : ∀ q ∈ pairsOf w.idxs, q.1 ≠ q.2) :
    streamFeats (walkFeatures w m) = splitPieces w.idxs m := by
  unfold walkFeatures
  rw [streamFeats_append]
  have h1 : streamFeats (splitPieces w.idxs m) = splitPieces w.idxs m := by
    unfold streamFeats
    rw [List.filter_eq_self]
    intro p hp
    simp [piece_not_pitFeat hp hne]
  have h2 : streamFeats (if w.pit = true then [[w.last, w.last]] else []) = [] := by
    unfold streamFeats
    split <;> simp [isPitFeat]
  rw [h1, h2, List.append_nil]

theorem pitFeats_walk (w : WalkRes) (m : Nat) (hne : ∀ q ∈ pairsOf w.idxs, q.1 ≠ q.2) :
    pitFeats (walkFeatures w m) = if w.pit = true then [[w.last, w.last]] else [] := by
  unfold walkFeatures
  rw [pitFeats_append]
  have h1 : pitFeats (splitPieces w.idxs m) = [] := by
    unfold pitFeats
    rw [List.filter_eq_nil_iff]
    intro p hp
    simp [piece_not_pitFeat hp hne]
  have h2 : pitFeats (if w.pit = true then [[w.last, w.last]] else []) =
      if w.pit = true then [[w.last, w.last]] else [] := by
    unfold pitFeats
    split <;> simp [isPitFeat]
  rw [h1, h2, List.nil_append]

theorem srcA_append_walk (out : List (List Nat)) (w : WalkRes) (m : Nat)
    (hne : ∀ q ∈ pairsOf w.idxs, q.1 ≠ q.2) :
    srcA (out ++ walkFeatures w m) = srcA out ++ (pairsOf w.idxs).map (·.1) := by
  unfold srcA allPairs
  rw [streamFeats_append, streamFeats_walk w m hne, List.flatMap_append, List.map_append,
    splitPieces_pairs]

theorem srcB_append_walk (out : List (List Nat)) (w : WalkRes) (m : Nat)
    (hne : ∀ q ∈ pairsOf w.idxs, q.1 ≠ q.2) :
    srcB (out ++ walkFeatures w m) = srcB out ++ (if w.pit = true then [w.last] else []) := by
  unfold srcB
  rw [pitFeats_append, pitFeats_walk w m hne, List.map_append]
  split <;> simp [head!_cons]

theorem EndsP.mono {ds : Array Nat} {mask : Option (Array Bool)} {m : Nat} {G G' : List (List Nat)}
    {f : List Nat} (h : EndsP ds mask m G f) (hsub : ∀ g ∈ G, g ∈ G') : EndsP ds mask m G' f := by
  obtain ⟨s, e, h1, h2, h3, h4, h5⟩ := h
  refine ⟨s, e, h1, h2, h3, ?_, ?_⟩
  · rcases h4 with h | ⟨hm, g, hg, h⟩
    · exact Or.inl h
    · exact Or.inr ⟨hm, g, hsub g hg, h⟩
  · rcases h5 with h | h | ⟨hm, g, hg, h⟩
    · exact Or.inl h
    · exact Or.inr (Or.inl h)
    · exact Or.inr (Or.inr ⟨hm, g, hsub g hg, h⟩)

/-- invariant of the outer loop `for idx0 in seq[::-1]`; `pre` = the cells of the order not yet visited, `st` = the features
appended so far and the `done` flags -/
structure Inv (ds : Array Nat) (mask : Option (Array Bool)) (m : Nat) (pre : List Nat)
    (st : List (List Nat) × Array Bool) : Prop where
  size : st.2.size = ds.size
  /-- only stream cells are flagged -/
  strm : ∀ a : Nat, st.2[a]! = true → inStream ds mask a = true
  /-- a flagged cell still to be visited was entered from a flagged cell: with `unique_inflow` this is why a walk never
  runs into a flagged cell, so no link is emitted twice -/
  good : ∀ a : Nat, st.2[a]! = true → a ∈ pre → ∃ u : Nat, st.2[u]! = true ∧ ds[u]! = a ∧ u ≠ a
  /-- the flags continue downstream through every non-confluence: a walk stops only at a pit or a confluence, and this is
  why an unflagged cell at its visit is a headwater or a confluence, never the middle of a stream -/
  cont : ∀ u : Nat, st.2[u]! = true → ds[u]! ≠ u → nupM ds mask ds[u]! ≤ 1 → st.2[ds[u]!]! = true
  /-- every stream cell already visited is flagged (at the end: every stream cell) -/
  proc : ∀ u : Nat, inStream ds mask u = true → u ∉ pre → st.2[u]! = true
  /-- no cell is the upstream end of two emitted pairs (`okOnce`) -/
  nodupA : (srcA st.1).Nodup
  /-- no pit has two zero-length features (`okPits`) -/
  nodupB : (srcB st.1).Nodup
  /-- the upstream end of an emitted pair is flagged -/
  doneA : ∀ a ∈ srcA st.1, st.2[a]! = true
  /-- a pit with a zero-length feature is flagged -/
  doneB : ∀ a ∈ srcB st.1, st.2[a]! = true
  /-- a flagged non-pit has its link emitted, a flagged pit its zero-length feature (`okCover`, `okPits`) -/
  src : ∀ a : Nat, st.2[a]! = true → (ds[a]! ≠ a → a ∈ srcA st.1) ∧ (ds[a]! = a → a ∈ srcB st.1)
  /-- the start/end clause for the stream features so far (`okEnds`) -/
  ends : ∀ f ∈ streamFeats st.1, EndsP ds mask m (streamFeats st.1) f
  /-- no interior vertex of a stream feature so far is a confluence (`okInterior`) -/
  intr : ∀ f ∈ streamFeats st.1, ∀ v ∈ interior f, nupM ds mask v ≤ 1

theorem inv_init (ds : Array Nat) (mask : Option (Array Bool)) (m : Nat) (seq : List Nat)
    (hcov : ∀ i, inStream ds mask i = true → i ∈ seq) :
    Inv ds mask m seq (([] : List (List Nat)), Array.replicate ds.size false) := by
  have hf : ∀ a : Nat, (Array.replicate ds.size false)[a]! = true → False :=
    fun a ha => replicate_false_ne_true _ a ha
  refine ⟨by simp, ?_, ?_, ?_, ?_, by simp [srcA, allPairs, streamFeats], by simp [srcB, pitFeats],
    by simp [srcA, allPairs, streamFeats], by simp [srcB, pitFeats], ?_, by simp [streamFeats], by simp [streamFeats]⟩
  · intro a ha; exact (hf a ha).elim
  · intro a ha; exact (hf a ha).elim
  · intro a ha; exact (hf a ha).elim
  · intro u hu hn; exact absurd (hcov u hu) hn
  · intro a ha; exact (hf a ha).elim

theorem inv_skip {ds : Array Nat} {mask : Option (Array Bool)} {m : Nat} {pre : List Nat} {s : Nat}
    {st : List (List Nat) × Array Bool} (h : Inv ds mask m (pre ++ [s]) st)
    (hskip : st.2[s]! = true ∨ maskAt mask s = false) : Inv ds mask m pre st := by
  refine ⟨h.size, h.strm, ?_, h.cont, ?_, h.nodupA, h.nodupB, h.doneA, h.doneB, h.src, h.ends, h.intr⟩
  · intro a ha hp
    exact h.good a ha (by simp [hp])
  · intro u hu hn
    by_cases hus : u = s
    · subst hus
      rcases hskip with h1 | h1
      · exact h1
      · have := (inStream_spec hu).2.2; rw [h1] at this; cases this
    · exact h.proc u hu (by simp [hn, hus])

/-- old and new sources stay pairwise different: the old ones are flagged, the new ones were not -/
theorem nodup_append_of_flags {done : Array Bool} {old new : List Nat} (ho : old.Nodup) (hn : new.Nodup)
    (hod : ∀ a ∈ old, done[a]! = true) (hnn : ∀ b ∈ new, done[b]! = false) : (old ++ new).Nodup :=
  List.nodup_append.mpr ⟨ho, hn, fun a ha b hb hab => by
    have h1 := hod a ha
    rw [hab, hnn b hb] at h1
    cases h1⟩

/-- the walk from the cell `s` being visited, unflagged and selected: it never enters a flagged cell (a
non-confluence has one inflow, and a flagged cell still to be visited was entered from a flagged cell), so it
flags pairwise different, so far unflagged stream cells of the order; and `s` is a headwater or a confluence
(an inflow of a non-confluence would have flagged it) -/
theorem walk_unflagged {m : Nat} {pre : List Nat} {s : Nat} {st : List (List Nat) × Array Bool} {w : WalkRes}
    (hcl : dsClosed ds mask = true) (htopo : Topo ds (pre ++ [s])) (hb : ∀ i ∈ pre ++ [s], i < ds.size)
    (h : Inv ds mask m (pre ++ [s]) st) (hnd : st.2[s]! = false) (hm : maskAt mask s = true)
    (hw : streamWalk ds (upstreamCount ds mask) (ds.size + 1) s [s] st.2 = some w) :
    ∃ tail marked, WalkM ds (upstreamCount ds mask) s tail marked w.pit w.last ∧ w.idxs = s :: tail ∧
      w.done.size = ds.size ∧ (∀ a : Nat, w.done[a]! = true ↔ (st.2[a]! = true ∨ a ∈ marked)) ∧ marked.Nodup ∧
      (∀ a ∈ marked, a ∈ pre ++ [s] ∧ inStream ds mask a = true ∧ st.2[a]! = false) ∧
      (∀ x ∈ w.idxs, x ∈ pre ++ [s] ∧ inStream ds mask x = true) ∧ nupM ds mask s ≠ 1 := by
  obtain ⟨hpreT, hsnot, hsds⟩ := htopo.snoc_inv
  have hdsmem := Topo.ds_mem htopo
  have hsmem : s ∈ pre ++ [s] := by simp
  have hall : ∀ x ∈ pre ++ [s], ds[x]! ≠ x → ds[x]! ∈ pre := by
    intro x hx hne
    rcases List.mem_append.mp hx with hx | hx
    · exact Topo.ds_mem hpreT x hx
    · rw [List.mem_singleton.mp hx] at hne ⊢
      exact hsds.resolve_left hne
  have hvalid := htopo.isValid hb
  have hsS : inStream ds mask s = true := by
    simp [inStream, hvalid s hsmem, hm]
  obtain ⟨tail, marked, hW, hidx, hsz, hdone⟩ := streamWalk_specM ds _ _ s [s] st.2 w hw
  have hidx' : w.idxs = s :: tail := by simpa using hidx
  have hP : ∀ a ∈ marked, a ∈ pre ++ [s] ∧ inStream ds mask a = true ∧ st.2[a]! = false := by
    refine hW.propagate (fun a => a ∈ pre ++ [s] ∧ inStream ds mask a = true ∧ st.2[a]! = false)
      ⟨hsmem, hsS, hnd⟩ ?_
    intro u ⟨hu1, hu2, hu3⟩ hune hnc
    have hdmem : ds[u]! ∈ pre ++ [s] := List.mem_append_left _ (hall u hu1 hune)
    refine ⟨hdmem, closed_step hcl hu2, ?_⟩
    cases hdd : st.2[ds[u]!]! with
    | false => rfl
    | true =>
      obtain ⟨u', hu', hds', hne'⟩ := h.good _ hdd hdmem
      have := unique_inflow (nupM_le_one (hvalid _ hdmem) hnc) (h.strm u' hu') hu2 hds' rfl hne'
        (fun h => hune h.symm)
      rw [this, hu3] at hu'
      cases hu'
  obtain ⟨ht, _, hht⟩ := htopo.exists_height
  refine ⟨tail, marked, hW, hidx', hsz.trans h.size, fun a => (hdone a).trans
      (or_congr_right (and_iff_left_of_imp fun h1 => h.size ▸ hb a (hP a h1).1)),
    (hW.nodup ht (· ∈ pre ++ [s]) (fun x hx hxne => ⟨hdsmem x hx, hht x hx hxne⟩) hsmem).1, hP,
    hidx' ▸ hW.all_mem (fun x => x ∈ pre ++ [s] ∧ inStream ds mask x = true)
      (fun x hx _ => ⟨hdsmem x hx.1, closed_step hcl hx.2⟩) ⟨hsmem, hsS⟩, ?_⟩
  intro h1
  obtain ⟨u, hu, hus, hune⟩ := exists_inflow (ds := ds) (mask := mask) (a := s) (by omega)
  have hunot : u ∉ pre ++ [s] := by
    intro hmem
    rcases List.mem_append.mp hmem with hmem | hmem
    · exact hsnot (hus ▸ Topo.ds_mem hpreT u hmem)
    · exact hune (List.mem_singleton.mp hmem)
  have h3 := h.cont u (h.proc u hu hunot) (by rw [hus]; exact fun h => hune h.symm) (by rw [hus]; omega)
  rw [hus, hnd] at h3
  cases h3

theorem inv_walk {ds : Array Nat} {mask : Option (Array Bool)} {m : Nat} {pre : List Nat} {s : Nat}
    {st : List (List Nat) × Array Bool} {w : WalkRes}
    (hcl : dsClosed ds mask = true) (htopo : Topo ds (pre ++ [s])) (hb : ∀ i ∈ pre ++ [s], i < ds.size)
    (h : Inv ds mask m (pre ++ [s]) st) (hnd : st.2[s]! = false) (hm : maskAt mask s = true)
    (hw : streamWalk ds (upstreamCount ds mask) (ds.size + 1) s [s] st.2 = some w) :
    Inv ds mask m pre (st.1 ++ walkFeatures w m, w.done) := by
  obtain ⟨tail, marked, hW, hidx', hsz, hd, hmnd, hP, hvert, hstart⟩ := walk_unflagged hcl htopo hb h hnd hm hw
  have hsnot := htopo.snoc_inv.2.1
  have hvalid := htopo.isValid hb
  have hlink := hidx' ▸ hW.toWalkFrom.linked
  have hends := hW.toWalkFrom.ends
  have hne : ∀ q ∈ pairsOf w.idxs, q.1 ≠ q.2 := fun q hq => (hlink q hq).2
  -- the sources and stream features of the new state
  have hsrc := hidx' ▸ hW.sources
  subst hsrc
  have hA := srcA_append_walk st.1 w m hne
  have hB := srcB_append_walk st.1 w m hne
  have hF : streamFeats (st.1 ++ walkFeatures w m) = streamFeats st.1 ++ splitPieces w.idxs m := by
    rw [streamFeats_append, streamFeats_walk _ _ hne]
  have hndAB := List.nodup_append.mp hmnd
  constructor <;> dsimp only
  case size => exact hsz
  case strm =>
    intro a ha
    exact ((hd a).mp ha).elim (h.strm a) (fun h1 => (hP a h1).2.1)
  case good =>
    intro a ha hap
    rcases (hd a).mp ha with h1 | h1
    · obtain ⟨u, hu, h2, h3⟩ := h.good a h1 (List.mem_append_left _ hap)
      exact ⟨u, (hd u).mpr (Or.inl hu), h2, h3⟩
    · rcases hW.entered a h1 with rfl | ⟨u, hu, h2, h3⟩
      · exact absurd hap hsnot
      · exact ⟨u, (hd u).mpr (Or.inr hu), h2, h3⟩
  case cont =>
    intro u hu hune hN
    rcases (hd u).mp hu with h1 | h1
    · exact (hd _).mpr (Or.inl (h.cont u h1 hune hN))
    · rcases hW.continues u h1 with h2 | h2 | h2
      · exact absurd h2 hune
      · have := (nup_gt_iff (mask := mask) (hvalid _ (htopo.ds_mem u (hP u h1).1))).mp h2
        omega
      · exact (hd _).mpr (Or.inr h2)
  case proc =>
    intro u hu hun
    by_cases hus : u = s
    · exact (hd u).mpr (Or.inr (hus ▸ hW.head_mem))
    · exact (hd u).mpr (Or.inl (h.proc u hu (by simp [hun, hus])))
  case nodupA =>
    rw [hA]
    exact nodup_append_of_flags h.nodupA hndAB.1 h.doneA fun b hb' => (hP b (List.mem_append_left _ hb')).2.2
  case nodupB =>
    rw [hB]
    exact nodup_append_of_flags h.nodupB hndAB.2.1 h.doneB fun b hb' => (hP b (List.mem_append_right _ hb')).2.2
  case doneA =>
    rw [hA]
    intro a ha
    exact (hd a).mpr ((List.mem_append.mp ha).imp (h.doneA a) (List.mem_append_left _))
  case doneB =>
    rw [hB]
    intro a ha
    exact (hd a).mpr ((List.mem_append.mp ha).imp (h.doneB a) (List.mem_append_right _))
  case src =>
    rw [hA, hB]
    intro a ha
    rcases (hd a).mp ha with h1 | h1
    · exact ⟨fun h2 => List.mem_append_left _ ((h.src a h1).1 h2),
        fun h2 => List.mem_append_left _ ((h.src a h1).2 h2)⟩
    · rcases hW.marked_cases a h1 with h2 | ⟨h2, hp, hl⟩
      · rw [← hidx'] at h2
        exact ⟨fun _ => List.mem_append_right _ (List.mem_map.mpr ⟨_, h2, rfl⟩),
          fun hp => absurd hp.symm (hlink _ h2).2⟩
      · exact ⟨fun hne' => absurd h2 hne', fun _ => List.mem_append_right _ (by simp [hp, hl])⟩
  case ends =>
    rw [hF]
    intro f hf
    rcases List.mem_append.mp hf with h1 | h1
    · exact (h.ends f h1).mono (fun g hg => List.mem_append_left _ hg)
    · obtain ⟨s', e, h2, h3, h4, h5⟩ := splitPieces_ends w.idxs m (hidx' ▸ List.cons_ne_nil s tail) f h1
      refine ⟨s', e, h2, h3, (hvert s' (mem_of_mem_piece h1 s' (List.mem_of_mem_head? h2))).2, ?_, ?_⟩
      · refine h4.imp (fun h4 => ?_) (fun ⟨hm0, g, hg, h4⟩ => ⟨hm0, g, List.mem_append_right _ hg, h4⟩)
        rw [hidx', List.head?_cons, Option.some.injEq] at h4
        exact h4 ▸ hstart
      · rcases h5 with h5 | ⟨hm0, g, hg, h5⟩
        · rw [hidx', hends.1, Option.some.injEq] at h5
          subst h5
          have hlm : w.last ∈ w.idxs := hidx' ▸ List.mem_of_getLast? hends.1
          by_cases hpit : w.pit = true
          · exact Or.inr (Or.inl (by simpa [hpit] using hends.2))
          · have hgt : (upstreamCount ds mask)[w.last]! > 1 := by simpa [hpit] using hends.2
            exact Or.inl ((nup_gt_iff (mask := mask) (hvalid _ (hvert _ hlm).1)).mp hgt)
        · exact Or.inr (Or.inr ⟨hm0, g, List.mem_append_right _ hg, h5⟩)
  case intr =>
    rw [hF]
    intro f hf
    rcases List.mem_append.mp hf with h1 | h1
    · exact h.intr f h1
    · intro v hv
      have hvi := interior_piece h1 v hv
      exact nupM_le_one (hvalid v (hvert v (mem_of_mem_interior hvi)).1) (hW.toWalkFrom.interior v (hidx' ▸ hvi))

/-- the whole `for idx0 in seq[::-1]` loop: total, and the invariant holds at the end -/
theorem fold_inv (ds : Array Nat) (mask : Option (Array Bool)) (m : Nat) (hcl : dsClosed ds mask = true) :
    ∀ (pre : List Nat), Topo ds pre → (∀ i ∈ pre, i < ds.size) →
      ∀ st, Inv ds mask m pre st →
      ∃ st', pre.reverse.foldlM (streamsStep ds (upstreamCount ds mask) mask m) st = some st' ∧
        Inv ds mask m [] st' := by
  intro pre htopo
  induction htopo with
  | nil => intro _ st h; exact ⟨st, by simp, h⟩
  | @snoc pre s hpre hs hds ih =>
    intro hb st h
    have htopo' : Topo ds (pre ++ [s]) := Topo.snoc hpre hs hds
    have hb' : ∀ i ∈ pre, i < ds.size := fun i hi => hb i (by simp [hi])
    rw [List.reverse_append, List.reverse_singleton, List.singleton_append, List.foldlM_cons]
    by_cases hg : (st.2[s]! || !maskAt mask s) = true
    · have hstep : streamsStep ds (upstreamCount ds mask) mask m st s = some st := by
        unfold streamsStep; rw [if_pos hg]
      rw [hstep]
      have hskip : st.2[s]! = true ∨ maskAt mask s = false := by
        simpa using hg
      exact ih hb' st (inv_skip h hskip)
    · have hnd : st.2[s]! = false := by
        cases hx : st.2[s]! with
        | false => rfl
        | true => simp [hx] at hg
      have hm : maskAt mask s = true := by
        cases hx : maskAt mask s with
        | true => rfl
        | false => simp [hx] at hg
      obtain ⟨w, hw⟩ := streamWalk_total_topo ds (upstreamCount ds mask) (pre ++ [s]) htopo' hb s (by simp)
        [s] st.2
      have hstep : streamsStep ds (upstreamCount ds mask) mask m st s =
          some (st.1 ++ walkFeatures w m, w.done) := by
        unfold streamsStep; rw [if_neg hg, hw]
      rw [hstep]
      exact ih hb' _ (inv_walk hcl htopo' hb h hnd hm hw)

theorem streamsOK_of_inv (ds : Array Nat) (mask : Option (Array Bool)) (m : Nat) (seq : List Nat)
    (st : List (List Nat) × Array Bool) (h : Inv ds mask m [] st)
    (hmodel : streamsModel ds seq mask m = some st.1) : StreamsOK ds mask m st.1 = true := by
  have hlinkF := model_linked ds seq mask m st.1 hmodel
  -- a stream feature of the result is linked; a zero-length feature is the feature of a pit
  have hstrF : ∀ f ∈ streamFeats st.1, ∀ q ∈ pairsOf f, ds[q.1]! = q.2 ∧ q.1 ≠ q.2 := by
    intro f hf
    obtain ⟨hf1, hf2⟩ := List.mem_filter.mp hf
    rcases hlinkF f hf1 with ⟨p, rfl, _⟩ | hl
    · simp [isPitFeat] at hf2
    · exact hl
  have hpitF : ∀ f ∈ pitFeats st.1, ∃ p, f = [p, p] ∧ ds[p]! = p := by
    intro f hf
    obtain ⟨hf1, hf2⟩ := List.mem_filter.mp hf
    obtain ⟨q, rfl⟩ := (isPitFeat_iff f).mp hf2
    rcases hlinkF _ hf1 with hp | hl
    · exact hp
    · exact absurd rfl (hl (q, q) (by simp [pairsOf])).2
  refine streamsOK_iff.mpr ⟨okLinked_iff.mpr ?_, okOnce_iff.mpr h.nodupA, okCover_iff.mpr ?_,
    okInterior_iff.mpr h.intr, okEnds_iff.mpr h.ends, okPits_iff.mpr ⟨?_, ?_, ?_⟩, okSize_iff.mpr ?_⟩
  · intro p hp
    obtain ⟨f, hf, hpf⟩ := List.mem_flatMap.mp hp
    exact ⟨h.strm _ (h.doneA p.1 (List.mem_map.mpr ⟨p, hp, rfl⟩)), hstrF f hf p hpf⟩
  · intro i _ hi hne
    exact (h.src i (h.proc i hi List.not_mem_nil)).1 hne
  · exact List.Pairwise.of_map (·.head!) (fun a b hne hab => hne (by rw [hab])) h.nodupB
  · intro f hf
    obtain ⟨p, rfl, hp⟩ := hpitF f hf
    exact ⟨h.strm p (h.doneB p (List.mem_map.mpr ⟨[p, p], hf, rfl⟩)), hp⟩
  · intro p _ hp hpit
    obtain ⟨f, hf, hfp⟩ := List.mem_map.mp ((h.src p (h.proc p hp List.not_mem_nil)).2 hpit)
    obtain ⟨q, rfl, _⟩ := hpitF f hf
    exact (show q = p from hfp) ▸ hf
  · intro hm f hf
    exact model_size ds seq mask m hm st.1 hmodel f (List.mem_filter.mp hf).1

end Pf.C19
