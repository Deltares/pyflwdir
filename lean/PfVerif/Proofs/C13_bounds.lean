import PfVerif.Model.C13_bounds
import PfVerif.Model.C03
import PfVerif.Core.Folds
/-! Lemmas for `Props/C13_bounds.lean`: a loop commutes with a projection of its state that the body respects
(`foldl_proj`, `foldlM_fst`), the rules by which `InB` is computed along a log, index arrays, and the step lemmas of
`upstream_count` and `main_upstream`. -/
namespace Pf.C13b
open Pf

theorem foldl_proj {β γ α : Type} (π : β → γ) (g : β → α → β) (f : γ → α → γ) (l : List α)
    (h : ∀ b, ∀ x ∈ l, π (g b x) = f (π b) x) (b : β) : π (l.foldl g b) = l.foldl f (π b) := by
  induction l generalizing b with
  | nil => rfl
  | cons x l ih =>
    simp only [List.foldl_cons]
    rw [ih (fun b y hy => h b y (List.mem_cons_of_mem _ hy)), h b x (List.mem_cons_self ..)]

theorem foldl_fst {σ τ α : Type} (f : σ → α → σ) (g : σ × τ → α → σ × τ)
    (h : ∀ st x, (g st x).1 = f st.1 x) (l : List α) (st : σ × τ) :
    (l.foldl g st).1 = l.foldl f st.1 :=
  foldl_proj Prod.fst g f l (fun st x _ => h st x) st

theorem foldlM_fst {σ τ α : Type} (f : σ → α → Option σ) (g : σ × τ → α → Option (σ × τ))
    (h : ∀ st x, (g st x).map Prod.fst = f st.1 x) (l : List α) (st : σ × τ) :
    (l.foldlM g st).map Prod.fst = l.foldlM f st.1 := by
  induction l generalizing st with
  | nil => rfl
  | cons x l ih =>
    simp only [List.foldlM_cons, ← h st x]
    cases g st x with
    | none => rfl
    | some st' => exact ih st'

@[simp] theorem InB_nil : InB [] := fun _ h => nomatch h

@[simp] theorem InB_cons (e : Acc) (l : List Acc) : InB (e :: l) ↔ e.idx < e.size ∧ InB l :=
  List.forall_mem_cons

@[simp] theorem InB_append (l1 l2 : List Acc) : InB (l1 ++ l2) ↔ InB l1 ∧ InB l2 :=
  List.forall_mem_append

@[simp] theorem acc_idx {α : Type} (a : Arr) (xs : Array α) (i : Nat) : (acc a xs i).idx = i := rfl
@[simp] theorem acc_size {α : Type} (a : Arr) (xs : Array α) (i : Nat) : (acc a xs i).size = xs.size := rfl

theorem InB_acc {α : Type} (a : Arr) (xs : Array α) (i : Nat) (log : List Acc) (hi : i < xs.size) (h : InB log) :
    InB (acc a xs i :: log) :=
  (InB_cons ..).2 ⟨hi, h⟩

theorem InB_accOpt {α : Type} (a : Arr) (xs : Option (Array α)) (i n : Nat) (log : List Acc)
    (hs : ∀ m, xs = some m → m.size = n) (hi : i < n) (h : InB log) : InB (accOpt a xs i log) := by
  cases xs with
  | none => exact h
  | some m => simp [accOpt, hs m rfl, hi, h]

/-- every entry is a slot of the array or the missing value (= size) -/
def IdxArr (a : Array Nat) : Prop := ∀ i, i < a.size → a[i]! ≤ a.size

theorem IdxArr.of_wf {ds : Array Nat} (hwf : WF ds) : IdxArr ds := fun i hi => (hwf i hi).1

theorem IdxArr.lt {a : Array Nat} (h : IdxArr a) {i : Nat} (hi : i < a.size) (hne : a[i]! ≠ a.size) :
    a[i]! < a.size := by
  have := h i hi
  omega

/-! ### `upstream_count` -/

theorem upstreamCountStepL_inv (ds : Array Nat) (hwf : WF ds) (mask : Option (Array Bool))
    (hm : ∀ m, mask = some m → m.size = ds.size) (st : Array Int × List Acc) (x : Nat) (hx : x < ds.size)
    (h : st.1.size = ds.size ∧ InB st.2) :
    (upstreamCountStepL ds mask st x).1.size = ds.size ∧ InB (upstreamCountStepL ds mask st x).2 := by
  obtain ⟨hs, hl⟩ := h
  unfold upstreamCountStepL
  dsimp only
  split
  · rename_i hd
    have hdlt := (IdxArr.of_wf hwf).lt hx hd
    have hlog : InB (accOpt Arr.mask mask x (acc Arr.nup st.1 x :: acc Arr.ds ds x :: st.2)) :=
      InB_accOpt _ _ _ _ _ hm hx (by simp only [InB_cons, acc_idx, acc_size, hs, hx, hl, and_self])
    split
    · simp only [InB_cons, acc_idx, acc_size, Array.size_setIfInBounds, hs, hdlt, hlog, and_self]
    · simp only [Array.size_setIfInBounds, hs, hlog, and_self]
  · simp only [InB_cons, acc_idx, acc_size, hs, hx, hl, and_self]

/-! ### `main_upstream` -/

theorem mainUpstreamStepL_inv (ds : Array Nat) (hwf : WF ds) (uparea : Array Int) (hu : uparea.size = ds.size)
    (st : (Array Nat × Array Int) × List Acc) (x : Nat) (hx : x < ds.size)
    (h : st.1.1.size = ds.size ∧ st.1.2.size = ds.size ∧ InB st.2) :
    (mainUpstreamStepL ds uparea st x).1.1.size = ds.size ∧ (mainUpstreamStepL ds uparea st x).1.2.size = ds.size ∧
      InB (mainUpstreamStepL ds uparea st x).2 := by
  obtain ⟨h1, h2, hl⟩ := h
  unfold mainUpstreamStepL
  dsimp only
  split
  · simp only [InB_cons, acc_idx, acc_size, h1, h2, hx, hl, and_self]
  · rename_i hd
    have hdlt : ds[x]! < ds.size := (IdxArr.of_wf hwf).lt hx (fun h => hd (Or.inr h))
    split <;> simp only [InB_cons, acc_idx, acc_size, Array.size_setIfInBounds, h1, h2, hu, hx, hdlt, hl, and_self]

end Pf.C13b
