import PfVerif.Proofs.C09_ihuW
import PfVerif.Proofs.C09_ihuFuel
/-! STEP 4 of `ihu_relocate_outlets` keeps the well-formedness invariant `WArr`, never runs out of fuel and its
`while len(bottleneck) > nbottlenecks` runs at most `ncell + 2` times (C09 extension). -/
namespace Pf.C09ihu
open Pf

section reloc
variable {e : Env} {n : Nat} {W : Nat → Nat → Nat → Prop} {A B : Nat → Prop}

/-- invariant of the state of STEP 4: the arrays are well formed, "unroll edits" would restore `(cds0, out0)`, the
bottleneck list has no duplicates and holds only values of coarse links -/
structure SOK (e : Env) (n : Nat) (W : Nat → Nat → Nat → Prop) (A B : Nat → Prop) (cds0 out0 : Array Nat) (s : S4) :
    Prop where
  arr : WArr e n W A B s.cds s.out
  rest : Rest s cds0 out0
  bn : s.bott.Nodup
  bl : ∀ b ∈ s.bott, b ≤ n

variable {cds0 out0 : Array Nat}

theorem SOK.congr {s : S4} (h : SOK e n W A B cds0 out0 s) (s' : S4) (h1 : s'.cds = s.cds) (h2 : s'.out = s.out)
    (h3 : s'.dsEd = s.dsEd) (h4 : s'.outEd = s.outEd) (h5 : s'.bott = s.bott) : SOK e n W A B cds0 out0 s' := by
  refine ⟨by rw [h1, h2]; exact h.arr, ⟨by rw [h1, h3]; exact h.rest.rds, by rw [h2, h4]; exact h.rest.rout, ?_⟩,
    by rw [h5]; exact h.bn, by rw [h5]; exact h.bl⟩
  intro c hc
  rw [h2]
  apply h.rest.rfix c
  simpa [S4.outEdited, h4] using hc

theorem S4.setDs_outEdited (s : S4) (c v c' : Nat) : (s.setDs c v).outEdited c' = s.outEdited c' := by
  simp [S4.outEdited, S4.setDs_outEd]

theorem SOK.setDs (hw : WCtx e n W) {s : S4} (h : SOK e n W A B cds0 out0 s) (c v : Nat)
    (hv : c < n → v < n ∧ inD8 c v e.ncol = true ∧ s.out[c]! ≠ e.ds.size) : SOK e n W A B cds0 out0 (s.setDs c v) := by
  refine ⟨?_, h.rest.setDs c v, by rw [S4.setDs_bott]; exact h.bn, by rw [S4.setDs_bott]; exact h.bl⟩
  rw [S4.setDs_cds, S4.setDs_out]
  exact h.arr.setDs hw c v hv

theorem SOK.setOut (hw : WCtx e n W) {s : S4} (h : SOK e n W A B cds0 out0 s) (c p : Nat)
    (hc : s.outEdited c = false) (hv : c < n → s.cds[c]! ≠ n ∧ ValidPx e.ds p) :
    SOK e n W A B cds0 out0 (s.setOut c p) := by
  refine ⟨?_, h.rest.setOut c p hc, by rw [S4.setOut_bott]; exact h.bn, by rw [S4.setOut_bott]; exact h.bl⟩
  rw [S4.setOut_cds, S4.setOut_out]
  exact h.arr.setOut hw c p hv

theorem SOK.setBoth (hw : WCtx e n W) {s : S4} (h : SOK e n W A B cds0 out0 s) (c v p : Nat)
    (hc : s.outEdited c = false) (hv : c < n → v < n ∧ inD8 c v e.ncol = true ∧ ValidPx e.ds p) :
    SOK e n W A B cds0 out0 ((s.setDs c v).setOut c p) := by
  refine ⟨?_, (h.rest.setDs c v).setOut c p (by rw [S4.setDs_outEdited]; exact hc),
    by rw [S4.setOut_bott, S4.setDs_bott]; exact h.bn, by rw [S4.setOut_bott, S4.setDs_bott]; exact h.bl⟩
  rw [S4.setOut_cds, S4.setOut_out, S4.setDs_cds, S4.setDs_out]
  exact h.arr.setBoth hw c v p hv

theorem SOK.unroll {s : S4} (h0 : WArr e n W A B cds0 out0) (h : SOK e n W A B cds0 out0 s) :
    SOK e n W A B cds0 out0 s.unroll := by
  obtain ⟨hr, h1, h2⟩ := h.rest.unroll
  exact ⟨by rw [h1, h2]; exact h0, hr, h.bn, h.bl⟩

/-! ### `next_outlet` -/

theorem nextOutlet_valid (hwf : FineWF e.ds) (out : Array Nat) :
    ∀ fuel p r, nextOutlet e out fuel p = some r → ValidPx e.ds p → ValidPx e.ds r.1 ∧ r.2.1 = e.cell r.1 := by
  intro fuel
  induction fuel with
  | zero => intro p r h; simp [nextOutlet] at h
  | succ f ih =>
    intro p r h hp
    simp only [nextOutlet] at h
    split at h
    · cases h; exact ⟨hwf.next hp, rfl⟩
    · exact ih _ _ h (hwf.next hp)

/-! ### the tributary loop @4D -/

/-- a value of a coarse link may join the bottleneck list -/
theorem SOK.addBott (hw : WCtx e n W) {s : S4} (hs : SOK e n W A B cds0 out0 s) (c : Nat) :
    SOK e n W A B cds0 out0
      { s with nextiter := true, bott := if s.bott.contains s.cds[c]! then s.bott else s.bott ++ [s.cds[c]!] } := by
  refine ⟨hs.arr, ⟨hs.rest.rds, hs.rest.rout, hs.rest.rfix⟩, ?_, ?_⟩
  · refine ite_ind (P := List.Nodup) (fun _ => hs.bn) fun hc => ?_
    rw [List.contains_iff_mem] at hc
    exact List.nodup_append.mpr ⟨hs.bn, List.pairwise_singleton _ _,
      fun a ha b hb heq => hc ((List.mem_singleton.mp hb) ▸ heq ▸ ha)⟩
  · refine ite_ind (P := fun l => ∀ b ∈ l, b ≤ n) (fun _ => hs.bl) fun _ b hb => ?_
    rcases List.mem_append.mp hb with hb | hb
    · exact hs.bl b hb
    · rw [List.mem_singleton.mp hb]; exact hs.arr.link_le hw c

theorem tribLoop_sok (hw : WCtx e n W) (idx0 sds0 : Nat) (hi : idx0 < n) (ha : A idx0) (fuel subidx idxds0 : Nat)
    (path : List Nat) (s s' : S4) (h : tribLoop e idx0 sds0 fuel subidx idxds0 path s = some s')
    (hp : ValidPx e.ds subidx) (h0 : idxds0 = idx0 ∨ idxds0 = e.cell subidx) (hs : SOK e n W A B cds0 out0 s) :
    SOK e n W A B cds0 out0 s' ∧ s'.idx0 = s.idx0 := by
  have hout0 : s.out[idx0]! ≠ e.ds.size := by
    have := (hs.arr.valid_of_link hw idx0 hi (hs.arr.actC idx0 hi ha)).1
    omega
  rcases tribLoop_cases e idx0 sds0 (ValidPx e.ds) (fun _ => hw.wf.next) fuel subidx idxds0 path s s' h hp h0 with
    rfl | rfl | ⟨p, hp, hd8, rfl⟩ | ⟨p, q, c00, hp, _, hed, hd8, hno, hd8', rfl⟩
  · exact ⟨hs.addBott hw idx0, rfl⟩
  · exact ⟨hs, rfl⟩
  · exact ⟨hs.setDs hw idx0 _ fun _ => ⟨hw.cell _ hp, hd8, hout0⟩, S4.setDs_idx0 _ _ _⟩
  · have hno' := nextOutlet_valid hw.wf s.out _ _ _ hno hp
    have hlt00 : c00 < n := by rw [show c00 = e.cell q from hno'.2]; exact hw.cell _ hno'.1
    have h1 := hs.setDs hw idx0 (e.cell p) fun _ => ⟨hw.cell _ hp, hd8, hout0⟩
    exact ⟨h1.setBoth hw (e.cell p) c00 p (by rw [S4.setDs_outEdited]; exact hed) fun _ => ⟨hlt00, hd8', hp⟩,
      by rw [S4.setOut_idx0, S4.setDs_idx0, S4.setDs_idx0]⟩

end reloc

/-! ### the body of the loop @4A -/

/-- what STEP 4 uses of the trace lists of STEP 1, position by position: the alternative outlet pixel `pixs[j]` is a valid
pixel, its cell `cells[j]` lies in the raster and is one of the cells that keep their link (`A`) and their outlet pixel
(`B`) throughout -/
structure TrW (e : Env) (n : Nat) (A B : Nat → Prop) (cells pixs : List Nat) : Prop where
  ok : ∀ j, j < pixs.length → cells[j]! < n ∧ A cells[j]! ∧ B cells[j]! ∧ ValidPx e.ds pixs[j]!

/-- the sorted tributary cells of STEP 3 lie in the raster and keep their link throughout (so their outlet pixels stay
valid start pixels of the tributary loop) -/
def TrOK (n : Nat) (A : Nat → Prop) (tr : Tribs) : Prop := ∀ k, k < tr.conn.size → tr.us0[k]! < n ∧ A tr.us0[k]!

theorem step4Act_update (cells pixs : List Nat) (tr : Tribs) (s : S4) (j : Nat) (ks : List Nat)
    (h : step4Act e cells pixs tr s j = .update ks) :
    s.outEdited cells[j]! = false ∧ inD8 s.idx0 cells[j]! e.ncol = true ∧ ∀ k ∈ ks, k < tr.conn.size := by
  unfold step4Act at h
  extract_lets pix1 idx1 d8 ks' lats nextlats moved nd nextd8 at h
  by_cases c1 : (!d8 && !nextd8) = true
  · rw [if_pos c1] at h; cases h
  rw [if_neg c1] at h
  by_cases c2 : (!lats && nextd8 || nextlats && nextd8) = true
  · rw [if_pos c2] at h; cases h
  rw [if_neg c2] at h
  by_cases c3 : (d8 && lats || d8 && !nextd8) = true
  · rw [if_pos c3] at h
    -- `UPDATE` is only chosen when the current cell is an unedited 8-neighbour
    have hd : d8 = true := by
      rcases Bool.eq_false_or_eq_true d8 with hd | hd
      · exact hd
      · rw [hd] at c3; cases c3
    by_cases he : (s.outEdited idx1 || s.bott.contains idx1) = true
    · simp only [d8, if_pos he] at hd; cases hd
    · simp only [d8, if_neg he] at hd
      simp only [Bool.or_eq_true, not_or, Bool.not_eq_true] at he
      refine ⟨he.1, hd, fun k hk => ?_⟩
      rw [← Act.update.inj h] at hk
      simp only [ks', List.mem_filter, List.mem_range'_1] at hk
      omega
  · rw [if_neg c3] at h
    by_cases c4 : lats = true
    · rw [if_pos c4] at h; cases h
    · rw [if_neg c4] at h; cases h

section reloc2
variable {e : Env} {n : Nat} {W : Nat → Nat → Nat → Prop} {A B : Nat → Prop} {cds0 out0 : Array Nat}

/-- the invariant of the loop @4A: `SOK`, and the cell `idx0` from which the next main connection is drawn (the flagged
cell, later the last cell that was connected) keeps its outlet pixel -/
def P4 (e : Env) (n : Nat) (W : Nat → Nat → Nat → Prop) (A B : Nat → Prop) (cds0 out0 : Array Nat) (s : S4) : Prop :=
  SOK e n W A B cds0 out0 s ∧ B s.idx0

theorem step4A_tot (hw : WCtx e n W) (hr : ∀ p, ValidPx e.ds p → ∃ k, k ≤ e.ds.size ∧ PitAt e.ds k p)
    (h0 : WArr e n W A B cds0 out0) (cells pixs : List Nat) (tr : Tribs) (htw : TrW e n A B cells pixs)
    (htr : TrOK n A tr) (s : S4) (j : Nat) (hj : j < pixs.length) (hs : P4 e n W A B cds0 out0 s) :
    ∃ s', step4A e cells pixs tr s j = some s' ∧ P4 e n W A B cds0 out0 s' := by
  obtain ⟨hc1, hc2, hc3, hc4⟩ := htw.ok j hj
  -- a tributary `k` of the update is a linked cell, so its outlet pixel is valid
  have htrk : ∀ ks k (t : S4), step4Act e cells pixs tr { s with idx1 := cells[j]! } j = .update ks → k ∈ ks →
      SOK e n W A B cds0 out0 t → tr.us0[k]! < n ∧ A tr.us0[k]! ∧ ValidPx e.ds t.out[tr.us0[k]!]! := by
    intro ks k t hact hk ht
    obtain ⟨hlt, hak⟩ := htr k ((step4Act_update cells pixs tr _ j ks hact).2.2 k hk)
    exact ⟨hlt, hak, ht.arr.valid_of_link hw _ hlt (ht.arr.actC _ hlt hak)⟩
  obtain ⟨hpart, hsome⟩ := step4A_spec e cells pixs tr j s (P4 e n W A B cds0 out0)
    (fun t => SOK e n W A B cds0 out0 t ∧ t.idx0 = s.idx0)
    (fun t t' h1 h2 h3 h4 h5 h6 ht => ⟨ht.1.congr t' h1 h2 h3 h4 h5, h6 ▸ ht.2⟩)
    (fun t ht => ⟨SOK.unroll h0 ht.1, ht.2⟩)
    (fun ks hact => by
      obtain ⟨ha1, ha2, _⟩ := step4Act_update cells pixs tr _ j ks hact
      have hs' : SOK e n W A B cds0 out0 { s with idx1 := cells[j]! } := hs.1.congr _ rfl rfl rfl rfl rfl
      -- the main connection
      have hs1 := hs'.setDs hw s.idx0 cells[j]! fun hlt => ⟨hc1, ha2, hs.1.arr.actO _ hlt hs.2⟩
      exact ⟨hs1.setOut hw _ pixs[j]! (by rw [S4.setDs_outEdited]; exact ha1) fun hlt => ⟨hs1.arr.actC _ hlt hc2, hc4⟩,
        by rw [S4.setOut_idx0, S4.setDs_idx0]⟩)
    (fun ks k t t' hact hk ht h => by
      obtain ⟨hlt, hak, hv⟩ := htrk ks k t hact hk ht.1
      have := tribLoop_sok hw _ tr.sds0[k]! hlt hak _ _ _ _ _ _ h hv (Or.inl rfl) ht.1
      exact ⟨this.1, this.2.trans ht.2⟩)
    (fun t ht => ⟨ht.1.congr _ rfl rfl rfl rfl rfl, hc3⟩) hs
  obtain ⟨s', hs'⟩ := Option.isSome_iff_exists.mp (hsome fun ks k t hact hk ht =>
    (tribLoop_walk e _ _).isSome (hr _ (htrk ks k t hact hk ht.1).2.2) (_, [], t))
  exact ⟨s', hs', hpart s' hs'⟩

/-! ### the `while len(bottleneck) > nbottlenecks` -/

/-- pigeonhole: a duplicate-free list of numbers `≤ n` has at most `n + 1` entries -/
theorem nodup_le_length (l : List Nat) (n : Nat) (hn : l.Nodup) (hl : ∀ b ∈ l, b ≤ n) : l.length ≤ n + 1 :=
  nodup_length_le hn fun b hb => Nat.lt_succ_of_le (hl b hb)

/-- the measure is `fuel + len(bottleneck)`: a round that goes on has lengthened the duplicate-free list `bottleneck` of
numbers `≤ n`, which never holds more than `n + 1` entries -/
theorem step4_tot (hw : WCtx e n W) (hr : ∀ p, ValidPx e.ds p → ∃ k, k ≤ e.ds.size ∧ PitAt e.ds k p)
    (idx00 : Nat) (hb00 : B idx00) (cells pixs : List Nat) (tr : Tribs) (htw : TrW e n A B cells pixs)
    (htr : TrOK n A tr) :
    ∀ fuel s, WArr e n W A B s.cds s.out → s.bott.Nodup → (∀ b ∈ s.bott, b ≤ n) → n + 2 ≤ fuel + s.bott.length →
      ∃ s', step4 e idx00 cells pixs tr fuel s = some s' ∧ WArr e n W A B s'.cds s'.out ∧
        WArr e n W A B s'.unroll.cds s'.unroll.out := by
  intro fuel
  induction fuel with
  | zero =>
    intro s _ hn hl hf
    have := nodup_le_length _ n hn hl
    omega
  | succ f ih =>
    intro s hs hn hl hf
    have hs0 : P4 e n W A B s.cds s.out
        { s with outEd := [], dsEd := [], idx0 := idx00, j0 := 0, k0 := 0, nextiter := false } :=
      ⟨⟨hs, Rest.start _ rfl rfl, hn, hl⟩, hb00⟩
    obtain ⟨s1, hfold, hs1⟩ := foldlM_tot (step4A e cells pixs tr) (P4 e n W A B s.cds s.out)
      (List.range pixs.length)
      (fun b j hj hb => step4A_tot hw hr hs cells pixs tr htw htr b j (List.mem_range.mp hj) hb) _ hs0
    unfold step4
    simp only [hfold]
    split
    · rename_i hgt
      exact ih s1 hs1.1.arr hs1.1.bn hs1.1.bl (by omega)
    · obtain ⟨_, h1, h2⟩ := hs1.1.rest.unroll
      exact ⟨s1, rfl, hs1.1.arr, by rw [h1, h2]; exact hs⟩

end reloc2

end Pf.C09ihu
