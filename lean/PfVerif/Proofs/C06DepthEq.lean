import PfVerif.Proofs.C06DepthSafe
/-! `max_depth >= 0` coincides with the unlimited fill when the unlimited fill raises no cell by
`max_depth` or more. -/
namespace Pf.C06
open Pf

variable {G : Grid} {conn : Nat} {elev : Array Int} {nod : Array Bool} {md : Int}

/-- a filled-and-not-reset cell is done (no cell is ever re-opened as long as nothing is too deep) -/
def NoOpen (s : StD) : Prop := ∀ c : Nat, s.delv[c]! > 0 → s.done[c]! = true

/-- one visit without a too-deep cell is the visit of the unlimited algorithm -/
theorem visitD_eq_visit {z0 : Int} {i0 : Nat} (s : StD) (o : Int × Int) (hs : SizedD G s) (hno : NoOpen s)
    (hnd : ∀ j, shift G i0 o.1 o.2 = some j → s.done[j]! = false → tooDeep md (z0 - elev[j]!) = false) :
    (visitD G conn elev nod md z0 i0 s o).toSt = visit G elev z0 i0 s.toSt o ∧
    NoOpen (visitD G conn elev nod md z0 i0 s o) ∧
    (visitD G conn elev nod md z0 i0 s o).ev = s.ev ∧ (visitD G conn elev nod md z0 i0 s o).evc = s.evc := by
  rcases visitD_cases (G := G) (conn := conn) (elev := elev) (nod := nod) (md := md) z0 i0 s o with
    ⟨heq, hmiss⟩ | ⟨j, hsh, hd, ht, _⟩ | ⟨j, hsh, hd, _, heq⟩
  · have e2 : visit G elev z0 i0 s.toSt o = s.toSt := visit_miss (by
      rcases hmiss with h | ⟨j, h, hd⟩
      · rw [h]; exact fun _ e => nomatch e
      · rw [h]; exact fun _ e => Option.some.inj e ▸ hd)
    rw [heq, e2]; exact ⟨rfl, hno, rfl, rfl⟩
  · rw [hnd j hsh hd] at ht; cases ht
  · have hj : j < G.n := (shift_spec.1 hsh).1
    have hr : resetStep elev s j = s := by
      unfold resetStep; rw [if_neg (fun h => by rw [hno j h] at hd; cases hd)]
    rw [heq, hr]
    refine ⟨?_, fun c hc => ?_, rfl, rfl⟩
    · unfold visit
      simp only [hsh, show s.toSt.done[j]! = false from hd, Bool.false_eq_true, if_false]
      rfl
    · by_cases hjc : j = c
      · subst hjc
        exact get!_set_self (by rw [hs.1]; exact hj) _
      · show (s.done.setIfInBounds j true)[c]! = true
        rw [get!_set_ne (Ne.symm hjc) _]
        apply hno
        have hc' : (if decide (z0 - elev[j]! > 0) = true then s.delv.setIfInBounds j (z0 - elev[j]!) else s.delv)[c]! > 0 := hc
        split at hc'
        · rw [get!_set_ne (Ne.symm hjc) _] at hc'; exact hc'
        · exact hc'

theorem sized_toSt {s : StD} (hs : SizedD G s) : Sized G s.toSt := ⟨hs.1, hs.2.1, hs.2.2.1, hs.2.2.2.1⟩

/-- a done cell keeps its level through the rest of the unlimited run -/
theorem loop_keep (k : Nat) (t : St) (ht : Sized G t) (c : Nat) (hd : t.done[c]! = true) :
    (fillLoop G conn elev k t).f[c]! = t.f[c]! ∧ (fillLoop G conn elev k t).done[c]! = true := by
  induction k generalizing t with
  | zero => exact ⟨rfl, hd⟩
  | succ k ih =>
    unfold fillLoop
    split
    · exact ⟨rfl, hd⟩
    · rename_i h rest hq
      have ht0 : Sized G { t with q := rest } := ht
      have E := eff_fold (elev := elev) h.z h.idx (offsets conn) { t with q := rest } ht0
      obtain ⟨k1, k2, _⟩ := E.keep c hd
      obtain ⟨i1, i2⟩ := ih _ E.sized k1
      exact ⟨i1.trans k2, i2⟩

theorem fillLoop_stable (k m : Nat) (t : St) (hq : (fillLoop G conn elev k t).q = []) :
    fillLoop G conn elev (k + m) t = fillLoop G conn elev k t := by
  induction k generalizing t with
  | zero =>
    have hq' : t.q = [] := hq
    cases m with
    | zero => rfl
    | succ m =>
      rw [Nat.zero_add]
      show fillLoop G conn elev (m + 1) t = t
      unfold fillLoop
      rw [hq']
  | succ k ih =>
    rw [show k + 1 + m = (k + m) + 1 by omega]
    unfold fillLoop at hq ⊢
    split
    · rfl
    · rename_i h rest hq0
      rw [hq0] at hq
      exact ih _ hq

/-- the neighbour loop of the depth-limited model is the one of the unlimited model as long as the
unlimited run never raises a cell by `md` or more -/
theorem foldD_eq {z0 : Int} {i0 : Nat} (k : Nat) (l : List (Int × Int)) (s : StD) (hs : SizedD G s)
    (hno : NoOpen s)
    (hdepth : ∀ c, c < G.n →
      (fillLoop G conn elev k (l.foldl (visit G elev z0 i0) s.toSt)).f[c]! - elev[c]! < md) :
    (l.foldl (visitD G conn elev nod md z0 i0) s).toSt = l.foldl (visit G elev z0 i0) s.toSt ∧
    NoOpen (l.foldl (visitD G conn elev nod md z0 i0) s) ∧
    SizedD G (l.foldl (visitD G conn elev nod md z0 i0) s) ∧
    (l.foldl (visitD G conn elev nod md z0 i0) s).ev = s.ev ∧
    (l.foldl (visitD G conn elev nod md z0 i0) s).evc = s.evc := by
  induction l generalizing s with
  | nil => exact ⟨rfl, hno, hs, rfl, rfl⟩
  | cons o l ih =>
    simp only [List.foldl_cons] at hdepth ⊢
    have hnd : ∀ j, shift G i0 o.1 o.2 = some j → s.done[j]! = false →
        tooDeep md (z0 - elev[j]!) = false := by
      intro j hsh hd
      have hj : j < G.n := (shift_spec.1 hsh).1
      by_cases hpos : z0 - elev[j]! > 0
      · obtain ⟨v1, _, v3, _, _⟩ := visit_hit (elev := elev) (z0 := z0) (sized_toSt hs) hsh
          (show s.toSt.done[j]! = false from hd)
        have hd1 : (visit G elev z0 i0 s.toSt o).done[j]! = true := by rw [v1]; simp
        have hf1 : (visit G elev z0 i0 s.toSt o).f[j]! = z0 := by rw [v3, if_pos rfl, if_pos hpos]
        have hs1 : Sized G (visit G elev z0 i0 s.toSt o) := sized_visit z0 i0 _ o (sized_toSt hs)
        have E := eff_fold (elev := elev) z0 i0 l _ hs1
        obtain ⟨k1, k2, _⟩ := E.keep j hd1
        obtain ⟨i1, _⟩ := loop_keep (conn := conn) (elev := elev) k _ E.sized j k1
        have := hdepth j hj
        rw [i1, k2, hf1] at this
        unfold tooDeep
        simp only [Bool.and_eq_false_iff, decide_eq_false_iff_not]
        left; omega
      · unfold tooDeep
        simp only [Bool.and_eq_false_iff, decide_eq_false_iff_not]
        right; exact hpos
    obtain ⟨e1, e2, e3, e4⟩ := visitD_eq_visit (conn := conn) (nod := nod) s o hs hno hnd
    have hs1 := sizedD_visit (conn := conn) (elev := elev) (nod := nod) (md := md) (z0 := z0) (i0 := i0) s o hs
    obtain ⟨a1, a2, a3, a4, a5⟩ := ih _ hs1 e2 (by rw [e1]; exact hdepth)
    exact ⟨by rw [a1, e1], a2, a3, by rw [a4, e3], by rw [a5, e4]⟩

/-- the depth-limited loop is the unlimited loop as long as the unlimited run never raises a cell
by `md` or more -/
theorem loopD_eq (k : Nat) (s : StD) (hs : SizedD G s) (hno : NoOpen s)
    (hdepth : ∀ c, c < G.n → (fillLoop G conn elev k s.toSt).f[c]! - elev[c]! < md) :
    (fillLoopD G conn elev nod md k s).toSt = fillLoop G conn elev k s.toSt ∧
    (fillLoopD G conn elev nod md k s).ev = s.ev ∧ (fillLoopD G conn elev nod md k s).evc = s.evc := by
  induction k generalizing s with
  | zero => exact ⟨rfl, rfl, rfl⟩
  | succ k ih =>
    cases hq : s.q with
    | nil =>
      have hq' : s.toSt.q = [] := hq
      have e1 : fillLoopD G conn elev nod md (k + 1) s = s := by rw [fillLoopD]; simp only [hq]
      have e2 : fillLoop G conn elev (k + 1) s.toSt = s.toSt := by rw [fillLoop]; simp only [hq']
      rw [e1, e2]; exact ⟨rfl, rfl, rfl⟩
    | cons h rest =>
      have hq' : s.toSt.q = h :: rest := hq
      have e1 : fillLoopD G conn elev nod md (k + 1) s =
          fillLoopD G conn elev nod md k (popStepD G conn elev nod md h { s with q := rest }) := by
        rw [fillLoopD]; simp only [hq]
      have hun : fillLoop G conn elev (k + 1) s.toSt =
          fillLoop G conn elev k (popStep G conn elev h { s.toSt with q := rest }) := by
        rw [fillLoop]; simp only [hq']
      rw [hun] at hdepth
      rw [hun, e1]
      have hs0 : SizedD G { s with q := rest } := hs
      have hno0 : NoOpen { s with q := rest } := hno
      obtain ⟨a1, a2, a3, a4, a5⟩ := foldD_eq (conn := conn) (nod := nod) (z0 := h.z) (i0 := h.idx) k
        (offsets conn) { s with q := rest } hs0 hno0 hdepth
      obtain ⟨b1, b2, b3⟩ := ih (popStepD G conn elev nod md h { s with q := rest }) a3 a2
        (by unfold popStepD; rw [a1]; exact hdepth)
      refine ⟨?_, ?_, ?_⟩
      · rw [b1]; unfold popStepD popStep; rw [a1]; rfl
      · rw [b2]; exact a4
      · rw [b3]; exact a5


end Pf.C06
