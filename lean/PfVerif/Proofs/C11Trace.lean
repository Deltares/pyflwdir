import PfVerif.Model.C11
import PfVerif.Proofs.Paths
/-! The `while` loop of `_trace` against the declarative trace (`leastFrom`, `stopAt`, `pathTo`). -/
namespace Pf

/-- one unfolding of the loop of `_trace`, written with `maskHit` / `overLen` -/
theorem trace_succ (nxt : Array Nat) (mask : Option (Array Bool)) (maxLen : Option Int)
    (step : Nat → Nat → Int) (fuel idx0 : Nat) (acc : List Nat) (dist : Int) :
    trace nxt mask maxLen step (fuel+1) idx0 acc dist =
      if maskHit mask idx0 then some (acc.reverse, dist)
      else if nxt[idx0]! = idx0 ∨ nxt[idx0]! = nxt.size then some (acc.reverse, dist)
      else if overLen maxLen (dist + step idx0 nxt[idx0]!) then some (acc.reverse, dist)
      else trace nxt mask maxLen step fuel nxt[idx0]! (nxt[idx0]! :: acc) (dist + step idx0 nxt[idx0]!) := by
  cases mask <;> cases maxLen <;> rfl

/-! ### `pathTo` -/

theorem length_pathTo (nxt : Array Nat) (s m : Nat) : (pathTo nxt s m).length = m + 1 := by
  simp [pathTo]

theorem getElem?_pathTo (nxt : Array Nat) (s : Nat) {m k : Nat} (h : k ≤ m) :
    (pathTo nxt s m)[k]? = some (iterA nxt k s) := by
  simp [pathTo, Nat.lt_succ_of_le h]

theorem pathTo_succ (nxt : Array Nat) (s m : Nat) :
    pathTo nxt s (m+1) = pathTo nxt s m ++ [iterA nxt (m+1) s] := by
  simp [pathTo, List.range_succ]

theorem getLast?_pathTo (nxt : Array Nat) (s m : Nat) : (pathTo nxt s m).getLast? = some (iterA nxt m s) := by
  simp [pathTo, List.range_succ]

/-! ### `stopAt` -/

theorem overLen_iff {maxLen : Option Int} {x : Int} : overLen maxLen x = true ↔ ∃ ml, maxLen = some ml ∧ x > ml := by
  cases maxLen <;> simp [overLen]

theorem overLen_eq_false_iff {maxLen : Option Int} {x : Int} :
    overLen maxLen x = false ↔ ∀ ml, maxLen = some ml → x ≤ ml := by
  cases maxLen <;> simp [overLen]

theorem stopAt_iff {nxt : Array Nat} {mask : Option (Array Bool)} {maxLen : Option Int}
    {step : Nat → Nat → Int} {s m : Nat} :
    stopAt nxt mask maxLen step s m = true ↔
      maskHit mask (iterA nxt m s) = true ∨
      (nxt[iterA nxt m s]! = iterA nxt m s ∨ nxt[iterA nxt m s]! = nxt.size) ∨
      overLen maxLen (cumLen nxt step s m + step (iterA nxt m s) nxt[iterA nxt m s]!) = true := by
  simp only [stopAt, Bool.or_eq_true, beq_iff_eq, or_assoc]

theorem stopAt_eq_false_iff {nxt : Array Nat} {mask : Option (Array Bool)} {maxLen : Option Int}
    {step : Nat → Nat → Int} {s m : Nat} :
    stopAt nxt mask maxLen step s m = false ↔
      maskHit mask (iterA nxt m s) = false ∧ nxt[iterA nxt m s]! ≠ iterA nxt m s ∧
      nxt[iterA nxt m s]! ≠ nxt.size ∧
      overLen maxLen (cumLen nxt step s m + step (iterA nxt m s) nxt[iterA nxt m s]!) = false := by
  simp only [stopAt, Bool.or_eq_false_iff, beq_eq_false_iff_ne, ne_eq, and_assoc]

/-! ### `leastFrom` is `find?` on a range -/

theorem leastFrom_eq_find? (p : Nat → Bool) : ∀ f k, leastFrom p f k = (List.range' k f).find? p
  | 0, _ => rfl
  | f+1, k => by
    rw [leastFrom, List.range'_succ, List.find?_cons, leastFrom_eq_find? p f (k+1)]
    cases p k <;> rfl

theorem leastFrom_eq_some_iff {p : Nat → Bool} {f k m : Nat} :
    leastFrom p f k = some m ↔ k ≤ m ∧ m < k + f ∧ p m = true ∧ ∀ i, k ≤ i → i < m → p i = false := by
  simp only [leastFrom_eq_find?, List.find?_range'_eq_some, List.mem_range'_1, Bool.not_eq_true']
  exact ⟨fun ⟨a, ⟨b, c⟩, d⟩ => ⟨b, c, a, d⟩, fun ⟨b, c, a, d⟩ => ⟨a, ⟨b, c⟩, d⟩⟩

theorem leastFrom_some (p : Nat → Bool) : ∀ (f k m : Nat), leastFrom p f k = some m →
    k ≤ m ∧ m < k + f ∧ p m = true ∧ ∀ i, k ≤ i → i < m → p i = false :=
  fun _ _ _ => leastFrom_eq_some_iff.1

theorem leastFrom_eq_none_iff {p : Nat → Bool} {f k : Nat} :
    leastFrom p f k = none ↔ ∀ i, k ≤ i → i < k + f → p i = false := by
  simp only [leastFrom_eq_find?, List.find?_range'_eq_none, Bool.not_eq_true']

theorem leastFrom_isSome_iff {p : Nat → Bool} {f k : Nat} :
    (leastFrom p f k).isSome = true ↔ ∃ i, k ≤ i ∧ i < k + f ∧ p i = true := by
  simp only [leastFrom_eq_find?, List.find?_isSome, List.mem_range'_1, and_assoc]

/-- the search from `0`, as `specTrace` runs it -/
theorem leastFrom_zero_eq_some_iff {p : Nat → Bool} {f m : Nat} :
    leastFrom p f 0 = some m ↔ m < f ∧ p m = true ∧ ∀ i, i < m → p i = false := by
  rw [leastFrom_eq_some_iff, Nat.zero_add]
  exact ⟨fun ⟨_, a, b, c⟩ => ⟨a, b, fun i => c i (Nat.zero_le i)⟩, fun ⟨a, b, c⟩ => ⟨Nat.zero_le m, a, b, fun i _ => c i⟩⟩

/-! ### the loop -/

/-- the loop started in the state reached after `j` steps ends at the least stopping index in
`[j, j + fuel)`, and runs out of fuel if there is none -/
theorem trace_eq_leastFrom (nxt : Array Nat) (mask : Option (Array Bool)) (maxLen : Option Int)
    (step : Nat → Nat → Int) (s : Nat) : ∀ (fuel j : Nat),
    trace nxt mask maxLen step fuel (iterA nxt j s) (pathTo nxt s j).reverse (cumLen nxt step s j) =
      (leastFrom (stopAt nxt mask maxLen step s) fuel j).map fun m => (pathTo nxt s m, cumLen nxt step s m)
  | 0, _ => rfl
  | f+1, j => by
    have stop : ∀ h, (leastFrom (stopAt nxt mask maxLen step s) (f+1) j).map
        (fun m => (pathTo nxt s m, cumLen nxt step s m)) = some ((pathTo nxt s j).reverse.reverse, cumLen nxt step s j) :=
      fun h => by rw [leastFrom, if_pos (stopAt_iff.2 h), List.reverse_reverse]; rfl
    rw [trace_succ]
    by_cases h1 : maskHit mask (iterA nxt j s) = true
    · rw [if_pos h1, stop (Or.inl h1)]
    rw [if_neg h1]
    by_cases h2 : nxt[iterA nxt j s]! = iterA nxt j s ∨ nxt[iterA nxt j s]! = nxt.size
    · rw [if_pos h2, stop (Or.inr (Or.inl h2))]
    rw [if_neg h2]
    by_cases h3 : overLen maxLen (cumLen nxt step s j + step (iterA nxt j s) nxt[iterA nxt j s]!) = true
    · rw [if_pos h3, stop (Or.inr (Or.inr h3))]
    rw [if_neg h3, leastFrom, if_neg (fun h => (stopAt_iff.1 h).elim h1 (·.elim h2 h3)), ← iterA_succ']
    have ih := trace_eq_leastFrom nxt mask maxLen step s f (j+1)
    rw [pathTo_succ, List.reverse_append] at ih
    exact ih

end Pf
