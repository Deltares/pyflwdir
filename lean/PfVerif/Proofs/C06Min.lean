import PfVerif.Proofs.C06Heap
/-! `outlets='min'` is stable under filling: the lowest candidate cell (first in row-major order
among ties) of a surface that was only raised, and not at that cell, is the same cell. -/
namespace Pf.C06
open Pf

/-- **the `min` outlet is stable**: if `e2 ≥ e1` on the candidates and `e2 = e1` at the outlet chosen
for `e1`, the same outlet is chosen for `e2` -/
theorem seedsOf_min_stable {G : Grid} {conn : Nat} {e1 e2 : Array Int} {nod : Array Bool}
    {pits : Option (List Nat)} {s : Array Bool}
    (h : seedsOf G conn e1 nod pits true = some s)
    (hge : ∀ c, c < G.n → (seeds0 G conn nod pits)[c]! = true → e1[c]! ≤ e2[c]!)
    (heq : ∀ c, c < G.n → s[c]! = true → e2[c]! = e1[c]!) :
    seedsOf G conn e2 nod pits true = some s := by
  unfold seedsOf at h ⊢
  simp only [if_true] at h ⊢
  split at h
  · cases h
  · rename_i hd tl h1
    injection h with h
    obtain ⟨a1, a2, _, a4⟩ := initHeap_head h1
    have hsm : s[hd.idx]! = true := h ▸ (single_seed a1).2 rfl
    have hm2 := heq hd.idx a1 hsm
    split
    · rename_i h2
      have : (⟨e2[hd.idx]!, 1, hd.idx⟩ : HE) ∈ initHeap G e2 (seeds0 G conn nod pits) :=
        (mem_initHeap G e2 _ _).2 ⟨hd.idx, a1, a2, rfl⟩
      rw [h2] at this
      cases this
    · rename_i hd2 tl2 h2
      obtain ⟨b1, b2, _, b4⟩ := initHeap_head h2
      -- each head is minimal in `(elevation, index)` for its surface; `e2 ≥ e1` with equality at `hd` makes
      -- `hd` minimal for `e2` as well, and the minimum is unique
      have k1 : e1[hd.idx]! < e1[hd2.idx]! ∨ (e1[hd.idx]! = e1[hd2.idx]! ∧ hd.idx ≤ hd2.idx) := a4 hd2.idx b1 b2
      have k2 : e2[hd2.idx]! < e2[hd.idx]! ∨ (e2[hd2.idx]! = e2[hd.idx]! ∧ hd2.idx ≤ hd.idx) := b4 hd.idx a1 a2
      have k3 : e1[hd2.idx]! ≤ e2[hd2.idx]! := hge hd2.idx b1 b2
      have : hd2.idx = hd.idx := by omega
      rw [this, h]

end Pf.C06
