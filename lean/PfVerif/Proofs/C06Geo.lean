import PfVerif.Proofs.C06
/-! Raster geometry for C06: `shift` (the neighbour loop) vs. the declarative `Adj`; `get_edge`;
every valid cell is connected to an edge cell. -/
namespace Pf.C06
open Pf

theorem mem_offsets (conn : Nat) (dr dc : Int) :
    (dr, dc) ∈ offsets conn ↔
      (-1 ≤ dr ∧ dr ≤ 1 ∧ -1 ≤ dc ∧ dc ≤ 1 ∧ (conn = 4 → dr = 0 ∨ dc = 0)) := by
  unfold offsets
  constructor
  · intro h
    split at h
    · have := (by decide : ∀ o ∈ [((-1 : Int), (0 : Int)), (0, -1), (0, 0), (0, 1), (1, 0)],
        -1 ≤ o.1 ∧ o.1 ≤ 1 ∧ -1 ≤ o.2 ∧ o.2 ≤ 1 ∧ (o.1 = 0 ∨ o.2 = 0)) _ h
      exact ⟨this.1, this.2.1, this.2.2.1, this.2.2.2.1, fun _ => this.2.2.2.2⟩
    · rename_i h4
      have := (by decide : ∀ o ∈ [((-1 : Int), (-1 : Int)), (-1, 0), (-1, 1), (0, -1), (0, 0), (0, 1),
        (1, -1), (1, 0), (1, 1)], -1 ≤ o.1 ∧ o.1 ≤ 1 ∧ -1 ≤ o.2 ∧ o.2 ≤ 1) _ h
      exact ⟨this.1, this.2.1, this.2.2.1, this.2.2.2, fun e => absurd e h4⟩
  · intro ⟨h1, h2, h3, h4, h5⟩
    have hr : dr = -1 ∨ dr = 0 ∨ dr = 1 := by omega
    have hc : dc = -1 ∨ dc = 0 ∨ dc = 1 := by omega
    split
    · rename_i h
      rcases h5 h with rfl | rfl
      · rcases hc with rfl | rfl | rfl <;> decide
      · rcases hr with rfl | rfl | rfl <;> decide
    · rcases hr with rfl | rfl | rfl <;> rcases hc with rfl | rfl | rfl <;> decide

theorem zero_mem_offsets (conn : Nat) : ((0 : Int), (0 : Int)) ∈ offsets conn :=
  (mem_offsets conn 0 0).2 (by omega)

theorem neg_mem_offsets {conn : Nat} {o : Int × Int} (h : o ∈ offsets conn) : (-o.1, -o.2) ∈ offsets conn := by
  obtain ⟨dr, dc⟩ := o
  rw [mem_offsets] at h ⊢
  omega

theorem offsets_nodup (conn : Nat) : (offsets conn).Nodup := by
  unfold offsets; split <;> decide

theorem offsets_length_le (conn : Nat) : (offsets conn).length ≤ 9 := by
  unfold offsets; split <;> decide

theorem ite_ne {α : Type} {c : Prop} [Decidable c] {a b v : α} (ha : a ≠ v) (hb : b ≠ v) :
    (if c then a else b) ≠ v := by
  split <;> assumption

theorem usCode_ne_247 (dr dc : Int) : usCode dr dc ≠ 247 := by
  unfold usCode
  repeat' apply ite_ne
  all_goals decide

theorem usCode_window (dr dc : Int) (h1 : -1 ≤ dr) (h2 : dr ≤ 1) (h3 : -1 ≤ dc) (h4 : dc ≤ 1) :
    (usCode dr dc = 0 ↔ (dr = 0 ∧ dc = 0)) ∧ drdc (usCode dr dc) = (-dr, -dc) := by
  have hr : dr = -1 ∨ dr = 0 ∨ dr = 1 := by omega
  have hc : dc = -1 ∨ dc = 0 ∨ dc = 1 := by omega
  rcases hr with rfl | rfl | rfl <;> rcases hc with rfl | rfl | rfl <;> decide

/-- of the offsets of the neighbour loop only the centre gets code 0 -/
theorem usCode_eq_zero_iff {conn : Nat} {o : Int × Int} (ho : o ∈ offsets conn) :
    usCode o.1 o.2 = 0 ↔ o = (0, 0) := by
  have hb := (mem_offsets conn o.1 o.2).1 ho
  rw [(usCode_window o.1 o.2 hb.1 hb.2.1 hb.2.2.1 hb.2.2.2.1).1]
  exact ⟨fun h => Prod.ext h.1 h.2, fun h => Prod.mk.inj h⟩

/-- decoding the code written at an offset of the neighbour loop gives the way back -/
theorem drdc_usCode_mem {conn : Nat} {o : Int × Int} (ho : o ∈ offsets conn) :
    drdc (usCode o.1 o.2) = (-o.1, -o.2) :=
  have hb := (mem_offsets conn o.1 o.2).1 ho
  (usCode_window o.1 o.2 hb.1 hb.2.1 hb.2.2.1 hb.2.2.2.1).2

theorem ncol_pos {G : Grid} {i : Nat} (hi : i < G.n) : 0 < G.ncol := by
  unfold Grid.n at hi
  cases h : G.ncol with
  | zero => rw [h] at hi; simp at hi
  | succ k => exact Nat.succ_pos k

theorem row_lt {G : Grid} {i : Nat} (hi : i < G.n) : i / G.ncol < G.nrow := by
  unfold Grid.n at hi
  exact Nat.div_lt_of_lt_mul (by rw [Nat.mul_comm]; exact hi)

theorem col_lt {G : Grid} {i : Nat} (hi : i < G.n) : i % G.ncol < G.ncol :=
  Nat.mod_lt _ (ncol_pos hi)

theorem rc_div {ncol r c : Nat} (hc : c < ncol) : (r * ncol + c) / ncol = r := by
  have hp : 0 < ncol := by omega
  rw [Nat.add_comm, Nat.add_mul_div_right _ _ hp, Nat.div_eq_of_lt hc, Nat.zero_add]

theorem rc_mod {ncol r c : Nat} (hc : c < ncol) : (r * ncol + c) % ncol = c := by
  rw [Nat.add_comm, Nat.add_mul_mod_self_right, Nat.mod_eq_of_lt hc]

theorem rc_lt {G : Grid} {r c : Nat} (hr : r < G.nrow) (hc : c < G.ncol) : r * G.ncol + c < G.n := by
  unfold Grid.n
  have : (r + 1) * G.ncol ≤ G.nrow * G.ncol := Nat.mul_le_mul_right _ hr
  rw [Nat.add_mul, Nat.one_mul] at this
  omega

theorem idx_eq {ncol a b : Nat} (h1 : a / ncol = b / ncol) (h2 : a % ncol = b % ncol) : a = b := by
  rw [← Nat.div_add_mod a ncol, ← Nat.div_add_mod b ncol, h1, h2]

/-- a flat index is determined by its row and column -/
theorem idx_iff {ncol r c j : Nat} (hc : c < ncol) : r * ncol + c = j ↔ (j / ncol = r ∧ j % ncol = c) := by
  constructor
  · rintro rfl; exact ⟨rc_div hc, rc_mod hc⟩
  · rintro ⟨rfl, rfl⟩; rw [Nat.mul_comm]; exact Nat.div_add_mod j ncol

/-- what `shift` computes: the cell whose row and column are those of `i` moved by `(dr, dc)` -/
theorem shift_spec {G : Grid} {i j : Nat} {dr dc : Int} :
    shift G i dr dc = some j ↔
      (j < G.n ∧ ((j / G.ncol : Nat) : Int) = (i / G.ncol : Nat) + dr ∧
        ((j % G.ncol : Nat) : Int) = (i % G.ncol : Nat) + dc) := by
  unfold shift
  simp only
  split
  · rename_i hout
    refine ⟨fun h => (nomatch h), fun ⟨hj, h1, h2⟩ => ?_⟩
    have hr : ((j / G.ncol : Nat) : Int) < G.nrow := Int.ofNat_lt.2 (row_lt hj)
    have hc : ((j % G.ncol : Nat) : Int) < G.ncol := Int.ofNat_lt.2 (col_lt hj)
    have hr0 : (0 : Int) ≤ (j / G.ncol : Nat) := Int.natCast_nonneg _
    have hc0 : (0 : Int) ≤ (j % G.ncol : Nat) := Int.natCast_nonneg _
    rw [← h1, ← h2] at hout
    rcases hout with h | h | h | h
    · exact absurd h (Int.not_lt.2 hr0)
    · exact absurd hr (Int.not_lt.2 h)
    · exact absurd h (Int.not_lt.2 hc0)
    · exact absurd hc (Int.not_lt.2 h)
  · rename_i hin
    simp only [not_or, Int.not_lt, ge_iff_le, Int.not_le] at hin
    obtain ⟨r, hr⟩ : ∃ r : Nat, ((i / G.ncol : Nat) : Int) + dr = r := ⟨_, (Int.toNat_of_nonneg hin.1).symm⟩
    obtain ⟨c, hc⟩ : ∃ c : Nat, ((i % G.ncol : Nat) : Int) + dc = c := ⟨_, (Int.toNat_of_nonneg hin.2.2.1).symm⟩
    rw [hr, hc] at hin ⊢
    have hrl : r < G.nrow := Int.ofNat_lt.1 hin.2.1
    have hcl : c < G.ncol := Int.ofNat_lt.1 hin.2.2.2
    simp only [Int.toNat_natCast, Option.some.injEq]
    rw [idx_iff hcl]
    constructor
    · rintro ⟨h1, h2⟩
      exact ⟨(idx_iff hcl).2 ⟨h1, h2⟩ ▸ rc_lt hrl hcl, congrArg _ h1, congrArg _ h2⟩
    · rintro ⟨_, h1, h2⟩
      exact ⟨Int.ofNat.inj h1, Int.ofNat.inj h2⟩

theorem shift_self {G : Grid} {i : Nat} (hi : i < G.n) : shift G i 0 0 = some i :=
  shift_spec.2 ⟨hi, by omega, by omega⟩

/-- the offset that leads from `i` to `j` is unique -/
theorem shift_inj {G : Grid} {i j : Nat} {o o' : Int × Int} (h : shift G i o.1 o.2 = some j)
    (h' : shift G i o'.1 o'.2 = some j) : o = o' := by
  obtain ⟨_, a1, a2⟩ := shift_spec.1 h
  obtain ⟨_, b1, b2⟩ := shift_spec.1 h'
  exact Prod.ext (by omega) (by omega)

theorem shift_eq_self {G : Grid} {i : Nat} {o : Int × Int} (h : shift G i o.1 o.2 = some i) : o = (0, 0) :=
  shift_inj h (shift_self (shift_spec.1 h).1)

theorem shift_zero {G : Grid} {i j : Nat} (h : shift G i 0 0 = some j) : j = i := by
  have hi : i < G.n := by
    obtain ⟨hj, h1, h2⟩ := shift_spec.1 h
    rwa [idx_eq (ncol := G.ncol) (a := i) (b := j) (by omega) (by omega)]
  exact Option.some.inj (h.symm.trans (shift_self hi))

/-- the opposite offset leads back -/
theorem shift_inv {G : Grid} {i j : Nat} {o : Int × Int} (hi : i < G.n) (h : shift G i o.1 o.2 = some j) :
    shift G j (-o.1) (-o.2) = some i := by
  obtain ⟨_, h1, h2⟩ := shift_spec.1 h
  exact shift_spec.2 ⟨hi, by omega, by omega⟩

theorem sub_ge_iff (a b : Nat) : -1 ≤ (b : Int) - a ↔ a ≤ b + 1 := by omega
theorem sub_le_iff (a b : Nat) : (b : Int) - a ≤ 1 ↔ b ≤ a + 1 := by omega
theorem sub_eq_zero_iff (a b : Nat) : (b : Int) - a = 0 ↔ a = b := by omega

/-- `Adj` says that the row and column differences form an offset of the neighbour loop other than the centre -/
theorem adj_iff_offset {G : Grid} {conn i j : Nat} (hi : i < G.n) (hj : j < G.n) :
    Adj G conn i j ↔
      (((j / G.ncol : Nat) : Int) - (i / G.ncol : Nat), ((j % G.ncol : Nat) : Int) - (i % G.ncol : Nat))
        ∈ offsets conn ∧ ¬ (j / G.ncol = i / G.ncol ∧ j % G.ncol = i % G.ncol) := by
  have hne : i ≠ j ↔ ¬ (j / G.ncol = i / G.ncol ∧ j % G.ncol = i % G.ncol) :=
    ⟨fun h e => h (idx_eq e.1.symm e.2.symm), fun h e => h (e ▸ ⟨rfl, rfl⟩)⟩
  unfold Adj
  simp only [mem_offsets, hne, sub_ge_iff, sub_le_iff, sub_eq_zero_iff]
  exact ⟨fun ⟨_, _, h0, h⟩ => ⟨h, h0⟩, fun ⟨h, h0⟩ => ⟨hi, hj, h0, h⟩⟩

/-- the raster neighbour relation is exactly what the neighbour loop enumerates -/
theorem adj_iff_shift {G : Grid} {conn i j : Nat} (hi : i < G.n) :
    Adj G conn i j ↔ ∃ o, o ∈ offsets conn ∧ o ≠ (0, 0) ∧ shift G i o.1 o.2 = some j := by
  constructor
  · intro h
    obtain ⟨ho, hne⟩ := (adj_iff_offset hi h.2.1).1 h
    refine ⟨_, ho, fun e => hne ?_, shift_spec.2 ⟨h.2.1, by omega, by omega⟩⟩
    rw [Prod.mk.injEq] at e
    omega
  · rintro ⟨⟨dr, dc⟩, ho, hne, hs⟩
    obtain ⟨hj, h1, h2⟩ := shift_spec.1 hs
    have e : (dr, dc) = (((j / G.ncol : Nat) : Int) - (i / G.ncol : Nat),
        ((j % G.ncol : Nat) : Int) - (i % G.ncol : Nat)) := by rw [Prod.mk.injEq]; omega
    rw [e] at ho hne
    refine (adj_iff_offset hi hj).2 ⟨ho, fun h => hne ?_⟩
    rw [Prod.mk.injEq]
    omega

theorem getElem!_map_range {α} [Inhabited α] (n : Nat) (g : Nat → α) (c : Nat) (hc : c < n) :
    ((List.range n).map g).toArray[c]! = g c := by
  simp [hc]

/-- all structure neighbours of `c` (incl. itself) are valid ↔ `c` is valid and has no invalid `Adj`-neighbour -/
theorem all_offsets_valid {G : Grid} {conn : Nat} {nod : Array Bool} {c : Nat} (hc : c < G.n)
    (hv : nod[c]! = false) :
    ((offsets conn).all (windowValid G nod c) = true) ↔ ¬ ∃ b, b < G.n ∧ Adj G conn c b ∧ ¬ Valid G nod b := by
  rw [List.all_eq_true]
  constructor
  · intro h ⟨b, hb, hadj, hnv⟩
    obtain ⟨o, ho, _, hs⟩ := (adj_iff_shift hc).1 hadj
    have := h o ho
    unfold windowValid at this
    rw [hs] at this
    apply hnv
    refine ⟨hb, ?_⟩
    simpa using this
  · intro h o ho
    unfold windowValid
    split
    · rename_i j hs
      by_cases h0 : o = (0, 0)
      · subst h0
        rw [shift_zero hs, hv]; rfl
      · have hadj : Adj G conn c j := (adj_iff_shift hc).2 ⟨o, ho, h0, hs⟩
        cases hj : nod[j]! with
        | false => rfl
        | true =>
          exfalso
          apply h
          refine ⟨j, hadj.2.1, hadj, fun hvj => ?_⟩
          rw [hvj.2] at hj; cases hj
    · rfl

/-- **`get_edge`**: the model of `gis_utils.get_edge(~nodata_mask, structure)` marks exactly the
valid cells on the raster border or with a neighbour (in the connectivity) that is not valid -/
theorem getEdge_spec (G : Grid) (conn : Nat) (nod : Array Bool) (c : Nat) (hc : c < G.n) :
    (getEdge G conn nod)[c]! = true ↔ IsEdge G conn nod c := by
  unfold getEdge
  rw [getElem!_map_range _ _ _ hc]
  unfold edgeAt IsEdge Valid
  simp only
  cases hn : nod[c]! with
  | true => simp
  | false =>
    by_cases hb : c / G.ncol = 0 ∨ c / G.ncol = G.nrow - 1 ∨ c % G.ncol = 0 ∨ c % G.ncol = G.ncol - 1
    · have : (false || c / G.ncol == 0 || c / G.ncol == G.nrow - 1 || c % G.ncol == 0 ||
          c % G.ncol == G.ncol - 1) = true := by
        rcases hb with h | h | h | h <;> simp [h]
      rw [if_pos this]
      simp only [Bool.not_false, true_iff]
      refine ⟨⟨hc, by first | rfl | trivial⟩, ?_⟩
      rcases hb with h | h | h | h
      · exact Or.inl h
      · exact Or.inr (Or.inl h)
      · exact Or.inr (Or.inr (Or.inl h))
      · exact Or.inr (Or.inr (Or.inr (Or.inl h)))
    · have : ¬ ((false || c / G.ncol == 0 || c / G.ncol == G.nrow - 1 || c % G.ncol == 0 ||
          c % G.ncol == G.ncol - 1) = true) := by
        intro h
        apply hb
        simp only [Bool.false_or, Bool.or_eq_true, beq_iff_eq] at h
        rcases h with ((h | h) | h) | h
        · exact Or.inl h
        · exact Or.inr (Or.inl h)
        · exact Or.inr (Or.inr (Or.inl h))
        · exact Or.inr (Or.inr (Or.inr h))
      rw [if_neg this]
      have hall := all_offsets_valid (conn := conn) hc hn
      have hval : ∀ b, (b < G.n ∧ nod[b]! = false) = Valid G nod b := fun b => rfl
      by_cases hex : ∃ b, b < G.n ∧ Adj G conn c b ∧ ¬ Valid G nod b
      · have hne : ¬ _ := fun h => (hall.1 h) hex
        rw [if_neg hne]
        simp only [Bool.not_false, true_iff]
        exact ⟨⟨hc, by first | rfl | trivial⟩, Or.inr (Or.inr (Or.inr (Or.inr hex)))⟩
      · rw [if_pos (hall.2 hex)]
        simp only [Bool.false_eq_true, false_iff]
        intro ⟨_, h⟩
        rcases h with h | h | h | h | h
        · exact hb (Or.inl h)
        · exact hb (Or.inr (Or.inl h))
        · exact hb (Or.inr (Or.inr (Or.inl h)))
        · exact hb (Or.inr (Or.inr (Or.inr h)))
        · exact hex h


/-- the cell above an inner-row cell is an allowed neighbour for both connectivities -/
theorem adj_north {G : Grid} {conn c : Nat} (hc : c < G.n) (hr : c / G.ncol ≠ 0) :
    c - G.ncol < c ∧ Adj G conn c (c - G.ncol) := by
  have hp := ncol_pos hc
  have hge : G.ncol ≤ c := by
    apply Classical.byContradiction
    intro h
    exact hr (Nat.div_eq_of_lt (by omega))
  obtain ⟨b, hb⟩ : ∃ b, c = b + G.ncol := ⟨c - G.ncol, by omega⟩
  subst hb
  have h1 : (b + G.ncol) / G.ncol = b / G.ncol + 1 := Nat.add_div_right _ hp
  have h2 : (b + G.ncol) % G.ncol = b % G.ncol := Nat.add_mod_right _ _
  rw [Nat.add_sub_cancel]
  refine ⟨by omega, ?_⟩
  unfold Adj
  rw [h1, h2]
  refine ⟨hc, by omega, by omega, by omega, by omega, by omega, by omega, fun _ => Or.inr rfl⟩

/-- **with `outlets='edge'` every valid cell is connected to an outlet** (so the minimax
characterisation covers the whole valid area) -/
theorem edge_all_connected (G : Grid) (conn : Nat) (nod seed : Array Bool)
    (hseed : EdgeSeeds G conn nod seed) :
    ∀ c, Valid G nod c → Connected G conn nod seed c := by
  intro c
  induction c using Nat.strongRecOn with
  | _ c ih =>
    intro hv
    by_cases he : IsEdge G conn nod c
    · exact ⟨[c], PathTo.base c ⟨hv.1, (hseed c hv.1).2 he⟩⟩
    · have hr : c / G.ncol ≠ 0 := fun h => he ⟨hv, Or.inl h⟩
      obtain ⟨hlt, hadj⟩ := adj_north (conn := conn) hv.1 hr
      have hvb : Valid G nod (c - G.ncol) := by
        apply Classical.byContradiction
        intro hnv
        exact he ⟨hv, Or.inr (Or.inr (Or.inr (Or.inr ⟨_, hadj.2.1, hadj, hnv⟩)))⟩
      obtain ⟨p, hp⟩ := ih _ hlt hvb
      exact ⟨c :: p, PathTo.step c _ p ⟨hadj, hv, hvb⟩ hp⟩

end Pf.C06
