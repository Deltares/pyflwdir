import PfVerif.Proofs.C14
/-! Upstream induction along a downstream-first order, the relation `Feeds` ("nearest cells upstream
that hold a value"), the recurrence of `fillnodata_downstream` and its frontier form for the selecting
merge rules. -/
namespace Pf

theorem kids_outside_c14 {ds : Array Nat} {seq : List Nat} (htopo : Topo ds seq) (j : Nat) (hj : j ∉ seq) :
    kids ds seq j = [] :=
  List.eq_nil_iff_forall_not_mem.2 fun c hc =>
    hj ((mem_kids.1 hc).2.1 ▸ Topo.ds_mem htopo c (mem_kids.1 hc).1)

/-- `Feeds ds data nd k j`: walking downstream from `k`, cell `j` is reached (after ≥ 1 steps)
through cells that hold no value, `j` included (if `k` holds a value it is one of the nearest such cells
upstream of `j`) -/
inductive Feeds (ds : Array Nat) (data : Array Int) (nd : Int) (k : Nat) : Nat → Prop
  | step : ds[k]! ≠ k → data[ds[k]!]! = nd → Feeds ds data nd k ds[k]!
  | next (c : Nat) : Feeds ds data nd k c → ds[c]! ≠ c → data[ds[c]!]! = nd → Feeds ds data nd k ds[c]!

/-- a property of a cell `k` of the order that is passed on over every link into an empty cell holds
at every cell `k` feeds -/
theorem Feeds.induction_seq {ds : Array Nat} {data : Array Int} {nd : Int} {seq : List Nat}
    (htopo : Topo ds seq) {P : Nat → Prop} {k j : Nat} (hk : k ∈ seq) (hPk : P k)
    (hstep : ∀ c ∈ seq, P c → ds[c]! ≠ c → data[ds[c]!]! = nd → P ds[c]!)
    (hf : Feeds ds data nd k j) : j ∈ seq ∧ P j := by
  induction hf with
  | step hp hd => exact ⟨Topo.ds_mem htopo k hk, hstep k hk hPk hp hd⟩
  | next c _ hp hd ih => exact ⟨Topo.ds_mem htopo c ih.1, hstep c ih.1 ih.2 hp hd⟩

theorem Feeds.mem_c14 {ds : Array Nat} {data : Array Int} {nd : Int} {seq : List Nat} (htopo : Topo ds seq)
    {k j : Nat} (hk : k ∈ seq) (h : Feeds ds data nd k j) : j ∈ seq :=
  (Feeds.induction_seq (P := fun _ => True) htopo hk trivial (fun _ _ _ _ _ => trivial) h).1

/-- an inflow cell `c` of an empty cell `j` feeds `j`, and so does every cell that feeds `c` -/
theorem Feeds.of_kid {ds : Array Nat} {data : Array Int} {nd : Int} {seq : List Nat} {j c : Nat}
    (hc : c ∈ kids ds seq j) (hd : data[j]! = nd) :
    Feeds ds data nd c j ∧ ∀ k, Feeds ds data nd k c → Feeds ds data nd k j := by
  obtain ⟨_, rfl, hcn⟩ := mem_kids.1 hc
  exact ⟨Feeds.step (fun h => hcn h.symm) hd, fun k hk => Feeds.next c hk (fun h => hcn h.symm) hd⟩

theorem fillDownInit_get (data : Array Int) (nd : Int) (j : Nat) (hj : j < data.size) :
    (fillDownInit data nd)[j]! = (data[j]!, data[j]! != nd) := by
  simp [fillDownInit, hj]

theorem fillDownState_size (ds : Array Nat) (seq : List Nat) (data : Array Int) (nd : Int) (how : Nat) :
    (fillDownState ds seq data nd how).size = data.size := by
  unfold fillDownState; rw [size_sweepUp]; simp [fillDownInit]

/-- recursive form of `fillnodata_downstream` on the state `(data_out, filled)` (all merge rules) -/
theorem fillDownState_rec (ds : Array Nat) (seq : List Nat) (data : Array Int) (nd : Int) (how : Nat)
    (htopo : Topo ds seq) (hb : ∀ i ∈ seq, i < data.size) (j : Nat) (hj : j < data.size) :
    (fillDownState ds seq data nd how)[j]! =
      if data[j]! ≠ nd then (data[j]!, true)
      else encNd nd (mergeBranches how
        ((kids ds seq j).map fun c => optOf (fillDownState ds seq data nd how)[c]!)) := by
  have hkid : ∀ c ∈ kids ds seq j, data[ds[c]!]! = data[j]! := fun c hc => by rw [(mem_kids.1 hc).2.1]
  unfold fillDownState
  rw [sweepUp_spec ds (updFillDown ds data nd how) seq htopo (fillDownInit data nd)
    (fun i hi => by simpa [fillDownInit] using hb i hi) j, fillDownInit_get _ _ _ hj]
  by_cases hd : data[j]! = nd
  · rw [if_neg (fun h => h hd), hd, bne_self_eq_false]
    exact foldl_updFillDown_enc ds data nd how _ _ none fun c hc => (hkid c hc).trans hd
  · rw [if_pos hd, foldl_updFillDown_valid ds data nd how _ _ _ fun c hc => (hkid c hc).symm ▸ hd,
      bne_iff_ne.2 hd]

theorem fillDown_rec (ds : Array Nat) (seq : List Nat) (data : Array Int) (nd : Int) (how : Nat)
    (htopo : Topo ds seq) (hb : ∀ i ∈ seq, i < data.size) (j : Nat) (hj : j < data.size) :
    optOf (fillDownState ds seq data nd how)[j]! =
      (if data[j]! ≠ nd then some data[j]!
       else mergeBranches how ((kids ds seq j).map fun c => optOf (fillDownState ds seq data nd how)[c]!)) ∧
    (fillDownModel ds seq data nd how)[j]! = (optOf (fillDownState ds seq data nd how)[j]!).getD nd := by
  have hm : (fillDownModel ds seq data nd how)[j]! = (fillDownState ds seq data nd how)[j]!.1 := by
    simp [fillDownModel, fillDownState_size, hj]
  rw [hm, fillDownState_rec ds seq data nd how htopo hb j hj]
  by_cases hd : data[j]! = nd
  · rw [if_neg (fun h => h hd), if_neg (fun h => h hd), optOf_encNd, encNd_fst]
    exact ⟨rfl, rfl⟩
  · rw [if_pos hd, if_pos hd]
    exact ⟨rfl, rfl⟩

/-- frontier form for a selecting merge rule (`R` = `≤` for min, `≥` for max), on the optional
value `O j` of a cell: it is `R`-below the value of every nearest valid cell upstream, and is the
cell's own value or the value of one of them. -/
theorem fillDown_frontier_sel (how : Nat) (R : Int → Int → Prop) (hrefl : ∀ a, R a a)
    (htrans : ∀ a b c, R a b → R b c → R a c)
    (hsel : ∀ x a, mergeHow how x a = x ∨ mergeHow how x a = a)
    (hR : ∀ x a, R (mergeHow how x a) x ∧ R (mergeHow how x a) a)
    (ds : Array Nat) (seq : List Nat) (data : Array Int) (nd : Int)
    (htopo : Topo ds seq) (hb : ∀ i ∈ seq, i < data.size) :
    (∀ k ∈ seq, data[k]! ≠ nd → ∀ j, Feeds ds data nd k j →
      ∃ r, optOf (fillDownState ds seq data nd how)[j]! = some r ∧ R r data[k]!) ∧
    (∀ j ∈ seq, ∀ r, optOf (fillDownState ds seq data nd how)[j]! = some r →
      (data[j]! ≠ nd ∧ r = data[j]!) ∨
      ∃ k ∈ seq, data[k]! ≠ nd ∧ Feeds ds data nd k j ∧ r = data[k]!) := by
  obtain ⟨O, hO⟩ : ∃ O : Nat → Option Int, O = fun j => optOf (fillDownState ds seq data nd how)[j]! := ⟨_, rfl⟩
  have hOj : ∀ j, optOf (fillDownState ds seq data nd how)[j]! = O j := by intro j; rw [hO]
  simp only [hOj]
  have hrec : ∀ j ∈ seq, O j = if data[j]! ≠ nd then some data[j]!
      else mergeBranches how ((kids ds seq j).map fun c => O c) := by
    intro j hj; rw [hO]; exact (fillDown_rec ds seq data nd how htopo hb j (hb j hj)).1
  have hsel' := fun vals => mergeBranches_sel how R hrefl htrans hsel hR vals
  constructor
  · intro k hk hdk j hf
    refine (Feeds.induction_seq (P := fun j => ∃ r, O j = some r ∧ R r data[k]!) htopo hk
      ⟨_, by rw [hrec k hk, if_pos hdk], hrefl _⟩ (fun c hc ⟨v, hv, hvk⟩ hp hd => ?_) hf).2
    -- one step downstream into an empty cell
    obtain ⟨r, hr, hrv⟩ := (hsel' ((kids ds seq ds[c]!).map fun c => O c)).1 v
      (List.mem_map.2 ⟨c, mem_kids.2 ⟨hc, rfl, fun h => hp h.symm⟩, hv⟩)
    exact ⟨r, by rw [hrec _ (Topo.ds_mem htopo c hc), if_neg (fun h => h hd)]; exact hr, htrans _ _ _ hrv hvk⟩
  · refine htopo.induction_kids _ (fun j hj ih r hr => ?_)
    rw [hrec j hj] at hr
    by_cases hd : data[j]! = nd
    · right
      rw [if_neg (fun h => h hd)] at hr
      obtain ⟨c, hck, hcv⟩ := List.mem_map.1 ((hsel' _).2.2 r hr)
      obtain ⟨hfc, hfk⟩ := Feeds.of_kid (nd := nd) hck hd
      rcases ih c hck r hcv with ⟨h1, h2⟩ | ⟨k, hk, h1, h2, h3⟩
      · exact ⟨c, (mem_kids.1 hck).1, h1, hfc, h2⟩
      · exact ⟨k, hk, h1, hfk k h2, h3⟩
    · rw [if_pos hd] at hr
      exact Or.inl ⟨hd, (Option.some.inj hr).symm⟩

end Pf
