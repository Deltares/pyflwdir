import PfVerif.Model.C10
import PfVerif.Proofs.Paths
/-! C10: the loops of `subgrid.py` / `upscale.py` that follow a flow path (river segments, `ihu_outlets`,
both loops of `fixed_length_slope`) are one fuel-bounded walk to the first cell that passes a stop test:
what each returns, and that each returns on a loop-free network. -/
namespace Pf.C10
open Pf

/-! ### per-outlet results (`Option`-valued `mapM`) -/

/-- an entry of a per-outlet result: a missing outlet keeps nodata, any other entry is what `F` returns -/
theorem perOutlet_get {α : Type} (n : Nat) (F : Nat → Option (Option α)) (outs : List Nat) (res : PerOutlet α)
    (h : outs.mapM (fun s => if s = n then some none else F s) = some res) (k s : Nat)
    (hk : outs[k]? = some s) :
    (s = n ∧ res[k]? = some none) ∨ (s ≠ n ∧ ∃ r, F s = some r ∧ res[k]? = some r) := by
  obtain ⟨b, hb1, hb2⟩ := (mapM_option_get _ _ _ h).2 k s hk
  by_cases hs : s = n
  · rw [if_pos hs] at hb2
    exact Or.inl ⟨hs, by rw [hb1, ← Option.some.inj hb2]⟩
  · rw [if_neg hs] at hb2
    exact Or.inr ⟨hs, b, hb2, hb1⟩

/-- the same when the entry is computed from the result of a walk -/
theorem perOutlet_map_get {α β : Type} (n : Nat) (walk : Nat → Option β) (g : Nat → β → Option α)
    (outs : List Nat) (res : PerOutlet α)
    (h : outs.mapM (fun s => if s = n then some none else (walk s).map (g s)) = some res) (k s : Nat)
    (hk : outs[k]? = some s) :
    (s = n ∧ res[k]? = some none) ∨ (s ≠ n ∧ ∃ b, walk s = some b ∧ res[k]? = some (g s b)) := by
  rcases perOutlet_get n _ outs res h k s hk with h | ⟨hs, r, hr, hres⟩
  · exact Or.inl h
  · obtain ⟨b, hb, rfl⟩ := Option.map_eq_some_iff.mp hr
    exact Or.inr ⟨hs, b, hb, hres⟩

theorem perOutlet_isSome {α : Type} (n : Nat) (F : Nat → Option (Option α)) (outs : List Nat)
    (h : ∀ s ∈ outs, s ≠ n → (F s).isSome = true) :
    (outs.mapM fun s => if s = n then some none else F s).isSome = true := by
  apply mapM_option_isSome
  intro s hs
  by_cases hm : s = n
  · rw [if_pos hm]; rfl
  · rw [if_neg hm]; exact h s hs hm

theorem perOutlet_map_isSome {α β : Type} (n : Nat) (walk : Nat → Option β) (g : Nat → β → Option α)
    (outs : List Nat) (h : ∀ s ∈ outs, s ≠ n → ∃ b, walk s = some b) :
    (outs.mapM fun s => if s = n then some none else (walk s).map (g s)).isSome = true :=
  perOutlet_isSome n _ outs fun s hs hm =>
    (Option.isSome_map ..).trans (Option.isSome_iff_exists.mpr (h s hs hm))

/-! ### the least stopping index, as the oracles search it -/

theorem leastIdx_some {bound : Nat} {p : Nat → Bool} {K : Nat} (h : leastIdx bound p = some K) :
    K ≤ bound ∧ FirstAt p K :=
  (find?_range_eq_some h).imp_left Nat.le_of_lt_succ

/-! ### the segment walks: exclusive (`segment_average/median/slope`) and inclusive (`segment_length`) -/

theorem exclWalk_eq (nxt : Array Nat) (isOut : Array Bool) (mask : Option (Array Bool)) : ∀ (fuel s : Nat),
    exclWalk nxt isOut mask fuel s =
      (firstStop nxt (stopExcl nxt isOut mask) fuel s).map fun K =>
        (List.range (K + 1)).map fun j => iterA nxt j s
  | 0, _ => rfl
  | f+1, s => by
    rw [exclWalk, firstStop_map, exclWalk_eq nxt isOut mask f, Option.map_map]
    exact congrArg (ite _ _) (congrArg (Option.map · _) (funext fun K => (range_map_iter_succ nxt K s).symm))

theorem stopExcl_eq (nxt : Array Nat) (isOut : Array Bool) (mask : Option (Array Bool)) (c : Nat) :
    stopExcl nxt isOut mask c = (blocked nxt mask c || isOut[nxt[c]!]!) :=
  Bool.or_right_comm ..

theorem stopExcl_false {nxt : Array Nat} {isOut : Array Bool} {mask : Option (Array Bool)} {c : Nat}
    (h : stopExcl nxt isOut mask c = false) : nxt[c]! ≠ c ∧ nxt[c]! ≠ nxt.size := by
  simp only [stopExcl, Bool.or_eq_false_iff, beq_eq_false_iff_ne] at h
  exact ⟨h.1.1.2, h.1.1.1⟩

/-- index of the last cell of the inclusive segment, from the index `K` of the last cell of the exclusive
one: the same cell when it has no admissible next cell, else the outlet pixel that follows it -/
def inclIdx (nxt : Array Nat) (mask : Option (Array Bool)) (s K : Nat) : Nat :=
  if blocked nxt mask (iterA nxt K s) then K else K + 1

theorem inclIdx_succ (nxt : Array Nat) (mask : Option (Array Bool)) (s K : Nat) :
    inclIdx nxt mask s (K + 1) = inclIdx nxt mask nxt[s]! K + 1 := by
  unfold inclIdx
  rw [iterA]
  by_cases hb : blocked nxt mask (iterA nxt K nxt[s]!) = true
  · rw [if_pos hb, if_pos hb]
  · rw [if_neg hb, if_neg hb]

/-- the inclusive walk makes the steps of the exclusive walk -/
theorem lenWalk_eq (nxt : Array Nat) (isOut : Array Bool) (mask : Option (Array Bool)) : ∀ (fuel s : Nat),
    lenWalk nxt isOut mask fuel s =
      (firstStop nxt (stopExcl nxt isOut mask) fuel s).map fun K => iterA nxt (inclIdx nxt mask s K) s
  | 0, _ => rfl
  | f+1, s => by
    rw [lenWalk, firstStop_map, stopExcl_eq, lenWalk_eq nxt isOut mask f]
    simp only [inclIdx_succ, iterA]
    by_cases hb : blocked nxt mask s = true
    · rw [if_pos hb, if_pos (by rw [hb]; rfl), inclIdx, if_pos (show blocked nxt mask (iterA nxt 0 s) = true from hb)]
      rfl
    · rw [if_neg hb]
      by_cases ho : isOut[nxt[s]!]! = true
      · rw [if_pos ho, if_pos (by rw [ho, Bool.or_true]), inclIdx,
          if_neg (show ¬ blocked nxt mask (iterA nxt 0 s) = true from hb)]
        rfl
      · rw [if_neg ho, if_neg (by rw [(Bool.not_eq_true _).mp hb, (Bool.not_eq_true _).mp ho]; exact Bool.false_ne_true)]

/-- where the exclusive stop test first holds is where, or one step before where, the inclusive one does -/
theorem inclIdx_firstAt {nxt : Array Nat} {isOut : Array Bool} {mask : Option (Array Bool)} {s K : Nat}
    (h : FirstAt (fun j => stopExcl nxt isOut mask (iterA nxt j s)) K) :
    FirstAt (stopInclAt nxt isOut mask s) (inclIdx nxt mask s K) := by
  have hno : ∀ j, j < K → blocked nxt mask (iterA nxt j s) = false ∧ isOut[iterA nxt (j + 1) s]! = false := by
    intro j hj
    have := h.before j hj
    rw [stopExcl_eq, Bool.or_eq_false_iff] at this
    rw [iterA_succ']
    exact this
  -- up to `K` no cell after the first is an outlet pixel
  have hst : ∀ j, j ≤ K → stopInclAt nxt isOut mask s j = blocked nxt mask (iterA nxt j s) := by
    intro j hj
    cases j with
    | zero => rfl
    | succ j => rw [stopInclAt, (hno j hj).2, Bool.and_false, Bool.false_or]
  have hK := h.stop
  rw [stopExcl_eq, ← iterA_succ'] at hK
  rw [inclIdx]
  by_cases hb : blocked nxt mask (iterA nxt K s) = true
  · rw [if_pos hb]
    exact ⟨fun j hj => (hst j (Nat.le_of_lt hj)).trans (hno j hj).1, (hst K (Nat.le_refl K)).trans hb⟩
  · rw [if_neg hb]
    have hb' := (Bool.not_eq_true _).mp hb
    refine ⟨fun j hj => (hst j (Nat.le_of_lt_succ hj)).trans ?_, ?_⟩
    · rcases Nat.lt_or_eq_of_le (Nat.le_of_lt_succ hj) with hjK | hjK
      · exact (hno j hjK).1
      · rw [hjK]; exact hb'
    · rw [hb', Bool.false_or] at hK
      rw [stopInclAt, hK, decide_eq_true (Nat.le_add_left 1 K), Bool.true_and, Bool.true_or]

/-! ### `fixed_length_slope`: the two loops -/

/-- stop test of the first (downstream) loop -/
def downStop (ds : Array Nat) (distnc : Array Int) (mask : Option (Array Bool)) (x0 : Int) (c : Nat) : Bool :=
  decide (distnc[c]! ≤ x0 ∨ ds[c]! = c ∨ ds[c]! = ds.size ∨ maskAt mask c = false)

/-- stop test of the second loop (along the main upstream cells) -/
def upStop (us : Array Nat) (distnc : Array Int) (mask : Option (Array Bool)) (x1 : Int) (c : Nat) : Bool :=
  decide (x1 ≤ distnc[c]! ∨ us[c]! = us.size ∨ maskAt mask us[c]! = false)

theorem flsDown_eq (ds : Array Nat) (distnc : Array Int) (mask : Option (Array Bool)) (x0 : Int) :
    ∀ (fuel s : Nat), flsDown ds distnc mask x0 fuel s =
      (firstStop ds (downStop ds distnc mask x0) fuel s).map fun K => iterA ds K s
  | 0, _ => rfl
  | f+1, s => by
    rw [flsDown, firstStop_map, flsDown_eq ds distnc mask x0 f]
    by_cases h1 : distnc[s]! > x0
    · rw [if_pos h1]
      by_cases h2 : ds[s]! = s ∨ ds[s]! = ds.size ∨ maskAt mask s = false
      · rw [if_pos h2, if_pos (show downStop ds distnc mask x0 s = true from decide_eq_true (Or.inr h2))]; rfl
      · rw [if_neg h2, if_neg fun h : downStop ds distnc mask x0 s = true =>
          (of_decide_eq_true h).elim (Int.not_le.mpr h1) h2]; rfl
    · rw [if_neg h1, if_pos (show downStop ds distnc mask x0 s = true from
        decide_eq_true (Or.inl (Int.not_lt.mp h1)))]; rfl

theorem flsUp_eq (us : Array Nat) (distnc : Array Int) (mask : Option (Array Bool)) (x1 : Int) :
    ∀ (fuel d : Nat), flsUp us distnc mask x1 fuel d =
      (firstStop us (upStop us distnc mask x1) fuel d).map fun K =>
        (List.range (K + 1)).map fun j => iterA us j d
  | 0, _ => rfl
  | f+1, d => by
    rw [flsUp, firstStop_map, flsUp_eq us distnc mask x1 f, Option.map_map]
    by_cases h1 : distnc[d]! < x1
    · rw [if_pos h1]
      by_cases h2 : us[d]! = us.size ∨ maskAt mask us[d]! = false
      · rw [if_pos h2, if_pos (show upStop us distnc mask x1 d = true from decide_eq_true (Or.inr h2))]; rfl
      · rw [if_neg h2, if_neg fun h : upStop us distnc mask x1 d = true =>
          (of_decide_eq_true h).elim (Int.not_le.mpr h1) h2]
        exact congrArg (Option.map · _) (funext fun K => (range_map_iter_succ us K d).symm)
    · rw [if_neg h1, if_pos (show upStop us distnc mask x1 d = true from
        decide_eq_true (Or.inl (Int.not_lt.mp h1)))]; rfl

theorem downStop_false {ds : Array Nat} {distnc : Array Int} {mask : Option (Array Bool)} {x0 : Int} {c : Nat}
    (h : downStop ds distnc mask x0 c = false) :
    distnc[c]! > x0 ∧ ds[c]! ≠ c ∧ ds[c]! ≠ ds.size ∧ maskAt mask c = true := by
  have := of_decide_eq_false h
  simp only [not_or, Int.not_le, Bool.not_eq_false] at this
  exact this

theorem upStop_false {us : Array Nat} {distnc : Array Int} {mask : Option (Array Bool)} {x1 : Int} {c : Nat}
    (h : upStop us distnc mask x1 c = false) :
    distnc[c]! < x1 ∧ us[c]! ≠ us.size ∧ maskAt mask us[c]! = true := by
  have := of_decide_eq_false h
  simp only [not_or, Int.not_le, Bool.not_eq_false] at this
  exact this

/-! ### outlet pixels (`dmm_exitcell`, `eam_repcell`, `ihu_outlets`) -/

/-- what `dmm_exitcell` / `eam_repcell` guarantee for the pixel stored for coarse cell `c` -/
def RepOK (ds : Array Nat) (cand : Nat → Bool) (subncol cellsize ncol : Nat) (c r : Nat) : Prop :=
  r = ds.size ∨ (r < ds.size ∧ ds[r]! ≠ ds.size ∧ cellOf subncol cellsize ncol r = c ∧
    (ds[r]! = r ∨ cand r = true))

/-- one iteration of `dmm_exitcell` / `eam_repcell` keeps: the table has one entry per coarse cell and every
entry is `RepOK` -/
theorem repStep_inv (ds : Array Nat) (upa : Array Int) (cand : Nat → Bool) (subncol cellsize ncol ncells : Nat)
    (st : Array Nat × Array Int) (subidx : Nat) (hs : subidx < ds.size)
    (h : st.1.size = ncells ∧ ∀ c, c < ncells → RepOK ds cand subncol cellsize ncol c st.1[c]!) :
    (repStep ds upa cand subncol cellsize ncol st subidx).1.size = ncells ∧
    ∀ c, c < ncells →
      RepOK ds cand subncol cellsize ncol c (repStep ds upa cand subncol cellsize ncol st subidx).1[c]! := by
  rw [repStep]
  simp only []
  by_cases h1 : ds[subidx]! = ds.size
  · rw [if_pos h1]; exact h
  · rw [if_neg h1]
    by_cases h2 : ds[subidx]! = subidx ∨ cand subidx = true
    · rw [if_pos h2]
      by_cases h3 : upa[subidx]! > st.2[cellOf subncol cellsize ncol subidx]!
      · rw [if_pos h3]
        refine ⟨(Array.size_setIfInBounds ..).trans h.1, fun c hc => ?_⟩
        rw [get!_setIfInBounds]
        by_cases hh : cellOf subncol cellsize ncol subidx = c ∧ cellOf subncol cellsize ncol subidx < st.1.size
        · rw [if_pos hh]; exact Or.inr ⟨hs, h1, hh.1, h2⟩
        · rw [if_neg hh]; exact h.2 c hc
      · rw [if_neg h3]; exact h
    · rw [if_neg h2]; exact h

/-- stop test of the `while True` of `ihu_outlets` for coarse cell `idx0` -/
def ihuStop (ds : Array Nat) (subncol cellsize ncol idx0 c : Nat) : Bool :=
  decide (idx0 ≠ cellOf subncol cellsize ncol ds[c]! ∨ ds[c]! = c)

theorem ihuTrace_eq (ds : Array Nat) (subncol cellsize ncol idx0 : Nat) : ∀ (fuel s : Nat),
    ihuTrace ds subncol cellsize ncol idx0 fuel s =
      (firstStop ds (ihuStop ds subncol cellsize ncol idx0) fuel s).map fun K => iterA ds K s
  | 0, _ => rfl
  | f+1, s => by
    rw [ihuTrace, firstStop_map, ihuTrace_eq ds subncol cellsize ncol idx0 f]
    simp only [ihuStop, decide_eq_true_eq]
    rfl

/-- the outlet pixel lies in the coarse cell of the representative pixel, its downstream pixel does not
(unless it is a pit), and the whole stretch in between stays inside the coarse cell -/
theorem ihuTrace_spec (ds : Array Nat) (subncol cellsize ncol idx0 fuel s o : Nat)
    (h : ihuTrace ds subncol cellsize ncol idx0 fuel s = some o)
    (hs : cellOf subncol cellsize ncol s = idx0) :
    cellOf subncol cellsize ncol o = idx0 ∧
    (ds[o]! = o ∨ cellOf subncol cellsize ncol ds[o]! ≠ idx0) ∧
    ∃ j, o = iterA ds j s ∧ ∀ m, m < j → ds[iterA ds m s]! ≠ iterA ds m s ∧
      cellOf subncol cellsize ncol (iterA ds (m + 1) s) = idx0 := by
  rw [ihuTrace_eq] at h
  obtain ⟨j, rfl, hpre, hstop⟩ := firstStop_map_spec h
  have hin : ∀ m, m < j → ds[iterA ds m s]! ≠ iterA ds m s ∧
      cellOf subncol cellsize ncol (iterA ds (m + 1) s) = idx0 := by
    intro m hm
    have := hpre m hm
    simp only [ihuStop, decide_eq_false_iff_not, not_or, Decidable.not_not] at this
    exact ⟨this.2, by rw [iterA_succ']; exact this.1.symm⟩
  refine ⟨?_, ?_, j, rfl, hin⟩
  · cases j with
    | zero => exact hs
    | succ j => exact (hin j (by omega)).2
  · simp only [ihuStop, decide_eq_true_eq] at hstop
    exact hstop.symm.imp_right fun h1 h2 => h1 h2.symm

/-! ### every walk returns on a loop-free network -/

/-- `us` is an upstream-link array of `ds` (what `main_upstream` returns, see `Pf.C11.mainUpstream_argmax`):
per cell the missing value, or an inflowing cell other than the cell itself -/
def UsLink (ds us : Array Nat) : Prop :=
  us.size = ds.size ∧
  ∀ c, c < ds.size → us[c]! = ds.size ∨ (us[c]! < ds.size ∧ ds[us[c]!]! = c ∧ us[c]! ≠ c)

/-- position measure of a downstream-first order: it strictly decreases along upstream links -/
theorem usLink_measure {ds us : Array Nat} {seq : List Nat} (htopo : Topo ds seq)
    (hall : ∀ i, i < ds.size → ds[i]! ≠ ds.size → i ∈ seq) (hlink : UsLink ds us)
    (c : Nat) (hc : c < ds.size) (hne : us[c]! ≠ us.size) :
    us[c]! < ds.size ∧ seq.length - seq.idxOf us[c]! < seq.length - seq.idxOf c := by
  rcases hlink.2 c hc with h | ⟨h1, h2, h3⟩
  · rw [hlink.1] at hne; exact absurd h hne
  · have hmem : us[c]! ∈ seq := hall _ h1 (by rw [h2]; omega)
    have hlt := htopo.idxOf_lt _ hmem (by rw [h2]; exact Ne.symm h3)
    rw [h2] at hlt
    exact ⟨h1, Nat.sub_lt_sub_left (Nat.lt_trans hlt (List.idxOf_lt_length_of_mem hmem)) hlt⟩

/-- a walk along an upstream-link array that stops at the latest where the link is missing returns from
every cell of the raster -/
theorem firstStop_up_total {ds us : Array Nat} {seq : List Nat} (htopo : Topo ds seq)
    (hb : ∀ i ∈ seq, i < ds.size) (hall : ∀ i, i < ds.size → ds[i]! ≠ ds.size → i ∈ seq)
    (hlink : UsLink ds us) (stop : Nat → Bool) (hstop : ∀ c, stop c = false → us[c]! ≠ us.size)
    (s : Nat) (hs : s < ds.size) : (firstStop us stop (us.size + 1) s).isSome = true :=
  firstStop_isSome us stop (· < ds.size) (fun c => seq.length - seq.idxOf c)
    (fun c hc h => usLink_measure htopo hall hlink c hc (hstop c h)) _ s hs
    (hlink.1 ▸ Nat.lt_succ_of_le (Nat.le_trans (Nat.sub_le _ _) (nodup_length_le htopo.nodup hb)))

/-- both segment walks return when the walk to the first cell with `stopExcl` does -/
theorem segWalks_isSome {nxt : Array Nat} {isOut : Array Bool} {mask : Option (Array Bool)} {fuel s : Nat}
    (h : (firstStop nxt (stopExcl nxt isOut mask) fuel s).isSome = true) :
    (∃ cells, exclWalk nxt isOut mask fuel s = some cells) ∧
    (∃ e, lenWalk nxt isOut mask fuel s = some e) := by
  obtain ⟨K, hK⟩ := Option.isSome_iff_exists.mp h
  exact ⟨⟨_, by rw [exclWalk_eq, hK]; rfl⟩, ⟨_, by rw [lenWalk_eq, hK]; rfl⟩⟩

/-- the downstream loop of `fixed_length_slope` returns a cell of the raster from an outlet pixel that
is a cell of the network or a raster cell outside it -/
theorem flsDown_total {ds : Array Nat} {seq : List Nat} (htopo : Topo ds seq) (hb : ∀ i ∈ seq, i < ds.size)
    (distnc : Array Int) (mask : Option (Array Bool)) (x0 : Int) (s : Nat)
    (hs : s ∈ seq ∨ (s < ds.size ∧ ds[s]! = ds.size)) :
    ∃ d, flsDown ds distnc mask x0 (ds.size + 1) s = some d ∧ d < ds.size := by
  rw [flsDown_eq]
  rcases hs with hs | ⟨h1, h2⟩
  · obtain ⟨K, hK⟩ := Option.isSome_iff_exists.mp
      (firstStop_down_total htopo hb (downStop ds distnc mask x0) (fun c h => (downStop_false h).2.1) s hs)
    exact ⟨iterA ds K s, by rw [hK]; rfl, hb _ (iterA_mem htopo hs K)⟩
  · exact ⟨s, by
      rw [firstStop, if_pos (show downStop ds distnc mask x0 s = true from
        decide_eq_true (Or.inr (Or.inr (Or.inl h2))))]
      rfl, h1⟩

/-- `ihu_outlets` from representative pixels: every outlet pixel is missing or lies in its coarse cell, and
the pixel downstream of it lies in another coarse cell unless the outlet is a pit -/
theorem ihuOutlets_spec {ds rep : Array Nat} {cand : Nat → Bool} {subncol cellsize ncol : Nat} {l : List Nat}
    (hrep : ∀ c, c < rep.size → RepOK ds cand subncol cellsize ncol c rep[c]!)
    (h : ihuOutlets ds rep subncol cellsize ncol = some l) :
    l.length = rep.size ∧ ∀ c o, l[c]? = some o → o = ds.size ∨
      (cellOf subncol cellsize ncol o = c ∧ (ds[o]! = o ∨ cellOf subncol cellsize ncol ds[o]! ≠ c)) := by
  obtain ⟨hlen, hget⟩ := mapM_option_get _ _ _ h
  rw [List.length_range] at hlen
  refine ⟨hlen, fun c o hco => ?_⟩
  have hc : c < rep.size := hlen ▸ (List.getElem?_eq_some_iff.mp hco).1
  -- entry `c` is missing where the representative pixel is, else the end of its trace
  obtain ⟨b, hb, ho⟩ := hget c c (by simp [hc])
  obtain rfl : o = b := Option.some.inj (hco.symm.trans hb)
  by_cases hm : rep[c]! = ds.size
  · rw [if_pos hm] at ho
    exact Or.inl (Option.some.inj ho).symm
  · rw [if_neg hm] at ho
    rcases hrep c hc with h1 | ⟨_, _, h3, _⟩
    · exact absurd h1 hm
    · obtain ⟨h4, h5, _⟩ := ihuTrace_spec ds subncol cellsize ncol c _ _ _ ho h3
      exact Or.inr ⟨h4, h5⟩

end Pf.C10
