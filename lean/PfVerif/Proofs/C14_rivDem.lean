import PfVerif.Model.C14_riv
/-! `dem.slope`: how the 3×3 window `winAt` reads the raster, the two finite differences, and the
padded-raster oracle `window9` as the same window. -/
namespace Pf.C14x
open Pf

theorem idx_lt {nrow ncol a b : Nat} (ha : a < nrow) (hb : b < ncol) : a * ncol + b < nrow * ncol := by
  have h1 : (a + 1) * ncol ≤ nrow * ncol := Nat.mul_le_mul_right ncol ha
  rw [Nat.add_mul, Nat.one_mul] at h1
  omega

theorem cell_rc {nrow ncol i : Nat} (hi : i < nrow * ncol) :
    i / ncol < nrow ∧ i % ncol < ncol ∧ i / ncol * ncol + i % ncol = i := by
  have hc : 0 < ncol := by
    rcases Nat.eq_zero_or_pos ncol with h | h
    · subst h; simp at hi
    · exact h
  exact ⟨(Nat.div_lt_iff_lt_mul hc).2 hi, Nat.mod_lt _ hc, Nat.div_add_mod' i ncol⟩

/-- the window entry is the centre value when the neighbour lies outside the raster -/
theorem winAt_outside (nrow ncol : Nat) (elev : Array Int) (nd : Int) (r c : Nat) (dr dc : Int)
    (h : ¬ (0 ≤ (r : Int) + dr ∧ (r : Int) + dr < nrow ∧ 0 ≤ (c : Int) + dc ∧ (c : Int) + dc < ncol)) :
    winAt nrow ncol elev nd r c dr dc = elev[r * ncol + c]! := by
  simp only [winAt]; rw [if_neg h]

/-- inside the raster: the neighbour's value, or the centre value if the neighbour is nodata -/
theorem winAt_inside (nrow ncol : Nat) (elev : Array Int) (nd : Int) (r c : Nat) (dr dc : Int)
    (h : 0 ≤ (r : Int) + dr ∧ (r : Int) + dr < nrow ∧ 0 ≤ (c : Int) + dc ∧ (c : Int) + dc < ncol) :
    winAt nrow ncol elev nd r c dr dc =
      if elev[((r : Int) + dr).toNat * ncol + ((c : Int) + dc).toNat]! ≠ nd
      then elev[((r : Int) + dr).toNat * ncol + ((c : Int) + dc).toNat]! else elev[r * ncol + c]! := by
  simp only [winAt]; rw [if_pos h]

/-- the same with the neighbour named by its row `a` and column `b` -/
theorem winAt_at (nrow ncol : Nat) (elev : Array Int) (nd : Int) (r c : Nat) (dr dc : Int) (a b : Nat)
    (ha : (r : Int) + dr = a) (hb : (c : Int) + dc = b) (ha' : a < nrow) (hb' : b < ncol) :
    winAt nrow ncol elev nd r c dr dc =
      if elev[a * ncol + b]! ≠ nd then elev[a * ncol + b]! else elev[r * ncol + c]! := by
  simp only [winAt, ha, hb, Int.toNat_natCast]
  rw [if_pos ⟨Int.natCast_nonneg a, Int.ofNat_lt.2 ha', Int.natCast_nonneg b, Int.ofNat_lt.2 hb'⟩]

theorem winAt_cases (nrow ncol : Nat) (elev : Array Int) (nd : Int) (r c : Nat) (dr dc : Int) :
    winAt nrow ncol elev nd r c dr dc = elev[r * ncol + c]! ∨
    ∃ k, k < nrow * ncol ∧ elev[k]! ≠ nd ∧ winAt nrow ncol elev nd r c dr dc = elev[k]! := by
  by_cases h : 0 ≤ (r : Int) + dr ∧ (r : Int) + dr < nrow ∧ 0 ≤ (c : Int) + dc ∧ (c : Int) + dc < ncol
  · rw [winAt_inside _ _ _ _ _ _ _ _ h]
    by_cases hv : elev[((r : Int) + dr).toNat * ncol + ((c : Int) + dc).toNat]! ≠ nd
    · rw [if_pos hv]
      exact Or.inr ⟨_, idx_lt (by omega) (by omega), hv, rfl⟩
    · rw [if_neg hv]; exact Or.inl rfl
  · exact Or.inl (winAt_outside _ _ _ _ _ _ _ _ h)

theorem winAt_shift (nrow ncol : Nat) (elev elev' : Array Int) (nd t : Int) (r c : Nat) (dr dc : Int)
    (hr : r < nrow) (hc : c < ncol)
    (h' : ∀ k, k < nrow * ncol → elev'[k]! = if elev[k]! = nd then nd else elev[k]! + t)
    (hclash : ∀ k, k < nrow * ncol → elev[k]! ≠ nd → elev[k]! + t ≠ nd)
    (hctr : elev[r * ncol + c]! ≠ nd) :
    winAt nrow ncol elev' nd r c dr dc = winAt nrow ncol elev nd r c dr dc + t := by
  have hcc : elev'[r * ncol + c]! = elev[r * ncol + c]! + t := by
    rw [h' _ (idx_lt hr hc), if_neg hctr]
  by_cases h : 0 ≤ (r : Int) + dr ∧ (r : Int) + dr < nrow ∧ 0 ≤ (c : Int) + dc ∧ (c : Int) + dc < ncol
  · rw [winAt_inside _ _ _ _ _ _ _ _ h, winAt_inside _ _ _ _ _ _ _ _ h, hcc,
      h' _ (idx_lt (by omega) (by omega))]
    by_cases hv : elev[((r : Int) + dr).toNat * ncol + ((c : Int) + dc).toNat]! = nd
    · rw [if_pos hv, if_neg (fun h => h rfl), if_neg (fun h => h hv)]
    · rw [if_neg hv, if_pos (hclash _ (idx_lt (by omega) (by omega)) hv), if_pos hv]
  · rw [winAt_outside _ _ _ _ _ _ _ _ h, winAt_outside _ _ _ _ _ _ _ _ h, hcc]

/-! ### the finite differences: the weights of each add up to zero -/

theorem grad_shift (w w' : Int → Int → Int) (t : Int) (h : ∀ a b, w' a b = w a b + t) :
    gradX w' = gradX w ∧ gradY w' = gradY w := by
  simp only [gradX, gradY, h]; constructor <;> grind

theorem grad_const (w : Int → Int → Int) (v : Int) (h : ∀ a b, w a b = v) : gradX w = 0 ∧ gradY w = 0 :=
  grad_shift (fun _ _ => 0) w v (fun a b => by rw [h, Int.zero_add])

theorem grad_one_row (w : Int → Int → Int) (v : Int) (h : ∀ dr dc, dr ≠ 0 → w dr dc = v) :
    gradY w = 0 ∧ gradX w = 2 * (w 0 (-1) - w 0 1) := by
  simp only [gradX, gradY, h (-1) _ (by decide), h 1 _ (by decide)]; constructor <;> grind

theorem grad_one_col (w : Int → Int → Int) (v : Int) (h : ∀ dr dc, dc ≠ 0 → w dr dc = v) :
    gradX w = 0 ∧ gradY w = 2 * (w (-1) 0 - w 1 0) := by
  simp only [gradX, gradY, h _ (-1) (by decide), h _ 1 (by decide)]; constructor <;> grind

theorem grad_nw_corner (w : Int → Int → Int) (v : Int) (h : ∀ dr dc, dr = -1 ∨ dc = -1 → w dr dc = v) :
    gradX w = 3 * v - 2 * w 0 1 - w 1 1 ∧ gradY w = 3 * v - 2 * w 1 0 - w 1 1 := by
  simp only [gradX, gradY, h (-1) _ (Or.inl rfl), h _ (-1) (Or.inr rfl)]; constructor <;> grind

theorem dot9_masks (a b c d e f g h k : Int) :
    dot9 [1, 0, -1, 2, 0, -2, 1, 0, -1] [a, b, c, d, e, f, g, h, k] = (a + 2 * d + g) - (c + 2 * f + k) ∧
    dot9 [1, 2, 1, 0, 0, 0, -1, -2, -1] [a, b, c, d, e, f, g, h, k] = (a + 2 * b + c) - (g + 2 * h + k) := by
  simp only [dot9, List.zip, List.zipWith, List.map, List.sum, List.foldr]
  constructor <;> grind

theorem slopeModel_get {α : Type} [Inhabited α] (hyp : Nat → Int → Int → α) (ndOut : α) (nrow ncol : Nat)
    (elev : Array Int) (nd : Int) (i : Nat) (hi : i < nrow * ncol) :
    (slopeModel hyp ndOut nrow ncol elev nd)[i]! =
      if elev[i]! ≠ nd then hyp (i / ncol) (slopeGx nrow ncol elev nd i) (slopeGy nrow ncol elev nd i)
      else ndOut := by
  simp [slopeModel, hi]

theorem padded_get (nrow ncol : Nat) (elev : Array Int) (nd : Int) (R C : Nat) (hR : R < nrow + 2)
    (hC : C < ncol + 2) :
    (padded nrow ncol elev nd)[R * (ncol + 2) + C]! =
      if 1 ≤ R ∧ R ≤ nrow ∧ 1 ≤ C ∧ C ≤ ncol then elev[(R - 1) * ncol + (C - 1)]! else nd := by
  have hk : R * (ncol + 2) + C < (nrow + 2) * (ncol + 2) := idx_lt hR hC
  have hdiv : (R * (ncol + 2) + C) / (ncol + 2) = R := by
    rw [Nat.add_comm, Nat.add_mul_div_right _ _ (by omega), Nat.div_eq_of_lt hC, Nat.zero_add]
  have hmod : (R * (ncol + 2) + C) % (ncol + 2) = C := by
    rw [Nat.add_comm, Nat.add_mul_mod_self_right, Nat.mod_eq_of_lt hC]
  simp only [padded]
  rw [getElem!_pos _ _ (by simpa using hk)]
  simp only [Array.getElem_map, Array.getElem_range, hdiv, hmod]

/-- one axis of the padded raster: position `R = r + 1 + d` lies in the unpadded part iff the model's
neighbour coordinate `r + d` lies in the raster, and is that coordinate plus one -/
theorem pad_axis (r n R : Nat) (d : Int) (hR : (R : Int) = r + 1 + d) :
    (1 ≤ R ∧ R ≤ n ↔ 0 ≤ (r : Int) + d ∧ (r : Int) + d < n) ∧ ((r : Int) + d).toNat = R - 1 := by
  omega

/-- an entry of the oracle's window (read from the padded raster at row `R = r + 1 + dr`, column
`C = c + 1 + dc`, nodata replaced by the centre) is the model's window entry -/
theorem padded_entry (nrow ncol : Nat) (elev : Array Int) (nd : Int) (r c : Nat) (hr : r < nrow)
    (hc : c < ncol) (R C : Nat) (dr dc : Int) (hR : (R : Int) = r + 1 + dr ∧ R < nrow + 2)
    (hC : (C : Int) = c + 1 + dc ∧ C < ncol + 2) :
    (if (padded nrow ncol elev nd)[R * (ncol + 2) + C]! = nd
      then (padded nrow ncol elev nd)[(r + 1) * (ncol + 2) + (c + 1)]!
      else (padded nrow ncol elev nd)[R * (ncol + 2) + C]!) = winAt nrow ncol elev nd r c dr dc := by
  obtain ⟨ar, er⟩ := pad_axis r nrow R dr hR.1
  obtain ⟨ac, ec⟩ := pad_axis c ncol C dc hC.1
  simp only [winAt, er, ec]
  rw [padded_get nrow ncol elev nd R C hR.2 hC.2,
      padded_get nrow ncol elev nd (r + 1) (c + 1) (Nat.succ_lt_succ (Nat.lt_succ_of_lt hr))
        (Nat.succ_lt_succ (Nat.lt_succ_of_lt hc)),
      if_pos (⟨Nat.le_add_left 1 r, hr, Nat.le_add_left 1 c, hc⟩ :
        1 ≤ r + 1 ∧ r + 1 ≤ nrow ∧ 1 ≤ c + 1 ∧ c + 1 ≤ ncol)]
  simp only [Nat.add_sub_cancel]
  by_cases hin : 1 ≤ R ∧ R ≤ nrow ∧ 1 ≤ C ∧ C ≤ ncol
  · have hr' := ar.1 ⟨hin.1, hin.2.1⟩
    have hc' := ac.1 hin.2.2
    rw [if_pos hin, if_pos (⟨hr'.1, hr'.2, hc'.1, hc'.2⟩ :
      0 ≤ (r : Int) + dr ∧ (r : Int) + dr < nrow ∧ 0 ≤ (c : Int) + dc ∧ (c : Int) + dc < ncol)]
    by_cases hv : elev[(R - 1) * ncol + (C - 1)]! = nd
    · rw [if_pos hv, if_neg (fun h => h hv)]
    · rw [if_neg hv, if_pos hv]
  · have hout : ¬ (0 ≤ (r : Int) + dr ∧ (r : Int) + dr < nrow ∧ 0 ≤ (c : Int) + dc ∧ (c : Int) + dc < ncol) :=
      fun h => hin ⟨(ar.2 ⟨h.1, h.2.1⟩).1, (ar.2 ⟨h.1, h.2.1⟩).2, (ac.2 h.2.2).1, (ac.2 h.2.2).2⟩
    rw [if_neg hin, if_pos rfl, if_neg hout]

/-- the nine values the oracle convolves are the model's window, row by row -/
theorem window9_eq (nrow ncol : Nat) (elev : Array Int) (nd : Int) (i : Nat) (hi : i < nrow * ncol) :
    window9 nrow ncol elev nd i =
      [winAt nrow ncol elev nd (i / ncol) (i % ncol) (-1) (-1), winAt nrow ncol elev nd (i / ncol) (i % ncol) (-1) 0,
       winAt nrow ncol elev nd (i / ncol) (i % ncol) (-1) 1, winAt nrow ncol elev nd (i / ncol) (i % ncol) 0 (-1),
       winAt nrow ncol elev nd (i / ncol) (i % ncol) 0 0, winAt nrow ncol elev nd (i / ncol) (i % ncol) 0 1,
       winAt nrow ncol elev nd (i / ncol) (i % ncol) 1 (-1), winAt nrow ncol elev nd (i / ncol) (i % ncol) 1 0,
       winAt nrow ncol elev nd (i / ncol) (i % ncol) 1 1] := by
  obtain ⟨hr, hc, _⟩ := cell_rc hi
  simp only [window9, List.map_cons, List.map_nil]
  generalize i / ncol = r at hr ⊢
  generalize i % ncol = c at hc ⊢
  -- the three positions of the window along one axis of the padded raster
  have axis : ∀ {x n : Nat}, x < n →
      (((x + 1 - 1 : Nat) : Int) = x + 1 + -1 ∧ x + 1 - 1 < n + 2) ∧
      (((x + 1 : Nat) : Int) = x + 1 + 0 ∧ x + 1 < n + 2) ∧
      (((x + 1 + 1 : Nat) : Int) = x + 1 + 1 ∧ x + 1 + 1 < n + 2) := by omega
  obtain ⟨r0, r1, r2⟩ := axis hr
  obtain ⟨c0, c1, c2⟩ := axis hc
  have E := padded_entry nrow ncol elev nd r c hr hc
  simp only [E _ _ _ _ r0 c0, E _ _ _ _ r0 c1, E _ _ _ _ r0 c2, E _ _ _ _ r1 c0, E _ _ _ _ r1 c1, E _ _ _ _ r1 c2,
    E _ _ _ _ r2 c0, E _ _ _ _ r2 c1, E _ _ _ _ r2 c2]

end Pf.C14x
