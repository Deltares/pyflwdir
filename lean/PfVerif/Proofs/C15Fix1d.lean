import PfVerif.Proofs.C15Adjust
import PfVerif.Core.Folds
/-! The 1-D streamline fixer `_adjust_elevation` (model `adjust1d`): what applying a candidate does to the
profile, which candidates the fix at a pit chooses from, the two equations of the loop body; hence length kept,
every value of the result is a value of the input (so every range is kept), identity on non-increasing
profiles. -/
namespace Pf.C15
open Pf

theorem range_fold_inv {σ : Type} (step : σ → Nat → σ) (P : Nat → σ → Prop) (s0 : σ) (n : Nat)
    (h0 : P 0 s0) (hs : ∀ i s, i < n → P i s → P (i+1) (step s i)) :
    P n ((List.range n).foldl step s0) :=
  foldl_range_inv P step s0 h0 n fun i hi s => hs i s hi

theorem toList_get! (a : Array Int) (k : Nat) (hk : k < a.size) : a.toList[k]! = a[k]! := by
  rw [getElem!_pos a k hk, getElem!_pos a.toList k (by simpa using hk)]
  simp

theorem rangeL_mem (a b k : Nat) : k ∈ rangeL a b ↔ a ≤ k ∧ k < b := by
  unfold rangeL
  rw [List.mem_range'_1]
  omega

/-- the write loop `for k in l: e[k] = g e[k]` over distinct indices -/
theorem setFold_spec (g : Int → Int) : ∀ (l : List Nat) (e : Array Int), l.Nodup →
    (l.foldl (fun e k => e.setIfInBounds k (g e[k]!)) e).size = e.size ∧
    ∀ k : Nat, k < e.size →
      (l.foldl (fun e k => e.setIfInBounds k (g e[k]!)) e)[k]! = if k ∈ l then g e[k]! else e[k]! := by
  intro l
  induction l with
  | nil => intro e _; exact ⟨rfl, fun k _ => by simp⟩
  | cons j l ih =>
    intro e hnd
    obtain ⟨hj, hnd⟩ := List.nodup_cons.1 hnd
    obtain ⟨h1, h2⟩ := ih (e.setIfInBounds j (g e[j]!)) hnd
    rw [Array.size_setIfInBounds] at h1 h2
    refine ⟨h1, fun k hk => ?_⟩
    rw [List.foldl_cons, h2 k hk, get!_setIfInBounds]
    by_cases hjk : j = k
    · subst hjk; simp [hj, hk]
    · have hkj : ¬ k = j := fun h => hjk h.symm
      simp [hjk, hkj]

theorem rangeL_nodup (a b : Nat) : (rangeL a b).Nodup := List.nodup_range'

theorem applyCand_size (e : Array Int) (c : Cand) : (applyCand e c).size = e.size :=
  (setFold_spec _ _ e (rangeL_nodup _ _)).1

theorem applyCand_get (e : Array Int) (c : Cand) (k : Nat) (hk : k < e.size) :
    (applyCand e c)[k]! = if c.a ≤ k ∧ k < c.b then candVal c.mode c.z e[k]! else e[k]! := by
  unfold applyCand
  rw [(setFold_spec _ _ e (rangeL_nodup _ _)).2 k hk]
  simp only [rangeL_mem]

theorem candVal_cases (mode : Nat) (z v : Int) : candVal mode z v = z ∨ candVal mode z v = v := by
  unfold candVal
  split
  · omega
  · split <;> omega

/-- a candidate writes its level or keeps the old value -/
theorem applyCand_vals (P : Int → Prop) (e : Array Int) (c : Cand) (hz : P c.z) (k : Nat) (hk : k < e.size)
    (he : P e[k]!) : P (applyCand e c)[k]! := by
  rw [applyCand_get e c k hk]
  split
  · rcases candVal_cases c.mode c.z e[k]! with h | h <;> rw [h] <;> assumption
  · exact he

theorem pick_cases (c c2 : Cand) : pick c c2 = c ∨ pick c c2 = c2 := by
  unfold pick; split <;> simp

theorem firstLe_spec (e : Array Int) (z : Int) : ∀ f lo,
    lo ≤ firstLe e z f lo ∧ firstLe e z f lo ≤ lo + f ∧
    (∀ k : Nat, lo ≤ k → k < firstLe e z f lo → z < e[k]!) ∧
    (firstLe e z f lo < lo + f → e[firstLe e z f lo]! ≤ z) := by
  intro f
  induction f with
  | zero => intro lo; simp only [firstLe]; exact ⟨Nat.le_refl _, by omega, fun k h1 h2 => by omega, fun h => by omega⟩
  | succ f ih =>
    intro lo
    simp only [firstLe]
    split
    · rename_i h
      exact ⟨Nat.le_refl _, by omega, fun k h1 h2 => by omega, fun _ => h⟩
    · rename_i h
      obtain ⟨h1, h2, h3, h4⟩ := ih (lo+1)
      refine ⟨by omega, by omega, fun k hk1 hk2 => ?_, fun hlt => h4 (by omega)⟩
      by_cases hk : k = lo
      · rw [hk]; omega
      · exact h3 k (by omega) hk2

theorem firstLe_le (e : Array Int) (z : Int) (f lo : Nat) : firstLe e z f lo ≤ lo + f :=
  (firstLe_spec e z f lo).2.1

/-- `for j in range(lo, hi+1): if elevtn[j] <= z: break` -/
theorem firstLe_scan (e : Array Int) (z : Int) {lo hi : Nat} (h : lo ≤ hi) :
    lo ≤ firstLe e z (hi - lo) lo ∧ firstLe e z (hi - lo) lo ≤ hi ∧
    (∀ k : Nat, lo ≤ k → k < firstLe e z (hi - lo) lo → z < e[k]!) ∧
    (firstLe e z (hi - lo) lo < hi → e[firstLe e z (hi - lo) lo]! ≤ z) := by
  have := firstLe_spec e z (hi - lo) lo
  rwa [Nat.add_sub_cancel' h] at this

/-- every candidate option 3 proposes comes with the facts about `j0`, `j1` -/
theorem opt3_good (Q : Cand → Prop) (e : Array Int) (imin imax i : Nat) :
    ∀ (zs : List Int) (i0 i1 : Nat) (best : Cand), Q best → i0 ≤ imin → imax ≤ i1 → i1 ≤ i →
      zs.Pairwise (· > ·) →
      (∀ z ∈ zs, (∀ k : Nat, k < i0 → z < e[k]!) ∧ (∀ k : Nat, imax ≤ k → k < i1 → z < e[k]!)) →
      (∀ z ∈ zs, ∀ j0 j1 : Nat, j0 ≤ imin → (∀ k : Nat, k < j0 → z < e[k]!) → imax ≤ j1 → j1 ≤ i →
        (∀ k : Nat, imax ≤ k → k < j1 → z < e[k]!) → (j1 < i → e[j1]! ≤ z) →
        Q (mkCand e j0 (max (imax+1) j1) 2 z)) →
      Q (opt3 e imin imax i zs i0 i1 best) := by
  intro zs
  induction zs with
  | nil => intro _ _ best hb _ _ _ _ _ _; exact hb
  | cons z zs ih =>
    intro i0 i1 best hb h0 h1 h1' hsorted hpre hQ
    simp only [opt3]
    obtain ⟨_, a2, a3, _⟩ := firstLe_scan e z h0
    obtain ⟨b1, b2, b3, b4⟩ := firstLe_scan e z h1'
    have hs := List.pairwise_cons.1 hsorted
    have hz := hpre z List.mem_cons_self
    -- the scans resume where those for the previous, larger level stopped
    have hj0 : ∀ k : Nat, k < firstLe e z (imin - i0) i0 → z < e[k]! := fun k hk => by
      by_cases h : k < i0
      · exact hz.1 k h
      · exact a3 k (Nat.le_of_not_lt h) hk
    have hj1 : ∀ k : Nat, imax ≤ k → k < firstLe e z (i - i1) i1 → z < e[k]! := fun k hk1 hk2 => by
      by_cases h : k < i1
      · exact hz.2 k hk1 h
      · exact b3 k (Nat.le_of_not_lt h) hk2
    refine ih _ _ _ ?_ a2 (Nat.le_trans h1 b1) b2 hs.2
      (fun z' hz' => ⟨fun k hk => Int.lt_trans (hs.1 z' hz') (hj0 k hk),
        fun k hk1 hk2 => Int.lt_trans (hs.1 z' hz') (hj1 k hk1 hk2)⟩)
      (fun z' hz' => hQ z' (List.mem_cons_of_mem _ hz'))
    rcases pick_cases best (mkCand e (firstLe e z (imin - i0) i0) (max (imax+1) (firstLe e z (i - i1) i1)) 2 z)
      with h | h <;> rw [h]
    · exact hb
    · exact hQ z List.mem_cons_self _ _ a2 hj0 (Nat.le_trans h1 b1) b2 hj1 b4

/-! ### `np.unique(...)[::-1]` -/
theorem insDesc_mem (x y : Int) (r : List Int) (h : y ∈ insDesc x r) : y = x ∨ y ∈ r := by
  induction r with
  | nil => exact Or.inl (List.mem_singleton.1 h)
  | cons w r ih =>
    simp only [insDesc] at h
    split at h
    · exact List.mem_cons.1 h
    · split at h
      · exact Or.inr h
      · rcases List.mem_cons.1 h with h | h
        · exact Or.inr (h ▸ List.mem_cons_self)
        · exact (ih h).imp_right (List.mem_cons_of_mem _)

theorem uniqDesc_mem (l : List Int) (y : Int) (h : y ∈ uniqDesc l) : y ∈ l := by
  induction l with
  | nil => simp [uniqDesc] at h
  | cons x l ih =>
    simp only [uniqDesc, List.foldr_cons] at h
    rcases insDesc_mem _ _ _ h with h | h
    · simp [h]
    · exact List.mem_cons_of_mem _ (ih h)

theorem insDesc_sorted (x : Int) (r : List Int) (h : r.Pairwise (· > ·)) : (insDesc x r).Pairwise (· > ·) := by
  induction r with
  | nil => simp [insDesc]
  | cons y r ih =>
    have hy := List.pairwise_cons.1 h
    simp only [insDesc]
    split
    · rename_i hxy
      refine List.pairwise_cons.2 ⟨fun a ha => ?_, h⟩
      simp only [List.mem_cons] at ha
      rcases ha with ha | ha
      · rw [ha]; exact hxy
      · exact Int.lt_trans (hy.1 a ha) hxy
    · split
      · exact h
      · rename_i h1 h2
        refine List.pairwise_cons.2 ⟨fun a ha => ?_, ih hy.2⟩
        rcases insDesc_mem _ _ _ ha with ha | ha
        · rw [ha]; omega
        · exact hy.1 a ha

theorem uniqDesc_sorted (l : List Int) : (uniqDesc l).Pairwise (· > ·) := by
  induction l with
  | nil => simp [uniqDesc]
  | cons x l ih => simp only [uniqDesc, List.foldr_cons]; exact insDesc_sorted _ _ ih

/-- the levels of option 3 (`zs[1:]`) are values of the stretch, and none is the largest -/
theorem zs_tail_mem {e : Array Int} {a b : Nat} {z : Int}
    (hz : z ∈ (uniqDesc ((rangeL a b).map (e[·]!))).tail) :
    (∃ k : Nat, a ≤ k ∧ k < b ∧ e[k]! = z) ∧ ∃ k : Nat, a ≤ k ∧ k < b ∧ z < e[k]! := by
  have hval : ∀ y ∈ uniqDesc ((rangeL a b).map (e[·]!)), ∃ k : Nat, a ≤ k ∧ k < b ∧ e[k]! = y := by
    intro y hy
    obtain ⟨k, hk, rfl⟩ := List.mem_map.1 (uniqDesc_mem _ _ hy)
    exact ⟨k, ((rangeL_mem _ _ _).1 hk).1, ((rangeL_mem _ _ _).1 hk).2, rfl⟩
  have hs := uniqDesc_sorted ((rangeL a b).map (e[·]!))
  cases hzs : uniqDesc ((rangeL a b).map (e[·]!)) with
  | nil => rw [hzs] at hz; simp at hz
  | cons h t =>
    rw [hzs] at hz hs hval
    obtain ⟨k, hk1, hk2, hk⟩ := hval h (by simp)
    exact ⟨hval z (List.mem_cons_of_mem _ hz), k, hk1, hk2, by rw [hk]; exact (List.pairwise_cons.1 hs).1 z hz⟩

/-- a predicate that holds of the dig candidate, of the fill candidate and of every level candidate that
option 3 can propose holds of the candidate `a1Fix` applies -/
theorem a1Fix_ind (Q : Cand → Prop) (e : Array Int) (imin imax i : Nat) (zmin zmax : Int) (himax : imax ≤ i)
    (hdig : Q (mkCand e imin i 0 zmin)) (hfill : Q (mkCand e 0 imax 1 zmax))
    (hlevel : ∀ z : Int, (∃ k : Nat, imin + 1 ≤ k ∧ k < i ∧ e[k]! = z) →
      (∃ k : Nat, imin + 1 ≤ k ∧ k < i ∧ z < e[k]!) → ∀ j0 j1 : Nat, j0 ≤ imin →
      (∀ k : Nat, k < j0 → z < e[k]!) → imax ≤ j1 → j1 ≤ i → (∀ k : Nat, imax ≤ k → k < j1 → z < e[k]!) →
      (j1 < i → e[j1]! ≤ z) → Q (mkCand e j0 (max (imax+1) j1) 2 z)) :
    ∃ c, Q c ∧ a1Fix e imin imax i zmin zmax = applyCand e c := by
  refine ⟨_, ?_, rfl⟩
  have hsorted := uniqDesc_sorted ((rangeL (imin+1) i).map (e[·]!))
  apply opt3_good Q e imin imax i _ 0 imax _ ?_ (Nat.zero_le _) (Nat.le_refl _) himax
  · cases hzs : uniqDesc ((rangeL (imin+1) i).map (e[·]!)) with
    | nil => exact List.Pairwise.nil
    | cons h t => rw [hzs] at hsorted; exact (List.pairwise_cons.1 hsorted).2
  · exact fun z _ => ⟨fun k hk => absurd hk (Nat.not_lt_zero _), fun k h1 h2 => absurd h2 (Nat.not_lt.2 h1)⟩
  · exact fun z hz => hlevel z (zs_tail_mem hz).1 (zs_tail_mem hz).2
  · rcases pick_cases (mkCand e imin i 0 zmin) (mkCand e 0 imax 1 zmax) with h | h <;> rw [h] <;> assumption

theorem a1Fix_size (e : Array Int) (imin imax i : Nat) (zmin zmax : Int) :
    (a1Fix e imin imax i zmin zmax).size = e.size := applyCand_size _ _

theorem a1Fix_vals (P : Int → Prop) (e : Array Int) (imin imax i : Nat) (zmin zmax : Int) (himax : imax ≤ i)
    (hi : i < e.size) (he : ∀ k : Nat, k < e.size → P e[k]!) (h1 : P zmin) (h2 : P zmax) (k : Nat)
    (hk : k < e.size) : P (a1Fix e imin imax i zmin zmax)[k]! := by
  obtain ⟨c, hc, heq⟩ := a1Fix_ind (fun c => P c.z) e imin imax i zmin zmax himax h1 h2
    (fun z ⟨k, _, hk, hz⟩ _ _ _ _ _ _ _ _ _ => hz ▸ he k (by omega))
  rw [heq]
  exact applyCand_vals P e c hc k hk (he k hk)

/-- the no-op `if zi_min2 != zi_min1: zi_min2 = zi_min1` -/
theorem z2upd (a b : Int) : (if a ≠ b then b else a) = b := by
  split
  · rfl
  · rename_i h; simpa using h

/-- the profile after the body of `if imin >= 0:` at iteration `i`; before the first pit nothing is done -/
def a1Fixed (s : A1) (i : Nat) : Array Int :=
  if s.pit then a1Fix s.e s.imin (if s.e[i]! ≥ s.zmax then i else s.imax) i s.zmin
    (if s.e[i]! ≥ s.zmax then s.e[i]! else s.zmax) else s.e

theorem a1Fixed_pit {s : A1} (i : Nat) (hp : s.pit = true) :
    a1Fixed s i = a1Fix s.e s.imin (if s.e[i]! ≥ s.zmax then i else s.imax) i s.zmin
      (if s.e[i]! ≥ s.zmax then s.e[i]! else s.zmax) := if_pos hp

theorem a1Fixed_nopit {s : A1} (i : Nat) (hp : ¬ s.pit = true) : a1Fixed s i = s.e := if_neg hp

theorem a1Fixed_size (s : A1) (i : Nat) : (a1Fixed s i).size = s.e.size := by
  unfold a1Fixed
  split
  · exact a1Fix_size ..
  · rfl

/-- an iteration that meets a pit (or the end of the profile after a pit) -/
theorem a1Step_event (n : Nat) (s : A1) (i : Nat)
    (hc : (s.e[i]! > s.z1 ∧ s.z2 ≥ s.z1) ∨ (s.pit = true ∧ i + 1 = n)) :
    a1Step n s i =
      { e := a1Fixed s i, pit := true, imax := i, imin := i - 1, zmax := (a1Fixed s i)[i]!,
        zmin := (a1Fixed s i)[i - 1]!, z1 := s.e[i]!, z2 := s.z1 } := by
  unfold a1Step a1Fixed
  simp only
  rw [if_pos hc, z2upd]

theorem a1Step_noevent (n : Nat) (s : A1) (i : Nat)
    (hc : ¬ ((s.e[i]! > s.z1 ∧ s.z2 ≥ s.z1) ∨ (s.pit = true ∧ i + 1 = n))) :
    a1Step n s i =
      { s with imax := if s.e[i]! ≥ s.zmax then i else s.imax,
               zmax := if s.e[i]! ≥ s.zmax then s.e[i]! else s.zmax, z1 := s.e[i]!, z2 := s.z1 } := by
  unfold a1Step
  simp only
  rw [if_neg hc, z2upd]

theorem a1Step_size (n : Nat) (s : A1) (i : Nat) : (a1Step n s i).e.size = s.e.size := by
  by_cases hc : (s.e[i]! > s.z1 ∧ s.z2 ≥ s.z1) ∨ (s.pit = true ∧ i + 1 = n)
  · rw [a1Step_event n s i hc]; exact a1Fixed_size s i
  · rw [a1Step_noevent n s i hc]

theorem adjust1d_length (l : List Int) : (adjust1d l).length = l.length := by
  unfold adjust1d
  simp only [Array.length_toList]
  exact range_fold_inv (a1Step l.length) (fun _ s => s.e.size = l.length) (a1Init l.toArray) l.length
    (by simp [a1Init]) (fun i s _ h => by rw [a1Step_size]; exact h)

/-- at the start of iteration `i`: every value the scan holds (the cells and, once a pit has been met,
`zmin`, `zmax`) satisfies `P` -/
structure VInv (P : Int → Prop) (n i : Nat) (s : A1) : Prop where
  sz : s.e.size = n
  imax_le : s.imax ≤ i
  cells : ∀ k : Nat, k < n → P s.e[k]!
  zs : s.pit = true → P s.zmax ∧ P s.zmin

theorem a1Step_vals (P : Int → Prop) (n : Nat) (s : A1) (i : Nat) (hi : i < n) (h : VInv P n i s) :
    VInv P n (i+1) (a1Step n s i) := by
  obtain ⟨hsz, himax, he, hz⟩ := h
  have hm : (if s.e[i]! ≥ s.zmax then i else s.imax) ≤ i := by
    split
    · exact Nat.le_refl _
    · exact himax
  have hzm : s.pit = true → P (if s.e[i]! ≥ s.zmax then s.e[i]! else s.zmax) := fun hp => by
    split
    · exact he i hi
    · exact (hz hp).1
  by_cases hc : (s.e[i]! > s.z1 ∧ s.z2 ≥ s.z1) ∨ (s.pit = true ∧ i + 1 = n)
  · have h2 : ∀ k : Nat, k < n → P (a1Fixed s i)[k]! := fun k hk => by
      by_cases hp : s.pit = true
      · rw [a1Fixed_pit i hp]
        exact a1Fix_vals P s.e _ _ i _ _ hm (hsz ▸ hi) (hsz ▸ he) (hz hp).2 (hzm hp) k (hsz ▸ hk)
      · rw [a1Fixed_nopit i hp]; exact he k hk
    rw [a1Step_event n s i hc]
    exact ⟨(a1Fixed_size s i).trans hsz, Nat.le_succ i, h2,
      fun _ => ⟨h2 i hi, h2 (i-1) (Nat.lt_of_le_of_lt (Nat.sub_le _ _) hi)⟩⟩
  · rw [a1Step_noevent n s i hc]
    exact ⟨hsz, Nat.le_succ_of_le hm, he, fun hp => ⟨hzm hp, (hz hp).2⟩⟩

/-- the invariant holds at the start if `P` holds of every value after `np.maximum(elevtn, elevtn[-1])` -/
theorem a1Init_vals (P : Int → Prop) (e0 : Array Int) (he : ∀ k : Nat, k < e0.size → P (max e0[k]! e0[e0.size - 1]!)) :
    VInv P e0.size 0 (a1Init e0) :=
  ⟨by simp [a1Init], Nat.le_refl _, fun k hk => by simp only [a1Init]; rw [map_get! _ _ hk]; exact he k hk,
    fun h => by simp [a1Init] at h⟩

/-- whatever holds of every value of the argument of `_adjust_elevation` holds of every value of its result
(with `P := (· ∈ v)`: every value of the result is a value of the argument) -/
theorem adjust1d_vals (P : Int → Prop) (v : List Int) (hv : ∀ x ∈ v, P x) : ∀ x ∈ adjust1d v, P x := by
  have hget : ∀ k : Nat, k < v.toArray.size → P v.toArray[k]! := fun k hk => by
    rw [getElem!_pos v.toArray k hk]; exact hv _ (by simp)
  have hfin := range_fold_inv (a1Step v.length) (VInv P v.length) (a1Init v.toArray) v.length
    (a1Init_vals P v.toArray fun k hk => by
      rw [Int.max_def]
      split
      · exact hget _ (by omega)
      · exact hget k hk)
    (fun i s => a1Step_vals P v.length s i)
  intro x hx
  obtain ⟨k, hk, rfl⟩ := List.mem_iff_getElem.1 hx
  have hk' : k < v.length := by rwa [adjust1d_length] at hk
  rw [← getElem!_pos (adjust1d v) k hk]
  unfold adjust1d
  rw [toList_get! _ _ (by rw [hfin.sz]; exact hk')]
  exact hfin.cells k hk'

theorem adjust1d_range : RangeKept adjust1d :=
  fun v lo hi hv => adjust1d_vals (fun x => lo ≤ x ∧ x ≤ hi) v hv

/-- `e` does not rise (`NI`) / does not fall (`ND`) from cell to cell on the closed stretch `a..b` -/
def NI (e : Array Int) (a b : Nat) : Prop := ∀ k : Nat, a ≤ k → k + 1 ≤ b → e[k+1]! ≤ e[k]!
def ND (e : Array Int) (a b : Nat) : Prop := ∀ k : Nat, a ≤ k → k + 1 ≤ b → e[k]! ≤ e[k+1]!

/-- a relation that holds along every step of a stretch holds between any two of its cells -/
theorem chain_of_steps {R : Int → Int → Prop} (hr : ∀ x, R x x) (ht : ∀ x y z, R x y → R y z → R x z)
    {e : Array Int} {a b : Nat} (h : ∀ k : Nat, a ≤ k → k + 1 ≤ b → R e[k]! e[k+1]!) (j k : Nat) (h1 : a ≤ j)
    (h2 : j ≤ k) (h3 : k ≤ b) : R e[j]! e[k]! := by
  induction k with
  | zero => rw [Nat.le_zero.1 h2]; exact hr _
  | succ k ih =>
    by_cases hjk : j = k + 1
    · rw [hjk]; exact hr _
    · exact ht _ _ _ (ih (by omega) (by omega)) (h k (by omega) h3)

theorem NI.le {e : Array Int} {a b : Nat} (h : NI e a b) (j k : Nat) (h1 : a ≤ j) (h2 : j ≤ k) (h3 : k ≤ b) :
    e[k]! ≤ e[j]! :=
  chain_of_steps (R := (· ≥ ·)) Int.le_refl (fun _ _ _ h1 h2 => Int.le_trans h2 h1) h j k h1 h2 h3

theorem ND.le {e : Array Int} {a b : Nat} (h : ND e a b) (j k : Nat) (h1 : a ≤ j) (h2 : j ≤ k) (h3 : k ≤ b) :
    e[j]! ≤ e[k]! :=
  chain_of_steps Int.le_refl (fun _ _ _ => Int.le_trans) h j k h1 h2 h3

theorem adjust1d_id : IdOnNonInc adjust1d := by
  intro v hv
  obtain ⟨e0, he0⟩ : ∃ a, a = v.toArray := ⟨_, rfl⟩
  have hn : v.length = e0.size := by rw [he0, List.size_toArray]
  have hni : NI e0 0 (e0.size - 1) := fun j _ hj => by
    have := hv j (by omega)
    rwa [he0, List.getElem!_toArray, List.getElem!_toArray]
  have hle : ∀ j k : Nat, j ≤ k → k < e0.size → e0[k]! ≤ e0[j]! :=
    fun j k h1 h2 => hni.le j k (Nat.zero_le _) h1 (Nat.le_sub_one_of_lt h2)
  -- `np.maximum(elevtn, elevtn[-1])` is the identity, and no iteration meets a pit
  have hinit : (a1Init e0).e = e0 := by
    apply array_ext_get! (by simp [a1Init])
    intro k _
    by_cases hk : k < e0.size
    · simp only [a1Init]
      rw [map_get! _ _ hk]
      exact Int.max_eq_left (hle k (e0.size - 1) (Nat.le_sub_one_of_lt hk) (Nat.sub_lt (Nat.zero_lt_of_lt hk) Nat.one_pos))
    · simp [a1Init, getElem!_def, hk]
  have key := range_fold_inv (a1Step e0.size)
    (fun i s => s.e = e0 ∧ s.pit = false ∧ ∀ k : Nat, i ≤ k → k < e0.size → e0[k]! ≤ s.z1) (a1Init e0) e0.size
    ⟨hinit, rfl, fun k _ hk => hle 0 k (Nat.zero_le _) hk⟩
    (fun i s hi ⟨h1, h2, h3⟩ => by
      have hc : ¬ ((s.e[i]! > s.z1 ∧ s.z2 ≥ s.z1) ∨ (s.pit = true ∧ i + 1 = e0.size)) := by
        rw [h1, h2]
        rintro (h | h)
        · exact Int.not_lt.2 (h3 i (Nat.le_refl _) hi) h.1
        · exact absurd h.1 (by simp)
      rw [a1Step_noevent _ s i hc]
      exact ⟨h1, h2, fun k hk1 hk2 => by
        show e0[k]! ≤ s.e[i]!
        rw [h1]; exact hle i k (Nat.le_of_succ_le hk1) hk2⟩)
  unfold adjust1d
  rw [hn, ← he0, key.1, he0]

end Pf.C15
