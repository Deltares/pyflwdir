import PfVerif.Model.C19
/-! `gis_utils.features` and `core.flwdir_tuples` in closed form (C19). -/
namespace Pf.C19
open Pf

/-- the feature built from one flow path -/
def mkFeat (coord : Nat → Int × Int) (maps : List (Array Int)) (idxs : List Nat) : Feat :=
  ⟨idxs, idxs.map coord, idxs.head!, idxs.getLast!, idxs.getLast! == (idxs.dropLast).getLast!,
    maps.map (·[idxs.head!]!)⟩

theorem featuresModel_eq (paths : List (List Nat)) (coord : Nat → Int × Int) (maps : List (Array Int)) :
    featuresModel paths coord maps = (paths.filter (fun p => decide (2 ≤ p.length))).map (mkFeat coord maps) := by
  unfold featuresModel
  suffices h : ∀ (acc : List Feat),
      paths.foldl (fun feats idxs =>
        if idxs.length < 2 then feats
        else feats ++ [⟨idxs, idxs.map coord, idxs.head!, idxs.getLast!,
          idxs.getLast! == (idxs.dropLast).getLast!, maps.map (·[idxs.head!]!)⟩]) acc =
      acc ++ (paths.filter (fun p => decide (2 ≤ p.length))).map (mkFeat coord maps) by
    simpa using h []
  induction paths with
  | nil => intro acc; simp
  | cons p ps ih =>
    intro acc
    rw [List.foldl_cons, ih]
    by_cases h : p.length < 2
    · have h' : ¬ (2 ≤ p.length) := by omega
      simp [h, h']
    · have h' : 2 ≤ p.length := by omega
      simp [h, h', mkFeat]

theorem flwdirTuples_mem (nxt : Array Nat) (mask : Option (Array Bool)) (p : Nat × Nat) :
    p ∈ flwdirTuples nxt mask ↔
      p.1 < nxt.size ∧ nxt[p.1]! ≠ nxt.size ∧ maskAt mask p.1 = true ∧ p.2 = nxt[p.1]! := by
  unfold flwdirTuples
  simp only [List.mem_map, List.mem_filter, List.mem_range, Bool.and_eq_true, bne_iff_ne, ne_eq]
  constructor
  · rintro ⟨i, ⟨hi, hv, hm⟩, rfl⟩
    exact ⟨hi, hv, hm, rfl⟩
  · rintro ⟨hi, hv, hm, h2⟩
    refine ⟨p.1, ⟨hi, hv, hm⟩, ?_⟩
    cases p with
    | mk a b => simp only at h2; rw [h2]

theorem flwdirTuples_fst (nxt : Array Nat) (mask : Option (Array Bool)) :
    (flwdirTuples nxt mask).map (·.1) =
      (List.range nxt.size).filter fun i => nxt[i]! != nxt.size && maskAt mask i := by
  unfold flwdirTuples
  rw [List.map_map]
  have : ((fun (x : Nat × Nat) => x.1) ∘ fun i => (i, nxt[i]!)) = id := by funext i; rfl
  rw [this, List.map_id]

theorem flwdirTuples_nodup (nxt : Array Nat) (mask : Option (Array Bool)) :
    ((flwdirTuples nxt mask).map (·.1)).Nodup := by
  rw [flwdirTuples_fst]
  exact List.Nodup.sublist List.filter_sublist List.nodup_range

end Pf.C19
