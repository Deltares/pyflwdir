import PfVerif.Model.C14
/-! Lemmas about the models of C14: read-after-write of the loop bodies, merges of optional values, the two halves
of `_window` as one iteration, sweeps started from `initSeq`, relations along the flow path. -/
namespace Pf

/-! ### downstream -/
theorem downstream_get (ds : Array Nat) (data : Array Int) (i : Nat) (hi : i < ds.size) :
    (downstreamModel ds data)[i]! = if ds[i]! ≠ ds.size then data[ds[i]!]! else data[i]! := by
  simp [downstreamModel, hi]

/-! ### upstream_sum -/

theorem sum_filter_range_succ (p : Nat → Bool) (f : Nat → Int) (k : Nat) :
    (((List.range (k+1)).filter p).map f).sum =
      (((List.range k).filter p).map f).sum + if p k then f k else 0 := by
  rw [List.range_succ, List.filter_append, List.map_append, List.sum_append]
  cases h : p k <;> simp [h]

theorem upstreamSumStep_size (ds : Array Nat) (data : Array Int) (nd : Int) (arr : Array Int) (k : Nat) :
    (upstreamSumStep ds data nd arr k).size = arr.size := by
  unfold upstreamSumStep
  simp only []
  split
  · split <;> simp
  · rfl

theorem upstreamSum_size (ds : Array Nat) (data : Array Int) (nd : Int) (k : Nat) :
    ((List.range k).foldl (upstreamSumStep ds data nd) (Array.replicate ds.size 0)).size = ds.size := by
  induction k with
  | zero => simp
  | succ k ih => rw [List.range_succ, List.foldl_append, List.foldl_cons, List.foldl_nil, upstreamSumStep_size, ih]

theorem upstreamSumStep_get_self (ds : Array Nat) (data : Array Int) (nd : Int) (arr : Array Int) (j : Nat)
    (hj : j < arr.size) :
    (upstreamSumStep ds data nd arr j)[j]! = if upsumFlagged ds data nd j = true then nd else arr[j]! := by
  unfold upstreamSumStep upsumFlagged
  simp only [Bool.and_eq_true, bne_iff_ne, ne_eq, Bool.or_eq_true, beq_iff_eq, and_assoc]
  split
  · rename_i hl
    split
    · rename_i he
      rw [get!_setIfInBounds, if_pos ⟨rfl, hj⟩, if_pos ⟨hl.1, hl.2, he⟩]
    · rename_i he
      rw [get!_setIfInBounds, if_neg (fun h => hl.2 h.1), if_neg (fun h => he h.2.2)]
  · rename_i hl
    rw [if_neg (fun h => hl ⟨h.1, h.2.1⟩)]

theorem upstreamSumStep_get_ne (ds : Array Nat) (data : Array Int) (nd : Int) (arr : Array Int) (k j : Nat)
    (hsz : arr.size = ds.size) (hj : j < ds.size) (hkj : k ≠ j) :
    (upstreamSumStep ds data nd arr k)[j]! =
      arr[j]! + if (data[k]! ≠ nd ∧ data[j]! ≠ nd) ∧ ds[k]! = j then data[k]! else 0 := by
  unfold upstreamSumStep
  simp only []
  by_cases hc : (data[k]! ≠ nd ∧ data[j]! ≠ nd) ∧ ds[k]! = j
  · obtain ⟨⟨h1, h2⟩, rfl⟩ := hc
    rw [if_pos ⟨by omega, fun h => hkj h.symm⟩, if_neg (fun h => h.elim h1 h2), get!_setIfInBounds,
      if_pos ⟨rfl, by omega⟩, if_pos ⟨⟨h1, h2⟩, rfl⟩]
  · rw [if_neg hc, Int.add_zero]
    split
    · split
      · rw [get!_setIfInBounds, if_neg (fun h => hkj h.1)]
      · rename_i he
        rw [get!_setIfInBounds, if_neg]
        rintro ⟨rfl, _⟩
        exact hc ⟨⟨fun h => he (Or.inl h), fun h => he (Or.inr h)⟩, rfl⟩
    · rfl

/-- does the value of the inflow cell `i` reach `arr_sum[j]` and survive the overwrite at step `j`? -/
def upsumKept (ds : Array Nat) (data : Array Int) (nd : Int) (j i : Nat) : Bool :=
  (data[i]! != nd && data[j]! != nd && (!upsumFlagged ds data nd j || decide (j < i))) && (ds[i]! == j && i != j)

theorem upsumKept_iff (ds : Array Nat) (data : Array Int) (nd : Int) (j i : Nat) :
    upsumKept ds data nd j i = true ↔
      ((data[i]! ≠ nd ∧ data[j]! ≠ nd) ∧ (upsumFlagged ds data nd j = false ∨ j < i)) ∧ ds[i]! = j ∧ i ≠ j := by
  simp only [upsumKept, Bool.and_eq_true, bne_iff_ne, ne_eq, Bool.or_eq_true, Bool.not_eq_true',
    beq_iff_eq, decide_eq_true_eq]

theorem upstreamSum_inv (ds : Array Nat) (data : Array Int) (nd : Int) (j : Nat) (hj : j < ds.size) (k : Nat)
    (hk : upsumFlagged ds data nd j = true → j < k) :
    ((List.range k).foldl (upstreamSumStep ds data nd) (Array.replicate ds.size 0))[j]! =
      (if upsumFlagged ds data nd j then nd else 0) +
      (((List.range k).filter (upsumKept ds data nd j)).map fun i => data[i]!).sum := by
  induction k with
  | zero =>
    have hf : ¬ upsumFlagged ds data nd j = true := fun h => absurd (hk h) (Nat.not_lt_zero _)
    simp [hf, hj]
  | succ k ih =>
    rw [List.range_succ, List.foldl_append, List.foldl_cons, List.foldl_nil, ← List.range_succ,
      sum_filter_range_succ]
    by_cases hkj : k = j
    · subst hkj
      have hno : ¬ upsumKept ds data nd k k = true := fun h => ((upsumKept_iff ..).1 h).2.2 rfl
      rw [upstreamSumStep_get_self _ _ _ _ _ (by rw [upstreamSum_size]; exact hj), if_neg hno, Int.add_zero]
      by_cases hf : upsumFlagged ds data nd k = true
      · -- the overwrite: nothing added before step `k` is kept
        have hnil : (List.range k).filter (upsumKept ds data nd k) = [] :=
          List.filter_eq_nil_iff.2 fun i hi h => by
            rcases ((upsumKept_iff ..).1 h).1.2 with h' | h'
            · rw [hf] at h'; cases h'
            · exact Nat.lt_asymm h' (List.mem_range.1 hi)
        rw [if_pos hf, if_pos hf, hnil]
        exact (Int.add_zero nd).symm
      · rw [if_neg hf, ih (fun h => absurd h hf)]
    · have hk' : upsumFlagged ds data nd j = false ∨ j < k := by
        cases hf : upsumFlagged ds data nd j
        · exact Or.inl rfl
        · have := hk hf; omega
      rw [upstreamSumStep_get_ne _ _ _ _ _ _ (upstreamSum_size ds data nd k) hj hkj,
        ih (fun h => by have := hk h; omega), Int.add_assoc]
      simp only [upsumKept_iff, hkj, hk', ne_eq, not_false_eq_true, and_true]

/-! ### fillnodata_downstream: the loop body on optional values -/

/-- `(data_out, filled)` of a cell whose own data is nodata, as a function of its optional value -/
def encNd (nd : Int) (o : Option Int) : Int × Bool :=
  match o with
  | none => (nd, false)
  | some v => (v, true)

theorem optOf_encNd (nd : Int) (o : Option Int) : optOf (encNd nd o) = o := by
  cases o <;> rfl

theorem encNd_fst (nd : Int) (o : Option Int) : (encNd nd o).1 = o.getD nd := by
  cases o <;> rfl

/-- the loop body at a link into an empty cell is the merge rule on optional values -/
theorem updFillDown_enc {ds : Array Nat} {data : Array Int} {nd : Int} {c : Nat} (how : Nat)
    (h : data[ds[c]!]! = nd) (o : Option Int) (s : Int × Bool) :
    updFillDown ds data nd how c (encNd nd o) s = encNd nd (mergeOpt how o (optOf s)) := by
  obtain ⟨v, b⟩ := s
  cases b <;> cases o <;> simp [updFillDown, encNd, optOf, mergeOpt, h]

theorem foldl_updFillDown_enc (ds : Array Nat) (data : Array Int) (nd : Int) (how : Nat)
    (S : Array (Int × Bool)) :
    ∀ (l : List Nat) (o : Option Int), (∀ c ∈ l, data[ds[c]!]! = nd) →
      l.foldl (fun acc c => updFillDown ds data nd how c acc S[c]!) (encNd nd o) =
        encNd nd ((l.map fun c => optOf S[c]!).foldl (mergeOpt how) o) := by
  intro l
  induction l with
  | nil => intro o _; rfl
  | cons c l ih =>
    intro o h
    rw [List.foldl_cons, updFillDown_enc how (h c List.mem_cons_self), ih _ fun x hx => h x (List.mem_cons_of_mem _ hx)]
    rfl

/-- links into a cell that holds a value change nothing -/
theorem foldl_updFillDown_valid (ds : Array Nat) (data : Array Int) (nd : Int) (how : Nat)
    (S : Array (Int × Bool)) :
    ∀ (l : List Nat) (acc : Int × Bool), (∀ c ∈ l, data[ds[c]!]! ≠ nd) →
      l.foldl (fun acc c => updFillDown ds data nd how c acc S[c]!) acc = acc := by
  intro l
  induction l with
  | nil => intro acc _; rfl
  | cons c l ih =>
    intro acc h
    rw [List.foldl_cons, updFillDown, if_neg fun h' => h c List.mem_cons_self h'.1,
      ih _ fun x hx => h x (List.mem_cons_of_mem _ hx)]

/-! ### merge of optional branch values -/

theorem mergeOpt_none_iff (how : Nat) (acc x : Option Int) :
    mergeOpt how acc x = none ↔ acc = none ∧ x = none := by
  cases x <;> cases acc <;> simp [mergeOpt]

theorem mergeFold_none (how : Nat) : ∀ (l : List (Option Int)) (acc : Option Int),
    l.foldl (mergeOpt how) acc = none ↔ acc = none ∧ ∀ x ∈ l, x = none := by
  intro l
  induction l with
  | nil => intro acc; simp
  | cons x l ih => intro acc; rw [List.foldl_cons, ih, mergeOpt_none_iff, List.forall_mem_cons, and_assoc]

theorem mergeBranches_none (how : Nat) (vals : List (Option Int)) :
    mergeBranches how vals = none ↔ ∀ x ∈ vals, x = none :=
  (mergeFold_none how vals none).trans (and_iff_right rfl)

/-- a selecting merge rule (min, max) returns one of the values it is given -/
theorem mergeOpt_sel (how : Nat) (hsel : ∀ x a, mergeHow how x a = x ∨ mergeHow how x a = a)
    {acc x : Option Int} {r : Int} (h : mergeOpt how acc x = some r) : acc = some r ∨ x = some r := by
  cases x with
  | none => exact Or.inl h
  | some x =>
    cases acc with
    | none => exact Or.inr h
    | some a =>
      have h : mergeHow how x a = r := Option.some.inj h
      rcases hsel x a with e | e
      · exact Or.inr (by rw [← h, e])
      · exact Or.inl (by rw [← h, e])

theorem mergeFold_mem (how : Nat) (hsel : ∀ x a, mergeHow how x a = x ∨ mergeHow how x a = a) :
    ∀ (l : List (Option Int)) (acc : Option Int) (r : Int),
      l.foldl (mergeOpt how) acc = some r → acc = some r ∨ some r ∈ l := by
  intro l
  induction l with
  | nil => intro acc r h; exact Or.inl h
  | cons x l ih =>
    intro acc r h
    rcases ih _ r h with h | h
    · exact (mergeOpt_sel how hsel h).imp_right fun e => List.mem_cons.2 (Or.inl e.symm)
    · exact Or.inr (List.mem_cons_of_mem _ h)

/-- the merge is `R`-below every value it is given (`R` = `≤` for min, `≥` for max) -/
theorem mergeOpt_bound (how : Nat) (R : Int → Int → Prop) (hrefl : ∀ a, R a a)
    (hR : ∀ x a, R (mergeHow how x a) x ∧ R (mergeHow how x a) a)
    {acc x : Option Int} {v : Int} (h : acc = some v ∨ x = some v) :
    ∃ m, mergeOpt how acc x = some m ∧ R m v := by
  cases x with
  | none => exact ⟨v, h.resolve_right (by simp), hrefl v⟩
  | some x =>
    cases acc with
    | none => exact ⟨x, rfl, by cases h.resolve_left (by simp); exact hrefl _⟩
    | some a =>
      refine ⟨_, rfl, ?_⟩
      rcases h with e | e
      · rw [← Option.some.inj e]; exact (hR x a).2
      · rw [← Option.some.inj e]; exact (hR x a).1

theorem mergeFold_bound (how : Nat) (R : Int → Int → Prop) (hrefl : ∀ a, R a a)
    (htrans : ∀ a b c, R a b → R b c → R a c)
    (hR : ∀ x a, R (mergeHow how x a) x ∧ R (mergeHow how x a) a) :
    ∀ (l : List (Option Int)) (acc : Option Int) (v : Int), acc = some v ∨ some v ∈ l →
      ∃ r, l.foldl (mergeOpt how) acc = some r ∧ R r v := by
  intro l
  induction l with
  | nil => intro acc v h; exact ⟨v, h.resolve_right (by simp), hrefl v⟩
  | cons x l ih =>
    intro acc v h
    by_cases hl : some v ∈ l
    · exact ih _ v (Or.inr hl)
    · have h' : acc = some v ∨ x = some v :=
        h.imp_right fun hm => ((List.mem_cons.1 hm).resolve_right hl).symm
      obtain ⟨m, hm, hmv⟩ := mergeOpt_bound how R hrefl hR h'
      obtain ⟨r, hr, hrm⟩ := ih _ m (Or.inl hm)
      exact ⟨r, hr, htrans _ _ _ hrm hmv⟩

theorem mergeBranches_sel (how : Nat) (R : Int → Int → Prop) (hrefl : ∀ a, R a a)
    (htrans : ∀ a b c, R a b → R b c → R a c)
    (hsel : ∀ x a, mergeHow how x a = x ∨ mergeHow how x a = a)
    (hR : ∀ x a, R (mergeHow how x a) x ∧ R (mergeHow how x a) a) (vals : List (Option Int)) :
    (∀ v, some v ∈ vals → ∃ r, mergeBranches how vals = some r ∧ R r v) ∧
    (mergeBranches how vals = none ↔ ∀ x ∈ vals, x = none) ∧
    (∀ r, mergeBranches how vals = some r → some r ∈ vals) :=
  ⟨fun v hv => mergeFold_bound how R hrefl htrans hR vals none v (Or.inr hv),
   mergeBranches_none how vals,
   fun r hr => (mergeFold_mem how hsel vals none r hr).resolve_left (by simp)⟩

theorem mergeHow_min (x a : Int) :
    (mergeHow 1 x a = x ∨ mergeHow 1 x a = a) ∧ mergeHow 1 x a ≤ x ∧ mergeHow 1 x a ≤ a := by
  have : mergeHow 1 x a = min x a := by simp [mergeHow]
  rw [this]; omega

theorem mergeHow_max (x a : Int) :
    (mergeHow 0 x a = x ∨ mergeHow 0 x a = a) ∧ x ≤ mergeHow 0 x a ∧ a ≤ mergeHow 0 x a := by
  have : mergeHow 0 x a = max x a := by simp [mergeHow]
  rw [this]; omega

/-- the values present in a list of optional values -/
def somes (l : List (Option Int)) : List Int := l.filterMap id

theorem mergeFold_sum_some : ∀ (l : List (Option Int)) (a : Int),
    l.foldl (mergeOpt 2) (some a) = some (a + (somes l).sum) := by
  intro l
  induction l with
  | nil => intro a; simp [somes]
  | cons x l ih =>
    intro a
    cases x with
    | none => exact ih a
    | some x =>
      rw [List.foldl_cons, show mergeOpt 2 (some a) (some x) = some (a + x) from rfl, ih]
      simp [somes, Int.add_assoc]

theorem mergeBranches_sum (vals : List (Option Int)) :
    mergeBranches 2 vals = if ∀ x ∈ vals, x = none then none else some (somes vals).sum := by
  induction vals with
  | nil => simp [mergeBranches]
  | cons x l ih =>
    cases x with
    | none =>
      rw [show mergeBranches 2 (none :: l) = mergeBranches 2 l from rfl, ih]
      simp [somes]
    | some x =>
      rw [show mergeBranches 2 (some x :: l) = l.foldl (mergeOpt 2) (some x) from rfl, mergeFold_sum_some]
      simp [somes]

/-! ### `_window`: both halves iterate a pointer array while a test allows the step -/

theorem windowDown_eq (ds : Array Nat) (strord : Option (Array Int)) (s0 : Int) :
    ∀ (k c : Nat) (acc : List Nat),
      windowDown ds strord s0 k c acc = acc.reverse ++ downList ds strord s0 k c := by
  intro k
  induction k with
  | zero => intro c acc; simp [windowDown, downList]
  | succ k ih =>
    intro c acc
    simp only [windowDown, downList, downOK, higherOrd]
    by_cases h1 : ds[c]! = c
    · simp [h1]
    · by_cases h2 : ds[c]! = ds.size
      · simp [h2]
      · cases strord with
        | none => simp [h1, h2, ih]
        | some s =>
          by_cases h3 : s[ds[c]!]! > s0
          · simp [h1, h2, h3]
          · simp [h1, h2, h3, ih]

theorem windowUp_eq (ds usMain : Array Nat) :
    ∀ (k c : Nat) (acc : List Nat),
      windowUp ds usMain k c acc = (upList ds usMain k c).reverse ++ acc := by
  intro k
  induction k with
  | zero => intro c acc; simp [windowUp, upList]
  | succ k ih =>
    intro c acc
    simp only [windowUp, upList]
    by_cases h : usMain[c]! = ds.size
    · simp [h]
    · simp [h, ih]

theorem window_eq (ds usMain : Array Nat) (strord : Option (Array Int)) (n i : Nat) :
    window ds usMain strord n i =
      (upList ds usMain n i).reverse ++ [i] ++ downList ds strord (strord0 strord i) n i := by
  simp only [window, strord0, windowUp_eq, windowDown_eq]
  cases strord <;> simp

/-- at most `k` iterates of `nx` from `c` (exclusive), as long as `ok` allows the step -/
def iterWhile (nx : Array Nat) (ok : Nat → Bool) : Nat → Nat → List Nat
  | 0, _ => []
  | k+1, c => if ok c then nx[c]! :: iterWhile nx ok k nx[c]! else []

theorem downList_eq_iterWhile (ds : Array Nat) (strord : Option (Array Int)) (s0 : Int) :
    ∀ (k c : Nat), downList ds strord s0 k c = iterWhile ds (downOK ds strord s0) k c := by
  intro k
  induction k with
  | zero => intro c; rfl
  | succ k ih => intro c; simp only [downList, iterWhile, ih]

theorem upList_eq_iterWhile (ds usMain : Array Nat) :
    ∀ (k c : Nat), upList ds usMain k c = iterWhile usMain (fun c => usMain[c]! != ds.size) k c := by
  intro k
  induction k with
  | zero => intro c; rfl
  | succ k ih => intro c; simp only [upList, iterWhile, ih, bne_iff_ne]

theorem iterWhile_get (nx : Array Nat) (ok : Nat → Bool) :
    ∀ (k c m : Nat), m < (iterWhile nx ok k c).length →
      (iterWhile nx ok k c)[m]! = iterA nx (m+1) c ∧ ok (iterA nx m c) = true := by
  intro k
  induction k with
  | zero => intro c m h; cases h
  | succ k ih =>
    intro c m h
    simp only [iterWhile] at h ⊢
    cases hok : ok c with
    | false => rw [hok] at h; cases h
    | true =>
      rw [hok] at h
      cases m with
      | zero => exact ⟨rfl, hok⟩
      | succ m => exact ih nx[c]! m (Nat.lt_of_succ_lt_succ h)

theorem iterWhile_len (nx : Array Nat) (ok : Nat → Bool) :
    ∀ (k c : Nat), (iterWhile nx ok k c).length ≤ k ∧
      ((iterWhile nx ok k c).length < k → ok (iterA nx (iterWhile nx ok k c).length c) = false) := by
  intro k
  induction k with
  | zero => intro c; exact ⟨Nat.le_refl 0, fun h => absurd h (Nat.lt_irrefl 0)⟩
  | succ k ih =>
    intro c
    simp only [iterWhile]
    cases hok : ok c with
    | false => exact ⟨Nat.zero_le _, fun _ => hok⟩
    | true =>
      obtain ⟨h1, h2⟩ := ih nx[c]!
      exact ⟨Nat.succ_le_succ h1, fun h => h2 (Nat.lt_of_succ_lt_succ h)⟩

def lenWhile (p : Nat → Bool) (k : Nat) : Nat := ((List.range k).takeWhile p).length

theorem lenWhile_succ (p : Nat → Bool) (k : Nat) :
    lenWhile p (k+1) = if p 0 then lenWhile (fun m => p (m+1)) k + 1 else 0 := by
  unfold lenWhile
  rw [List.range_succ_eq_map, List.takeWhile_cons]
  cases h : p 0 with
  | true => simp [List.takeWhile_map, Function.comp_def]
  | false => simp

/-- the accumulator-free recursion equals the iterate/`takeWhile` form of the driver's oracle -/
theorem iterWhile_eq_iter (nx : Array Nat) (ok : Nat → Bool) :
    ∀ (k c : Nat), iterWhile nx ok k c =
      (List.range (lenWhile (fun m => ok (iterA nx m c)) k)).map fun m => iterA nx (m+1) c := by
  intro k
  induction k with
  | zero => intro c; rfl
  | succ k ih =>
    intro c
    rw [lenWhile_succ]
    simp only [iterWhile, iterA]
    by_cases hok : ok c = true
    · simp only [hok, if_true]
      rw [List.range_succ_eq_map, ih nx[c]!]
      simp [iterA, Function.comp_def]
    · simp [hok]

theorem downList_spec (ds : Array Nat) (strord : Option (Array Int)) (s0 : Int) (k c : Nat) :
    (∀ m, m < (downList ds strord s0 k c).length →
      (downList ds strord s0 k c)[m]! = iterA ds (m+1) c ∧ downOK ds strord s0 (iterA ds m c) = true) ∧
    (downList ds strord s0 k c).length ≤ k ∧
    ((downList ds strord s0 k c).length < k →
      downOK ds strord s0 (iterA ds (downList ds strord s0 k c).length c) = false) := by
  rw [downList_eq_iterWhile]
  exact ⟨iterWhile_get _ _ k c, iterWhile_len _ _ k c⟩

theorem upList_spec (ds usMain : Array Nat) (k c : Nat) :
    (∀ m, m < (upList ds usMain k c).length →
      (upList ds usMain k c)[m]! = iterA usMain (m+1) c ∧ usMain[iterA usMain m c]! ≠ ds.size) ∧
    (upList ds usMain k c).length ≤ k ∧
    ((upList ds usMain k c).length < k → usMain[iterA usMain (upList ds usMain k c).length c]! = ds.size) := by
  rw [upList_eq_iterWhile]
  exact ⟨fun m hm => (iterWhile_get _ _ k c m hm).imp_right bne_iff_ne.1, (iterWhile_len _ _ k c).1,
    fun h => bne_eq_false_iff_eq.1 ((iterWhile_len _ _ k c).2 h)⟩

/-! ### moving average / median -/

theorem averageAcc_fold (data : Array Int) (weights : Option (Array Int)) (nd : Int) :
    ∀ (l : List Nat) (v w : Int),
      l.foldl (fun (vw : Int × Int) i =>
        if data[i]! = nd then vw else (vw.1 + weightAt weights i * data[i]!, vw.2 + weightAt weights i)) (v, w) =
      (v + (((l.filter fun i => data[i]! != nd).map fun i => weightAt weights i * data[i]!).sum),
       w + (((l.filter fun i => data[i]! != nd).map fun i => weightAt weights i).sum)) := by
  intro l
  induction l with
  | nil => intro v w; simp
  | cons i l ih =>
    intro v w
    rw [List.foldl_cons]
    by_cases h : data[i]! = nd
    · simp only [h, if_true]; rw [ih]; simp [h]
    · simp only [h, if_false]; rw [ih]; simp [h, Int.add_assoc]

theorem averageAcc_eq (data : Array Int) (weights : Option (Array Int)) (nd : Int) (l : List Nat) :
    averageAcc data weights nd l =
      ((((l.filter fun i => data[i]! != nd).map fun i => weightAt weights i * data[i]!).sum),
       (((l.filter fun i => data[i]! != nd).map fun i => weightAt weights i).sum)) := by
  unfold averageAcc
  rw [averageAcc_fold]; simp

theorem leInt_trans (a b c : Int) : leInt a b = true → leInt b c = true → leInt a c = true := by
  simp only [leInt, decide_eq_true_eq]; omega

theorem leInt_total (a b : Int) : (leInt a b || leInt b a) = true := by
  simp only [leInt, Bool.or_eq_true, decide_eq_true_eq]; omega

/-- the sorted list used by `median2` is THE non-decreasing rearrangement of the values -/
theorem mergeSort_unique (vals s : List Int) (hperm : s.Perm vals) (hs : s.Pairwise (fun a b => a ≤ b)) :
    vals.mergeSort leInt = s := by
  have h1 : (vals.mergeSort leInt).Pairwise (fun a b => a ≤ b) := by
    have := List.pairwise_mergeSort leInt_trans leInt_total vals
    simpa [leInt] using this
  have h2 : (vals.mergeSort leInt).Perm s := (List.mergeSort_perm vals leInt).trans hperm.symm
  exact List.Perm.eq_of_pairwise (le := fun a b => a ≤ b) (fun a b _ _ hab hba => by omega) h1 hs h2

/-! ### `out = full(n, mv); out[seq] = zero` -/

theorem initSeq_size {α : Type} (n : Nat) (seq : List Nat) (mv z : α) :
    (initSeq n seq mv z).size = n := by
  unfold initSeq
  rw [size_foldl_set (fun _ => z)]; simp

theorem initSeq_mem {α : Type} [Inhabited α] (n : Nat) (seq : List Nat) (mv z : α) (i : Nat)
    (hi : i ∈ seq) (hn : i < n) : (initSeq n seq mv z)[i]! = z := by
  unfold initSeq
  rw [get!_foldl_set (fun _ => z)]; simp [hi, hn]

theorem initSeq_not_mem {α : Type} [Inhabited α] (n : Nat) (seq : List Nat) (mv z : α) (i : Nat)
    (hi : i ∉ seq) (hn : i < n) : (initSeq n seq mv z)[i]! = mv := by
  unfold initSeq
  rw [get!_foldl_set (fun _ => z)]; simp [hi, hn]

/-- a down-to-upstream sweep started from `initSeq`: every cell of the order starts from `z` and satisfies the
recurrence of `g`, every other cell shows the missing value -/
theorem sweepDown_initSeq {α : Type} [Inhabited α] (ds : Array Nat) (g : Nat → α → α → α) (seq : List Nat)
    (mv z : α) (htopo : Topo ds seq) (hb : ∀ i ∈ seq, i < ds.size) :
    (sweepDown ds g seq (initSeq ds.size seq mv z)).size = ds.size ∧
    (∀ i ∈ seq, (sweepDown ds g seq (initSeq ds.size seq mv z))[i]! =
      g i z (if ds[i]! = i then z else (sweepDown ds g seq (initSeq ds.size seq mv z))[ds[i]!]!)) ∧
    (∀ i, i ∉ seq → i < ds.size → (sweepDown ds g seq (initSeq ds.size seq mv z))[i]! = mv) := by
  obtain ⟨h1, h2⟩ := sweepDown_rec ds g (initSeq ds.size seq mv z) seq htopo
    (fun i hi => by rw [initSeq_size]; exact hb i hi)
  refine ⟨by rw [size_sweepDown, initSeq_size], fun i hi => ?_, fun i hi hn => ?_⟩
  · rw [h1 i hi, initSeq_mem _ _ _ _ i hi (hb i hi)]
  · rw [h2 i hi, initSeq_not_mem _ _ _ _ i hi hn]

/-! ### relations along the flow path -/

/-- `PathLen ds stop step i v`: `v` is the length of the flow path from `i` to the first cell at
which `stop` holds (`stopAt_c14`, the instance used, holds at pits) -/
inductive PathLen (ds : Array Nat) (stop : Nat → Bool) (step : Nat → Nat → Int) : Nat → Int → Prop
  | stop (i : Nat) : stop i = true → PathLen ds stop step i 0
  | next (i : Nat) (v : Int) : stop i = false → PathLen ds stop step ds[i]! v →
      PathLen ds stop step i (v + step i ds[i]!)

theorem PathLen.unique {ds : Array Nat} {stop : Nat → Bool} {step : Nat → Nat → Int} {i : Nat} {v w : Int}
    (h1 : PathLen ds stop step i v) (h2 : PathLen ds stop step i w) : v = w := by
  induction h1 generalizing w with
  | stop i hs =>
    cases h2 with
    | stop _ _ => rfl
    | next _ _ hn _ => rw [hs] at hn; cases hn
  | next i v hn _ ih =>
    cases h2 with
    | stop _ hs => rw [hs] at hn; cases hn
    | next _ w' _ hw => rw [ih hw]

theorem walkDist_sound (ds : Array Nat) (mask : Option (Array Bool)) (step : Nat → Nat → Int) :
    ∀ fuel i v, walkDist ds mask step fuel i = some v → PathLen ds (stopAt_c14 ds mask) step i v := by
  intro fuel
  induction fuel with
  | zero => intro i v h; simp [walkDist] at h
  | succ f ih =>
    intro i v h
    simp only [walkDist] at h
    by_cases hs : stopAt_c14 ds mask i = true
    · simp only [hs, if_true, Option.some.injEq] at h
      subst h; exact PathLen.stop i hs
    · have hs' : stopAt_c14 ds mask i = false := by simpa using hs
      simp only [hs', Bool.false_eq_true, if_false, Option.map_eq_some_iff] at h
      obtain ⟨a, ha, rfl⟩ := h
      exact PathLen.next i a hs' (ih _ _ ha)

/-- `FirstHit ds p i k`: `k` is the first cell on the flow path from `i` (inclusive) that satisfies
`p` or is a pit -/
inductive FirstHit (ds : Array Nat) (p : Nat → Bool) : Nat → Nat → Prop
  | here (i : Nat) : (p i || ds[i]! == i) = true → FirstHit ds p i i
  | next (i k : Nat) : (p i || ds[i]! == i) = false → FirstHit ds p ds[i]! k → FirstHit ds p i k

theorem FirstHit.unique {ds : Array Nat} {p : Nat → Bool} {i k l : Nat}
    (h1 : FirstHit ds p i k) (h2 : FirstHit ds p i l) : k = l := by
  induction h1 generalizing l with
  | here i hs =>
    cases h2 with
    | here _ _ => rfl
    | next _ _ hn _ => rw [hs] at hn; cases hn
  | next i k hn _ ih =>
    cases h2 with
    | here _ hs => rw [hs] at hn; cases hn
    | next _ _ _ hw => exact ih hw

theorem walkFirst_sound (ds : Array Nat) (p : Nat → Bool) :
    ∀ fuel i k, walkFirst ds p fuel i = some k → FirstHit ds p i k := by
  intro fuel
  induction fuel with
  | zero => intro i k h; simp [walkFirst] at h
  | succ f ih =>
    intro i k h
    simp only [walkFirst] at h
    by_cases hs : (p i || ds[i]! == i) = true
    · simp only [hs, if_true, Option.some.injEq] at h
      subst h; exact FirstHit.here i hs
    · have hs' : (p i || ds[i]! == i) = false := by simpa using hs
      simp only [hs', Bool.false_eq_true, if_false] at h
      exact FirstHit.next i k hs' (ih _ _ h)

theorem FirstHit.exists_of_topo {ds : Array Nat} {seq : List Nat} (htopo : Topo ds seq) (p : Nat → Bool) :
    ∀ i ∈ seq, ∃ k, FirstHit ds p i k := by
  refine htopo.induction _ (fun i _ hd => ?_)
  by_cases hs : (p i || ds[i]! == i) = true
  · exact ⟨i, FirstHit.here i hs⟩
  · have hs' : (p i || ds[i]! == i) = false := by simpa using hs
    have hp : ds[i]! ≠ i := by
      intro h; simp [h] at hs'
    obtain ⟨k, hk⟩ := (hd hp).2
    exact ⟨k, FirstHit.next i k hs' hk⟩

end Pf
