import PfVerif.Proofs.C09Trace
/-! Soundness of the per-cell certificate checks of `upscaleOK` (C09). -/
namespace Pf

/-- the shape all per-cell checks share: cells marked missing are skipped, the others pass `body` -/
theorem allCells_valid {n mv : Nat} {x : Nat → Nat} {body : Nat → Bool}
    (h : allCells n (fun c => x c == mv || body c) = true) {c : Nat} (hc : c < n) (hv : x c ≠ mv) :
    body c = true := by
  have := (allCells_iff _ _).mp h c hc
  rw [Bool.or_eq_true, beq_iff_eq] at this
  exact this.resolve_left hv

variable {n : Nat}

theorem okD8_sound (cds : Array Nat) (ncol : Nat) (h : okD8 cds ncol = true) (hn : cds.size = n) :
    ∀ c, c < n → cds[c]! ≠ n →
      cds[c]! < n ∧ absDiff (cds[c]! % ncol) (c % ncol) ≤ 1 ∧ absDiff (cds[c]! / ncol) (c / ncol) ≤ 1 := by
  subst hn
  intro c hc hv
  have := allCells_valid h hc hv
  simp only [inD8, Bool.and_eq_true, decide_eq_true_eq] at this
  exact this

theorem okRank_cell (cds : Array Nat) (rk : Array Int) (h : okRank cds rk = true) :
    ∀ c < cds.size, cds[c]! ≠ cds.size →
      cds[c]! < cds.size ∧ (cds[c]! = c → rk[c]! = 0) ∧
      (cds[c]! ≠ c → cds[cds[c]!]! < cds.size ∧ 0 ≤ rk[cds[c]!]! ∧ rk[c]! = rk[cds[c]!]! + 1) := by
  intro c hc hv
  have := allCells_valid h hc hv
  rw [Bool.and_eq_true, decide_eq_true_eq] at this
  refine ⟨this.1, fun hp => ?_, fun hp => ?_⟩
  · have h2 := this.2
    rw [if_pos hp] at h2
    exact beq_iff_eq.mp h2
  · have h2 := this.2
    rw [if_neg hp] at h2
    simp only [Bool.and_eq_true, decide_eq_true_eq, beq_iff_eq] at h2
    exact ⟨h2.1.1, h2.1.2, h2.2⟩

/-- a valid coarse cell with rank `m` reaches a pit after exactly `m` steps -/
theorem okRank_reaches (cds : Array Nat) (rk : Array Int) (h : okRank cds rk = true) :
    ∀ (m : Nat) (c : Nat), c < cds.size → cds[c]! ≠ cds.size → rk[c]! = (m : Int) →
      iterA cds m c < cds.size ∧ cds[iterA cds m c]! = iterA cds m c := by
  intro m
  induction m with
  | zero =>
    intro c hc hv hr
    obtain ⟨_, _, h3⟩ := okRank_cell cds rk h c hc hv
    exact ⟨hc, Classical.byContradiction fun hp => by obtain ⟨_, h5, h6⟩ := h3 hp; omega⟩
  | succ m ih =>
    intro c hc hv hr
    obtain ⟨h1, h2, h3⟩ := okRank_cell cds rk h c hc hv
    obtain ⟨h4, _, h6⟩ := h3 fun hp => by have := h2 hp; omega
    exact ih cds[c]! h1 (Nat.ne_of_lt h4) (by omega)

/-- **rank certificate ⇒ loop-free**: the rank of a valid cell is a natural number, the number of steps to its pit -/
theorem okRank_loopfree (cds : Array Nat) (rk : Array Int) (h : okRank cds rk = true) (hn : cds.size = n) :
    ∀ c, c < n → cds[c]! ≠ n → EndsInPit cds n c := by
  subst hn
  intro c hc hv
  obtain ⟨_, h2, h3⟩ := okRank_cell cds rk h c hc hv
  have hnn : 0 ≤ rk[c]! := by
    by_cases hp : cds[c]! = c
    · rw [h2 hp]; exact Int.le_refl 0
    · obtain ⟨_, h5, h6⟩ := h3 hp; omega
  obtain ⟨m, hm⟩ := Int.eq_ofNat_of_zero_le hnn
  exact ⟨m, okRank_reaches cds rk h m c hc hv hm⟩

theorem okValidIff_sound (cds out : Array Nat) (subn : Nat) (h : okValidIff cds out subn = true)
    (hn : cds.size = n) : out.size = n ∧ ∀ c, c < n → (cds[c]! ≠ n ↔ out[c]! ≠ subn) := by
  subst hn
  simp only [okValidIff, Bool.and_eq_true, beq_iff_eq] at h
  refine ⟨h.1, fun c hc => ?_⟩
  have := (allCells_iff _ _).mp h.2 c hc
  rw [beq_iff_eq] at this
  rw [← bne_iff_ne, ← bne_iff_ne, this]

theorem okOutlets_sound (ds out inv : Array Nat) (h : okOutlets ds out inv = true) (hn : out.size = n) :
    (∀ c, c < n → out[c]! ≠ ds.size → ValidPx ds out[c]!) ∧
    (∀ c c', c < n → c' < n → out[c]! ≠ ds.size → out[c]! = out[c']! → c = c') := by
  subst hn
  have hcell : ∀ c < out.size, out[c]! ≠ ds.size → ValidPx ds out[c]! ∧ inv[out[c]!]! = c := by
    intro c hc hv
    have := allCells_valid h hc hv
    simp only [Bool.and_eq_true, decide_eq_true_eq, bne_iff_ne, ne_eq, beq_iff_eq] at this
    exact this
  refine ⟨fun c hc hv => (hcell c hc hv).1, ?_⟩
  intro c c' hc hc' hv he
  rw [← (hcell c hc hv).2, he, (hcell c' hc' (he ▸ hv)).2]

theorem okCellValid_sound (ds out wit : Array Nat) (cell : Nat → Nat) (h : okCellValid ds out wit cell = true)
    (hn : out.size = n) : ∀ c, c < n → out[c]! ≠ ds.size → ∃ p, ValidPx ds p ∧ cell p = c := by
  subst hn
  intro c hc hv
  have := allCells_valid h hc hv
  simp only [Bool.and_eq_true, decide_eq_true_eq, bne_iff_ne, ne_eq, beq_iff_eq] at this
  exact ⟨_, this.1, this.2⟩

theorem okOwnCell_sound (ds out : Array Nat) (cell : Nat → Nat) (h : okOwnCell ds out cell = true) :
    ∀ c < out.size, out[c]! ≠ ds.size → cell out[c]! = c :=
  fun _ hc hv => beq_iff_eq.mp (allCells_valid h hc hv)

end Pf
