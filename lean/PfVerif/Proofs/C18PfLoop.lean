import PfVerif.Proofs.C18PfInner
import PfVerif.Proofs.C18PfRefInv
/-! Pfafstetter, joint invariant: the states of the worklist loop `pfLoop` (`PfAll`); the pit loop `pfPits`
establishes `PfAll`. -/
namespace Pf.C18
open Pf

/-- all single-run invariants of a state of the worklist loop -/
structure PfAll (ds usMain : Array Nat) (so : Array Int) (depth : Nat) (br : Array Int) (idxs : List Nat)
    (labs : List (Int × Nat)) : Prop where
  g : PfG ds usMain so br idxs
  fr : PfFresh depth br labs
  lp : LabsPos labs
  h : PfH ds depth br idxs labs
  q : PfQ depth labs

variable {ds usMain : Array Nat} {seq : List Nat} {uparea so : Array Int}

theorem PfAll.tail {depth : Nat} {br : Array Int} {idxs : List Nat} {en : Int × Nat}
    {labs : List (Int × Nat)} (a : PfAll ds usMain so depth br idxs (en :: labs)) :
    PfAll ds usMain so depth br idxs labs :=
  ⟨a.g, a.fr.tail, fun p hp => a.lp p (List.mem_cons_of_mem _ hp), a.h.tail, a.q.tail⟩

/-! ### the pit loop -/

/-- invariant of the pit loop before the `i`-th pit, `l` the pits left: the invariants of the worklist loop, all
codes and blocks lie below the next code, the returned outlets are pits, every pending entry has level 1; with the
stream orders `soraw` (switched on by `W`) the cells of a pit's code have order `≤ 1` -/
structure PfPitInv (ds usMain : Array Nat) (seq : List Nat) (so : Array Int) (depth : Nat) (W : Prop)
    (soraw : Array Int) (l : List Nat) (i : Nat) (br : Array Int) (idxs : List Nat)
    (labs : List (Int × Nat)) : Prop where
  nd : l.Nodup
  pit : ∀ q ∈ l, q ∈ seq ∧ ds[q]! = q ∧ br[q]! = 0 ∧ (W → soraw[q]! ≤ 1)
  g : PfG ds usMain so br idxs
  fr : PfFresh depth br labs
  lp : LabsPos labs
  top : ∀ e ∈ labs, e.1 + Bsz depth e.2 ≤ pfBase depth + ((i : Int) + 1) * (10 : Int) ^ depth
  below : ∀ j : Nat, br[j]! < pfBase depth + ((i : Int) + 1) * (10 : Int) ^ depth
  od : W → PfOrd soraw br labs
  out : ∀ o ∈ idxs, ds[o]! = o
  q : PfQ depth labs
  lev : ∀ en ∈ labs, en.2 = 1

/-- the `i`-th pit `x` gets the code `v = pfBase depth + (i+1)·10^depth` and the block above it -/
theorem PfPitInv.step (c : PfCtx ds usMain seq uparea) {depth : Nat} (hd : 1 ≤ depth) {W : Prop}
    {soraw : Array Int}
    (hS : W → SoRaw ds usMain so soraw)
    {x : Nat} {rest : List Nat} {i : Nat} {br br1 : Array Int} {idxs : List Nat} {labs : List (Int × Nat)}
    {v : Int} (hv : v = pfBase depth + ((i : Int) + 1) * (10 : Int) ^ depth)
    (a : PfPitInv ds usMain seq so depth W soraw (x :: rest) i br idxs labs) {f : Nat}
    (h1 : stemFill usMain ds.size (fun u _ => so[u]! == 0) v f x (br.setIfInBounds x v) = some br1) :
    PfPitInv ds usMain seq so depth W soraw rest (i + 1) br1 (idxs ++ [x]) (labs ++ [(v, 1)]) := by
  obtain ⟨hnd, hl, g, fr, hlp, hA, hB, ho, hpo, hq, hlev⟩ := a
  obtain ⟨P, hPe⟩ : ∃ P, P = (10 : Int) ^ depth := ⟨_, rfl⟩
  have hPP : 0 < P := by rw [hPe]; exact pow10_pos _
  rw [← hPe] at hA hB hv
  rw [← hv] at hA hB
  have hnext : pfBase depth + (((i + 1 : Nat) : Int) + 1) * (10 : Int) ^ depth = v + P := by
    rw [← hPe, hv]; grind
  have hpos : 0 < v := by
    have := pfBase_pos depth
    have : 0 < ((i : Int) + 1) * P := Int.mul_pos (by omega) hPP
    omega
  obtain ⟨hxs, hxp, hx0, hxso⟩ := hl x (by simp)
  have hnd' := List.nodup_cons.1 hnd
  obtain ⟨g1, hw1, hclo1⟩ := g.step_sub c.hus (c.hb x hxs) hx0 (Or.inl hxp)
    (Int.ne_of_gt hpos) (fun s => by have := hB s; omega) h1
  have hw1' : ∀ s : Nat, br1[s]! = br[s]! ∨ br1[s]! = v := fun s => (hw1 s).imp id fun h => h.1
  have hB1 : Bsz depth 1 = P := by rw [hPe]; unfold Bsz; congr 1; omega
  obtain ⟨fr1, hA1, hB1'⟩ := fr.write_top hA hB hPP hw1' 1 hB1
  have hlev1 : ∀ e ∈ labs ++ [(v, 1)], e.2 = 1 := by
    intro e he
    rcases List.mem_append.1 he with he | he
    · exact hlev e he
    · simp only [List.mem_singleton] at he; subst he; rfl
  refine ⟨hnd'.2, fun q hq => ?_, g1, fr1, ?_, by rw [hnext]; exact hA1, by rw [hnext]; exact hB1',
    fun w en hen s hs => ?_, ?_, ⟨?_, ?_, ?_⟩, ?_⟩
  · obtain ⟨a1, a2, a3, a4⟩ := hl q (List.mem_cons_of_mem _ hq)
    refine ⟨a1, a2, ?_, a4⟩
    rcases hw1 q with h | ⟨_, _, h | h⟩
    · rw [h]; exact a3
    · exact absurd (h ▸ hq) hnd'.1
    · exact absurd a2 h.1
  · intro e he
    rcases List.mem_append.1 he with he | he
    · exact hlp e he
    · simp only [List.mem_singleton] at he; subst he; exact hpos
  · -- the cells of the new stem have the stream order of the pit
    rcases List.mem_append.1 hen with hen | hen
    · rcases hw1 s with h | h
      · exact ho w en hen s (by rw [← h]; exact hs)
      · exfalso
        have := hA en hen
        have := Bsz_pos depth en.2
        rw [h.1] at hs
        omega
    · simp only [List.mem_singleton] at hen
      subst hen
      simp only at hs ⊢
      have hne : br1[s]! ≠ br[s]! := by
        intro hc
        have := hB s
        rw [← hc, hs] at this
        omega
      rw [(hS w).stem hclo1 s hne]
      have := hxso w
      omega
  · intro o ho
    rcases List.mem_append.1 ho with ho | ho
    · exact hpo o ho
    · simp only [List.mem_singleton] at ho; subst ho; exact hxp
  · rw [List.pairwise_append]
    refine ⟨hq.sorted, by simp, fun a ha b hb => ?_⟩
    simp only [List.mem_singleton] at hb; subst hb
    simp only; rw [hlev a ha]; omega
  · intro a ha b hb
    rw [hlev1 a ha, hlev1 b hb]; omega
  · intro en hen
    rcases List.mem_append.1 hen with hen | hen
    · exact hq.lev en hen
    · simp only [List.mem_singleton] at hen; subst hen
      refine ⟨Nat.le_refl _, hd, ?_⟩
      simp only
      rw [hv, hPe]
      exact GoodLow.mod_R1 (pfaf1_goodLow depth hd _ (depth - 1)) (by omega)
  · exact hlev1

theorem PfPitInv.init {depth : Nat} {W : Prop} {soraw : Array Int} {pits : List Nat} (hpn : pits.Nodup)
    (hpits : ∀ q ∈ pits, q ∈ seq ∧ ds[q]! = q) (hso1 : W → ∀ q ∈ pits, soraw[q]! ≤ 1) :
    PfPitInv ds usMain seq so depth W soraw pits 0 (Array.replicate ds.size 0) [] [] where
  nd := hpn
  pit := fun q hq => ⟨(hpits q hq).1, (hpits q hq).2, get!_replicate _ q (.inr rfl), fun w => hso1 w q hq⟩
  g := PfG.init ds usMain so
  fr := PfFresh.init depth ds.size
  lp := nofun
  top := nofun
  below := fun s => by
    have := pfBase_pos depth
    have := pow10_pos depth
    rw [get!_replicate (a := (0 : Int)) _ s (.inr rfl)]
    simp only [Int.cast_ofNat_Int, Int.zero_add, Int.one_mul]
    omega
  od := fun _ => nofun
  out := nofun
  q := ⟨List.Pairwise.nil, nofun, nofun⟩
  lev := nofun

/-- after the pit loop the invariants of the worklist loop hold -/
theorem pfPits_all (c : PfCtx ds usMain seq uparea) (depth : Nat) (hd : 1 ≤ depth)
    (W : Prop) (soraw : Array Int)
    (hS : W → SoRaw ds usMain so soraw)
    (pits : List Nat) (hpn : pits.Nodup) (hpits : ∀ q ∈ pits, q ∈ seq ∧ ds[q]! = q)
    (hso1 : W → ∀ q ∈ pits, soraw[q]! ≤ 1) {st0 : PfSt}
    (h : pfPits usMain ds.size so depth pits 0 (Array.replicate ds.size 0, [], []) = some st0) :
    PfAll ds usMain so depth st0.1 st0.2.1 st0.2.2 ∧ (W → PfOrd soraw st0.1 st0.2.2) := by
  have a := pfPits_induction usMain ds.size so depth
    (P := fun l i s => PfPitInv ds usMain seq so depth W soraw l i s.1 s.2.1 s.2.2)
    (fun _ _ _ _ _ _ _ _ hv a h1 => a.step c hd hS hv h1) pits 0 _ st0 h (PfPitInv.init hpn hpits hso1)
  exact ⟨⟨a.g, a.fr, a.lp, fun o ho hnp => absurd (a.out o ho) hnp, a.q⟩, a.od⟩

end Pf.C18
