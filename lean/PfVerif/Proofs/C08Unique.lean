import PfVerif.Proofs.C08Strahler
/-! Lemmas for the uniqueness of the Strahler recursion (C08): the rule is invariant under permutation of the
tributaries, the inflows of the oracle are those of the order, the declarative recursion computes the model. -/
namespace Pf

theorem mx_le_of (l : List Nat) (m : Nat) (h : ∀ x ∈ l, x ≤ m) : mx l ≤ m := by
  rcases foldl_max_mem l 0 with h0 | h0
  · show l.foldl max 0 ≤ m; omega
  · exact h _ h0

theorem mx_perm {l1 l2 : List Nat} (h : l1.Perm l2) : mx l1 = mx l2 := by
  apply Nat.le_antisymm
  · exact mx_le_of l1 _ (fun x hx => le_mx l2 x (h.mem_iff.1 hx))
  · exact mx_le_of l2 _ (fun x hx => le_mx l1 x (h.mem_iff.2 hx))

/-- the Strahler rule does not depend on the order in which the tributaries are listed -/
theorem strahler_perm {l1 l2 : List Nat} (h : l1.Perm l2) : strahler l1 = strahler l2 := by
  unfold strahler
  have hnil : l1 = [] ↔ l2 = [] := by
    rw [← List.length_eq_zero_iff, ← List.length_eq_zero_iff, h.length_eq]
  rw [mx_perm h, h.count_eq]
  by_cases h2 : l2 = []
  · simp [h2, hnil.2 h2]
  · have h1 : l1 ≠ [] := fun h1 => h2 (hnil.1 h1)
    simp [h2, h1]

theorem strahlerRule_perm (b : Bool) {l1 l2 : List Nat} (h : l1.Perm l2) :
    strahlerRule b l1 = strahlerRule b l2 := by
  unfold strahlerRule
  have hnil : l1 = [] ↔ l2 = [] := by
    rw [← List.length_eq_zero_iff, ← List.length_eq_zero_iff, h.length_eq]
  rw [strahler_perm h]
  by_cases h2 : l2 = []
  · simp [h2, hnil.2 h2]
  · have h1 : l1 ≠ [] := fun h1 => h2 (hnil.1 h1)
    simp [h2, h1]

theorem kidsM_nodup (ds : Array Nat) (seq : List Nat) (mask : Option (Array Bool)) (j : Nat)
    (hnd : seq.Nodup) : (kidsM ds seq mask j).Nodup := by
  unfold kidsM kids
  refine List.Nodup.sublist (List.filter_sublist) (List.Nodup.sublist (List.filter_sublist) ?_)
  exact (List.reverse_perm seq).nodup_iff.2 hnd

/-! ### the declarative recursion and the certificate -/

/-- every valid cell is in `seq`; the converse inclusion holds on every `Topo` order in range (`valid_of_mem`) -/
def Complete (ds : Array Nat) (seq : List Nat) : Prop := ∀ i, isValid ds i = true → i ∈ seq

theorem valid_of_mem (ds : Array Nat) (seq : List Nat) (htopo : Topo ds seq)
    (hb : ∀ i ∈ seq, i < ds.size) (i : Nat) (hi : i ∈ seq) : isValid ds i = true := by
  have h1 := hb i hi
  have h2 := hb _ (htopo.ds_mem i hi)
  simp only [isValid, Bool.and_eq_true, decide_eq_true_eq, bne_iff_ne, ne_eq]
  exact ⟨h1, by omega⟩

theorem inflowsM_perm (ds : Array Nat) (mask : Option (Array Bool)) (seq : List Nat)
    (htopo : Topo ds seq) (hb : ∀ i ∈ seq, i < ds.size) (hc : Complete ds seq) (j : Nat) :
    (inflowsM ds mask j).Perm (kidsM ds seq mask j) := by
  have hnd1 : (inflowsM ds mask j).Nodup := by
    unfold inflowsM upsOf
    exact List.Nodup.sublist List.filter_sublist (List.Nodup.sublist List.filter_sublist List.nodup_range)
  rw [List.perm_ext_iff_of_nodup hnd1 (kidsM_nodup ds seq mask j htopo.nodup)]
  intro c
  simp only [inflowsM, List.mem_filter, mem_upsOf, mem_kidsM]
  constructor
  · rintro ⟨⟨h1, h2, h3, h4⟩, h5⟩
    refine ⟨hc c ?_, h2, h3, h5⟩
    simp only [isValid, Bool.and_eq_true, decide_eq_true_eq, bne_iff_ne, ne_eq]
    exact ⟨h1, h4⟩
  · rintro ⟨h1, h2, h3, h4⟩
    have hv := valid_of_mem ds seq htopo hb c h1
    simp only [isValid, Bool.and_eq_true, decide_eq_true_eq, bne_iff_ne, ne_eq] at hv
    exact ⟨⟨hv.1, h2, h3, hv.2⟩, h4⟩

theorem isValid_iff_mem (ds : Array Nat) (seq : List Nat) (htopo : Topo ds seq)
    (hb : ∀ i ∈ seq, i < ds.size) (hc : Complete ds seq) (j : Nat) :
    isValid ds j = decide (j ∈ seq) := by
  by_cases h : j ∈ seq
  · simp [h, valid_of_mem ds seq htopo hb j h]
  · have : isValid ds j ≠ true := fun hv => h (hc j hv)
    simp [h, this]

/-- the recursion over the upstream tree computes the model's order (enough fuel) -/
theorem strahlerSpecAux_eq (ds : Array Nat) (mask : Option (Array Bool)) (seq : List Nat)
    (htopo : Topo ds seq) (hb : ∀ i ∈ seq, i < ds.size) (hc : Complete ds seq)
    (ht : Nat → Nat) (hht : ∀ c ∈ seq, ds[c]! ≠ c → ht c < ht ds[c]!) :
    ∀ f j, j ∈ seq → maskAt mask j = true → ht j < f →
      strahlerSpecAux ds mask f j = (strahlerOrder ds seq mask)[j]! := by
  obtain ⟨_, hrec⟩ := strahlerOrder_rec ds mask seq htopo hb
  intro f
  induction f with
  | zero => intro j _ _ h; omega
  | succ f ih =>
    intro j hj hm hf
    rw [strahlerSpecAux, hrec j]
    have hflag : (decide (j ∈ seq) && maskAt mask j) = true := by simp [hj, hm]
    rw [hflag, strahlerRule_perm _ ((inflowsM_perm ds mask seq htopo hb hc j).map _)]
    congr 1
    apply List.map_congr_left
    intro c hcm
    have hc' := (mem_kidsM ds seq mask j c).1 hcm
    have hlt := hht c hc'.1 (by rw [hc'.2.1]; exact fun h => hc'.2.2.1 h.symm)
    rw [hc'.2.1] at hlt
    exact ih c hc'.1 hc'.2.2.2 (by omega)

theorem strahlerSpecF_eq (ds : Array Nat) (mask : Option (Array Bool)) (seq : List Nat)
    (htopo : Topo ds seq) (hb : ∀ i ∈ seq, i < ds.size) (hc : Complete ds seq)
    (fuel : Nat) (hfuel : seq.length ≤ fuel) (j : Nat) :
    strahlerSpecF ds mask fuel j = (strahlerOrder ds seq mask)[j]! := by
  obtain ⟨ht, h1, h2⟩ := htopo.exists_height
  obtain ⟨_, hrec⟩ := strahlerOrder_rec ds mask seq htopo hb
  rw [strahlerSpecF, hrec j, isValid_iff_mem ds seq htopo hb hc j,
    strahlerRule_perm _ ((inflowsM_perm ds mask seq htopo hb hc j).map _)]
  congr 1
  apply List.map_congr_left
  intro c hcm
  have hc' := (mem_kidsM ds seq mask j c).1 hcm
  exact strahlerSpecAux_eq ds mask seq htopo hb hc ht h2 fuel c hc'.1 hc'.2.2.2
    (by have := h1 c hc'.1; omega)

end Pf
