import PfVerif.Model.C12
/-! # C12 — lemmas about the cache machine: coherence clause by clause, the protocol part of a call, in-place writes

`step` = `stepCore` (the dictionary protocol) followed by `clobbered` (in-place writes into stored
objects). For an entry without in-place writes the second part is the identity, so everything
proved about the protocol carries over; with an in-place write on a key the entry also stores, the
stored value can be *any* value afterwards. -/
namespace Pf.C12
variable {S V A : Type}

/-- the six clauses of coherence, one by one: seven conjuncts, clause (5) "only known keys" being the fifth
(keys of `writes`) and the sixth (keys of `memoSet`), clause (6) `noInPlace` the last -/
theorem coherent_iff {e : Entry} : e.coherent = true ↔
    (∀ w ∈ e.writes, w.taint.isEmpty = true) ∧ (∀ r ∈ e.reads, r.unguarded.isEmpty = true) ∧
    (∀ w ∈ e.memoSet, w.taint.isEmpty = true ∨ e.syncs w.key = true) ∧
    (∀ k ∈ allKeys, dependsOn k e.mutates = false ∨ e.drops k = true ∨ e.syncs k = true) ∧
    (∀ w ∈ e.writes, allKeys.contains w.key = true) ∧ (∀ w ∈ e.memoSet, allKeys.contains w.key = true) ∧
    e.noInPlace = true := by
  simp only [Entry.coherent, Bool.and_eq_true, List.all_eq_true, Bool.or_eq_true, Bool.not_eq_true', and_assoc,
    or_assoc]

/-- a value stored by a call from untainted writes is the recomputation from the new state, if the key is not
affected by the mutation (whether it was computed before or after it) -/
theorem writeVal_of_untainted (sem : Sem S V A) (e : Entry) (a : A) (ch : Choice V) (s : S) (ws : List Write) (k : Key)
    (hun : ∀ w ∈ ws, w.key = k → w.taint.isEmpty = true)
    (hst : sem.recompute k (sem.mutate e a s) = sem.recompute k s) :
    writeVal sem e a ch s ws k = sem.recompute k (sem.mutate e a s) := by
  have hall : (ws.filter (·.key == k)).all (·.taint.isEmpty) = true :=
    List.all_eq_true.2 fun w hw => hun w (List.mem_filter.1 hw).1 (beq_iff_eq.1 (List.mem_filter.1 hw).2)
  rw [writeVal, if_pos hall]
  split
  · rfl
  · exact hst.symm

/-- what the dictionary holds under `k` after the protocol part of a call -/
theorem stepCore_cache (sem : Sem S V A) (e : Entry) (a : A) (ch : Choice V) (o : Obj S V) (k : Key) :
    (stepCore sem e a ch o).cache k =
      if e.syncs k then some (sem.recompute k (sem.mutate e a o.s))
      else if e.drops k then none
      else if e.writes.any (·.key == k) && ch.doWrite k then some (writeVal sem e a ch o.s e.writes k)
      else if e.memoSet.any (·.key == k) && ch.doWrite k then some (writeVal sem e a ch o.s e.memoSet k)
      else o.cache k := rfl

theorem clobbered_of_noInPlace {e : Entry} (h : e.noInPlace = true) (ch : Choice V) (k : Key)
    (c : Option V) : clobbered e ch k c = c := by
  simp only [Entry.noInPlace, List.isEmpty_iff] at h
  simp [clobbered, Entry.writesInPlace, h]

/-- without in-place writes a call is exactly its protocol part -/
theorem step_eq_stepCore (sem : Sem S V A) {e : Entry} (h : e.noInPlace = true) (a : A)
    (ch : Choice V) (o : Obj S V) : step sem e a ch o = stepCore sem e a ch o := by
  simp only [step, stepCore]
  congr 1
  funext k
  exact clobbered_of_noInPlace h ch k _

/-- the abstract state after a call is the mutation of the old one, whatever the call writes in place -/
theorem step_state (sem : Sem S V A) (e : Entry) (a : A) (ch : Choice V) (o : Obj S V) :
    (step sem e a ch o).s = sem.mutate e a o.s := rfl

/-- an in-place write on a key that holds a value after the protocol part leaves what the choice says -/
theorem step_cache_clobbered (sem : Sem S V A) (e : Entry) (a : A) (ch : Choice V) (o : Obj S V)
    (k : Key) (w v : V) (hip : e.writesInPlace k = true)
    (hc : (stepCore sem e a ch o).cache k = some w) (hcl : ch.clobber k = some v) :
    (step sem e a ch o).cache k = some v := by
  simp only [step, clobbered, hip, if_true, hc, hcl]

/-- an in-place write cannot create a dictionary entry -/
theorem step_cache_none (sem : Sem S V A) (e : Entry) (a : A) (ch : Choice V) (o : Obj S V)
    (k : Key) (hc : (stepCore sem e a ch o).cache k = none) : (step sem e a ch o).cache k = none := by
  simp only [step, clobbered, hc]
  split <;> rfl

end Pf.C12
