import PfVerif.Model.C17
/-! Lemmas for C17.  A transform without rotation acts on each axis separately as
`k ↦ o + k·res` (x: `o = t.c`, `res = t.a`; y: `o = t.f`, `res = t.e`): the facts about cells, bounds and centres
are proved for one axis, with variables `o res p k`, and used for both.  Then: affine maps and their inverse, `rowcol`,
linear index ↔ (row, column), `absQ` and the ideal hypotenuse, the legs of `distance`, sums, geographic cell areas.
The arithmetic lemmas of the first section are about `Rat` only, also where Mathlib has a root lemma of the same name. -/
namespace Pf.C17

/-! ### arithmetic of `Rat` that core does not name -/

theorem sub_zero (x : Rat) : x - 0 = x := by
  rw [Rat.sub_eq_add_neg, Rat.neg_zero, Rat.add_zero]

theorem neg_sub_neg (a b : Rat) : -a - -b = b - a := by
  rw [Rat.sub_eq_add_neg, Rat.neg_neg, Rat.add_comm, ← Rat.sub_eq_add_neg]

theorem neg_pos_of_neg {a : Rat} (h : a < 0) : 0 < -a :=
  Rat.lt_neg_iff.mpr (by rwa [Rat.neg_zero])

theorem mul_left_comm (a b c : Rat) : a * (b * c) = b * (a * c) := by
  rw [← Rat.mul_assoc, Rat.mul_comm a b, Rat.mul_assoc]

theorem mul_mul_mul_comm (a b c d : Rat) : a * b * (c * d) = a * c * (b * d) := by
  rw [Rat.mul_assoc, mul_left_comm b, ← Rat.mul_assoc]

theorem mul_div_right_comm (a c d : Rat) : a / d * c = a * c / d := by
  rw [Rat.div_def, Rat.div_def, Rat.mul_assoc, Rat.mul_comm d⁻¹, ← Rat.mul_assoc]

theorem mul_mul_div (a b c d : Rat) : a * (b * c / d) = a * b / d * c := by
  rw [mul_div_right_comm, Rat.div_def, Rat.div_def, ← Rat.mul_assoc, ← Rat.mul_assoc]

theorem div_one (x : Rat) : x / 1 = x := by
  have h := Rat.mul_div_cancel (a := x) (b := 1) (by decide)
  rwa [Rat.mul_one] at h

theorem sub_add_sub_cancel (a b c : Rat) : a - b + (b - c) = a - c := by
  grind

theorem le_div_iff_pos {a u z : Rat} (ha : 0 < a) : z ≤ u / a ↔ z * a ≤ u := by
  rw [← Rat.not_lt, Rat.div_lt_iff ha, Rat.not_lt]

/-! ### one axis: `(p - o) / res` is the index coordinate of the point `p` -/

theorem floor_add_half (z : Int) : ((z:Rat) + 1/2).floor = z := by
  have h : ((1/2 : Rat) + (z : Rat)).floor = (1/2 : Rat).floor + z := Rat.floor_add_intCast
  have h0 : (1/2 : Rat).floor = 0 := by decide +kernel
  rw [Rat.add_comm, h, h0, Int.zero_add]

/-- reflecting the axis turns a negative resolution into a positive one -/
theorem flip_axis (o res p : Rat) : (p - o) / res = (o - p) / -res := by
  grind

/-- the cells `k ≤ · < m` of an axis cover the half-open interval between the edges `k` and `m` -/
theorem floor_div_mem_pos {res : Rat} (h : 0 < res) (o p : Rat) (k m : Int) :
    (k ≤ ((p - o) / res).floor ∧ ((p - o) / res).floor < m) ↔ o + (k:Rat) * res ≤ p ∧ p < o + (m:Rat) * res := by
  rw [Rat.le_floor_iff, Rat.floor_lt_iff, le_div_iff_pos h, Rat.div_lt_iff h, Rat.le_sub_iff, Rat.sub_lt_iff,
    Rat.add_comm _ o, Rat.add_comm _ o]

theorem floor_div_mem_neg {res : Rat} (h : res < 0) (o p : Rat) (k m : Int) :
    (k ≤ ((p - o) / res).floor ∧ ((p - o) / res).floor < m) ↔ o + (m:Rat) * res < p ∧ p ≤ o + (k:Rat) * res := by
  rw [flip_axis, floor_div_mem_pos (neg_pos_of_neg h), Rat.mul_neg, Rat.mul_neg, ← Rat.sub_eq_add_neg,
    ← Rat.sub_eq_add_neg, Rat.sub_right_le_iff_le_add, Rat.lt_sub_right_iff_add_lt, and_comm]

/-- the single cell `k` (`m = k + 1`): the per-axis test of `specContains` says that the index coordinate has floor `k` -/
theorem floor_div_eq_iff {res : Rat} (hres : res ≠ 0) (o p : Rat) (k : Int) :
    ((p - o) / res).floor = k ↔
      (if 0 < res then decide (o + (k:Rat) * res ≤ p) && decide (p < o + ((k:Rat) + 1) * res)
       else decide (o + ((k:Rat) + 1) * res < p) && decide (p ≤ o + (k:Rat) * res)) = true := by
  have hk : ((p - o) / res).floor = k ↔ k ≤ ((p - o) / res).floor ∧ ((p - o) / res).floor < k + 1 := by omega
  have h1 : ((k + 1 : Int) : Rat) = (k : Rat) + 1 := Rat.intCast_add k 1
  by_cases h : 0 < res
  · rw [if_pos h, hk, floor_div_mem_pos h, h1, Bool.and_eq_true, decide_eq_true_eq, decide_eq_true_eq]
  · have h' : res < 0 := Rat.lt_of_le_of_ne (Rat.not_lt.mp h) hres
    rw [if_neg h, hk, floor_div_mem_neg h', h1, Bool.and_eq_true, decide_eq_true_eq, decide_eq_true_eq]

theorem natCast_ne_zero {n : Nat} (h : 0 < n) : (n : Rat) ≠ 0 :=
  Rat.ne_of_gt (Rat.natCast_pos.mpr h)

theorem natCast_add_half {k n : Nat} (h : k < n) : (0 : Rat) < (k : Rat) + 1/2 ∧ (k : Rat) + 1/2 < (n : Rat) := by
  have h1 : ((k + 1 : Nat) : Rat) ≤ (n : Rat) := Rat.natCast_le_natCast.mpr h
  rw [Rat.natCast_add] at h1
  have h0 : (0 : Rat) + 1/2 ≤ (k : Rat) + 1/2 := Rat.add_le_add_right.mpr Rat.natCast_nonneg
  exact ⟨Std.lt_of_lt_of_le (by decide +kernel) h0,
    Std.lt_of_lt_of_le (Rat.add_lt_add_left.mpr (by decide +kernel)) h1⟩

theorem centre_inside_pos {res : Rat} (h : 0 < res) {k n : Nat} (hk : k < n) (o : Rat) :
    o < ((k : Rat) + 1/2) * res + o ∧ ((k : Rat) + 1/2) * res + o < (n : Rat) * res + o := by
  have ⟨h1, h2⟩ := natCast_add_half hk
  refine ⟨?_, Rat.add_lt_add_right.mpr (Rat.mul_lt_mul_of_pos_right h2 h)⟩
  have := Rat.add_lt_add_right (c := o) |>.mpr (Rat.mul_pos h1 h)
  rwa [Rat.zero_add] at this

theorem centre_inside_neg {res : Rat} (h : res < 0) {k n : Nat} (hk : k < n) (o : Rat) :
    (n : Rat) * res + o < ((k : Rat) + 1/2) * res + o ∧ ((k : Rat) + 1/2) * res + o < o := by
  have ⟨h1, h2⟩ := centre_inside_pos (neg_pos_of_neg h) hk (-o)
  rw [Rat.mul_neg, ← Rat.neg_add, Rat.neg_lt_neg_iff] at h1
  rw [Rat.mul_neg, Rat.mul_neg, ← Rat.neg_add, ← Rat.neg_add, Rat.neg_lt_neg_iff] at h2
  exact ⟨h2, h1⟩

/-- in the shape `xy_app` leaves for the offsets `(0, 0)`, `(1, 0)`, `(0, 1)` -/
theorem edge_sub (o res k : Rat) : (k + 1) * res + o - ((k + 0) * res + o) = res := by
  grind

theorem centre_sub (o res : Rat) (k k' : Int) :
    o + ((k' : Rat) + 1/2) * res - (o + ((k : Rat) + 1/2) * res) = ((k' - k : Int) : Rat) * res := by
  rw [Rat.intCast_sub]; grind

/-! ### affine maps -/

theorem app_matmul (s o : Aff) (x y : Rat) : (s.matmul o).app x y = s.app (o.app x y).1 (o.app x y).2 := by
  simp only [Aff.matmul, Aff.app, Prod.mk.injEq]
  constructor <;> grind

/-- in the shape `xy_app` leaves for the offsets `(0, 0)`, `(1/2, 1/2)`, `(1, 1)` -/
theorem affine_midpoint (x y a b k : Rat) :
    (x + 1/2) * a + (y + 1/2) * b + k = ((x + 0) * a + (y + 0) * b + k + ((x + 1) * a + (y + 1) * b + k)) / 2 := by
  grind

theorem app_translation (a b x y : Rat) : (Aff.translation a b).app x y = (x + a, y + b) := by
  simp only [Aff.translation, Aff.app, Rat.mul_one, Rat.mul_zero, Rat.add_zero, Rat.zero_add]

theorem translation_matmul_scale (x y sx sy : Rat) :
    (Aff.translation x y).matmul (Aff.scale sx sy) = ⟨sx, 0, x, 0, sy, y⟩ := by
  simp only [Aff.translation, Aff.scale, Aff.matmul, Rat.mul_zero, Rat.add_zero, Rat.zero_add, Rat.one_mul,
    Rat.zero_mul]

theorem xy_app (t : Aff) (off : Rat × Rat) (r c : Int) :
    xyM t off r c = t.app ((c:Rat) + off.1) ((r:Rat) + off.2) := by
  rw [xyM, app_matmul, app_translation]

theorem app_axis (t : Aff) (hb : t.b = 0) (hd : t.d = 0) (x y : Rat) :
    t.app x y = (x * t.a + t.c, y * t.e + t.f) := by
  simp only [Aff.app, hb, hd, Rat.mul_zero, Rat.add_zero, Rat.zero_add]

theorem xyM_centre (t : Aff) (hb : t.b = 0) (hd : t.d = 0) (r c : Int) :
    xyM t centre r c = specCentre t r c := by
  rw [xy_app, app_axis t hb hd]
  exact Prod.ext (Rat.add_comm _ _) (Rat.add_comm _ _)

theorem arrayBounds_axis (t : Aff) (hb : t.b = 0) (hd : t.d = 0) (height width : Nat) :
    arrayBounds height width t = (t.c, (height : Rat) * t.e + t.f, (width : Rat) * t.a + t.c, t.f) := by
  simp only [arrayBounds, app_axis t hb hd]

theorem arrayBounds_mk (a c e f : Rat) (height width : Nat) :
    arrayBounds height width ⟨a, 0, c, 0, e, f⟩ = (c, (height : Rat) * e + f, (width : Rat) * a + c, f) :=
  arrayBounds_axis _ rfl rfl height width

theorem Aff.NorthUp.axisAligned {t : Aff} (h : t.NorthUp) : t.AxisAligned :=
  ⟨h.1, h.2.1, Rat.ne_of_gt h.2.2.1, Rat.ne_of_lt h.2.2.2⟩

theorem Aff.AxisAligned.det_ne_zero {t : Aff} (h : t.AxisAligned) : t.det ≠ 0 := by
  obtain ⟨hb, _, ha, he⟩ := h
  rw [Aff.det, hb, Rat.zero_mul, sub_zero]
  exact fun h0 => (Rat.mul_eq_zero.mp h0).elim ha he

theorem exists_inv {t : Aff} (hdet : t.det ≠ 0) : ∃ inv, t.inv = some inv :=
  ⟨_, by unfold Aff.inv; rw [if_neg hdet]⟩

theorem inv_app_app {t inv : Aff} (hinv : t.inv = some inv) (x y : Rat) :
    inv.app (t.app x y).1 (t.app x y).2 = (x, y) := by
  unfold Aff.inv at hinv
  split at hinv
  · cases hinv
  · rename_i hdet
    injection hinv with hinv
    subst hinv
    unfold Aff.det at hdet
    simp only [Aff.app, Aff.det]
    -- Cramer's rule: the components are `x·det/det` and `y·det/det`
    refine Prod.ext ?_ ?_ <;> simp only [] <;> grind

/-- the inverse of a transform without rotation: `(x, y)` is the image of `((x - c)/a, (y - f)/e)` -/
theorem inv_app_axis {t inv : Aff} (h : t.AxisAligned) (hinv : t.inv = some inv) (x y : Rat) :
    inv.app x y = ((x - t.c) / t.a, (y - t.f) / t.e) := by
  have e := inv_app_app hinv ((x - t.c) / t.a) ((y - t.f) / t.e)
  rwa [app_axis t h.1 h.2.1, Rat.div_mul_cancel h.2.2.1, Rat.div_mul_cancel h.2.2.2, Rat.sub_add_cancel,
    Rat.sub_add_cancel] at e

/-! ### `rowcol` -/

/-- `op = floor`, `precision = None`: the floors of the two index coordinates -/
theorem rowcolInv_floor (inv : Aff) (x y : Rat) :
    rowcolInv inv .floor (epsOf .floor none) x y = ((inv.app x y).2.floor, (inv.app x y).1.floor) := by
  simp only [rowcolInv, epsOf, RoundOp.ap, Rat.add_zero, sub_zero]

theorem rowcolInv_xy {t inv : Aff} (hinv : t.inv = some inv) (r c : Int) :
    rowcolInv inv .floor (epsOf .floor none) (xyM t centre r c).1 (xyM t centre r c).2 = (r, c) := by
  simp only [rowcolInv_floor, xy_app, inv_app_app hinv, centre, floor_add_half]

theorem rowcolInv_contains {t inv : Aff} (h : t.AxisAligned) (hinv : t.inv = some inv) (x y : Rat) (r c : Int) :
    rowcolInv inv .floor (epsOf .floor none) x y = (r, c) ↔ specContains t r c x y = true := by
  simp only [rowcolInv_floor, inv_app_axis h hinv, Prod.mk.injEq, specContains, Bool.and_eq_true,
    floor_div_eq_iff h.2.2.1, floor_div_eq_iff h.2.2.2]
  exact And.comm

theorem inside_iff_inRaster {t inv : Aff} (h : t.AxisAligned) (hinv : t.inv = some inv) (nrow ncol : Nat)
    (x y : Rat) :
    (∃ r c : Int, inRaster nrow ncol (r, c) = true ∧ specContains t r c x y = true) ↔
      inRaster nrow ncol (rowcolInv inv .floor (epsOf .floor none) x y) = true := by
  refine ⟨?_, fun hin => ⟨_, _, hin, (rowcolInv_contains h hinv x y _ _).mp rfl⟩⟩
  rintro ⟨r, c, hin, hcon⟩
  rwa [(rowcolInv_contains h hinv x y r c).mpr hcon]

/-! ### linear index and (row, column) -/

theorem cell_in_raster (nrow ncol : Nat) (i : Int) (h0 : 0 ≤ i) (h1 : i < (nrow : Int) * (ncol : Int)) :
    inRaster nrow ncol (i / (ncol : Int), i % (ncol : Int)) = true ∧
    (i / (ncol : Int)) * (ncol : Int) + i % (ncol : Int) = i := by
  have hc : (0 : Int) < (ncol : Int) := by
    rcases Nat.eq_zero_or_pos ncol with h | h
    · subst h; simp at h1; omega
    · exact Int.natCast_pos.mpr h
  refine ⟨?_, by rw [Int.mul_comm]; exact Int.mul_ediv_add_emod i ncol⟩
  simp only [inRaster, Bool.and_eq_true, decide_eq_true_eq]
  exact ⟨⟨⟨Int.ediv_nonneg h0 (by omega), Int.ediv_lt_of_lt_mul hc h1⟩, Int.emod_nonneg _ (by omega)⟩,
    Int.emod_lt_of_pos _ hc⟩

theorem index_of_cell (nrow ncol : Nat) (rc : Int × Int) (h : inRaster nrow ncol rc = true) :
    0 ≤ rc.1 * (ncol : Int) + rc.2 ∧ rc.1 * (ncol : Int) + rc.2 < (nrow : Int) * (ncol : Int) ∧
    (rc.1 * (ncol : Int) + rc.2) / (ncol : Int) = rc.1 ∧ (rc.1 * (ncol : Int) + rc.2) % (ncol : Int) = rc.2 := by
  simp only [inRaster, Bool.and_eq_true, decide_eq_true_eq] at h
  obtain ⟨⟨⟨r0, r1⟩, c0⟩, c1⟩ := h
  have hc : (ncol : Int) ≠ 0 := Int.ne_of_gt (Int.lt_of_le_of_lt c0 c1)
  have hn : (rc.1 + 1) * (ncol : Int) ≤ (nrow : Int) * (ncol : Int) :=
    Int.mul_le_mul_of_nonneg_right r1 (Int.natCast_nonneg ncol)
  rw [Int.add_mul] at hn
  refine ⟨Int.add_nonneg (Int.mul_nonneg r0 (Int.natCast_nonneg ncol)) c0, by omega, ?_, ?_⟩
  · rw [Int.add_comm, Int.add_mul_ediv_right _ _ hc, Int.ediv_eq_zero_of_lt c0 c1, Int.zero_add]
  · rw [Int.add_comm, Int.add_mul_emod_self_right, Int.emod_eq_of_lt c0 c1]

/-! ### absolute values, squares, the ideal hypotenuse -/

theorem absI_sub_comm (a b : Int) : absI (a - b) = absI (b - a) := by
  unfold absI; split <;> split <;> omega

theorem absI_sq (z : Int) : ((absI z : Int) : Rat) * ((absI z : Int) : Rat) = (z : Rat) * (z : Rat) := by
  unfold absI; split
  · rw [Rat.intCast_neg, Rat.neg_mul, Rat.mul_neg, Rat.neg_neg]
  · rfl

theorem absQ_of_nonneg {x : Rat} (h : 0 ≤ x) : absQ x = x := if_neg (Rat.not_lt.mpr h)

theorem absQ_of_neg {x : Rat} (h : x < 0) : absQ x = -x := if_pos h

theorem absQ_of_nonpos {x : Rat} (h : x ≤ 0) : absQ x = -x := by
  by_cases h0 : x < 0
  · exact absQ_of_neg h0
  · rw [Rat.le_antisymm h (Rat.not_lt.mp h0)]; rfl

theorem absQ_nonneg (x : Rat) : 0 ≤ absQ x := by
  by_cases h : x < 0
  · rw [absQ_of_neg h]; exact Rat.le_of_lt (neg_pos_of_neg h)
  · rw [absQ_of_nonneg (Rat.not_lt.mp h)]; exact Rat.not_lt.mp h

theorem absQ_sq (x : Rat) : absQ x * absQ x = x * x := by
  by_cases h : x < 0
  · rw [absQ_of_neg h, Rat.neg_mul, Rat.mul_neg, Rat.neg_neg]
  · rw [absQ_of_nonneg (Rat.not_lt.mp h)]

theorem mul_self_lt {d a : Rat} (hd : 0 ≤ d) (h : d < a) : d * d < a * a :=
  Std.lt_of_le_of_lt (Rat.mul_le_mul_of_nonneg_right (Rat.le_of_lt h) hd)
    (Rat.mul_lt_mul_of_pos_left h (Std.lt_of_le_of_lt hd h))

theorem sq_eq_sq_nonneg {d a : Rat} (hd : 0 ≤ d) (ha : 0 ≤ a) (h : d * d = a * a) : d = a :=
  Rat.le_antisymm (Rat.not_lt.mp fun h' => Rat.ne_of_gt (mul_self_lt ha h') h)
    (Rat.not_lt.mp fun h' => Rat.ne_of_lt (mul_self_lt hd h') h)

theorem hypot_abs {d a : Rat} (hd : 0 ≤ d) (h : d * d = a * a) : d = absQ a :=
  sq_eq_sq_nonneg hd (absQ_nonneg a) (by rw [absQ_sq]; exact h)

theorem hypot_unique {d d' p q : Rat} (h : IsHypot d p q) (h' : IsHypot d' p q) : d = d' :=
  sq_eq_sq_nonneg h.1 h'.1 (by rw [h.2, h'.2])

theorem isHypot_zero_left {d q : Rat} (h : IsHypot d 0 q) : d = absQ q :=
  hypot_abs h.1 (by rw [h.2, Rat.zero_mul, Rat.zero_add])

theorem isHypot_zero_right {d p : Rat} (h : IsHypot d p 0) : d = absQ p :=
  hypot_abs h.1 (by rw [h.2, Rat.zero_mul, Rat.add_zero])

theorem absQ_mul (a b : Rat) : absQ (a * b) = absQ a * absQ b := by
  refine sq_eq_sq_nonneg (absQ_nonneg _) (Rat.mul_nonneg (absQ_nonneg a) (absQ_nonneg b)) ?_
  rw [absQ_sq, mul_mul_mul_comm, mul_mul_mul_comm (absQ a), absQ_sq, absQ_sq]

theorem absQ_neg (x : Rat) : absQ (-x) = absQ x :=
  sq_eq_sq_nonneg (absQ_nonneg _) (absQ_nonneg _)
    (by rw [absQ_sq, absQ_sq, Rat.neg_mul, Rat.mul_neg, Rat.neg_neg])

theorem absQ_absQ (x : Rat) : absQ (absQ x) = absQ x := absQ_of_nonneg (absQ_nonneg x)

theorem absQ_natCast (n : Nat) : absQ (n : Rat) = (n : Rat) := absQ_of_nonneg Rat.natCast_nonneg

theorem absQ_half (h : Rat) : absQ h / 2 = absQ (h / 2) := by
  rw [Rat.div_def, Rat.div_def, absQ_mul, absQ_of_nonneg (x := 2⁻¹) (by decide +kernel)]

theorem sub_lt_add_iff (m k : Rat) : m - k < m + k ↔ 0 < k := by
  grind

/-- `m ± |k|` are the larger and the smaller of `m ± k` -/
theorem add_absQ (m k : Rat) :
    m + absQ k = (if m - k < m + k then m + k else m - k) ∧
    m - absQ k = (if m - k < m + k then m - k else m + k) := by
  by_cases h : 0 < k
  · rw [if_pos ((sub_lt_add_iff m k).mpr h), if_pos ((sub_lt_add_iff m k).mpr h),
      absQ_of_nonneg (Rat.le_of_lt h)]
    exact ⟨rfl, rfl⟩
  · rw [if_neg (mt (sub_lt_add_iff m k).mp h), if_neg (mt (sub_lt_add_iff m k).mp h),
      absQ_of_nonpos (Rat.not_lt.mp h), Rat.sub_eq_add_neg m (-k), Rat.neg_neg, ← Rat.sub_eq_add_neg]
    exact ⟨rfl, rfl⟩

/-! ### the legs of `distance` -/

theorem distLegs_proj (dmy dmx : Rat → Rat) (t : Aff) (ncol i j : Nat) :
    distLegs dmy dmx t ncol false i j =
      (t.e * ((absI (((j / ncol : Nat) : Int) - ((i / ncol : Nat) : Int)) : Int) : Rat),
       t.a * ((absI (((j % ncol : Nat) : Int) - ((i % ncol : Nat) : Int)) : Int) : Rat)) := rfl

theorem distLegs_ew (dmy dmx : Rat → Rat) (t : Aff) (ncol i j : Nat) (hrow : i / ncol = j / ncol)
    (hcol : absI (((j % ncol : Nat) : Int) - ((i % ncol : Nat) : Int)) = 1) :
    distLegs dmy dmx t ncol false i j = (0, t.a) := by
  rw [distLegs_proj, hrow, Int.sub_self, hcol]
  exact Prod.ext (Rat.mul_zero _) (Rat.mul_one _)

theorem distLegs_ns (dmy dmx : Rat → Rat) (t : Aff) (ncol i j : Nat) (hcol : i % ncol = j % ncol)
    (hrow : absI (((j / ncol : Nat) : Int) - ((i / ncol : Nat) : Int)) = 1) :
    distLegs dmy dmx t ncol false i j = (t.e, 0) := by
  rw [distLegs_proj, hcol, Int.sub_self, hrow]
  exact Prod.ext (Rat.mul_one _) (Rat.mul_zero _)

theorem distLegs_diag (dmy dmx : Rat → Rat) (t : Aff) (ncol i j : Nat)
    (hrow : absI (((j / ncol : Nat) : Int) - ((i / ncol : Nat) : Int)) = 1)
    (hcol : absI (((j % ncol : Nat) : Int) - ((i % ncol : Nat) : Int)) = 1) :
    distLegs dmy dmx t ncol false i j = (t.e, t.a) := by
  rw [distLegs_proj, hrow, hcol]
  exact Prod.ext (Rat.mul_one _) (Rat.mul_one _)

/-- the guard `0 if dr == 0` of the geographic branch changes nothing: the leg is multiplied by `dr` anyway -/
theorem ite_mul_absI (v : Rat) (z : Int) :
    (if absI z = 0 then 0 else v) * ((absI z : Int) : Rat) = v * ((absI z : Int) : Rat) := by
  by_cases h : absI z = 0
  · rw [if_pos h, h, Rat.intCast_zero, Rat.mul_zero, Rat.mul_zero]
  · rw [if_neg h]

/-- the latitude `distance` converts degrees to metres at is the mean latitude of the two centres -/
theorem distLegs_geo (dmy dmx : Rat → Rat) (t : Aff) (ncol i j : Nat) :
    distLegs dmy dmx t ncol true i j =
      (dmy (specMeanLat t ncol i j) * t.e *
          ((absI (((j / ncol : Nat) : Int) - ((i / ncol : Nat) : Int)) : Int) : Rat),
       dmx (specMeanLat t ncol i j) * t.a *
          ((absI (((j % ncol : Nat) : Int) - ((i % ncol : Nat) : Int)) : Int) : Rat)) := by
  have hlat : t.f + (((((i / ncol : Nat) : Int) + ((j / ncol : Nat) : Int) : Int) : Rat) / 2 + 1/2) * t.e
      = specMeanLat t ncol i j := by
    simp only [specMeanLat, specCentre, Rat.intCast_add]; grind
  simp only [distLegs, if_true, hlat, ite_mul_absI]

theorem mul_absI_sq (x : Rat) (z : Int) :
    x * ((absI z : Int) : Rat) * (x * ((absI z : Int) : Rat)) = (z : Rat) * x * ((z : Rat) * x) := by
  rw [Rat.mul_comm x, mul_mul_mul_comm, absI_sq, ← mul_mul_mul_comm]

/-! ### sums -/

theorem sum_range_telescope (g : Nat → Rat) (n : Nat) :
    ((List.range n).map fun i => g i - g (i + 1)).sum = g 0 - g n := by
  induction n with
  | zero => exact Rat.sub_self.symm
  | succ n ih =>
    rw [List.range_succ, List.map_append, List.sum_append, ih]
    simp only [List.map_cons, List.map_nil, List.sum_cons, List.sum_nil, Rat.add_zero, sub_add_sub_cancel]

theorem sum_range_telescope' (g : Nat → Rat) (n : Nat) :
    ((List.range n).map fun i => g (i + 1) - g i).sum = g n - g 0 := by
  have h := sum_range_telescope (fun i => -(g i)) n
  simpa only [neg_sub_neg] using h

theorem sum_map_mul_left {α : Type} (l : List α) (k : Rat) (g : α → Rat) :
    (l.map fun x => k * g x).sum = k * (l.map g).sum := by
  induction l with
  | nil => exact (Rat.mul_zero k).symm
  | cons x l ih => rw [List.map_cons, List.map_cons, List.sum_cons, List.sum_cons, ih, Rat.mul_add]

/-! ### geographic cell areas -/

/-- the latitude vector of `affine_to_coords` holds the latitudes of the row centres -/
theorem affineToCoords_lat (t : Aff) (hd : t.d = 0) (nrow ncol : Nat) :
    (affineToCoords t nrow ncol).2 = (List.range nrow).map fun (r : Nat) => (specCentre t (r : Int) 0).2 := by
  simp only [affineToCoords, specCentre, Aff.app, hd, Rat.mul_zero, Rat.zero_add, Rat.intCast_natCast,
    Rat.add_comm _ t.f]

/-- the geographic branch of `area_grid`, whatever the cell-area function: row `r` gets `cell` at the latitude of the
row's centres -/
theorem areaGrid_geo (cell : Rat → Rat → Rat → Rat) (fac : Rat) (t : Aff) (hd : t.d = 0) (nrow ncol : Nat) :
    areaGrid cell t nrow ncol true false (some fac) =
      .ok ((List.range nrow).map fun (r : Nat) => cell (specCentre t (r : Int) 0).2 t.a t.e / fac) := by
  simp only [areaGrid, Bool.false_eq_true, if_false, if_true, affineToCoords_lat t hd, List.map_map,
    Function.comp_def]

theorem affineToCoords_length (t : Aff) (nrow ncol : Nat) :
    (affineToCoords t nrow ncol).1.length = ncol := by
  simp only [affineToCoords, List.length_map, List.length_range]

/-- `cellarea` at the latitude of a row's centres is the spherical area between the row's two edges -/
theorem cellareaM_row (R2 pi180 : Rat) (sinD : Rat → Rat) (t : Aff) (r : Nat) :
    cellareaM R2 pi180 sinD (specCentre t (r : Int) 0).2 t.a t.e = specRowArea R2 pi180 sinD t r := by
  have lo : t.f + (r : Rat) * t.e = t.f + ((r : Rat) + 1/2) * t.e - t.e / 2 := by grind
  have hi : t.f + ((r : Rat) + 1) * t.e = t.f + ((r : Rat) + 1/2) * t.e + t.e / 2 := by grind
  simp only [cellareaM, specRowArea, specCentre, Rat.intCast_natCast, lo, hi, absQ_half, add_absQ]

theorem areaGrid_geo_rows (R2 pi180 fac : Rat) (sinD : Rat → Rat) (t : Aff) (hd : t.d = 0) (nrow ncol : Nat) :
    areaGrid (cellareaM R2 pi180 sinD) t nrow ncol true false (some fac) =
      .ok ((List.range nrow).map fun r => specRowArea R2 pi180 sinD t r / fac) := by
  simp only [areaGrid_geo _ fac t hd, cellareaM_row]

theorem edge_lt_iff (f e : Rat) (r : Nat) : f + (r : Rat) * e < f + ((r : Rat) + 1) * e ↔ 0 < e := by
  rw [Rat.add_lt_add_left, Rat.add_mul, Rat.one_mul]
  grind

/-- the sine differences over the rows telescope, in the direction the rows run -/
theorem sum_row_edges (sinD : Rat → Rat) (f e : Rat) (n : Nat) :
    ((List.range n).map fun (r : Nat) =>
        sinD (if f + (r : Rat) * e < f + ((r : Rat) + 1) * e then f + ((r : Rat) + 1) * e else f + (r : Rat) * e) -
        sinD (if f + (r : Rat) * e < f + ((r : Rat) + 1) * e then f + (r : Rat) * e else f + ((r : Rat) + 1) * e)).sum =
      sinD (if e < 0 then f else f + (n : Rat) * e) - sinD (if e < 0 then f + (n : Rat) * e else f) := by
  have h0 : f + ((0 : Nat) : Rat) * e = f := by
    rw [show ((0 : Nat) : Rat) = 0 from rfl, Rat.zero_mul, Rat.add_zero]
  have hs : ∀ r : Nat, (r : Rat) + 1 = ((r + 1 : Nat) : Rat) := fun r => (Rat.natCast_add r 1).symm
  simp only [edge_lt_iff]
  simp only [hs]
  by_cases he : 0 < e
  · have := sum_range_telescope' (fun r => sinD (f + (r : Rat) * e)) n
    simp only [he, if_true, if_neg (Rat.not_lt.mpr (Rat.le_of_lt he)), this, h0]
  · have := sum_range_telescope (fun r => sinD (f + (r : Rat) * e)) n
    simp only [he, if_false, this, h0]
    by_cases hn : e < 0
    · rw [if_pos hn, if_pos hn]
    -- `e = 0`: all edges coincide
    · rw [Rat.le_antisymm (Rat.not_lt.mp he) (Rat.not_lt.mp hn), Rat.mul_zero, Rat.add_zero]; rfl

/-- the areas of all cells of a geographic raster: the rows are `specRowArea`, whose sine differences telescope -/
theorem sphere_rows_sum (R2 pi180 fac : Rat) (sinD : Rat → Rat) (t : Aff) (hd : t.d = 0) (nrow ncol : Nat)
    (rows : List Rat)
    (h : areaGrid (cellareaM R2 pi180 sinD) t nrow ncol true false (some fac) = .ok rows) :
    areaTotal ncol rows =
      (ncol : Rat) * (R2 * (pi180 * absQ t.a)) *
        (sinD (if t.e < 0 then t.f else t.f + (nrow : Rat) * t.e) -
         sinD (if t.e < 0 then t.f + (nrow : Rat) * t.e else t.f)) / fac := by
  rw [areaGrid_geo_rows R2 pi180 fac sinD t hd nrow ncol] at h
  injection h with h
  subst h
  simp only [areaTotal, List.map_map, Function.comp_def, specRowArea, mul_mul_div]
  rw [sum_map_mul_left, sum_row_edges, mul_div_right_comm]

end Pf.C17
