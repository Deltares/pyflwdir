import PfVerif.Proofs.C20Alg
/-! C20: termination of the spreading loop within its fuel (total correctness).

This is where the pop order (Dijkstra) matters. A reached cell is *settled* when its current
`(dst, cell)` entry is not in the heap. Invariants: the heap has no duplicate entries; some watermark
`d0` lies above the distance of every settled cell and below every key in the heap. Then a settled cell
is never updated again (non-negative costs; `SpTermIn.upd`), every non-stale pop settles one more cell
(`SpTermIn.pop_min`) and pushes at most 8 entries, every stale pop just shrinks the heap
(`SpTermIn.pop_stale`): `|heap| + 8 · #unsettled` decreases with every iteration (`spStep_term`). -/
namespace Pf
open SpGrid Sp

/-- not settled: not reached, or pending -/
def unsettledB (st : SpState) (a : Nat) : Bool := st.src[a]! == -1 || decide (st.pending a)

theorem unsettledB_false (st : SpState) (a : Nat) :
    unsettledB st a = false ↔ st.src[a]! ≠ -1 ∧ ¬ st.pending a := by
  simp [unsettledB]

theorem unsettledB_of_pending {st : SpState} {a : Nat} (h : st.pending a) : unsettledB st a = true := by
  simp only [unsettledB, h, decide_true, Bool.or_true]

theorem unsettledB_congr {st st' : SpState} {a : Nat} (hs : st'.src[a]! = st.src[a]!)
    (hp : st'.pending a ↔ st.pending a) : unsettledB st' a = unsettledB st a := by
  rw [unsettledB, hs, decide_eq_decide.2 hp, unsettledB]

def unsettledCount (G : SpGrid) (st : SpState) : Nat := (List.range G.n).countP (unsettledB st)

/-- the quantity that every iteration of the loop decreases -/
def spMeasure (G : SpGrid) (st : SpState) : Nat := st.heap.length + 8 * unsettledCount G st

theorem nbrOffsets_length : nbrOffsets.length = 8 := rfl

/-- the Dijkstra invariant with watermark `d0`: no duplicate entries, settled distances `≤ d0 ≤` heap keys.
Between iterations some `d0` exists; in the neighbour loop `d0` is the popped key. -/
structure SpTermIn (G : SpGrid) (st : SpState) (d0 : Rat) : Prop where
  nodup : st.heap.Nodup
  low : ∀ a, a < G.n → unsettledB st a = false → st.dst[a]! ≤ d0
  keys : ∀ x ∈ st.heap, d0 ≤ x.1

section
variable {G : SpGrid} {st : SpState} {e : Rat × Nat} {d0 : Rat}

/-- popping a stale entry settles nothing -/
theorem SpTermIn.pop_stale (ht : SpTermIn G st d0) (hstale : st.dst[e.2]! < e.1) :
    SpTermIn G (st.pop e) d0 ∧ unsettledCount G (st.pop e) = unsettledCount G st := by
  have hsame : ∀ a, unsettledB (st.pop e) a = unsettledB st a := fun a =>
    unsettledB_congr rfl (pending_pop (by rintro rfl; exact Rat.lt_irrefl hstale))
  exact ⟨⟨ht.nodup.erase e, fun a ha hu => ht.low a ha ((hsame a).symm.trans hu),
    fun x hx => ht.keys x (List.mem_of_mem_erase hx)⟩, by rw [unsettledCount, funext hsame, unsettledCount]⟩

/-- popping the current entry of a cell settles that cell (the heap has no second copy), at the popped key, which
is the least -/
theorem SpTermIn.pop_min (ht : SpTermIn G st d0) (hm : heapMin st.heap = some e) (hn : e.2 < G.n)
    (hs : st.src[e.2]! ≠ -1) (hd : st.dst[e.2]! = e.1) :
    SpTermIn G (st.pop e) e.1 ∧ unsettledCount G (st.pop e) < unsettledCount G st := by
  obtain ⟨hem, hmin⟩ := heapMin_spec hm
  have hee : (st.dst[e.2]!, e.2) = e := by rw [hd]
  have hsame : ∀ a, a ≠ e.2 → unsettledB (st.pop e) a = unsettledB st a :=
    fun a ha => unsettledB_congr rfl (pending_pop fun h => ha (h ▸ rfl))
  have hu0 : unsettledB st e.2 = true := unsettledB_of_pending (hee.symm ▸ hem)
  have hu1 : unsettledB (st.pop e) e.2 = false :=
    (unsettledB_false _ _).2 ⟨hs, fun h => (ht.nodup.mem_erase_iff.1 h).1 hee⟩
  refine ⟨⟨ht.nodup.erase e, fun a ha hu => ?_, fun x hx => hmin x (List.mem_of_mem_erase hx)⟩,
    countP_lt_of_witness (fun a _ hu => if ha : a = e.2 then ha.symm ▸ hu0 else (hsame a ha).symm.trans hu)
      (List.mem_range.2 hn) hu1 hu0⟩
  by_cases hae : a = e.2
  · rw [hae]; exact Std.le_of_eq hd
  · exact Rat.le_trans (ht.low a ha ((hsame a hae).symm.trans hu)) (ht.keys e hem)

/-- an update touches no settled cell (their distance is at most `d0`) and the entry it pushes is new -/
theorem SpTermIn.upd {a0 b : Nat} {d : Rat} (ht : SpTermIn G st d0) (hb : SpBase G st) (hbn : b < G.n) (hle : d0 ≤ d)
    (hc : st.src[b]! = -1 ∨ d < st.dst[b]!) :
    SpTermIn G (st.upd G a0 b d) d0 ∧ unsettledCount G (st.upd G a0 b d) = unsettledCount G st := by
  have hbu : unsettledB st b = true := by
    cases hu : unsettledB st b with
    | true => rfl
    | false =>
      exact (Rat.not_lt.2 (Rat.le_trans (ht.low b hbn hu) hle)
        (hc.resolve_left ((unsettledB_false st b).1 hu).1)).elim
  have hnew : (d, b) ∉ st.heap := fun hmem =>
    have ⟨_, _, h3, h4⟩ := hb.heap _ hmem
    Rat.not_lt.2 h4 (hc.resolve_left h3)
  have hsame : ∀ a, unsettledB (st.upd G a0 b d) a = unsettledB st a := by
    intro a
    by_cases hab : a = b
    · rw [hab, hbu]
      exact unsettledB_of_pending ((pending_upd hb a0 d hbn b).2 (.inl rfl))
    · exact unsettledB_congr (upd_other G st a0 d hab).1
        ((pending_upd hb a0 d hbn a).trans (or_iff_right hab))
  refine ⟨⟨List.nodup_cons.2 ⟨hnew, ht.nodup⟩, fun a ha hu => ?_, fun x hx => ?_⟩,
    by rw [unsettledCount, funext hsame, unsettledCount]⟩
  · rw [hsame a] at hu
    have hab : a ≠ b := fun h => by rw [h, hbu] at hu; cases hu
    rw [(upd_other G st a0 d hab).2.1]
    exact ht.low a ha hu
  · rcases List.mem_cons.1 hx with rfl | hx
    · exact hle
    · exact ht.keys x hx

/-- with the pop order of `heapMin` every iteration keeps the Dijkstra invariant and decreases the measure: a stale
pop removes an entry; another pop removes an entry and settles a cell, which pays for the 8 pushes that may follow -/
theorem spStep_term (hw : ∀ a d, 0 ≤ G.wgt a d) (h : SpBase G st ∧ ∃ d0, SpTermIn G st d0)
    (hm : heapMin st.heap = some e) :
    (SpBase G (spStep G st e) ∧ ∃ d0, SpTermIn G (spStep G st e) d0) ∧
      spMeasure G (spStep G st e) < spMeasure G st := by
  obtain ⟨hb, d0, ht⟩ := h
  have hem := (heapMin_spec hm).1
  obtain ⟨he1, _, he3, _⟩ := hb.heap e hem
  have hlen : (st.pop e).heap.length < st.heap.length :=
    List.length_erase_of_mem hem ▸ Nat.pred_lt (Nat.ne_of_gt (List.length_pos_of_mem hem))
  refine and_assoc.2 (spStep_rule hw hb hem
    (P := fun s => (∃ d0, SpTermIn G s d0) ∧ spMeasure G s < spMeasure G st)
    (J := fun s => SpTermIn G s e.1 ∧ unsettledCount G s < unsettledCount G st)
    (fun hstale => ?_) (ht.pop_min hm he1 he3) (fun s b d hB hJ hbn hle hc => ?_) (fun s _ hJ _ hl => ?_))
  · obtain ⟨g1, g2⟩ := ht.pop_stale hstale
    exact ⟨⟨d0, g1⟩, by unfold spMeasure; rw [g2]; exact Nat.add_lt_add_right hlen _⟩
  · obtain ⟨g1, g2⟩ := hJ.1.upd hB.base hbn hle hc
    exact ⟨g1, Nat.lt_of_le_of_lt (Nat.le_of_eq g2) hJ.2⟩
  · refine ⟨⟨_, hJ.1⟩, Nat.lt_of_le_of_lt (Nat.add_le_add_right hl _) ?_⟩
    rw [nbrOffsets_length, Nat.add_assoc, Nat.add_comm 8, ← Nat.mul_succ]
    exact Nat.add_lt_add_of_lt_of_le hlen (Nat.mul_le_mul_left 8 hJ.2)

end

/-- at the start: distinct entries with key 0, all distances 0, at most `n` entries and `n` unsettled cells -/
theorem spInit_term (G : SpGrid) : SpTermIn G (spInit G) 0 ∧ spMeasure G (spInit G) ≤ 9 * G.n := by
  obtain ⟨hmem, hnd, hlen⟩ := spInit_heap G
  refine ⟨⟨hnd, fun a ha _ => ?_, fun x hx => Std.le_of_eq ((hmem x).1 hx).1.symm⟩, ?_⟩
  · rw [(spInit_spec G).1, get!_replicate _ _ (.inl ha)]; exact Rat.le_refl
  · have h2 : unsettledCount G (spInit G) ≤ G.n :=
      Nat.le_trans List.countP_le_length (Nat.le_of_eq List.length_range)
    simp only [spMeasure]
    omega

theorem spread2d_terminates {G : SpGrid} (hobs : G.obs.size = G.n) (hw : ∀ a d, 0 ≤ G.wgt a d) :
    ∃ st, spread2d G = some st :=
  spLoop_total (I := fun st => SpBase G st ∧ ∃ d0, SpTermIn G st d0) (μ := spMeasure G)
    (fun _ _ hi hm => spStep_term hw hi hm) _ _ ⟨(spInit_inv G hobs).1, 0, (spInit_term G).1⟩
    (Nat.le_trans (spInit_term G).2 (by omega))

end Pf
