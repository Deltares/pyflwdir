import PfVerif.Proofs.C13_bounds2
import PfVerif.Proofs.C06Heap
/-! Lemmas for the `dem.fill_depressions` part of `Props/C13_bounds2.lean`: the raster-bounds test of the source
(`r < 0 or r == nrow or c < 0 or c == ncol`) is `Pf.C06.shift`, the logged pairs of one neighbour visit lie
in the raster, and the heap only ever holds cells of the raster. -/
namespace Pf.C13b2
open Pf Pf.C06

@[simp] theorem InB2_nil (nrow ncol : Nat) : InB2 nrow ncol [] := fun _ h => nomatch h

@[simp] theorem InB2_cons (nrow ncol : Nat) (e : Acc2) (l : List Acc2) :
    InB2 nrow ncol (e :: l) ↔ (0 ≤ e.r ∧ e.r < nrow ∧ 0 ≤ e.c ∧ e.c < ncol) ∧ InB2 nrow ncol l :=
  List.forall_mem_cons

@[simp] theorem InB2_append (nrow ncol : Nat) (l1 l2 : List Acc2) :
    InB2 nrow ncol (l1 ++ l2) ↔ InB2 nrow ncol l1 ∧ InB2 nrow ncol l2 :=
  List.forall_mem_append

theorem InB2_ite (nrow ncol : Nat) (p : Prop) [Decidable p] (l1 l2 : List Acc2) :
    InB2 nrow ncol (if p then l1 else l2) ↔ if p then InB2 nrow ncol l1 else InB2 nrow ncol l2 :=
  Iff.of_eq (apply_ite ..)

/-- the row / column of a neighbour of a raster cell are at most `nrow` / `ncol`: this is why testing `r == nrow`
(and not `r >= nrow`) is enough -/
theorem nbr_le {G : Grid} {i0 : Nat} {conn : Nat} {o : Int × Int} (hi : i0 < G.n) (ho : o ∈ offsets conn) :
    ((i0 / G.ncol : Nat) : Int) + o.1 ≤ G.nrow ∧ ((i0 % G.ncol : Nat) : Int) + o.2 ≤ G.ncol := by
  have h1 := row_lt hi
  have h2 := col_lt hi
  have := (mem_offsets conn o.1 o.2).1 ho
  omega

theorem outside_iff {G : Grid} {r c : Int} (hr : r ≤ G.nrow) (hc : c ≤ G.ncol) :
    outside G r c = true ↔ r < 0 ∨ r ≥ G.nrow ∨ c < 0 ∨ c ≥ G.ncol := by
  simp only [outside, Bool.or_eq_true, decide_eq_true_eq, beq_iff_eq]
  omega

theorem not_outside {G : Grid} {r c : Int} (h : outside G r c = false) (hr : r ≤ G.nrow) (hc : c ≤ G.ncol) :
    0 ≤ r ∧ r < G.nrow ∧ 0 ≤ c ∧ c < G.ncol := by
  have := (not_congr (outside_iff hr hc)).1 (by simp [h])
  omega

/-- the guard of the source is the `shift` of the model -/
theorem shift_outside {G : Grid} {i0 : Nat} {conn : Nat} {o : Int × Int} (hi : i0 < G.n) (ho : o ∈ offsets conn) :
    shift G i0 o.1 o.2 =
      if outside G (((i0 / G.ncol : Nat) : Int) + o.1) (((i0 % G.ncol : Nat) : Int) + o.2) then none
      else some ((((i0 / G.ncol : Nat) : Int) + o.1).toNat * G.ncol + (((i0 % G.ncol : Nat) : Int) + o.2).toNat) := by
  obtain ⟨h1, h2⟩ := nbr_le hi ho
  simp only [shift, outside_iff h1 h2]

theorem nbr_lt {G : Grid} {r c : Int} (h : 0 ≤ r ∧ r < G.nrow ∧ 0 ≤ c ∧ c < G.ncol) :
    r.toNat * G.ncol + c.toNat < G.n := by
  apply rc_lt <;> omega

theorem reopenLog_inb (G : Grid) (conn : Nat) (nod : Array Bool) (r c : Int) :
    InB2 G.nrow G.ncol (reopenLog G conn nod r c) := by
  refine foldl_inv _ (InB2 G.nrow G.ncol) _ (fun l o _ hl => ?_) _ (InB2_nil _ _)
  dsimp only
  split
  · split <;> simp only [InB2_cons, hl, and_true] <;> omega
  · exact hl

theorem ite_reset_q (lim : Bool) (elev : Array Int) (s : StD) (j : Nat) :
    (if lim = true then resetStep elev s j else s).q = s.q := by
  split
  · unfold resetStep; split <;> rfl
  · rfl

theorem fillStep_q (elev : Array Int) (z0 : Int) (s1 : StD) (j code : Nat) (e : HE)
    (he : e ∈ (fillStep elev z0 s1 j code).q) : e.idx = j ∨ e ∈ s1.q := by
  simp only [fillStep] at he
  split at he
  · rw [mem_hpush] at he
    rcases he with rfl | he
    · exact Or.inl rfl
    · exact Or.inr he
  · exact Or.inr he

section
variable (G : Grid) (conn : Nat) (elev : Array Int) (nod : Array Bool) (lim : Bool) (md : Int)

theorem visitDL_inv (z0 : Int) (i0 : Nat) (s : StD) (o : Int × Int) (hi : i0 < G.n) (ho : o ∈ offsets conn)
    (hq : ∀ e ∈ s.q, e.idx < G.n) :
    (∀ e ∈ (visitDL G conn elev nod lim md z0 i0 s o).1.q, e.idx < G.n) ∧
    InB2 G.nrow G.ncol (visitDL G conn elev nod lim md z0 i0 s o).2 := by
  obtain ⟨h1, h2⟩ := nbr_le hi ho
  unfold visitDL
  -- `visitDL` mentions the popped cell only through the row `r` and the column `c` of the neighbour
  generalize ((i0 / G.ncol : Nat) : Int) + o.1 = r at *
  generalize ((i0 % G.ncol : Nat) : Int) + o.2 = c at *
  cases hout : outside G r c with
  | true => simp only [hout, if_true]; exact ⟨hq, InB2_nil _ _⟩
  | false =>
    have hb := not_outside hout h1 h2
    have hj := nbr_lt hb
    by_cases hd : s.done[r.toNat * G.ncol + c.toNat]! = true
    · simp only [hout, hd, if_true, Bool.false_eq_true, if_false, InB2_cons, InB2_nil, hb, and_self, and_true]
      exact hq
    · by_cases ht : (lim && tooDeep md (z0 - elev[r.toNat * G.ncol + c.toNat]!)) = true
      · simp only [hout, hd, ht, if_true, Bool.false_eq_true, if_false, InB2_cons, InB2_append, InB2_nil, hb,
          reopenLog_inb, and_self, and_true]
        intro e he
        simp only [deepStep, mem_hpush] at he
        rcases he with rfl | he
        · exact hj
        · exact hq e he
      · simp only [hout, hd, ht, Bool.false_eq_true, if_false, InB2_cons, InB2_ite, InB2_nil, hb, and_self, and_true,
          ite_self]
        intro e he
        rcases fillStep_q _ _ _ _ _ e he with h | h
        · rw [h]; exact hj
        · rw [ite_reset_q] at h; exact hq e h

/- The state of the logging variant: `.1` goes through the branches of `visitDL`; what is left is the body of
`visitD` / `visit` with `shift` written as the guard of the source. -/

theorem visitDL_fst_lim (z0 : Int) (i0 : Nat) (s : StD) (o : Int × Int) (hi : i0 < G.n) (ho : o ∈ offsets conn) :
    (visitDL G conn elev nod true md z0 i0 s o).1 = visitD G conn elev nod md z0 i0 s o := by
  rw [visitD, shift_outside hi ho]
  simp only [visitDL, apply_ite Prod.fst, Bool.true_and, if_true]
  cases outside G (((i0 / G.ncol : Nat) : Int) + o.1) (((i0 % G.ncol : Nat) : Int) + o.2) <;> rfl

theorem visitDL_fst_nolim (z0 : Int) (i0 : Nat) (s : StD) (o : Int × Int) (hi : i0 < G.n) (ho : o ∈ offsets conn) :
    (visitDL G conn elev nod false md z0 i0 s o).1.toSt = visit G elev z0 i0 s.toSt o := by
  rw [visit, shift_outside hi ho]
  simp only [visitDL, apply_ite Prod.fst, apply_ite StD.toSt, Bool.false_and, Bool.false_eq_true, if_false]
  cases outside G (((i0 / G.ncol : Nat) : Int) + o.1) (((i0 % G.ncol : Nat) : Int) + o.2) <;> rfl

theorem popStepDL_inv (h : HE) (hh : h.idx < G.n) (st : StD × List Acc2) (hq : ∀ e ∈ st.1.q, e.idx < G.n)
    (hl : InB2 G.nrow G.ncol st.2) :
    (∀ e ∈ (popStepDL G conn elev nod lim md h st).1.q, e.idx < G.n) ∧
      InB2 G.nrow G.ncol (popStepDL G conn elev nod lim md h st).2 := by
  unfold popStepDL
  refine foldl_inv _ (fun st : StD × List Acc2 => (∀ e ∈ st.1.q, e.idx < G.n) ∧ InB2 G.nrow G.ncol st.2) _
    (fun st o ho hst => ?_) st ⟨hq, hl⟩
  have hv := visitDL_inv G conn elev nod lim md h.z h.idx st.1 o hh ho hst.1
  exact ⟨hv.1, (InB2_append ..).2 ⟨hv.2, hst.2⟩⟩

theorem popStepDL_fst_lim (h : HE) (hh : h.idx < G.n) (st : StD × List Acc2) :
    (popStepDL G conn elev nod true md h st).1 = popStepD G conn elev nod md h st.1 := by
  unfold popStepDL popStepD
  refine C13b.foldl_proj Prod.fst _ _ _ (fun st o ho => ?_) st
  exact visitDL_fst_lim G conn elev nod md h.z h.idx st.1 o hh ho

theorem popStepDL_fst_nolim (h : HE) (hh : h.idx < G.n) (st : StD × List Acc2) :
    (popStepDL G conn elev nod false md h st).1.toSt = popStep G conn elev h st.1.toSt := by
  unfold popStepDL popStep
  refine C13b.foldl_proj (fun st : StD × List Acc2 => st.1.toSt) _ _ _ (fun st o ho => ?_) st
  exact visitDL_fst_nolim G conn elev nod md h.z h.idx st.1 o hh ho

theorem fillLoopDL_inv (fuel : Nat) (st : StD × List Acc2) (hq : ∀ e ∈ st.1.q, e.idx < G.n)
    (hl : InB2 G.nrow G.ncol st.2) :
    InB2 G.nrow G.ncol (fillLoopDL G conn elev nod lim md fuel st).2 ∧
    (lim = true → (fillLoopDL G conn elev nod lim md fuel st).1 = fillLoopD G conn elev nod md fuel st.1) ∧
    (lim = false → (fillLoopDL G conn elev nod lim md fuel st).1.toSt = fillLoop G conn elev fuel st.1.toSt) := by
  induction fuel generalizing st with
  | zero => exact ⟨hl, fun _ => rfl, fun _ => rfl⟩
  | succ fuel ih =>
    obtain ⟨s, log⟩ := st
    unfold fillLoopDL fillLoopD fillLoop
    cases hqq : s.q with
    | nil =>
      have hq2 : (StD.toSt s).q = [] := hqq
      simp only [hq2]
      exact ⟨hl, fun _ => trivial, fun _ => trivial⟩
    | cons h rest =>
      have hq2 : (StD.toSt s).q = h :: rest := hqq
      simp only [hq2]
      have hh : h.idx < G.n := hq h (hqq ▸ List.mem_cons_self ..)
      obtain ⟨f1, f2⟩ := popStepDL_inv G conn elev nod lim md h hh ({ s with q := rest }, log)
        (fun e he => hq e (hqq ▸ List.mem_cons_of_mem _ he)) hl
      obtain ⟨g1, g2, g3⟩ := ih _ f1 f2
      refine ⟨g1, fun hlim => ?_, fun hlim => ?_⟩
      · subst hlim
        rw [g2 rfl, popStepDL_fst_lim G conn elev nod md h hh]
      · subst hlim
        rw [g3 rfl, popStepDL_fst_nolim G conn elev nod md h hh]
        rfl

end

theorem initHeapLog_inb (G : Grid) (queued : Array Bool) : InB2 G.nrow G.ncol (initHeapLog G queued) := by
  intro e he
  unfold initHeapLog at he
  simp only [List.mem_reverse, List.mem_map, List.mem_filter, List.mem_range] at he
  obtain ⟨i, ⟨hi, _⟩, rfl⟩ := he
  exact ⟨Int.natCast_nonneg _, Int.ofNat_lt.2 (row_lt hi), Int.natCast_nonneg _, Int.ofNat_lt.2 (col_lt hi)⟩

theorem initStateD_q (G : Grid) (elev : Array Int) (nod queued : Array Bool) :
    ∀ e ∈ (initStateD G elev nod queued).q, e.idx < G.n := by
  intro e he
  obtain ⟨i, hi, _, rfl⟩ := (mem_initHeap G elev queued e).1 he
  exact hi

end Pf.C13b2
