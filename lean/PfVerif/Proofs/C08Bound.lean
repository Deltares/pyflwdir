import PfVerif.Proofs.C08Strahler
/-! The masked cell count and the counting lemmas behind "a stream of Strahler order `k` drains at least `2^(k-1)`
cells" (C08: no `uint8` overflow). -/
namespace Pf

/-- number of masked network cells draining through each cell: the up-to-downstream accumulation
(`streams.accuflux`) of the field "1 on every cell", restricted to masked inflows -/
def maskedCount (ds : Array Nat) (seq : List Nat) (mask : Option (Array Bool)) : Array Nat :=
  sweepUp ds (fun c acc v => if maskAt mask c = true then acc + v else acc) seq (Array.replicate ds.size 1)

theorem foldl_condAdd (mask : Option (Array Bool)) (f : Nat → Nat) (l : List Nat) (a : Nat) :
    l.foldl (fun acc c => if maskAt mask c = true then acc + f c else acc) a =
      a + ((l.filter (maskAt mask)).map f).sum := by
  induction l generalizing a with
  | nil => simp
  | cons c l ih =>
    simp only [List.foldl_cons, ih, List.filter_cons]
    by_cases hm : maskAt mask c = true
    · simp only [hm, if_true, List.map_cons, List.sum_cons]; omega
    · simp [hm]

theorem maskedCount_rec (ds : Array Nat) (seq : List Nat) (mask : Option (Array Bool))
    (htopo : Topo ds seq) (hb : ∀ i ∈ seq, i < ds.size) (j : Nat) (hj : j ∈ seq) :
    (maskedCount ds seq mask)[j]! =
      1 + ((kidsM ds seq mask j).map ((maskedCount ds seq mask)[·]!)).sum := by
  have h := sweepUp_spec ds (fun c acc v => if maskAt mask c = true then acc + v else acc) seq htopo
    (Array.replicate ds.size 1) (fun i hi => by simpa using hb i hi) j
  have h1 : (Array.replicate ds.size 1)[j]! = 1 := by simp [hb j hj]
  unfold maskedCount
  rw [h, h1]
  exact foldl_condAdd mask _ (kids ds seq j) 1

theorem count_pow_le_sum (L : List Nat) (f g : Nat → Nat) (M : Nat)
    (h : ∀ c ∈ L, 2 ^ (f c - 1) ≤ g c) :
    (L.map f).count M * 2 ^ (M - 1) ≤ (L.map g).sum := by
  induction L with
  | nil => simp
  | cons c L ih =>
    have ih' := ih (fun c hc => h c (by simp [hc]))
    have hc := h c (by simp)
    simp only [List.map_cons, List.count_cons, List.sum_cons]
    by_cases hf : f c = M
    · subst hf
      simp only [beq_self_eq_true, if_true, Nat.add_mul, Nat.one_mul]
      omega
    · have : (f c == M) = false := by simpa using hf
      simp only [this, Bool.false_eq_true, if_false, Nat.add_zero]
      omega

end Pf
