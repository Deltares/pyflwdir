import PfVerif.Model.C09_ihu
import PfVerif.Core.Sweep
import PfVerif.Core.Folds
/-! Invariants of the outlet-pixel array through `ihu_relocate_outlets` (C09 extension). -/
namespace Pf.C09ihu
open Pf

/-! ### generic -/

theorem foldlM_tot {α β : Type} (f : β → α → Option β) (P : β → Prop) (l : List α)
    (h : ∀ b a, a ∈ l → P b → ∃ b', f b a = some b' ∧ P b') :
    ∀ b, P b → ∃ b', l.foldlM f b = some b' ∧ P b' := by
  induction l with
  | nil => intro b hb; exact ⟨b, rfl, hb⟩
  | cons a l ih =>
    intro b hb
    obtain ⟨b1, h1, hb1⟩ := h b a List.mem_cons_self hb
    obtain ⟨b2, h2, hb2⟩ := ih (fun b a ha => h b a (List.mem_cons_of_mem _ ha)) b1 hb1
    exact ⟨b2, by rw [List.foldlM_cons, h1]; exact h2, hb2⟩

theorem some_of_isSome_of_inv {β : Type} {o : Option β} {P : β → Prop} (h1 : o.isSome = true)
    (h2 : ∀ b, o = some b → P b) : ∃ b, o = some b ∧ P b := by
  obtain ⟨b, hb⟩ := Option.isSome_iff_exists.mp h1
  exact ⟨b, hb, h2 b hb⟩

/-- a monadic fold whose steps are defined and each add one to a measure `m` is defined and adds the length of the list -/
theorem foldlM_tot_count {α β : Type} (f : β → α → Option β) (m : β → Nat) (l : List α)
    (h : ∀ b a, a ∈ l → ∃ b', f b a = some b' ∧ m b' = m b + 1) :
    ∀ b, ∃ b', l.foldlM f b = some b' ∧ m b' = m b + l.length := by
  induction l with
  | nil => intro b; exact ⟨b, rfl, rfl⟩
  | cons a l ih =>
    intro b
    obtain ⟨b1, h1, hm1⟩ := h b a List.mem_cons_self
    obtain ⟨b2, h2, hm2⟩ := ih (fun b a ha => h b a (List.mem_cons_of_mem _ ha)) b1
    exact ⟨b2, by rw [List.foldlM_cons, h1]; exact h2, by rw [hm2, hm1, List.length_cons]; omega⟩

/-- case analysis of an `if` in any position of the goal -/
theorem ite_ind {α : Sort _} {P : α → Prop} {c : Prop} [Decidable c] {a b : α} (ha : c → P a) (hb : ¬ c → P b) :
    P (if c then a else b) := by
  by_cases h : c
  · rw [if_pos h]; exact ha h
  · rw [if_neg h]; exact hb h

/-! ### the relation between a coarse cell and its outlet pixel -/

/-- `p` is a pit or drains into another coarse cell -/
def Exit (e : Env) (p : Nat) : Prop := e.ds[p]! = p ∨ e.cell e.ds[p]! ≠ e.cell p

theorem lt_of_cell_lt (e : Env) (p n : Nat) (hn : n ≤ e.ncell) (h : e.cell p < n) : p < e.ds.size := by
  unfold Env.cell at h
  split at h
  · assumption
  · omega

/-- every entry of the outlet array is acceptable for its cell -/
def OutOK (R : Nat → Nat → Prop) (out : Array Nat) : Prop := ∀ c, c < out.size → R c out[c]!

theorem distinct_of_own_cell {cell : Nat → Nat} {out : Array Nat} {mv : Nat}
    (h : ∀ c, c < out.size → out[c]! = mv ∨ cell out[c]! = c) {c c' : Nat} (hc : c < out.size) (hc' : c' < out.size)
    (hv : out[c]! ≠ mv) (heq : out[c]! = out[c']!) : c = c' := by
  rcases h c hc with h2 | h2
  · exact absurd h2 hv
  · rcases h c' hc' with h3 | h3
    · exact absurd (heq ▸ h3) hv
    · rw [← h2, ← h3, heq]

/-- every saved (cell, old outlet pixel) pair is acceptable -/
def SavedOK (R : Nat → Nat → Prop) (n : Nat) (ed : List (Nat × Nat)) : Prop := ∀ x ∈ ed, x.1 < n → R x.1 x.2

def Inv (R : Nat → Nat → Prop) (n : Nat) (out : Array Nat) (ed : List (Nat × Nat)) : Prop :=
  out.size = n ∧ OutOK R out ∧ SavedOK R n ed

theorem OutOK.set {R : Nat → Nat → Prop} {out : Array Nat} (h : OutOK R out) (c p : Nat)
    (hp : c < out.size → R c p) : OutOK R (out.setIfInBounds c p) := by
  intro c' hc'
  rw [Array.size_setIfInBounds] at hc'
  rw [get!_setIfInBounds]
  split
  · rename_i hh
    obtain ⟨rfl, hlt⟩ := hh
    exact hp hlt
  · exact h c' hc'

theorem Inv.nil {R : Nat → Nat → Prop} {n : Nat} {out : Array Nat} {ed : List (Nat × Nat)}
    (h : Inv R n out ed) : Inv R n out [] :=
  ⟨h.1, h.2.1, fun _ hx => by cases hx⟩

theorem S4.setDs_out (s : S4) (c v : Nat) : (s.setDs c v).out = s.out := by
  unfold S4.setDs; split <;> rfl

theorem S4.setDs_outEd (s : S4) (c v : Nat) : (s.setDs c v).outEd = s.outEd := by
  unfold S4.setDs; split <;> rfl

theorem Inv.setOut {R : Nat → Nat → Prop} {n : Nat} (s : S4) (c p : Nat) (h : Inv R n s.out s.outEd)
    (hp : c < n → R c p) : Inv R n (s.setOut c p).out (s.setOut c p).outEd := by
  unfold S4.setOut
  split
  · refine ⟨by simp [h.1], h.2.1.set c p (fun hc => hp (h.1 ▸ hc)), ?_⟩
    intro x hx hlt
    rcases List.mem_append.mp hx with hx | hx
    · exact h.2.2 x hx hlt
    · simp only [List.mem_singleton] at hx
      subst hx
      exact h.2.1 c (h.1 ▸ hlt)
  · exact h

theorem Inv.unroll {R : Nat → Nat → Prop} {n : Nat} (s : S4) (h : Inv R n s.out s.outEd) :
    Inv R n s.unroll.out s.unroll.outEd := by
  have key : ∀ (ed : List (Nat × Nat)) (out : Array Nat), out.size = n → OutOK R out → SavedOK R n ed →
      (ed.foldl (fun a x => a.setIfInBounds x.1 x.2) out).size = n ∧
        OutOK R (ed.foldl (fun a x => a.setIfInBounds x.1 x.2) out) := by
    intro ed
    induction ed with
    | nil => intro out hs ho _; exact ⟨hs, ho⟩
    | cons x ed ih =>
      intro out hs ho hsv
      rw [List.foldl_cons]
      refine ih _ (by simp [hs]) (ho.set x.1 x.2 (fun hc => hsv x List.mem_cons_self (hs ▸ hc)))
        (fun y hy => hsv y (List.mem_cons_of_mem _ hy))
  have := key s.outEd s.out h.1 h.2.1 h.2.2
  exact ⟨this.1, this.2, h.2.2⟩

theorem foldl_set_size (l : List (Nat × Nat)) : ∀ a : Array Nat,
    (l.foldl (fun a x => a.setIfInBounds x.1 x.2) a).size = a.size := by
  induction l with
  | nil => intro a; rfl
  | cons x l ih => intro a; rw [List.foldl_cons, ih]; simp

theorem S4.setDs_cds_size (s : S4) (c v : Nat) : (s.setDs c v).cds.size = s.cds.size := by
  unfold S4.setDs; split
  · simp
  · rfl

theorem S4.setOut_cds (s : S4) (c p : Nat) : (s.setOut c p).cds = s.cds := by
  unfold S4.setOut; split <;> rfl

theorem S4.unroll_cds_size (s : S4) : s.unroll.cds.size = s.cds.size :=
  foldl_set_size _ _

/-- what STEP 4 keeps whatever the networks are: the size of the coarse network array, and every entry of the outlet
array, current or saved, acceptable for its cell -/
def S4Inv (R : Nat → Nat → Prop) (n m : Nat) (s : S4) : Prop := s.cds.size = m ∧ Inv R n s.out s.outEd

section s4inv
variable {R : Nat → Nat → Prop} {n m : Nat} {s : S4}

theorem S4Inv.setDs (h : S4Inv R n m s) (c v : Nat) : S4Inv R n m (s.setDs c v) :=
  ⟨(S4.setDs_cds_size s c v).trans h.1, by rw [S4.setDs_out, S4.setDs_outEd]; exact h.2⟩

theorem S4Inv.setOut (h : S4Inv R n m s) (c p : Nat) (hp : c < n → R c p) : S4Inv R n m (s.setOut c p) :=
  ⟨by rw [S4.setOut_cds]; exact h.1, Inv.setOut s c p h.2 hp⟩

theorem S4Inv.unroll (h : S4Inv R n m s) : S4Inv R n m s.unroll :=
  ⟨(S4.unroll_cds_size s).trans h.1, Inv.unroll s h.2⟩

end s4inv

/-! ### STEP 1: the trace lists -/

/-- the alternative outlet pixels of the trace lie on the flow path (`Q`), are exit pixels of linked cells, and are listed
with their own coarse cell -/
def TraceOK (e : Env) (cds : Array Nat) (Q : Nat → Prop) (cells pixs : List Nat) : Prop :=
  cells = pixs.map e.cell ∧ ∀ p ∈ pixs, Q p ∧ Exit e p ∧ cds[e.cell p]! ≠ cds.size

theorem relocTrace_ok (e : Env) (cds out : Array Nat) (Q : Nat → Prop) (hQ : ∀ p, Q p → Q e.ds[p]!) :
    ∀ fuel subidx idx0 idxds0 cells pixs t, relocTrace e cds out fuel subidx idx0 idxds0 cells pixs = some t →
      Q subidx → idx0 = e.cell subidx → TraceOK e cds Q cells pixs → TraceOK e cds Q t.cells t.pixs := by
  intro fuel
  induction fuel with
  | zero => intro subidx idx0 idxds0 cells pixs t h; simp [relocTrace] at h
  | succ f ih =>
    intro subidx idx0 idxds0 cells pixs t h hq h0 htr
    rw [relocTrace] at h
    extract_lets stop keep pixs' cells' idxds0' at h
    by_cases h1 : (e.ds[subidx]! == subidx || idx0 != e.cell e.ds[subidx]!) = true
    · rw [if_pos h1] at h
      -- at a pit or an (alternative) outlet pixel
      have hexit : Exit e subidx := by
        simp only [Bool.or_eq_true, beq_iff_eq, bne_iff_ne] at h1
        exact h1.imp id fun hne heq => hne (by rw [h0, heq])
      have htr' : TraceOK e cds Q cells' pixs' := by
        by_cases hk : keep = true
        · simp only [cells', pixs', if_pos hk]
          refine ⟨by rw [htr.1, h0, List.map_append]; rfl, fun p hp => ?_⟩
          rcases List.mem_append.mp hp with hp | hp
          · exact htr.2 p hp
          · rw [List.mem_singleton.mp hp]
            exact ⟨hq, hexit, by rw [← h0]; simpa [keep] using hk⟩
        · simp only [cells', pixs', if_neg hk]; exact htr
      by_cases h2 : stop = true
      · rw [if_pos h2] at h; cases h; exact htr'
      · rw [if_neg h2] at h; exact ih _ _ _ _ _ _ h (hQ _ hq) rfl htr'
    · rw [if_neg h1] at h
      simp only [Bool.or_eq_true, beq_iff_eq, bne_iff_ne, not_or, Decidable.not_not] at h1
      exact ih _ _ _ _ _ _ h (hQ _ hq) h1.2 htr

/-! ### STEP 4 -/

/-- how the tributary loop @4D ends, at a pixel `p` of the flow path from `subidx`: the connection of `idx0` is declared a
bottleneck, nothing changes, `idx0` is re-pointed to the cell of the next outlet pixel, or - lateral relocation - `idx0` is
re-pointed to the cell `c` of `p`, the outlet pixel of `c` moves to `p` and `c` is linked to the cell `c00` of the next
outlet pixel -/
theorem tribLoop_cases (e : Env) (idx0 sds0 : Nat) (Q : Nat → Prop) (hQ : ∀ p, Q p → Q e.ds[p]!) :
    ∀ fuel subidx idxds0 path s s', tribLoop e idx0 sds0 fuel subidx idxds0 path s = some s' → Q subidx →
      (idxds0 = idx0 ∨ idxds0 = e.cell subidx) →
      s' = { s with nextiter := true,
                    bott := if s.bott.contains s.cds[idx0]! then s.bott else s.bott ++ [s.cds[idx0]!] } ∨
      s' = s ∨
      (∃ p, Q p ∧ inD8 idx0 (e.cell p) e.ncol = true ∧ s' = s.setDs idx0 (e.cell p)) ∨
      ∃ p q c00, Q p ∧ e.cell e.ds[p]! ≠ e.cell p ∧ s.outEdited (e.cell p) = false ∧
        inD8 idx0 (e.cell p) e.ncol = true ∧ nextOutlet e s.out (e.ds.size + 1) p = some (q, c00, true) ∧
        inD8 (e.cell p) c00 e.ncol = true ∧
        s' = ((s.setDs idx0 (e.cell p)).setDs (e.cell p) c00).setOut (e.cell p) p := by
  intro fuel
  induction fuel with
  | zero => intro subidx idxds0 path s s' h; simp [tribLoop] at h
  | succ f ih =>
    intro subidx idxds0 path s s' h hq h0
    rw [tribLoop] at h
    extract_lets ds0Edit ind8 go at h
    by_cases h1 : (e.ds[subidx]! == s.out[e.cell e.ds[subidx]!]! || e.ds[subidx]! == subidx) = true
    · rw [if_pos h1] at h
      by_cases h2 : (!ind8 && ds0Edit || !e.ds[subidx]! == s.out[e.cell e.ds[subidx]!]! && e.ds[subidx]! == subidx) = true
      · rw [if_pos h2] at h; cases h; exact .inl rfl
      · rw [if_neg h2] at h
        by_cases h3 : ind8 = true
        · rw [if_pos h3] at h; cases h; exact .inr (.inr (.inl ⟨_, hQ _ hq, h3, rfl⟩))
        · rw [if_neg h3] at h; cases h; exact .inr (.inl rfl)
    · rw [if_neg h1] at h
      by_cases h2 : (idxds0 != e.cell e.ds[subidx]! && idxds0 != idx0 && path.contains sds0 && !s.outEdited idxds0 &&
          inD8 idx0 idxds0 e.ncol) = true
      · rw [if_pos h2] at h
        cases hn : nextOutlet e s.out (e.ds.size + 1) subidx with
        | none => rw [hn] at h; cases h
        | some x =>
          obtain ⟨q, c00, o0⟩ := x
          rw [hn] at h
          dsimp only at h
          by_cases h3 : ((upstreamD8 s.cds idxds0 e.nrow e.ncol).isEmpty && o0 && !s.outEdited c00 && idxds0 != c00 &&
              inD8 idxds0 c00 e.ncol) = true
          · rw [if_pos h3] at h
            cases h
            simp only [Bool.and_eq_true, bne_iff_ne, ne_eq, Bool.not_eq_true'] at h2 h3
            have hcell : idxds0 = e.cell subidx := h0.resolve_left h2.1.1.1.2
            rw [hcell] at h2 h3 ⊢
            rw [h3.1.1.1.2] at hn
            exact .inr (.inr (.inr ⟨subidx, q, c00, hq, fun heq => h2.1.1.1.1 heq.symm, h2.1.2, h2.2, hn, h3.2, rfl⟩))
          · rw [if_neg h3] at h; exact ih _ _ _ _ _ h (hQ _ hq) (.inr rfl)
      · rw [if_neg h2] at h; exact ih _ _ _ _ _ h (hQ _ hq) (.inr rfl)
theorem tribLoop_inv (e : Env) (R : Nat → Nat → Prop) (n m : Nat) (hR : ∀ p, Exit e p → e.cell p < n → R (e.cell p) p)
    (idx0 sds0 fuel subidx idxds0 : Nat) (path : List Nat) (s s' : S4)
    (h : tribLoop e idx0 sds0 fuel subidx idxds0 path s = some s') (h0 : idxds0 = idx0 ∨ idxds0 = e.cell subidx)
    (hinv : S4Inv R n m s) : S4Inv R n m s' := by
  rcases tribLoop_cases e idx0 sds0 (fun _ => True) (fun _ _ => trivial) fuel subidx idxds0 path s s' h trivial h0 with
    rfl | rfl | ⟨p, _, _, rfl⟩ | ⟨p, q, c00, _, hne, _, _, _, _, rfl⟩
  · exact hinv
  · exact hinv
  · exact hinv.setDs _ _
  · exact ((hinv.setDs _ _).setDs _ _).setOut _ _ fun hlt => hR p (.inr hne) hlt

theorem getElem!_map_cell (e : Env) (pixs : List Nat) (j : Nat) (hj : j < pixs.length) :
    (pixs.map e.cell)[j]! = e.cell pixs[j]! := by
  simp [hj]

theorem getElem!_mem (l : List Nat) (j : Nat) (hj : j < l.length) : l[j]! ∈ l := by
  simp [hj]

/-- One pass of the loop @4A, walked once for both uses. `P` is a predicate of the state that ignores the bookkeeping
fields `idx1`, `nextiter`, `j0`, `k0` and is kept by "unroll edits"; `P'` is what holds between the main connection and
the end of the tributary loops @4C. Then `P` holds after the pass whenever it returns, and it returns whenever the
tributary loops it runs do. -/
theorem step4A_spec (e : Env) (cells pixs : List Nat) (tr : Tribs) (j : Nat) (s : S4) (P P' : S4 → Prop)
    (hfield : ∀ t t' : S4, t'.cds = t.cds → t'.out = t.out → t'.dsEd = t.dsEd → t'.outEd = t.outEd →
      t'.bott = t.bott → t'.idx0 = t.idx0 → P t → P t')
    (hunroll : ∀ t, P t → P t.unroll)
    (hmain : ∀ ks, step4Act e cells pixs tr { s with idx1 := cells[j]! } j = .update ks →
      P' ((({ s with idx1 := cells[j]! } : S4).setDs s.idx0 cells[j]!).setOut cells[j]! pixs[j]!))
    (htrib : ∀ ks k t t', step4Act e cells pixs tr { s with idx1 := cells[j]! } j = .update ks → k ∈ ks → P' t →
      tribLoop e tr.us0[k]! tr.sds0[k]! (e.ds.size + 1) t.out[tr.us0[k]!]! tr.us0[k]! [] t = some t' → P' t')
    (hdone : ∀ t, P' t → P { t with idx0 := cells[j]!, j0 := j + 1 }) (hp : P s) :
    (∀ s', step4A e cells pixs tr s j = some s' → P s') ∧
      ((∀ ks k t, step4Act e cells pixs tr { s with idx1 := cells[j]! } j = .update ks → k ∈ ks → P' t →
          (tribLoop e tr.us0[k]! tr.sds0[k]! (e.ds.size + 1) t.out[tr.us0[k]!]! tr.us0[k]! [] t).isSome = true) →
        (step4A e cells pixs tr s j).isSome = true) := by
  unfold step4A
  by_cases hn : s.nextiter = true
  · rw [if_pos hn]; exact ⟨fun s' h => by cases h; exact hp, fun _ => rfl⟩
  rw [if_neg hn]
  cases hact : step4Act e cells pixs tr { s with idx1 := cells[j]! } j with
  | fail => exact ⟨fun s' h => by cases h; exact hunroll _ (hfield s _ rfl rfl rfl rfl rfl rfl hp), fun _ => rfl⟩
  | keep => exact ⟨fun s' h => by cases h; exact hfield s _ rfl rfl rfl rfl rfl rfl hp, fun _ => rfl⟩
  | drop ks => exact ⟨fun s' h => by cases h; exact hfield s _ rfl rfl rfl rfl rfl rfl hp, fun _ => rfl⟩
  | update ks =>
    dsimp only
    unfold step4Update
    generalize hX : List.foldlM (m := Option) _ _ ks = X
    have h0 := hmain ks hact
    constructor
    · intro s' h
      cases X with
      | none => cases h
      | some s1 =>
        have h1 : P' s1 := by
          refine foldlM_inv _ P' _ (fun b k b' hk hb hstep => ?_) _ _ h0 hX
          by_cases hed : b.outEdited tr.us0[k]! = true
          · rw [if_pos hed] at hstep; cases hstep; exact hb
          · rw [if_neg hed] at hstep; exact htrib ks k b b' hact hk hb hstep
        dsimp only at h
        by_cases hni : s1.nextiter = true
        · rw [if_pos hni] at h; cases h; exact hunroll _ (hdone s1 h1)
        · rw [if_neg hni] at h; cases h; exact hdone s1 h1
    · intro hsome
      obtain ⟨s1, hs1, _⟩ : ∃ s1, X = some s1 ∧ P' s1 := by
        rw [← hX]
        refine foldlM_tot _ P' _ (fun b k hk hb => ?_) _ h0
        by_cases hed : b.outEdited tr.us0[k]! = true
        · rw [if_pos hed]; exact ⟨b, rfl, hb⟩
        · rw [if_neg hed]
          obtain ⟨b', hb'⟩ := Option.isSome_iff_exists.mp (hsome ks k b rfl hk hb)
          exact ⟨b', hb', htrib ks k b b' hact hk hb hb'⟩
      rw [hs1]
      simp only [apply_ite Option.isSome, Option.isSome_some, ite_self]

theorem step4A_inv (e : Env) (R : Nat → Nat → Prop) (n m : Nat) (hR : ∀ p, Exit e p → e.cell p < n → R (e.cell p) p)
    (cells pixs : List Nat) (tr : Tribs) {cds : Array Nat} (htr : TraceOK e cds (fun _ => True) cells pixs) (j : Nat)
    (hj : j < pixs.length)
    (s s' : S4) (h : step4A e cells pixs tr s j = some s') (hinv : S4Inv R n m s) : S4Inv R n m s' := by
  have hmain : cells[j]! < n → R cells[j]! pixs[j]! := by
    rw [htr.1, getElem!_map_cell e pixs j hj]
    exact hR _ (htr.2 _ (getElem!_mem pixs j hj)).2.1
  refine (step4A_spec e cells pixs tr j s (S4Inv R n m) (S4Inv R n m)
    (fun t t' h1 h2 _ h4 _ _ ht => ⟨h1 ▸ ht.1, by rw [h2, h4]; exact ht.2⟩) (fun t => S4Inv.unroll)
    (fun ks _ => ((show S4Inv R n m { s with idx1 := cells[j]! } from hinv).setDs _ _).setOut _ _ hmain)
    (fun ks k t t' _ _ ht h => tribLoop_inv e R n m hR _ _ _ _ _ _ _ _ h (Or.inl rfl) ht)
    (fun t ht => ht) hinv).1 s' h

theorem step4_inv (e : Env) (R : Nat → Nat → Prop) (n m : Nat) (hR : ∀ p, Exit e p → e.cell p < n → R (e.cell p) p) (idx00 : Nat)
    (cells pixs : List Nat) (tr : Tribs) {cds : Array Nat} (htr : TraceOK e cds (fun _ => True) cells pixs) :
    ∀ fuel s s', step4 e idx00 cells pixs tr fuel s = some s' → S4Inv R n m s → S4Inv R n m s' := by
  intro fuel
  induction fuel with
  | zero => intro s s' h; simp [step4] at h
  | succ f ih =>
    intro s s' h hinv
    simp only [step4] at h
    split at h
    · cases h
    · rename_i s1 hfold
      have h1 : S4Inv R n m s1 := by
        refine foldlM_inv _ (S4Inv R n m) _ ?_ _ _ ?_ hfold
        · intro b a b' ha hb hstep
          exact step4A_inv e R n m hR cells pixs tr htr a (List.mem_range.mp ha) b b' hstep hb
        · exact ⟨hinv.1, hinv.2.nil⟩
      split at h
      · exact ih _ _ h h1
      · simp only [Option.some.injEq] at h; subst h; exact h1

/-- state invariant of the outer loop -/
def RelInv (R : Nat → Nat → Prop) (n m : Nat) (st : RelSt) : Prop :=
  st.cds.size = m ∧ st.out.size = n ∧ OutOK R st.out

theorem relocOne_inv (e : Env) (R : Nat → Nat → Prop) (n m : Nat) (hR : ∀ p, Exit e p → e.cell p < n → R (e.cell p) p)
    (st st' : RelSt) (idx00 : Nat) (h : relocOne e st idx00 = some st') (hinv : RelInv R n m st) : RelInv R n m st' := by
  simp only [relocOne] at h
  split at h
  · cases h
  · rename_i t ht
    have htr : TraceOK e st.cds (fun _ => True) t.cells t.pixs :=
      relocTrace_ok e _ _ _ (fun _ _ => trivial) _ _ _ _ _ _ t ht trivial rfl ⟨rfl, fun _ hp => by cases hp⟩
    split at h
    · simp only [Option.some.injEq] at h; subst h; exact hinv
    · split at h
      · cases h
      · split at h
        · cases h
        · rename_i s hs
          simp only [Option.some.injEq] at h; subst h
          have h1 : S4Inv R n m s :=
            step4_inv e R n m hR idx00 t.cells t.pixs _ htr _ _ _ hs ⟨hinv.1, hinv.2.1, hinv.2.2, fun _ hx => by cases hx⟩
          show _ ∧ _ ∧ _
          simp only
          split
          · have h2 := h1.unroll
            exact ⟨h2.1, h2.2.1, h2.2.2.1⟩
          · exact ⟨h1.1, h1.2.1, h1.2.2.1⟩

theorem relocateOutlets_inv (e : Env) (R : Nat → Nat → Prop) (fix : List Nat) (cds out : Array Nat) (sorts : Sorts) (r : RelSt)
    (hR : ∀ p, Exit e p → e.cell p < out.size → R (e.cell p) p)
    (h : relocateOutlets e fix cds out sorts = some r) (ho : OutOK R out) :
    r.cds.size = cds.size ∧ r.out.size = out.size ∧ OutOK R r.out := by
  simp only [relocateOutlets] at h
  exact foldlM_inv _ (RelInv R out.size cds.size) _
    (fun b a b' _ hb hstep => relocOne_inv e R out.size cds.size hR b b' _ hstep hb) _ _ ⟨rfl, rfl, ho⟩ h

end Pf.C09ihu
