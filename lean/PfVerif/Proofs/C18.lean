import PfVerif.Model.C18
import PfVerif.Proofs.C03Topo
import PfVerif.Core.Folds
/-! Basics of C18: the explicit "first outlet on the downstream path" statement `LabelOK` and the partition lemma for
seeds + `fillnodata_upstream` (`fill_labelOK`), the invariant of the `idxs.append(idx); subbas[idx] = len(idxs)` idiom,
soundness of the executable walk and of the order check, the stable insertion sort, and the loops of
`subbasins_pfafstetter` one iteration at a time. -/
namespace Pf

/-! ### the statement every sub-basin map has to satisfy -/

/-- `v` is the label of cell `i`: 0 if no outlet lies on the downstream path of `i` (including `i`),
otherwise the label `labOf o` of the FIRST outlet `o` met walking downstream. The path is the
unbounded sequence `i, ds i, ds (ds i), …` (it becomes constant at a pit). -/
def LabelOK (ds : Array Nat) (isOut : Nat → Prop) (labOf : Nat → Int) (i : Nat) (v : Int) : Prop :=
  (v = 0 ∧ ∀ m, ¬ isOut (iterA ds m i)) ∨
  (∃ m, isOut (iterA ds m i) ∧ v = labOf (iterA ds m i) ∧ ∀ t, t < m → ¬ isOut (iterA ds t i))

theorem LabelOK.congr {ds : Array Nat} {isOut isOut' : Nat → Prop} {labOf labOf' : Nat → Int}
    {i : Nat} {v : Int} (h : LabelOK ds isOut labOf i v) (h1 : ∀ o, isOut o ↔ isOut' o)
    (h2 : ∀ o, isOut o → labOf o = labOf' o) : LabelOK ds isOut' labOf' i v := by
  rcases h with ⟨hv, hn⟩ | ⟨m, hm, hv, hn⟩
  · exact Or.inl ⟨hv, fun m hm => hn m ((h1 _).2 hm)⟩
  · exact Or.inr ⟨m, (h1 _).1 hm, by rw [hv, h2 _ hm], fun t ht hc => hn t ht ((h1 _).2 hc)⟩

/-- an outlet's own label: the first outlet on its path is itself -/
theorem LabelOK.at_outlet {ds : Array Nat} {isOut : Nat → Prop} {labOf : Nat → Int} {o : Nat} {v : Int}
    (h : LabelOK ds isOut labOf o v) (ho : isOut o) : v = labOf o := by
  rcases h with ⟨_, hn⟩ | ⟨m, _, hv, hn⟩
  · exact absurd ho (hn 0)
  · cases m with
    | zero => exact hv
    | succ m => exact absurd ho (hn 0 (Nat.succ_pos m))

/-- when outlet labels are non-zero: unlabelled ⇔ no outlet on the downstream path -/
theorem LabelOK.zero_iff {ds : Array Nat} {isOut : Nat → Prop} {labOf : Nat → Int} {i : Nat} {v : Int}
    (h : LabelOK ds isOut labOf i v) (hnz : ∀ o, isOut o → labOf o ≠ 0) :
    v = 0 ↔ ∀ m, ¬ isOut (iterA ds m i) := by
  constructor
  · intro hv
    rcases h with ⟨_, hn⟩ | ⟨m, hm, hv', _⟩
    · exact hn
    · exact absurd (hv ▸ hv').symm (hnz _ hm)
  · intro hn
    rcases h with ⟨hv, _⟩ | ⟨m, hm, _, _⟩
    · exact hv
    · exact absurd hm (hn m)

/-- the label is determined by the path: `LabelOK` is functional -/
theorem LabelOK.unique {ds : Array Nat} {isOut : Nat → Prop} {labOf : Nat → Int} {i : Nat} {v w : Int}
    (h1 : LabelOK ds isOut labOf i v) (h2 : LabelOK ds isOut labOf i w) : v = w := by
  rcases h1 with ⟨hv, hn⟩ | ⟨m, hm, hv, hn⟩
  · rcases h2 with ⟨hw, _⟩ | ⟨m', hm', _, _⟩
    · rw [hv, hw]
    · exact absurd hm' (hn m')
  · rcases h2 with ⟨_, hn'⟩ | ⟨m', hm', hw, hn'⟩
    · exact absurd hm (hn' m)
    · have : m = m' := by
        rcases Nat.lt_trichotomy m m' with h | h | h
        · exact absurd hm (hn' m h)
        · exact h
        · exact absurd hm' (hn m' h)
      subst this
      rw [hv, hw]

/-! `LabelOK` along one link: the three ways a label arises (`here`, `pit`, `step_up`), and back (`step_down`) -/

theorem LabelOK.here {ds : Array Nat} {isOut : Nat → Prop} {labOf : Nat → Int} {i : Nat} (h : isOut i) :
    LabelOK ds isOut labOf i (labOf i) :=
  Or.inr ⟨0, h, rfl, fun t ht => absurd ht (Nat.not_lt_zero t)⟩

theorem LabelOK.pit {ds : Array Nat} {isOut : Nat → Prop} {labOf : Nat → Int} {i : Nat} (h : ¬ isOut i)
    (hp : ds[i]! = i) : LabelOK ds isOut labOf i 0 :=
  Or.inl ⟨rfl, fun m => by rw [iterA_pit hp m]; exact h⟩

theorem LabelOK.step_up {ds : Array Nat} {isOut : Nat → Prop} {labOf : Nat → Int} {j : Nat} {v : Int}
    (h : LabelOK ds isOut labOf ds[j]! v) (hj : ¬ isOut j) : LabelOK ds isOut labOf j v := by
  rcases h with ⟨hv, hn⟩ | ⟨m, hm, hv, hn⟩
  · refine Or.inl ⟨hv, fun m => ?_⟩
    cases m with
    | zero => exact hj
    | succ m => exact hn m
  · refine Or.inr ⟨m + 1, hm, hv, fun t ht => ?_⟩
    cases t with
    | zero => exact hj
    | succ t => exact hn t (Nat.lt_of_succ_lt_succ ht)

/-- a cell that is not an outlet has the label of its downstream cell (upstream closure) -/
theorem LabelOK.step_down {ds : Array Nat} {isOut : Nat → Prop} {labOf : Nat → Int} {j : Nat} {v : Int}
    (h : LabelOK ds isOut labOf j v) (hj : ¬ isOut j) : LabelOK ds isOut labOf ds[j]! v := by
  rcases h with ⟨hv, hn⟩ | ⟨m, hm, hv, hn⟩
  · exact Or.inl ⟨hv, fun m => hn (m + 1)⟩
  · cases m with
    | zero => exact absurd hm hj
    | succ m => exact Or.inr ⟨m, hm, hv, fun t ht => hn (t + 1) (Nat.succ_lt_succ ht)⟩

theorem LabelOK.eq_down {ds : Array Nat} {isOut : Nat → Prop} {labOf : Nat → Int} {j : Nat} {v w : Int}
    (h : LabelOK ds isOut labOf j v) (hd : LabelOK ds isOut labOf ds[j]! w) (hj : ¬ isOut j) : v = w :=
  (h.step_down hj).unique hd

/-! ### `fillnodata_upstream` with nodata 0, cell by cell -/

theorem amap_get! {f : Int → Int} (a : Array Int) (i : Nat) (h : i < a.size) :
    (amap f a)[i]! = f a[i]! := by
  simp [amap, h]

theorem amap_fill_get! (f : Int → Int) {ds : Array Nat} {seq : List Nat} {data : Array Int} {nd : Int} {i : Nat}
    (h : i < data.size) :
    (amap f (fillnodataUpstream ds seq data nd))[i]! = f (fillnodataUpstream ds seq data nd)[i]! :=
  amap_get! _ i (by simpa [fillnodataUpstream] using h)

theorem size_amap_fill (f : Int → Int) {ds : Array Nat} {seq : List Nat} {data : Array Int} {nd : Int} :
    (amap f (fillnodataUpstream ds seq data nd)).size = data.size := by
  simp [amap, fillnodataUpstream]

section fill
variable {ds : Array Nat} {seq : List Nat} {data : Array Int}

/-- a seeded cell keeps its seed (inside or outside the swept cells) -/
theorem fill_of_ne (htopo : Topo ds seq) (hb : ∀ i ∈ seq, i < data.size) {o : Nat} (h : data[o]! ≠ 0) :
    (fillnodataUpstream ds seq data 0)[o]! = data[o]! := by
  obtain ⟨hrec, hout⟩ := sweepDown_rec ds (gFillNd 0) data seq htopo hb
  by_cases ho : o ∈ seq
  · exact (hrec o ho).trans (by simp [gFillNd, h])
  · exact hout o ho

theorem fill_pit (htopo : Topo ds seq) (hb : ∀ i ∈ seq, i < data.size) {i : Nat} (hi : i ∈ seq)
    (h : data[i]! = 0) (hp : ds[i]! = i) : (fillnodataUpstream ds seq data 0)[i]! = 0 :=
  ((sweepDown_rec ds (gFillNd 0) data seq htopo hb).1 i hi).trans (by simp [gFillNd, h, hp])

theorem fill_down (htopo : Topo ds seq) (hb : ∀ i ∈ seq, i < data.size) {i : Nat} (hi : i ∈ seq)
    (h : data[i]! = 0) (hp : ds[i]! ≠ i) :
    (fillnodataUpstream ds seq data 0)[i]! = (fillnodataUpstream ds seq data 0)[ds[i]!]! := by
  refine ((sweepDown_rec ds (gFillNd 0) data seq htopo hb).1 i hi).trans ?_
  simp only [gFillNd, h, hp, if_false, true_and, fillnodataUpstream]
  split
  · rfl
  · rename_i h0; exact (Classical.not_not.1 h0).symm

/-- **seeds + fill = partition by first outlet.** If a seeded cell that is not an outlet is not a pit and carries the
seed of its downstream cell, then after `fillnodata_upstream` every swept cell carries the label of the first outlet on
its downstream path, 0 if there is none (labels read through any `g` with `g 0 = 0`). -/
theorem fill_labelOK (htopo : Topo ds seq) (hb : ∀ i ∈ seq, i < data.size) {isOut : Nat → Prop}
    (hdown : ∀ s ∈ seq, data[s]! ≠ 0 → ¬ isOut s → ds[s]! ≠ s ∧ data[ds[s]!]! = data[s]!)
    (g : Int → Int) (hg : g 0 = 0) :
    ∀ i ∈ seq, LabelOK ds isOut (fun o => g (fillnodataUpstream ds seq data 0)[o]!) i
      (g (fillnodataUpstream ds seq data 0)[i]!) := by
  refine htopo.induction _ (fun j hj ih => ?_)
  by_cases ho : isOut j
  · exact LabelOK.here ho
  · by_cases hp : ds[j]! = j
    · have h0 : data[j]! = 0 := Classical.byContradiction fun hne => (hdown j hj hne ho).1 hp
      rw [fill_pit htopo hb hj h0 hp, hg]
      exact LabelOK.pit ho hp
    · have : (fillnodataUpstream ds seq data 0)[j]! = (fillnodataUpstream ds seq data 0)[ds[j]!]! := by
        by_cases h0 : data[j]! = 0
        · exact fill_down htopo hb hj h0 hp
        · have hd := (hdown j hj h0 ho).2
          rw [fill_of_ne htopo hb h0, fill_of_ne htopo hb (hd ▸ h0), hd]
      rw [this]
      exact (ih hp).2.step_up ho

end fill

/-! ### invariant of the seeding idiom -/

/-- `subbas` holds `k+1` at the `k`-th appended cell and 0 everywhere else; appended cells are
distinct and in range -/
structure SeedInv (n : Nat) (st : Seeds) : Prop where
  size : st.1.size = n
  lt : ∀ o ∈ st.2, o < n
  nodup : st.2.Nodup
  lab : ∀ (k o : Nat), st.2[k]? = some o → st.1[o]! = (k : Int) + 1
  zero : ∀ i, i ∉ st.2 → st.1[i]! = 0

theorem SeedInv.init (n : Nat) : SeedInv n (Array.replicate n 0, []) where
  size := by simp
  lt := by simp
  nodup := List.nodup_nil
  lab := by simp
  zero := fun i _ => get!_replicate n i (.inr rfl)

theorem SeedInv.push {n : Nat} {st : Seeds} (h : SeedInv n st) {idx : Nat} (hlt : idx < n)
    (hnew : idx ∉ st.2) : SeedInv n (pushOutlet st idx) where
  size := by simp [pushOutlet, h.size]
  lt := by
    intro o ho
    rcases List.mem_append.1 ho with ho | ho
    · exact h.lt o ho
    · rw [List.mem_singleton.1 ho]; exact hlt
  nodup := by
    refine List.nodup_append.2 ⟨h.nodup, by simp, fun a ha b hb hab => ?_⟩
    rw [List.mem_singleton.1 hb] at hab
    exact hnew (hab ▸ ha)
  lab := by
    intro k o hk
    change (st.2 ++ [idx])[k]? = some o at hk
    show (st.1.setIfInBounds idx _)[o]! = _
    rw [List.getElem?_append] at hk
    split at hk
    · rw [get!_set_ne (fun hc : o = idx => hnew (hc ▸ List.mem_of_getElem? hk))]
      exact h.lab k o hk
    · rw [List.getElem?_singleton] at hk
      split at hk
      · rw [← Option.some.inj hk, get!_set_self (h.size ▸ hlt)]
        have : k = st.2.length := by omega
        rw [this]; rfl
      · cases hk
  zero := by
    intro i hi
    have hi' := not_or.1 (fun hc => hi (List.mem_append.2 (hc.imp id List.mem_singleton.2)))
    show (st.1.setIfInBounds idx _)[i]! = 0
    rw [get!_set_ne hi'.2]
    exact h.zero i hi'.1

theorem SeedInv.mem_iff {n : Nat} {st : Seeds} (h : SeedInv n st) (o : Nat) :
    st.1[o]! ≠ 0 ↔ o ∈ st.2 := by
  constructor
  · exact fun hne => Classical.byContradiction fun hc => hne (h.zero o hc)
  · intro ho
    obtain ⟨k, hk⟩ := List.mem_iff_getElem?.1 ho
    rw [h.lab k o hk]
    omega

section pushFold
variable {σ : Type} (dec : σ → Nat → Bool) (next : σ → Nat → σ)

theorem pushFold_cons (x : Nat) (l : List Nat) (acc : σ × Seeds) :
    pushFold dec next (x :: l) acc = pushFold dec next l (pushStep dec next acc x) := rfl

theorem pushStep_snd_mem (acc : σ × Seeds) (x o : Nat) :
    o ∈ (pushStep dec next acc x).2.2 ↔ o ∈ acc.2.2 ∨ (o = x ∧ dec acc.1 x = true) := by
  unfold pushStep
  by_cases hd : dec acc.1 x = true
  · simp [hd, pushOutlet]
  · simp [hd]

/-- the seeding invariant survives any loop of this shape over distinct in-range cells -/
theorem pushFold_inv (n : Nat) : ∀ (l : List Nat) (acc : σ × Seeds), l.Nodup →
    (∀ x ∈ l, x < n ∧ x ∉ acc.2.2) → SeedInv n acc.2 → SeedInv n (pushFold dec next l acc).2 := by
  intro l
  induction l with
  | nil => intro acc _ _ h; exact h
  | cons x l ih =>
    intro acc hnd hx hinv
    rw [pushFold_cons]
    have hnd' := List.nodup_cons.1 hnd
    apply ih _ hnd'.2
    · intro y hy
      refine ⟨(hx y (by simp [hy])).1, ?_⟩
      rw [pushStep_snd_mem]
      rintro (h | ⟨h, _⟩)
      · exact (hx y (by simp [hy])).2 h
      · exact hnd'.1 (h ▸ hy)
    · unfold pushStep
      by_cases hd : dec acc.1 x = true
      · simp only [hd, if_true]
        exact hinv.push (hx x (by simp)).1 (hx x (by simp)).2
      · simp only [hd]; exact hinv

/-- whatever was appended passed the test -/
theorem pushFold_mem (Q : Nat → Prop) (hQ : ∀ s x, dec s x = true → Q x) :
    ∀ (l : List Nat) (acc : σ × Seeds) (o : Nat), o ∈ (pushFold dec next l acc).2.2 →
      o ∈ acc.2.2 ∨ (o ∈ l ∧ Q o) := by
  intro l
  induction l with
  | nil => intro acc o h; exact Or.inl h
  | cons x l ih =>
    intro acc o h
    rw [pushFold_cons] at h
    rcases ih _ o h with h1 | ⟨h1, h2⟩
    · rw [pushStep_snd_mem] at h1
      rcases h1 with h1 | ⟨h1, h2⟩
      · exact Or.inl h1
      · subst h1; exact Or.inr ⟨by simp, hQ _ _ h2⟩
    · exact Or.inr ⟨by simp [h1], h2⟩

theorem pushFold_mono : ∀ (l : List Nat) (acc : σ × Seeds) (o : Nat), o ∈ acc.2.2 →
    o ∈ (pushFold dec next l acc).2.2 := by
  intro l
  induction l with
  | nil => intro acc o h; exact h
  | cons x l ih =>
    intro acc o h
    rw [pushFold_cons]
    exact ih _ o ((pushStep_snd_mem dec next acc x o).2 (Or.inl h))

/-- a cell that passes the test in every state is appended -/
theorem pushFold_mem_of_dec : ∀ (l : List Nat) (acc : σ × Seeds) (x : Nat), x ∈ l →
    (∀ s, dec s x = true) → x ∈ (pushFold dec next l acc).2.2 := by
  intro l
  induction l with
  | nil => intro acc x h; cases h
  | cons y l ih =>
    intro acc x hx hd
    rw [pushFold_cons]
    rcases List.mem_cons.1 hx with h | h
    · subst h
      exact pushFold_mono dec next l _ x ((pushStep_snd_mem dec next acc x x).2 (Or.inr ⟨rfl, hd _⟩))
    · exact ih _ x h hd

end pushFold

/-- with a state-independent test the appended cells are exactly the cells passing it, in loop order -/
theorem pushFold_filter {σ : Type} (p : Nat → Bool) (next : σ → Nat → σ) :
    ∀ (l : List Nat) (acc : σ × Seeds),
      (pushFold (fun _ x => p x) next l acc).2.2 = acc.2.2 ++ l.filter p := by
  intro l
  induction l with
  | nil => intro acc; simp [pushFold]
  | cons x l ih =>
    intro acc
    rw [pushFold_cons, ih]
    unfold pushStep
    by_cases hp : p x = true
    · simp [hp, pushOutlet]
    · simp [hp]

/-! ### seeds + fill = partition by first outlet -/

theorem fill_seeds_partition (ds : Array Nat) (seq : List Nat) (st : Seeds)
    (htopo : Topo ds seq) (hb : ∀ i ∈ seq, i < ds.size) (hinv : SeedInv ds.size st)
    (hsub : ∀ o ∈ st.2, o ∈ seq) :
    (∀ (k o : Nat), st.2[k]? = some o → (fillnodataUpstream ds seq st.1 0)[o]! = (k : Int) + 1) ∧
    (∀ i ∈ seq, LabelOK ds (· ∈ st.2) (fun o => (fillnodataUpstream ds seq st.1 0)[o]!) i
      (fillnodataUpstream ds seq st.1 0)[i]!) ∧
    (∀ i, i ∉ seq → (fillnodataUpstream ds seq st.1 0)[i]! = 0) := by
  have hb' : ∀ i ∈ seq, i < st.1.size := fun i hi => by rw [hinv.size]; exact hb i hi
  refine ⟨fun k o hk => ?_, ?_, fun i hi => ?_⟩
  · rw [fill_of_ne htopo hb' ((hinv.mem_iff o).2 (List.mem_of_getElem? hk))]
    exact hinv.lab k o hk
  · exact fill_labelOK htopo hb' (fun s _ hne hs => absurd ((hinv.mem_iff s).1 hne) hs) id rfl
  · rw [show (fillnodataUpstream ds seq st.1 0)[i]! = st.1[i]! from fill_untouched ds st.1 0 seq htopo hb' i hi]
    exact hinv.zero i (fun h => hi (hsub i h))

/-- for labels `k+1` at the `k`-th outlet: unlabelled ⇔ no outlet on the downstream path -/
theorem LabelOK.zero_iff_of_ids {ds : Array Nat} {outs : List Nat} {lab : Array Int} {i : Nat}
    (h : LabelOK ds (· ∈ outs) (fun o => lab[o]!) i lab[i]!)
    (hids : ∀ (k o : Nat), outs[k]? = some o → lab[o]! = (k : Int) + 1) :
    lab[i]! = 0 ↔ ∀ m, iterA ds m i ∉ outs :=
  h.zero_iff fun o ho => by
    obtain ⟨k, hk⟩ := List.mem_iff_getElem?.1 ho
    show lab[o]! ≠ 0
    rw [hids k o hk]; omega

/-! ### soundness of the executable walk used by `subOK` -/

/-- the walk finds the first flagged cell downstream: its answer, read through `labOf`, is the label of the
start cell -/
theorem firstOutletWalk_labelOK (ds : Array Nat) (out : Array Bool) (labOf : Nat → Int) :
    ∀ (f i : Nat) (r : Option Nat), firstOutletWalk ds out f i = some r →
      LabelOK ds (fun o => out[o]! = true) labOf i (match r with | none => 0 | some o => labOf o) := by
  intro f
  induction f with
  | zero => intro i r h; simp [firstOutletWalk] at h
  | succ f ih =>
    intro i r h
    simp only [firstOutletWalk] at h
    split at h
    · rename_i h1; cases h; exact LabelOK.here h1
    · rename_i h1
      split at h
      · rename_i h2; cases h; exact LabelOK.pit h1 h2
      · exact (ih _ r h).step_up h1

theorem outletFlags_aux (l : List Nat) : ∀ (a : Array Bool) (i : Nat),
    (l.foldl (fun a o => a.setIfInBounds o true) a)[i]! = true ↔
      a[i]! = true ∨ (i ∈ l ∧ i < a.size) := by
  induction l with
  | nil => intro a i; simp
  | cons x l ih =>
    intro a i
    rw [List.foldl_cons, ih, get!_setIfInBounds]
    simp only [Array.size_setIfInBounds, List.mem_cons]
    by_cases hx : x = i
    · subst hx
      by_cases hs : x < a.size
      · simp [hs]
      · simp [hs]
    · have hx' : ¬ i = x := fun h => hx h.symm
      simp [hx, hx']

theorem outletFlags_iff (n : Nat) (l : List Nat) (i : Nat) :
    (outletFlags n l)[i]! = true ↔ (i ∈ l ∧ i < n) := by
  unfold outletFlags
  rw [outletFlags_aux]
  have : (Array.replicate n false)[i]! = false := by
    by_cases h : i < n
    · simp [h]
    · simp [h]
  simp [this]

/-! ### the executable checks of the order and of `idxs_us_main` -/

/-- `isTopo` (the `topo` flag every C18 op reports on the order the implementation actually used) gives the hypotheses
`Topo ds seq` and `∀ i ∈ seq, i < ds.size` of the partition theorems -/
theorem isTopo_sound (ds : Array Nat) (seq : List Nat) (h : isTopo ds seq = true) :
    Topo ds seq ∧ ∀ i ∈ seq, i < ds.size :=
  isTopo_sound' ds seq h

/-- what the executable check of `idxs_us_main` gives: a main upstream cell drains to its cell -/
theorem usMainOK_spec {ds usMain : Array Nat} (h : usMainOK ds usMain = true) :
    ∀ i, i < ds.size → usMain[i]! < ds.size → usMain[i]! ≠ i ∧ ds[usMain[i]!]! = i := by
  intro i hi hu
  unfold usMainOK at h
  simp only [Bool.and_eq_true, beq_iff_eq, List.all_eq_true, List.mem_range, Bool.or_eq_true,
    decide_eq_true_eq, bne_iff_ne, ne_eq] at h
  rcases h.2 i hi with h1 | h1
  · omega
  · exact ⟨h1.1.2, h1.2⟩

/-! ### the stable insertion sort -/

theorem mem_insertDesc_iff (key : Nat → Int) (x y : Nat) (l : List Nat) :
    y ∈ insertDesc key x l ↔ y = x ∨ y ∈ l := by
  induction l with
  | nil => simp [insertDesc]
  | cons z r ih =>
    simp only [insertDesc]
    split
    · rw [List.mem_cons, ih, List.mem_cons]; exact or_left_comm
    · rw [List.mem_cons]

theorem mem_insertDesc (key : Nat → Int) (x y : Nat) (l : List Nat) :
    y ∈ insertDesc key x l → y = x ∨ y ∈ l :=
  (mem_insertDesc_iff key x y l).1

theorem mem_sortDesc (key : Nat → Int) (l : List Nat) (y : Nat) : y ∈ sortDesc key l → y ∈ l := by
  unfold sortDesc
  suffices h : ∀ acc : List Nat, y ∈ l.foldl (fun acc x => insertDesc key x acc) acc → y ∈ acc ∨ y ∈ l by
    intro hy; rcases h [] hy with h | h
    · cases h
    · exact h
  induction l with
  | nil => intro acc h; exact Or.inl h
  | cons x l ih =>
    intro acc h
    rw [List.foldl_cons] at h
    rcases ih _ h with h | h
    · rcases mem_insertDesc key x y acc h with h | h
      · exact Or.inr (by simp [h])
      · exact Or.inl h
    · exact Or.inr (by simp [h])

/-- the insertion sort sorts: keys are non-increasing along the result -/
theorem insertDesc_sorted (key : Nat → Int) (x : Nat) (l : List Nat)
    (h : l.Pairwise (fun a b => key a ≥ key b)) :
    (insertDesc key x l).Pairwise (fun a b => key a ≥ key b) := by
  induction l with
  | nil => simp [insertDesc]
  | cons z r ih =>
    simp only [insertDesc]
    have hz := List.pairwise_cons.1 h
    split
    · rename_i hzx
      refine List.pairwise_cons.2 ⟨fun b hb => ?_, ih hz.2⟩
      rcases mem_insertDesc key x b r hb with hb | hb
      · subst hb; exact hzx
      · exact hz.1 b hb
    · rename_i hzx
      refine List.pairwise_cons.2 ⟨fun b hb => ?_, h⟩
      rcases List.mem_cons.1 hb with hb | hb
      · subst hb; omega
      · have := hz.1 b hb; omega

theorem sortDesc_sorted (key : Nat → Int) (l : List Nat) :
    (sortDesc key l).Pairwise (fun a b => key a ≥ key b) := by
  unfold sortDesc
  suffices h : ∀ acc : List Nat, acc.Pairwise (fun a b => key a ≥ key b) →
      (l.foldl (fun acc x => insertDesc key x acc) acc).Pairwise (fun a b => key a ≥ key b) from
    h [] List.Pairwise.nil
  induction l with
  | nil => intro acc h; exact h
  | cons x l ih => intro acc h; rw [List.foldl_cons]; exact ih _ (insertDesc_sorted key x acc h)

theorem insertDesc_length (key : Nat → Int) (x : Nat) (l : List Nat) :
    (insertDesc key x l).length = l.length + 1 := by
  induction l with
  | nil => rfl
  | cons y r ih =>
    simp only [insertDesc]
    split <;> simp [ih]

theorem sortDesc_length (key : Nat → Int) (l : List Nat) : (sortDesc key l).length = l.length := by
  unfold sortDesc
  suffices h : ∀ acc : List Nat, (l.foldl (fun acc x => insertDesc key x acc) acc).length = acc.length + l.length by
    simpa using h []
  induction l with
  | nil => intro acc; rfl
  | cons x l ih =>
    intro acc
    rw [List.foldl_cons, ih, insertDesc_length]
    simp only [List.length_cons]
    omega

theorem insertDesc_nodup (key : Nat → Int) (x : Nat) (l : List Nat) (hx : x ∉ l) (h : l.Nodup) :
    (insertDesc key x l).Nodup := by
  induction l with
  | nil => simp [insertDesc]
  | cons z r ih =>
    simp only [insertDesc]
    have hz := List.nodup_cons.1 h
    split
    · refine List.nodup_cons.2 ⟨fun hm => ?_, ih (fun hm => hx (List.mem_cons_of_mem _ hm)) hz.2⟩
      rcases mem_insertDesc key x z r hm with hm | hm
      · exact hx (by simp [hm])
      · exact hz.1 hm
    · exact List.nodup_cons.2 ⟨hx, h⟩

theorem sortDesc_nodup (key : Nat → Int) (l : List Nat) (h : l.Nodup) : (sortDesc key l).Nodup := by
  unfold sortDesc
  suffices hs : ∀ acc : List Nat, acc.Nodup → (∀ x ∈ l, x ∉ acc) →
      (l.foldl (fun acc x => insertDesc key x acc) acc).Nodup from
    hs [] List.nodup_nil (fun _ _ hm => by cases hm)
  induction l with
  | nil => intro acc ha _; exact ha
  | cons x l ih =>
    intro acc ha hd
    rw [List.foldl_cons]
    have hx := List.nodup_cons.1 h
    refine ih hx.2 _ (insertDesc_nodup key x acc (hd x (by simp)) ha) (fun y hy hm => ?_)
    rcases mem_insertDesc key x y acc hm with hm | hm
    · exact hx.1 (hm ▸ hy)
    · exact hd y (List.mem_cons_of_mem _ hy) hm

/-! ### the loops of `subbasins_pfafstetter`, one iteration at a time -/

/-- the selected tributaries `idxs_trib0s` of one pop -/
@[reducible] def pfSel (ds : Array Nat) (uparea br : Array Int) (trib : List Nat) (pfaf0 : Int) : List Nat :=
  sortDesc (fun i => uparea[ds[i]!]!)
    (List.take 4 (sortDesc (fun i => uparea[i]!)
      (List.filter (fun idx => br[idx]! == 0 && br[ds[idx]!]! == pfaf0) trib)))

theorem pfSel_mem {ds : Array Nat} {uparea br : Array Int} {trib : List Nat} {pfaf0 : Int} {y : Nat}
    (hy : y ∈ pfSel ds uparea br trib pfaf0) : y ∈ trib ∧ br[y]! = 0 ∧ br[ds[y]!]! = pfaf0 := by
  have h := List.mem_filter.1 (mem_sortDesc _ _ _ (List.mem_of_mem_take (mem_sortDesc _ _ _ hy)))
  simpa using h

theorem pfSel_length (ds : Array Nat) (uparea br : Array Int) (trib : List Nat) (pfaf0 : Int) :
    (pfSel ds uparea br trib pfaf0).length ≤ 4 := by
  unfold pfSel
  rw [sortDesc_length, List.length_take]; omega

theorem pfSel_props (ds : Array Nat) (uparea br : Array Int) (trib : List Nat) (pfaf0 : Int)
    (hnd : trib.Nodup) :
    (∀ y ∈ pfSel ds uparea br trib pfaf0, y ∈ trib ∧ br[y]! = 0 ∧ br[ds[y]!]! = pfaf0) ∧
    (pfSel ds uparea br trib pfaf0).length ≤ 4 ∧
    (pfSel ds uparea br trib pfaf0).Pairwise (fun a b => uparea[ds[a]!]! ≥ uparea[ds[b]!]!) ∧
    (pfSel ds uparea br trib pfaf0).Nodup := by
  refine ⟨fun y hy => pfSel_mem hy, pfSel_length _ _ _ _ _, sortDesc_sorted _ _, ?_⟩
  · apply sortDesc_nodup
    apply List.Nodup.sublist (List.take_sublist _ _)
    apply sortDesc_nodup
    exact hnd.sublist List.filter_sublist

/-- one iteration of `pfInner`: the sub-basin fill, then either nothing (the inter-basin outlet was returned already) or
the inter-basin fill -/
theorem pfInner_cons {ds usMain : Array Nat} {so : Array Int} {depth : Nat} {pfaf0 : Int} {d0 idx : Nat}
    {rest : List Nat} {i : Nat} {br : Array Int} {idxs : List Nat} {labs : List (Int × Nat)} {intDs : Int}
    {ok : Bool} {r : PfSt × Int × Bool}
    (h : pfInner ds usMain so depth pfaf0 d0 (idx :: rest) i ((br, idxs, labs), intDs, ok) = some r) :
    let sub := pfaf0 + (2 * (i : Int) + 1) * (10 : Int) ^ (depth - d0)
    let pint := pfaf0 + ((i : Int) + 1) * 2 * (10 : Int) ^ (depth - d0)
    let idx1 := usMain[ds[idx]!]!
    let labs1 := if d0 < depth then labs ++ [(sub, d0 + 1)] else labs
    ∃ br1, stemFill usMain ds.size (fun u _ => so[u]! == 0) sub (ds.size + 2) idx (br.setIfInBounds idx sub) = some br1 ∧
      ((idx1 ∈ idxs ++ [idx] ∧
        pfInner ds usMain so depth pfaf0 d0 rest (i + 1) ((br1, idxs ++ [idx], labs1), intDs, ok) = some r) ∨
       (idx1 ∉ idxs ++ [idx] ∧
        ∃ br2, stemFill usMain ds.size (fun _ x => x != intDs) pint (ds.size + 2) idx1
            (br1.setIfInBounds idx1 pint) = some br2 ∧
          pfInner ds usMain so depth pfaf0 d0 rest (i + 1)
            ((br2, idxs ++ [idx] ++ [idx1], if d0 < depth then labs1 ++ [(pint, d0 + 1)] else labs1), pint,
              ok && decide (idx1 < ds.size) && (br1[idx1]! == 0 || br1[idx1]! == intDs)) = some r)) := by
  simp only [pfInner] at h
  split at h
  · cases h
  · rename_i br1 h1
    refine ⟨br1, h1, ?_⟩
    by_cases hc : (idxs ++ [idx]).contains usMain[ds[idx]!]! = true
    · rw [if_pos hc] at h
      exact Or.inl ⟨by simpa using hc, h⟩
    · rw [if_neg hc] at h
      split at h
      · cases h
      · rename_i br2 h2
        exact Or.inr ⟨by simpa using hc, br2, h2, h⟩

theorem pfInner_nil (ds usMain : Array Nat) (so : Array Int) (depth : Nat) (pfaf0 : Int) (d0 i : Nat)
    (st : PfSt × Int × Bool) : pfInner ds usMain so depth pfaf0 d0 [] i st = some st := by
  simp only [pfInner]

/-- the two ways an iteration of `pfInner` goes on, read forwards -/
theorem pfInner_skip {ds usMain : Array Nat} {so : Array Int} {depth : Nat} {pfaf0 : Int} {d0 idx : Nat}
    {rest : List Nat} {i : Nat} {br br1 : Array Int} {idxs : List Nat} {labs : List (Int × Nat)} {intDs : Int}
    {ok : Bool}
    (h1 : stemFill usMain ds.size (fun u _ => so[u]! == 0) (pfaf0 + (2 * (i : Int) + 1) * (10 : Int) ^ (depth - d0))
      (ds.size + 2) idx (br.setIfInBounds idx (pfaf0 + (2 * (i : Int) + 1) * (10 : Int) ^ (depth - d0))) = some br1)
    (hc : usMain[ds[idx]!]! ∈ idxs ++ [idx]) :
    pfInner ds usMain so depth pfaf0 d0 (idx :: rest) i ((br, idxs, labs), intDs, ok) =
      pfInner ds usMain so depth pfaf0 d0 rest (i + 1) ((br1, idxs ++ [idx],
        if d0 < depth then labs ++ [(pfaf0 + (2 * (i : Int) + 1) * (10 : Int) ^ (depth - d0), d0 + 1)] else labs),
        intDs, ok) := by
  simp only [pfInner, h1]
  rw [if_pos (by simpa using hc)]

theorem pfInner_int {ds usMain : Array Nat} {so : Array Int} {depth : Nat} {pfaf0 : Int} {d0 idx : Nat}
    {rest : List Nat} {i : Nat} {br br1 br2 : Array Int} {idxs : List Nat} {labs : List (Int × Nat)} {intDs : Int}
    {ok : Bool}
    (h1 : stemFill usMain ds.size (fun u _ => so[u]! == 0) (pfaf0 + (2 * (i : Int) + 1) * (10 : Int) ^ (depth - d0))
      (ds.size + 2) idx (br.setIfInBounds idx (pfaf0 + (2 * (i : Int) + 1) * (10 : Int) ^ (depth - d0))) = some br1)
    (hc : usMain[ds[idx]!]! ∉ idxs ++ [idx])
    (h2 : stemFill usMain ds.size (fun _ x => x != intDs) (pfaf0 + ((i : Int) + 1) * 2 * (10 : Int) ^ (depth - d0))
      (ds.size + 2) usMain[ds[idx]!]!
      (br1.setIfInBounds usMain[ds[idx]!]! (pfaf0 + ((i : Int) + 1) * 2 * (10 : Int) ^ (depth - d0))) = some br2) :
    pfInner ds usMain so depth pfaf0 d0 (idx :: rest) i ((br, idxs, labs), intDs, ok) =
      pfInner ds usMain so depth pfaf0 d0 rest (i + 1) ((br2, idxs ++ [idx] ++ [usMain[ds[idx]!]!],
        if d0 < depth then
          (if d0 < depth then labs ++ [(pfaf0 + (2 * (i : Int) + 1) * (10 : Int) ^ (depth - d0), d0 + 1)] else labs) ++
            [(pfaf0 + ((i : Int) + 1) * 2 * (10 : Int) ^ (depth - d0), d0 + 1)]
        else if d0 < depth then labs ++ [(pfaf0 + (2 * (i : Int) + 1) * (10 : Int) ^ (depth - d0), d0 + 1)] else labs),
        pfaf0 + ((i : Int) + 1) * 2 * (10 : Int) ^ (depth - d0),
        ok && decide (usMain[ds[idx]!]! < ds.size) &&
          (br1[usMain[ds[idx]!]!]! == 0 || br1[usMain[ds[idx]!]!]! == intDs)) := by
  simp only [pfInner, h1]
  rw [if_neg (by simpa using hc)]
  simp only [h2]

theorem pfPits_nil (usMain : Array Nat) (n : Nat) (so : Array Int) (depth i : Nat) (st : PfSt) :
    pfPits usMain n so depth [] i st = some st := by
  simp only [pfPits]

theorem pfPits_step {usMain : Array Nat} {n : Nat} {so : Array Int} {depth idx : Nat} {rest : List Nat} {i : Nat}
    {br br1 : Array Int} {idxs : List Nat} {labs : List (Int × Nat)}
    (h1 : stemFill usMain n (fun u _ => so[u]! == 0) (pfBase depth + ((i : Int) + 1) * (10 : Int) ^ depth) (n + 2) idx
      (br.setIfInBounds idx (pfBase depth + ((i : Int) + 1) * (10 : Int) ^ depth)) = some br1) :
    pfPits usMain n so depth (idx :: rest) i (br, idxs, labs) =
      pfPits usMain n so depth rest (i + 1)
        (br1, idxs ++ [idx], labs ++ [(pfBase depth + ((i : Int) + 1) * (10 : Int) ^ depth, 1)]) := by
  simp only [pfPits, h1]

theorem pfPits_cons {usMain : Array Nat} {n : Nat} {so : Array Int} {depth idx : Nat} {rest : List Nat} {i : Nat}
    {br : Array Int} {idxs : List Nat} {labs : List (Int × Nat)} {r : PfSt}
    (h : pfPits usMain n so depth (idx :: rest) i (br, idxs, labs) = some r) :
    let pfaf1 := pfBase depth + ((i : Int) + 1) * (10 : Int) ^ depth
    ∃ br1, stemFill usMain n (fun u _ => so[u]! == 0) pfaf1 (n + 2) idx (br.setIfInBounds idx pfaf1) = some br1 ∧
      pfPits usMain n so depth rest (i + 1) (br1, idxs ++ [idx], labs ++ [(pfaf1, 1)]) = some r := by
  simp only [pfPits] at h
  split at h
  · cases h
  · rename_i br1 h1
    exact ⟨br1, h1, h⟩

theorem pfLoop_nil {ds usMain : Array Nat} {so uparea : Array Int} {trib : List Nat} {depth f : Nat}
    {br : Array Int} {idxs : List Nat} {fl : Bool × Bool} {r : PfSt × Bool × Bool}
    (h : pfLoop ds usMain so uparea trib depth f ((br, idxs, []), fl) = some r) : r = ((br, idxs, []), fl) := by
  cases f <;> simp only [pfLoop, Option.some.injEq] at h <;> exact h.symm

/-- one pop of the worklist loop: the entry is dropped if it has no tributaries, otherwise `pfInner` runs on the
selected ones -/
theorem pfLoop_cons {ds usMain : Array Nat} {so uparea : Array Int} {trib : List Nat} {depth f : Nat}
    {br : Array Int} {idxs : List Nat} {pfaf0 : Int} {d0 : Nat} {labs : List (Int × Nat)} {tie ok : Bool}
    {r : PfSt × Bool × Bool}
    (h : pfLoop ds usMain so uparea trib depth f ((br, idxs, (pfaf0, d0) :: labs), tie, ok) = some r) :
    ∃ f', f = f' + 1 ∧
      (((trib.filter fun idx => br[idx]! == 0 && br[ds[idx]!]! == pfaf0).isEmpty = true ∧
        pfLoop ds usMain so uparea trib depth f' ((br, idxs, labs), tie, ok) = some r) ∨
       (¬ (trib.filter fun idx => br[idx]! == 0 && br[ds[idx]!]! == pfaf0).isEmpty = true ∧
        ∃ st' x ok' tie',
          pfInner ds usMain so depth pfaf0 d0 (pfSel ds uparea br trib pfaf0) 0 ((br, idxs, labs), pfaf0, ok) =
            some (st', x, ok') ∧
          pfLoop ds usMain so uparea trib depth f' (st', tie', ok') = some r)) := by
  cases f with
  | zero => simp [pfLoop] at h
  | succ f =>
    refine ⟨f, rfl, ?_⟩
    simp only [pfLoop] at h
    split at h
    · rename_i he
      exact Or.inl ⟨he, h⟩
    · rename_i he
      split at h
      · cases h
      · rename_i st' x ok' hin
        exact Or.inr ⟨he, st', x, ok', _, hin, h⟩

/-- induction along a run of the worklist loop that ends in `r` (whose worklist is empty): `M` holds of every state the
run passes through if it holds of `r`, is inherited when an entry without tributaries is dropped, and is inherited
through one `pfInner` over the selected tributaries -/
theorem pfLoop_induct {ds usMain : Array Nat} {so uparea : Array Int} {trib : List Nat} {depth : Nat}
    {r : PfSt × Bool × Bool} (M : PfSt × Bool × Bool → Prop) (hdone : r.1.2.2 = [] → M r)
    (hskip : ∀ br idxs pfaf0 d0 labs tie ok,
      (trib.filter fun idx => br[idx]! == 0 && br[ds[idx]!]! == pfaf0).isEmpty = true →
      M ((br, idxs, labs), tie, ok) → M ((br, idxs, (pfaf0, d0) :: labs), tie, ok))
    (hrun : ∀ br idxs pfaf0 d0 labs tie tie' ok st' x ok',
      ¬ (trib.filter fun idx => br[idx]! == 0 && br[ds[idx]!]! == pfaf0).isEmpty = true →
      pfInner ds usMain so depth pfaf0 d0 (pfSel ds uparea br trib pfaf0) 0 ((br, idxs, labs), pfaf0, ok) =
        some (st', x, ok') →
      M (st', tie', ok') → M ((br, idxs, (pfaf0, d0) :: labs), tie, ok)) :
    ∀ f st, pfLoop ds usMain so uparea trib depth f st = some r → M st := by
  intro f
  induction f with
  | zero =>
    rintro ⟨⟨br, idxs, labs⟩, fl⟩ h
    cases labs with
    | nil => obtain rfl := pfLoop_nil h; exact hdone rfl
    | cons a labs => obtain ⟨_, hf, _⟩ := pfLoop_cons (pfaf0 := a.1) (d0 := a.2) h; cases hf
  | succ f ih =>
    rintro ⟨⟨br, idxs, labs⟩, tie, ok⟩ h
    cases labs with
    | nil => obtain rfl := pfLoop_nil h; exact hdone rfl
    | cons a labs =>
      obtain ⟨_, hf, ⟨he, h'⟩ | ⟨he, st', x, ok', tie', hin, h'⟩⟩ := pfLoop_cons (pfaf0 := a.1) (d0 := a.2) h
      · cases hf; exact hskip _ _ _ _ _ _ _ he (ih _ h')
      · cases hf; exact hrun _ _ _ _ _ _ _ _ _ _ _ he hin (ih _ h')

theorem pfBranch_some {pits : List Nat} {ds : Array Nat} {seq : List Nat} {usMain : Array Nat} {uparea : Array Int}
    {mask : Option (Array Bool)} {depth : Nat} {br : Array Int} {idxs : List Nat} {tie ok : Bool}
    (h : pfBranch pits ds seq usMain uparea mask depth = some (br, idxs, tie, ok)) :
    ∃ st0 labs, pfPits usMain ds.size (pfStrord ds seq usMain mask depth) depth pits 0
        (Array.replicate ds.size 0, [], []) = some st0 ∧
      pfLoop ds usMain (pfStrord ds seq usMain mask depth) uparea
        (tributaries ds seq (pfStrord ds seq usMain mask depth)) depth (2 * ds.size + pits.length + 2)
        (st0, false, pits.all (fun p => decide (p < ds.size))) = some ((br, idxs, labs), tie, ok) := by
  unfold pfBranch at h
  simp only at h
  split at h
  · cases h
  · rename_i st0 hp
    split at h
    · cases h
    · rename_i br' idxs' labs' tie' ok' heq
      cases h
      exact ⟨st0, labs', hp, heq⟩
theorem subbasinsPfafstetter_some {pits : List Nat} {ds : Array Nat} {seq : List Nat} {usMain : Array Nat}
    {uparea : Array Int} {mask : Option (Array Bool)} {depth : Nat} {lab : Array Int} {idxs : List Nat}
    {tie ok : Bool}
    (h : subbasinsPfafstetter pits ds seq usMain uparea mask depth = some (lab, idxs, tie, ok)) :
    ∃ br, pfBranch pits ds seq usMain uparea mask depth = some (br, idxs, tie, ok) ∧
      lab = amap (fun v => v % (10 : Int) ^ depth) (fillnodataUpstream ds seq br 0) := by
  cases hbr : pfBranch pits ds seq usMain uparea mask depth with
  | none => simp [subbasinsPfafstetter, hbr] at h
  | some x =>
    simp only [subbasinsPfafstetter, hbr, Option.map_some, Option.some.injEq, Prod.mk.injEq] at h
    obtain ⟨h1, h2, h3, h4⟩ := h
    exact ⟨x.1, by rw [← h2, ← h3, ← h4], h1.symm⟩

end Pf
