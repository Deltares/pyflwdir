import PfVerif.Model.C19
/-! The split rule of `streams.streams` (C19): rounding bounds, the arithmetic of `k = round(l / m)`,
`n = round(l / k)`, the slices of the `for i in range(k)` loop, and what the pieces of a split stream
cover, how they chain and how they glue back together. -/
namespace Pf.C19
open Pf

/-! ### rounding -/

/-- `roundHalfEven a b` is the quotient or one more, whichever is nearer to `a / b` -/
theorem rhe_cases (a b : Nat) :
    (2 * (a % b) ≤ b ∧ roundHalfEven a b = a / b) ∨ (b ≤ 2 * (a % b) ∧ roundHalfEven a b = a / b + 1) := by
  unfold roundHalfEven
  split
  · rename_i h; exact Or.inl ⟨Nat.le_of_lt h, rfl⟩
  · split
    · rename_i h; exact Or.inr ⟨Nat.le_of_lt h, rfl⟩
    · rename_i h1 h2
      split
      · exact Or.inl ⟨Nat.le_of_not_lt h2, rfl⟩
      · exact Or.inr ⟨Nat.le_of_not_lt h1, rfl⟩

/-- `roundHalfEven a b` is within one half of `a / b` -/
theorem rhe_bounds (a b : Nat) (hb : 0 < b) :
    2 * (b * roundHalfEven a b) ≤ 2 * a + b ∧ 2 * a ≤ 2 * (b * roundHalfEven a b) + b := by
  have h := Nat.div_add_mod a b
  have hr := Nat.mod_lt a hb
  rcases rhe_cases a b with ⟨hr, he⟩ | ⟨hr, he⟩
  · rw [he]; omega
  · rw [he, Nat.mul_succ]; omega

/-- in the tie `a / b = q + 1/2` the even neighbour is taken -/
theorem rhe_5_2 : roundHalfEven 5 2 = 2 := by decide

/-! ### the arithmetic of the two roundings

`l` is rounded to a multiple of `m` (quotient `k`) and then to a multiple of `k` (quotient `n`); only the
two rounding bounds are used, plus the one tie `l = 5, m = 2` where round-half-even matters. -/

/-- the quotients `m` and `n` differ only when `k ≤ m` -/
theorem two_roundings {l m k n : Nat}
    (hk1 : 2 * (k * m) ≤ 2 * l + m) (hk2 : 2 * l ≤ 2 * (k * m) + m)
    (hn1 : 2 * (k * n) ≤ 2 * l + k) (hn2 : 2 * l ≤ 2 * (k * n) + k) (hne : n ≠ m) : k ≤ m := by
  rcases Nat.lt_or_gt_of_ne hne with h | h
  · have := Nat.mul_le_mul_left k (Nat.succ_le_of_lt h)
    rw [Nat.mul_succ] at this
    omega
  · have := Nat.mul_le_mul_left k (Nat.succ_le_of_lt h)
    rw [Nat.mul_succ] at this
    omega

/-- with `P = k·m`, `Q = k·n`: were a complete slice too long (`3m ≤ 2n`), then `k·m = 2m` and `k = m` -/
theorem split_size_lin {l m k n P Q : Nat} (hm : 0 < m) (hk2 : 2 * l ≤ 2 * P + m) (hn1 : 2 * Q ≤ 2 * l + k)
    (hclose : n ≠ m → k ≤ m) (hc : 3 * m ≤ 2 * n) (h3 : 3 * P ≤ 2 * Q) (hmk : 2 * m ≤ P) :
    P = 2 * m ∧ k = m := by omega

/-- the numbers of the tie `k = m = 2` -/
theorem split_tie {l n : Nat} (hlm : 3 * 2 < 2 * l) (hk2 : 2 * l ≤ 2 * (2 * 2) + 2) (hn1 : 2 * (2 * n) ≤ 2 * l + 2)
    (hc : 3 * 2 ≤ 2 * n) : l = 5 ∧ n = 3 := by omega

/-- a complete slice (`n + 1` vertices) has at most `(3m + 1) / 2` vertices: `3m ≤ 2n` forces
`k·m ≤ m + k`, hence `k = m = 2`, `l = 5`, `n = 3`, the tie that round-half-even resolves to `n = 2` -/
theorem split_size_core {l m k n : Nat} (hm : 0 < m) (hk : 2 ≤ k) (hlm : 3 * m < 2 * l)
    (hk2 : 2 * l ≤ 2 * (k * m) + m) (hn1 : 2 * (k * n) ≤ 2 * l + k)
    (hclose : n ≠ m → k ≤ m) (htie : m = 2 → k = 2 → l = 5 → n = 2) : 2 * n + 1 ≤ 3 * m := by
  apply Classical.byContradiction
  intro hc
  have hc' : 3 * m ≤ 2 * n := Nat.le_of_not_lt (fun h => hc h)
  have h3 := Nat.mul_le_mul_left k hc'
  rw [Nat.mul_left_comm, Nat.mul_left_comm k] at h3
  obtain ⟨h1, rfl⟩ := split_size_lin hm hk2 hn1 hclose hc' h3 (Nat.mul_le_mul_right m hk)
  obtain rfl : k = 2 := Nat.eq_of_mul_eq_mul_right hm h1
  obtain ⟨rfl, rfl⟩ := split_tie hlm hk2 hn1 hc'
  exact absurd (htie rfl rfl rfl) (by decide)

/-- the last piece starts inside the stream and has at most `3m / 2` vertices (`k = j + 1`) -/
theorem split_last_core {l m j n : Nat} (hm : 0 < m)
    (hk1 : 2 * (j * m + m) ≤ 2 * l + m) (hk2 : 2 * l ≤ 2 * (j * m + m) + m)
    (hn1 : 2 * (j * n + n) ≤ 2 * l + (j + 1)) (hn2 : 2 * l ≤ 2 * (j * n + n) + (j + 1))
    (hclose : n ≠ m → j + 1 ≤ m) : j * n < l ∧ 2 * (l - j * n) ≤ 3 * m := by
  have h1 : n ≤ m → j * n ≤ j * m := Nat.mul_le_mul_left j
  have h2 : m ≤ n → j * m ≤ j * n := Nat.mul_le_mul_left j
  -- towards the smaller of `j·m`, `j·n` use monotonicity and the bounds of `k·m`; towards the larger one
  -- `k ≤ m` and the bounds of `k·n`
  omega

theorem split_k_ge {l m k : Nat} (hlm : 3 * m < 2 * l) (hk2 : 2 * l ≤ 2 * (k * m) + m) : 2 ≤ k := by
  apply Classical.byContradiction
  intro hc
  have := Nat.mul_le_mul_right m (Nat.le_of_lt_succ (Nat.lt_of_not_le hc))
  omega

theorem split_n_pos {l m k n : Nat} (hm : 0 < m) (hk : 2 ≤ k) (hk1 : 2 * (k * m) ≤ 2 * l + m)
    (hn2 : 2 * l ≤ 2 * (k * n) + k) : 1 ≤ n := by
  apply Classical.byContradiction
  intro hc
  have : k * n = 0 := by rw [Nat.eq_zero_of_not_pos hc]; rfl
  have := Nat.mul_le_mul_right m hk
  have := Nat.le_mul_of_pos_right k hm
  omega

theorem split_arith_core (l m k n : Nat) (hm : 0 < m) (hlm : 3 * m < 2 * l)
    (hk1 : 2 * (k * m) ≤ 2 * l + m) (hk2 : 2 * l ≤ 2 * (k * m) + m)
    (hn1 : 2 * (k * n) ≤ 2 * l + k) (hn2 : 2 * l ≤ 2 * (k * n) + k)
    (htie : m = 2 → k = 2 → l = 5 → n = 2) :
    2 ≤ k ∧ 1 ≤ n ∧ (k - 1) * n < l ∧ 2 * n + 1 ≤ 3 * m ∧ 2 * (l - (k - 1) * n) ≤ 3 * m := by
  have hk := split_k_ge hlm hk2
  have hn := split_n_pos hm hk hk1 hn2
  have hclose := two_roundings hk1 hk2 hn1 hn2
  have hsize := split_size_core hm hk hlm hk2 hn1 hclose htie
  obtain ⟨j, rfl⟩ : ∃ j, k = j + 1 := ⟨k - 1, (Nat.sub_add_cancel (Nat.le_of_succ_le hk)).symm⟩
  rw [Nat.succ_mul j m] at hk1 hk2
  rw [Nat.succ_mul j n] at hn1 hn2
  have hlast := split_last_core hm hk1 hk2 hn1 hn2 hclose
  exact ⟨hk, hn, hlast.1, hsize, hlast.2⟩

/-- the split rule in terms of the code's two roundings -/
theorem split_arith_rhe (l m : Nat) (hm : 0 < m) (hlm : 3 * m < 2 * l) :
    let k := roundHalfEven l m
    let n := roundHalfEven l k
    2 ≤ k ∧ 1 ≤ n ∧ (k - 1) * n < l ∧ 2 * n + 1 ≤ 3 * m ∧ 2 * (l - (k - 1) * n) ≤ 3 * m := by
  intro k n
  have hk := rhe_bounds l m hm
  rw [Nat.mul_comm m] at hk
  have hk0 : 0 < k := by
    apply Classical.byContradiction
    intro hc
    have h0 : roundHalfEven l m = 0 := by show k = 0; omega
    rw [h0] at hk
    simp at hk
    omega
  have hn := rhe_bounds l k hk0
  refine split_arith_core l m k n hm hlm hk.1 hk.2 hn.1 hn.2 ?_
  intro h1 h2 h3
  show roundHalfEven l k = 2
  rw [h2, h3]
  exact rhe_5_2

/-! ### consecutive pairs and interior vertices -/

theorem pairsOf_cons_cons (x y : Nat) (r : List Nat) : pairsOf (x :: y :: r) = (x, y) :: pairsOf (y :: r) := by
  simp [pairsOf]

@[simp] theorem pairsOf_nil : pairsOf [] = [] := rfl
@[simp] theorem pairsOf_single (x : Nat) : pairsOf [x] = [] := rfl

/-- cutting a polyline at vertex `n` (which both parts keep) preserves the list of links -/
theorem pairs_take_drop (n : Nat) : ∀ (L : List Nat),
    pairsOf (L.take (n + 1)) ++ pairsOf (L.drop n) = pairsOf L := by
  induction n with
  | zero =>
    intro L
    cases L with
    | nil => rfl
    | cons x r => simp
  | succ n ih =>
    intro L
    match L with
    | [] => rfl
    | [x] => simp
    | x :: y :: r =>
      have := ih (y :: r)
      simp only [List.take_succ_cons, List.drop_succ_cons] at this ⊢
      rw [pairsOf_cons_cons x y r, ← this]
      cases n with
      | zero => simp [pairsOf_cons_cons]
      | succ n' => simp [pairsOf_cons_cons]

theorem mem_interior_iff (L : List Nat) (v : Nat) :
    v ∈ interior L ↔ ∃ i, 0 < i ∧ i + 1 < L.length ∧ L[i]? = some v := by
  unfold interior
  rw [List.mem_iff_getElem?]
  constructor
  · rintro ⟨j, hj⟩
    rw [List.getElem?_dropLast, List.length_tail, List.getElem?_tail] at hj
    split at hj
    · exact ⟨j + 1, by omega, by omega, hj⟩
    · cases hj
  · rintro ⟨i, h0, h1, h2⟩
    refine ⟨i - 1, ?_⟩
    rw [List.getElem?_dropLast, List.length_tail, List.getElem?_tail, if_pos (by omega)]
    have : i - 1 + 1 = i := by omega
    rw [this]; exact h2

theorem mem_of_mem_interior {L : List Nat} {v : Nat} (h : v ∈ interior L) : v ∈ L :=
  List.mem_of_mem_tail ((List.dropLast_sublist _).subset h)

theorem interior_slice (L : List Nat) (a b : Nat) : ∀ v ∈ interior ((L.drop a).take b), v ∈ interior L := by
  intro v hv
  rw [mem_interior_iff] at hv ⊢
  obtain ⟨i, h0, h1, h2⟩ := hv
  rw [List.length_take, List.length_drop] at h1
  rw [List.getElem?_take] at h2
  split at h2
  · rw [List.getElem?_drop] at h2
    exact ⟨a + i, by omega, by omega, h2⟩
  · cases h2

/-! ### the slices of the loop -/

/-- recursive form of the `for i in range(k)` slicing loop -/
theorem splitLoop_succ (idxs : List Nat) (n k : Nat) (hk : 0 < k) :
    splitLoop idxs n (k + 1) = idxs.take (n + 1) :: splitLoop (idxs.drop n) n k := by
  unfold splitLoop
  rw [List.range_succ_eq_map, List.map_cons, List.map_map]
  have h0 : ¬ (0 + 1 = k + 1) := by omega
  simp only [h0, if_false, Nat.zero_mul, List.drop_zero]
  congr 1
  apply List.map_congr_left
  intro i _
  simp only [Function.comp]
  have hd : ∀ (L : List Nat), (L.drop n).drop (i * n) = L.drop ((i + 1) * n) := by
    intro L; rw [List.drop_drop, Nat.succ_mul, Nat.add_comm]
  by_cases h : i + 1 = k
  · simp [h, hd]
  · simp [h, hd]

theorem splitLoop_one (idxs : List Nat) (n : Nat) : splitLoop idxs n 1 = [idxs] := by
  simp [splitLoop, List.range_succ_eq_map]

theorem splitLoop_length (idxs : List Nat) (n k : Nat) : (splitLoop idxs n k).length = k := by
  simp [splitLoop]

theorem splitLoop_get (idxs : List Nat) (n k i : Nat) (hi : i < k) :
    (splitLoop idxs n k)[i]? =
      some (if i + 1 = k then idxs.drop (i * n) else (idxs.drop (i * n)).take (n + 1)) := by
  simp [splitLoop, hi]

theorem mem_splitLoop {idxs p : List Nat} {n k : Nat} (h : p ∈ splitLoop idxs n k) :
    ∃ i, i < k ∧ p = if i + 1 = k then idxs.drop (i * n) else (idxs.drop (i * n)).take (n + 1) := by
  unfold splitLoop at h
  rw [List.mem_map] at h
  obtain ⟨i, hi, rfl⟩ := h
  exact ⟨i, List.mem_range.mp hi, rfl⟩

/-- the slices of the split loop contain every link of the stream exactly once, in order -/
theorem splitLoop_pairs (n : Nat) : ∀ (k : Nat) (idxs : List Nat), 0 < k →
    (splitLoop idxs n k).flatMap pairsOf = pairsOf idxs := by
  intro k
  induction k with
  | zero => intro _ h; omega
  | succ k ih =>
    intro idxs _
    by_cases hk : k = 0
    · subst hk; simp [splitLoop_one]
    · rw [splitLoop_succ idxs n k (by omega), List.flatMap_cons, ih (idxs.drop n) (by omega)]
      exact pairs_take_drop n idxs

/-- the complete slice `L[a : a + n + 1]` -/
theorem slice_spec (L : List Nat) (a n : Nat) (h : a + n < L.length) :
    ((L.drop a).take (n + 1)).length = n + 1 ∧ ((L.drop a).take (n + 1)).head? = L[a]? ∧
      ((L.drop a).take (n + 1)).getLast? = L[a + n]? := by
  have hlen : ((L.drop a).take (n + 1)).length = n + 1 := by
    rw [List.length_take, List.length_drop]; omega
  refine ⟨hlen, ?_, ?_⟩
  · rw [List.head?_take, if_neg (Nat.succ_ne_zero n), List.head?_drop]
  · rw [List.getLast?_eq_getElem?, hlen, Nat.add_sub_cancel, List.getElem?_take, if_pos (Nat.lt_succ_self n),
      List.getElem?_drop]

/-- slice `i` starts at vertex `i·n` -/
theorem splitLoop_head (idxs : List Nat) (n k i : Nat) (hi : i < k) :
    ∃ p, (splitLoop idxs n k)[i]? = some p ∧ p.head? = idxs[i * n]? := by
  refine ⟨_, splitLoop_get idxs n k i hi, ?_⟩
  split
  · rw [List.head?_drop]
  · rw [List.head?_take, if_neg (Nat.succ_ne_zero n), List.head?_drop]

/-- a non-final slice is complete: `n + 1` vertices, from vertex `i·n` to vertex `(i+1)·n` -/
theorem splitLoop_mid (idxs : List Nat) (n k i : Nat) (hlast : (k - 1) * n < idxs.length) (hi : i + 1 < k) :
    ∃ p, (splitLoop idxs n k)[i]? = some p ∧ p.length = n + 1 ∧
      p.head? = idxs[i * n]? ∧ p.getLast? = idxs[(i + 1) * n]? ∧ (i + 1) * n < idxs.length := by
  have hlt : i * n + n < idxs.length :=
    Nat.lt_of_le_of_lt (Nat.succ_mul i n ▸ Nat.mul_le_mul_right n (Nat.le_sub_one_of_lt hi)) hlast
  have := slice_spec idxs (i * n) n hlt
  rw [Nat.succ_mul]
  refine ⟨_, splitLoop_get idxs n k i (Nat.lt_of_succ_lt hi), ?_⟩
  rw [if_neg (Nat.ne_of_lt hi)]
  exact ⟨this.1, this.2.1, this.2.2, hlt⟩

/-- the final slice runs from vertex `(k-1)·n` to the end of the stream -/
theorem splitLoop_last (idxs : List Nat) (n k : Nat) (hk : 0 < k) (hlast : (k - 1) * n < idxs.length) :
    ∃ p, (splitLoop idxs n k)[k - 1]? = some p ∧ p.length = idxs.length - (k - 1) * n ∧
      p.head? = idxs[(k - 1) * n]? ∧ p.getLast? = idxs.getLast? := by
  refine ⟨_, splitLoop_get idxs n k (k - 1) (Nat.sub_one_lt_of_lt hk), ?_⟩
  rw [if_pos (Nat.sub_add_cancel hk)]
  exact ⟨List.length_drop, List.head?_drop, by rw [List.getLast?_drop, if_neg (Nat.not_le_of_lt hlast)]⟩

/-- consecutive slices `i`, `i + 1` share vertex `(i+1)·n`; the earlier one has at least two
vertices, and so has the later one unless it is just the last vertex of the stream -/
theorem splitLoop_joint (idxs : List Nat) (n k i : Nat) (hn : 0 < n) (hlast : (k - 1) * n < idxs.length)
    (hi : i + 1 < k) :
    ∃ p q v, (splitLoop idxs n k)[i]? = some p ∧ (splitLoop idxs n k)[i + 1]? = some q ∧
      p.getLast? = some v ∧ q.head? = some v ∧ 2 ≤ p.length ∧ (2 ≤ q.length ∨ idxs.getLast? = some v) := by
  obtain ⟨p, hp, hpl, _, hpe, hlt⟩ := splitLoop_mid idxs n k i hlast hi
  have hv := List.getElem?_eq_getElem hlt
  have hp2 : 2 ≤ p.length := hpl ▸ Nat.succ_le_succ hn
  rcases Nat.lt_or_eq_of_le (Nat.succ_le_of_lt hi) with hi2 | rfl
  · obtain ⟨q, hq, hql, hqh, _⟩ := splitLoop_mid idxs n k (i + 1) hlast hi2
    exact ⟨p, q, _, hp, hq, hpe.trans hv, hqh.trans hv, hp2, Or.inl (hql ▸ Nat.succ_le_succ hn)⟩
  · obtain ⟨q, hq, hql, hqh, _⟩ := splitLoop_last idxs n (i + 1 + 1) (Nat.succ_pos _) hlast
    rw [Nat.add_sub_cancel] at hq hql hqh
    refine ⟨p, q, _, hp, hq, hpe.trans hv, hqh.trans hv, hp2, ?_⟩
    by_cases h2 : 2 ≤ q.length
    · exact Or.inl h2
    · have : idxs.length - 1 = (i + 1) * n := by omega
      exact Or.inr (by rw [List.getLast?_eq_getElem?, this, hv])

/-- the start/end clause for the slices of the loop: a slice starts at the first vertex of the stream or
where a slice with at least two vertices ends, and ends at the last vertex or where such a slice starts -/
theorem splitLoop_ends (idxs : List Nat) (n k : Nat) (hn : 0 < n) (hlast : (k - 1) * n < idxs.length) :
    ∀ p ∈ splitLoop idxs n k, ∃ s e, p.head? = some s ∧ p.getLast? = some e ∧
      (idxs.head? = some s ∨ (1 < k ∧ ∃ g ∈ splitLoop idxs n k, 2 ≤ g.length ∧ g.getLast? = some s)) ∧
      (idxs.getLast? = some e ∨ (1 < k ∧ ∃ g ∈ splitLoop idxs n k, 2 ≤ g.length ∧ g.head? = some e)) := by
  intro p hp
  obtain ⟨i, hpi⟩ := List.getElem?_of_mem hp
  have hik : i < k := splitLoop_length idxs n k ▸ (List.getElem?_eq_some_iff.mp hpi).1
  have hne : idxs ≠ [] := fun h => Nat.not_lt_zero _ (h ▸ hlast)
  have hstart : ∃ s, p.head? = some s ∧
      (idxs.head? = some s ∨ (1 < k ∧ ∃ g ∈ splitLoop idxs n k, 2 ≤ g.length ∧ g.getLast? = some s)) := by
    cases i with
    | zero =>
      obtain ⟨q, hq, hqh⟩ := splitLoop_head idxs n k 0 hik
      rw [hpi] at hq; cases hq
      have h0 : 0 < idxs.length := List.length_pos_iff.mpr hne
      exact ⟨idxs[0], by rw [hqh, Nat.zero_mul, List.getElem?_eq_getElem h0],
        Or.inl (by rw [List.head?_eq_getElem?, List.getElem?_eq_getElem h0])⟩
    | succ i =>
      obtain ⟨g, q, v, hg, hq, hgv, hqv, hgl, _⟩ := splitLoop_joint idxs n k i hn hlast hik
      rw [hpi] at hq; cases hq
      exact ⟨v, hqv, Or.inr ⟨Nat.lt_of_le_of_lt (Nat.le_add_left 1 i) hik, g, List.mem_of_getElem? hg, hgl, hgv⟩⟩
  obtain ⟨s, hs, hsc⟩ := hstart
  by_cases hil : i + 1 < k
  · obtain ⟨q, g, v, hq, hg, hqv, hgv, _, hgl⟩ := splitLoop_joint idxs n k i hn hlast hil
    rw [hpi] at hq; cases hq
    refine ⟨s, v, hs, hqv, hsc, ?_⟩
    rcases hgl with hgl | hgl
    · exact Or.inr ⟨Nat.lt_of_le_of_lt (Nat.le_add_left 1 i) hil, g, List.mem_of_getElem? hg, hgl, hgv⟩
    · exact Or.inl hgl
  · obtain ⟨q, hq, _, _, hqe⟩ := splitLoop_last idxs n k (Nat.zero_lt_of_lt hik) hlast
    have hk : k - 1 = i := by omega
    rw [hk, hpi] at hq; cases hq
    exact ⟨s, idxs.getLast hne, hs, by rw [hqe, List.getLast?_eq_some_getLast hne], hsc,
      Or.inl (List.getLast?_eq_some_getLast hne)⟩

/-! ### gluing the slices back together -/

/-- concatenation of consecutive pieces that share their joint vertex: the first piece, then every later
piece without its first vertex -/
def joinPieces : List (List Nat) → List Nat
  | [] => []
  | p :: ps => p ++ ps.flatMap List.tail

theorem tail_take_succ (n : Nat) (L : List Nat) : (L.take (n + 1)).tail = L.tail.take n := by
  cases L <;> simp

theorem splitLoop_tails (n : Nat) : ∀ (k : Nat) (L : List Nat), 0 < k →
    (splitLoop L n k).flatMap List.tail = L.tail := by
  intro k
  induction k with
  | zero => intro _ h; omega
  | succ k ih =>
    intro L _
    by_cases hk : k = 0
    · subst hk; simp [splitLoop_one]
    · rw [splitLoop_succ L n k (by omega), List.flatMap_cons, ih (L.drop n) (by omega),
        tail_take_succ, List.tail_drop, ← List.drop_tail, List.take_append_drop]

/-- the slices of the split loop glue back to the stream, for every slice width `n` and every `k ≥ 1` -/
theorem splitLoop_join (n k : Nat) (L : List Nat) (hk : 0 < k) : joinPieces (splitLoop L n k) = L := by
  cases k with
  | zero => omega
  | succ k =>
    by_cases hk0 : k = 0
    · subst hk0; simp [splitLoop_one, joinPieces]
    · rw [splitLoop_succ L n k (by omega)]
      simp only [joinPieces]
      rw [splitLoop_tails n k (L.drop n) (by omega), List.tail_drop, List.take_append_drop]

/-! ### the pieces of a split stream -/

/-- what is appended for a walked stream are the slices of the loop for some slice width `n ≥ 1` and some
`k ≥ 1`; more than one slice only with a maximum length, and then the last slice starts inside the stream;
with a maximum length `n` and the length of the last slice obey the bounds of the split arithmetic -/
theorem splitPieces_eq_loop (idxs : List Nat) (m : Nat) :
    ∃ n k, splitPieces idxs m = splitLoop idxs n k ∧ 1 ≤ n ∧ 1 ≤ k ∧
      (1 < k → 0 < m ∧ (k - 1) * n < idxs.length) ∧
      (0 < m → 2 * n + 1 ≤ 3 * m ∧ 2 * (idxs.length - (k - 1) * n) ≤ 3 * m) := by
  by_cases hs : (idxs.length > m ∧ m > 0) ∧ 2 * idxs.length > 3 * m
  · obtain ⟨hk, hn, hlast, hsz, hlsz⟩ := split_arith_rhe idxs.length m hs.1.2 hs.2
    refine ⟨_, _, ?_, hn, Nat.le_of_succ_le hk, fun _ => ⟨hs.1.2, hlast⟩, fun _ => ⟨hsz, hlsz⟩⟩
    rw [splitPieces, if_pos hs.1, splitNK, if_pos hs.2]
  · -- the stream is kept whole: one slice
    have he : splitPieces idxs m = splitLoop idxs 1 1 := by
      rw [splitPieces, splitLoop_one]
      by_cases hc : idxs.length > m ∧ m > 0
      · rw [if_pos hc, splitNK, if_neg (fun h => hs ⟨hc, h⟩), splitLoop_one]
      · rw [if_neg hc]
    have hb : 0 < m → 2 * idxs.length ≤ 3 * m := by omega
    exact ⟨1, 1, he, Nat.le_refl 1, Nat.le_refl 1, fun h1 => absurd h1 (Nat.lt_irrefl 1),
      fun hm => ⟨Nat.mul_le_mul_left 3 hm, hb hm⟩⟩

/-- with a maximum length `m > 0` no piece has more than `(3m + 1) / 2` vertices -/
theorem splitPieces_size (idxs : List Nat) (m : Nat) (hm : 0 < m) :
    ∀ p ∈ splitPieces idxs m, 2 * p.length ≤ 3 * m + 1 := by
  obtain ⟨n, k, he, _, _, _, hb⟩ := splitPieces_eq_loop idxs m
  obtain ⟨hsz, hlsz⟩ := hb hm
  intro p hp
  rw [he] at hp
  obtain ⟨i, _, rfl⟩ := mem_splitLoop hp
  split
  · rename_i hik
    rw [← hik, Nat.add_sub_cancel] at hlsz
    rw [List.length_drop]
    omega
  · have := List.length_take_le (n + 1) (idxs.drop (i * n))
    omega

/-- whatever the maximum length, the pieces contain every link of the walked stream
exactly once and in order -/
theorem splitPieces_pairs (idxs : List Nat) (m : Nat) :
    (splitPieces idxs m).flatMap pairsOf = pairsOf idxs := by
  obtain ⟨n, k, he, _, hk, _⟩ := splitPieces_eq_loop idxs m
  rw [he]
  exact splitLoop_pairs n k idxs hk

theorem pairs_of_piece {idxs p : List Nat} {m : Nat} (hp : p ∈ splitPieces idxs m) :
    ∀ q ∈ pairsOf p, q ∈ pairsOf idxs := by
  intro q hq
  rw [← splitPieces_pairs idxs m, List.mem_flatMap]
  exact ⟨p, hp, hq⟩

theorem interior_piece {idxs p : List Nat} {m : Nat} (h : p ∈ splitPieces idxs m) :
    ∀ v ∈ interior p, v ∈ interior idxs := by
  obtain ⟨n, k, he, _⟩ := splitPieces_eq_loop idxs m
  rw [he] at h
  obtain ⟨i, _, rfl⟩ := mem_splitLoop h
  split
  · rw [← List.take_length (l := idxs.drop (i * n))]
    exact interior_slice idxs _ _
  · exact interior_slice idxs _ _

theorem mem_of_mem_piece {idxs p : List Nat} {m : Nat} (h : p ∈ splitPieces idxs m) :
    ∀ v ∈ p, v ∈ idxs := by
  obtain ⟨n, k, he, _⟩ := splitPieces_eq_loop idxs m
  rw [he] at h
  obtain ⟨i, _, rfl⟩ := mem_splitLoop h
  intro v hv
  split at hv
  · exact List.mem_of_mem_drop hv
  · exact List.mem_of_mem_drop (List.mem_of_mem_take hv)

theorem piece_not_pitFeat {idxs p : List Nat} {m : Nat} (h : p ∈ splitPieces idxs m)
    (hne : ∀ q ∈ pairsOf idxs, q.1 ≠ q.2) : isPitFeat p = false := by
  cases hp : isPitFeat p with
  | false => rfl
  | true =>
    exfalso
    match p, hp, h with
    | [a, b], hp, h =>
      have hab : a = b := by simpa [isPitFeat] using hp
      exact hne _ (pairs_of_piece h (a, b) (by simp [pairsOf])) hab

/-- every piece is non-empty; it starts at the first vertex of
the stream or (only with a maximum length) where a piece with at least two vertices ends; it ends at
the last vertex of the stream or (only with a maximum length) where such a piece starts. -/
theorem splitPieces_ends (idxs : List Nat) (m : Nat) (hne : idxs ≠ []) :
    ∀ p ∈ splitPieces idxs m, ∃ s e, p.head? = some s ∧ p.getLast? = some e ∧
      (idxs.head? = some s ∨ (0 < m ∧ ∃ g ∈ splitPieces idxs m, 2 ≤ g.length ∧ g.getLast? = some s)) ∧
      (idxs.getLast? = some e ∨ (0 < m ∧ ∃ g ∈ splitPieces idxs m, 2 ≤ g.length ∧ g.head? = some e)) := by
  obtain ⟨n, k, he, hn, hk, hk1, _⟩ := splitPieces_eq_loop idxs m
  have hlast : (k - 1) * n < idxs.length := by
    rcases Nat.eq_or_lt_of_le hk with h | h
    · rw [← h, Nat.zero_mul]; exact List.length_pos_iff.mpr hne
    · exact (hk1 h).2
  rw [he]
  intro p hp
  obtain ⟨s, e, h1, h2, h3, h4⟩ := splitLoop_ends idxs n k hn hlast p hp
  exact ⟨s, e, h1, h2, h3.imp_right (fun h => ⟨(hk1 h.1).1, h.2⟩), h4.imp_right (fun h => ⟨(hk1 h.1).1, h.2⟩)⟩

end Pf.C19
