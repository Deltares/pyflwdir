import PfVerif.Model.C01
import PfVerif.Core.Sweep
/-! Lemmas for C01: row/column arithmetic, the declarative graph, loops that write one cell per step, the
`from_array` kernels against a reading, the readings of the three formats by cases, user mask, validity. -/
namespace Pf.Fd
open Pf Spec

theorem filter_range_succ (p : Nat → Bool) (k : Nat) :
    (List.range (k + 1)).filter p = (List.range k).filter p ++ (if p k then [k] else []) := by
  rw [List.range_succ, List.filter_append]
  by_cases h : p k <;> simp [h]

/-! ### row / column arithmetic -/

theorem inRaster_iff {nrow ncol : Nat} {r c : Int} :
    inRaster nrow ncol r c = true ↔ 0 ≤ r ∧ r < nrow ∧ 0 ≤ c ∧ c < ncol := by
  simp [inRaster, and_assoc]

theorem rowcol_of_idx {ncol r c : Nat} (hc : c < ncol) :
    (r * ncol + c) / ncol = r ∧ (r * ncol + c) % ncol = c := by
  have hpos : 0 < ncol := by omega
  constructor
  · rw [Nat.add_comm, Nat.add_mul_div_right _ _ hpos, Nat.div_eq_of_lt hc, Nat.zero_add]
  · rw [Nat.add_comm, Nat.add_mul_mod_self_right, Nat.mod_eq_of_lt hc]

theorem idx_lt {nrow ncol r c : Nat} (hr : r < nrow) (hc : c < ncol) : r * ncol + c < nrow * ncol := by
  have h1 : (r + 1) * ncol ≤ nrow * ncol := Nat.mul_le_mul_right ncol hr
  have h2 : (r + 1) * ncol = r * ncol + ncol := by rw [Nat.add_mul, Nat.one_mul]
  omega

/-- on the raster, the linear index formula of the code (`c_ds + r_ds * ncol`) is the cell at row
`r`, column `c` -/
theorem cellIdx_of_inRaster {nrow ncol : Nat} {r c : Int} (h : inRaster nrow ncol r c = true) :
    (c + r * ncol).toNat = cellIdx ncol r c ∧ cellIdx ncol r c < nrow * ncol ∧
    ((cellIdx ncol r c / ncol : Nat) : Int) = r ∧ ((cellIdx ncol r c % ncol : Nat) : Int) = c := by
  obtain ⟨h0, h1, h2, h3⟩ := inRaster_iff.1 h
  obtain ⟨r', rfl⟩ := Int.eq_ofNat_of_zero_le h0
  obtain ⟨c', rfl⟩ := Int.eq_ofNat_of_zero_le h2
  have hr : r' < nrow := by omega
  have hc : c' < ncol := by omega
  have hidx : cellIdx ncol (r' : Int) (c' : Int) = r' * ncol + c' := by simp [cellIdx]
  obtain ⟨hd, hm⟩ := rowcol_of_idx (r := r') hc
  rw [hidx]
  refine ⟨?_, idx_lt hr hc, by rw [hd], by rw [hm]⟩
  have : ((c' : Int) + (r' : Int) * (ncol : Int)) = ((r' * ncol + c' : Nat) : Int) := by
    push_cast; omega
  rw [this, Int.toNat_natCast]

/-- row and column of a cell -/
theorem rowcol_lt {nrow ncol i : Nat} (hi : i < nrow * ncol) : i / ncol < nrow ∧ i % ncol < ncol := by
  have hpos : 0 < ncol := by
    cases ncol with
    | zero => simp at hi
    | succ k => exact Nat.succ_pos k
  exact ⟨(Nat.div_lt_iff_lt_mul hpos).2 hi, Nat.mod_lt _ hpos⟩

theorem cellIdx_self {ncol : Nat} (i : Nat) : cellIdx ncol ((i / ncol : Nat) : Int) ((i % ncol : Nat) : Int) = i := by
  simp only [cellIdx, Int.toNat_natCast]
  rw [Nat.mul_comm]
  exact Nat.div_add_mod i ncol

theorem inRaster_self {nrow ncol i : Nat} (hi : i < nrow * ncol) :
    inRaster nrow ncol ((i / ncol : Nat) : Int) ((i % ncol : Nat) : Int) = true := by
  obtain ⟨h1, h2⟩ := rowcol_lt hi
  exact inRaster_iff.2 ⟨Int.natCast_nonneg _, Int.ofNat_lt.2 h1, Int.natCast_nonneg _, Int.ofNat_lt.2 h2⟩

/-! ### the declarative graph -/

theorem graph_size (nrow ncol : Nat) (read : Nat → Code) : (graph nrow ncol read).size = nrow * ncol := by
  simp [graph]

theorem graph_get (nrow ncol : Nat) (read : Nat → Code) (i : Nat) (hi : i < nrow * ncol) :
    (graph nrow ncol read)[i]! = dsOf nrow ncol read i := by
  simp [graph, hi]

/-- the three ways a cell can be decoded -/
theorem dsOf_cases (nrow ncol : Nat) (read : Nat → Code) (i : Nat) :
    (read i = .nodata ∧ dsOf nrow ncol read i = nrow * ncol) ∨
    (read i ≠ .nodata ∧ dsOf nrow ncol read i = i) ∨
    (∃ r c, read i = .to r c ∧ inRaster nrow ncol r c = true ∧ read (cellIdx ncol r c) ≠ .nodata ∧
      dsOf nrow ncol read i = cellIdx ncol r c) := by
  unfold dsOf
  cases h : read i with
  | nodata => exact Or.inl ⟨rfl, rfl⟩
  | pit => exact Or.inr (Or.inl ⟨by simp, rfl⟩)
  | to r c =>
    by_cases h1 : inRaster nrow ncol r c = true
    · by_cases h2 : read (cellIdx ncol r c) = .nodata
      · exact Or.inr (Or.inl ⟨by simp, by simp [h2]⟩)
      · exact Or.inr (Or.inr ⟨r, c, rfl, h1, h2, by simp [h1, h2]⟩)
    · exact Or.inr (Or.inl ⟨by simp, by simp [h1]⟩)

theorem dsOf_eq_n_iff (nrow ncol : Nat) (read : Nat → Code) (i : Nat) (hi : i < nrow * ncol) :
    dsOf nrow ncol read i = nrow * ncol ↔ read i = .nodata := by
  rcases dsOf_cases nrow ncol read i with ⟨h, e⟩ | ⟨h, e⟩ | ⟨r, c, h, hin, hv, e⟩
  · simp [h, e]
  · rw [e]; exact ⟨fun h' => by omega, fun h' => absurd h' h⟩
  · rw [e]
    have := (cellIdx_of_inRaster hin).2.1
    exact ⟨fun h' => by omega, fun h' => by simp [h] at h'⟩

theorem dsOf_le (nrow ncol : Nat) (read : Nat → Code) (i : Nat) (hi : i < nrow * ncol) :
    dsOf nrow ncol read i ≤ nrow * ncol := by
  rcases dsOf_cases nrow ncol read i with ⟨h, e⟩ | ⟨h, e⟩ | ⟨r, c, h, hin, hv, e⟩
  · omega
  · omega
  · have := (cellIdx_of_inRaster hin).2.1; omega

/-- the downstream cell of a cell of the graph is a cell of the graph -/
theorem dsOf_ds_valid (nrow ncol : Nat) (read : Nat → Code) (i : Nat) (hi : i < nrow * ncol)
    (hv : dsOf nrow ncol read i < nrow * ncol) :
    dsOf nrow ncol read (dsOf nrow ncol read i) < nrow * ncol := by
  have key : ∀ j, j < nrow * ncol → read j ≠ .nodata → dsOf nrow ncol read j < nrow * ncol := by
    intro j hj hne
    have h1 := dsOf_le nrow ncol read j hj
    have h2 := (not_congr (dsOf_eq_n_iff nrow ncol read j hj)).2 hne
    omega
  rcases dsOf_cases nrow ncol read i with ⟨h, e⟩ | ⟨h, e⟩ | ⟨r, c, h, hin, hv', e⟩
  · omega
  · rw [e]; exact key i hi h
  · rw [e]; exact key _ (cellIdx_of_inRaster hin).2.1 hv'

theorem dsOf_congr {nrow ncol : Nat} {read read' : Nat → Code}
    (h : ∀ j, j < nrow * ncol → read j = read' j) (i : Nat) (hi : i < nrow * ncol) :
    dsOf nrow ncol read i = dsOf nrow ncol read' i := by
  unfold dsOf
  rw [← h i hi]
  cases hri : read i with
  | nodata => rfl
  | pit => rfl
  | to r c =>
    dsimp only
    by_cases hin : inRaster nrow ncol r c = true
    · rw [← h _ (cellIdx_of_inRaster hin).2.1]
    · simp [hin]

theorem graph_congr {nrow ncol : Nat} {read read' : Nat → Code}
    (h : ∀ j, j < nrow * ncol → read j = read' j) : graph nrow ncol read = graph nrow ncol read' := by
  apply array_ext_get! (by rw [graph_size, graph_size])
  intro i hi
  rw [graph_size] at hi
  rw [graph_get _ _ _ _ hi, graph_get _ _ _ _ hi, dsOf_congr h i hi]

theorem nvalidOf_congr {n : Nat} {read read' : Nat → Code} (h : ∀ j, j < n → read j = read' j) :
    nvalidOf n read = nvalidOf n read' := by
  unfold nvalidOf
  congr 1
  apply List.filter_congr
  intro i hi
  rw [h i (by simpa using hi)]

/-- what a kernel returns for a reading (graph, pits in increasing order, count) depends on the reading of the
cells of the raster only -/
theorem decoded_congr {nrow ncol : Nat} {read read' : Nat → Code} {d : Dec}
    (hr : ∀ j, j < nrow * ncol → read j = read' j)
    (h : d.ds = graph nrow ncol read ∧ d.pits.toList = pitsOf (graph nrow ncol read) ∧
      d.n = nvalidOf (nrow * ncol) read) :
    d.ds = graph nrow ncol read' ∧ d.pits.toList = pitsOf (graph nrow ncol read') ∧
      d.n = nvalidOf (nrow * ncol) read' := by
  rw [← graph_congr hr, ← nvalidOf_congr hr]
  exact h

/-! ### loops that visit every cell once -/

/-- a loop over `0 … n-1` that writes `v k` into cell `k` unless `skip k`: afterwards the cells below `n` that were
not skipped hold their value and every other cell is untouched -/
theorem foldl_range_write {α : Type} [Inhabited α] (skip : Nat → Bool) (v : Nat → α) (a : Array α) (n : Nat)
    (hn : n ≤ a.size) :
    ((List.range n).foldl (fun a k => if skip k then a else a.setIfInBounds k (v k)) a).size = a.size ∧
    ∀ i, ((List.range n).foldl (fun a k => if skip k then a else a.setIfInBounds k (v k)) a)[i]! =
      if i < n ∧ skip i = false then v i else a[i]! := by
  have hf : (List.range n).foldl (fun a k => if skip k then a else a.setIfInBounds k (v k)) a =
      ((List.range n).filter fun k => !skip k).foldl (fun a k => a.setIfInBounds k (v k)) a := by
    rw [List.foldl_filter]
    congr 1
    funext a k
    cases skip k <;> rfl
  rw [hf]
  refine ⟨size_foldl_set v _ a, fun i => ?_⟩
  rw [get!_foldl_set]
  have : (i ∈ (List.range n).filter (fun k => !skip k) ∧ i < a.size) ↔ (i < n ∧ skip i = false) := by
    simp only [List.mem_filter, List.mem_range, Bool.not_eq_true']
    exact ⟨fun h => h.1, fun h => ⟨h, by omega⟩⟩
  simp only [this]

theorem foldl_push_filter (c : Nat → Bool) (l : List Nat) (p : Array Nat) :
    (l.foldl (fun p k => if c k then p.push k else p) p).toList = p.toList ++ l.filter c := by
  induction l generalizing p with
  | nil => simp
  | cons k l ih =>
    rw [List.foldl_cons, ih, List.filter_cons]
    split <;> simp

theorem foldl_count (c : Nat → Bool) (l : List Nat) (m : Nat) :
    l.foldl (fun m k => if c k then m else m + 1) m = m + (l.filter fun k => !c k).length := by
  induction l generalizing m with
  | nil => simp
  | cons k l ih =>
    rw [List.foldl_cons, ih, List.filter_cons]
    cases c k <;> simp <;> omega

/-! ### the common kernel: each of its three results is a loop of its own -/

/-- what the loop writes at a cell that is not nodata -/
def cellDs (nrow ncol : Nat) (selfTest : Bool) (nd : Nat → Bool) (tgt : Nat → Bool × Int × Int) (i : Nat) : Nat :=
  if (pitBranch nrow ncol selfTest nd tgt i).1 then i else (pitBranch nrow ncol selfTest nd tgt i).2

/-- whether the loop appends cell `i` to `pits_lst` -/
def cellPit (nrow ncol : Nat) (selfTest : Bool) (nd : Nat → Bool) (tgt : Nat → Bool × Int × Int) (i : Nat) : Bool :=
  !nd i && (pitBranch nrow ncol selfTest nd tgt i).1

theorem decStep_eq (nrow ncol : Nat) (selfTest : Bool) (nd : Nat → Bool) (tgt : Nat → Bool × Int × Int)
    (st : Dec) (k : Nat) :
    decStep nrow ncol selfTest nd tgt st k =
      { ds := if nd k then st.ds else st.ds.setIfInBounds k (cellDs nrow ncol selfTest nd tgt k),
        pits := if cellPit nrow ncol selfTest nd tgt k then st.pits.push k else st.pits,
        n := if nd k then st.n else st.n + 1 } := by
  cases h1 : nd k <;> cases h2 : (pitBranch nrow ncol selfTest nd tgt k).1 <;>
    simp [decStep, cellDs, cellPit, h1, h2]

/-- the three components of the state evolve independently -/
theorem foldl_decStep (nrow ncol : Nat) (selfTest : Bool) (nd : Nat → Bool) (tgt : Nat → Bool × Int × Int)
    (l : List Nat) (st : Dec) :
    (l.foldl (decStep nrow ncol selfTest nd tgt) st).ds =
      l.foldl (fun a k => if nd k then a else a.setIfInBounds k (cellDs nrow ncol selfTest nd tgt k)) st.ds ∧
    (l.foldl (decStep nrow ncol selfTest nd tgt) st).pits =
      l.foldl (fun p k => if cellPit nrow ncol selfTest nd tgt k then p.push k else p) st.pits ∧
    (l.foldl (decStep nrow ncol selfTest nd tgt) st).n = l.foldl (fun m k => if nd k then m else m + 1) st.n :=
  ⟨(List.foldl_hom Dec.ds fun st k => by rw [decStep_eq]).symm,
   (List.foldl_hom Dec.pits fun st k => by rw [decStep_eq]).symm,
   (List.foldl_hom Dec.n fun st k => by rw [decStep_eq]).symm⟩

theorem decode_results (nrow ncol : Nat) (selfTest : Bool) (nd : Nat → Bool) (tgt : Nat → Bool × Int × Int) :
    (decode nrow ncol selfTest nd tgt).ds.size = nrow * ncol ∧
    (∀ i, i < nrow * ncol → (decode nrow ncol selfTest nd tgt).ds[i]! =
      if nd i then nrow * ncol else cellDs nrow ncol selfTest nd tgt i) ∧
    (decode nrow ncol selfTest nd tgt).pits.toList =
      (List.range (nrow * ncol)).filter (cellPit nrow ncol selfTest nd tgt) ∧
    (decode nrow ncol selfTest nd tgt).n = ((List.range (nrow * ncol)).filter fun i => !nd i).length := by
  obtain ⟨hds, hpits, hn⟩ := foldl_decStep nrow ncol selfTest nd tgt (List.range (nrow * ncol)) (decInit (nrow * ncol))
  obtain ⟨hsz, hget⟩ := foldl_range_write nd (cellDs nrow ncol selfTest nd tgt) (decInit (nrow * ncol)).ds
    (nrow * ncol) (by simp [decInit])
  unfold decode
  rw [hds, hpits, hn, foldl_push_filter, foldl_count]
  refine ⟨by rw [hsz]; simp [decInit], fun i hi => ?_, by simp [decInit], by simp [decInit]⟩
  rw [hget i]
  cases nd i <;> simp [hi, decInit]

/-! ### the model's tests agree with a reading -/

theorem outside_eq (nrow ncol : Nat) (r c : Int) :
    (decide (r ≥ nrow) || decide (c ≥ ncol) || decide (r < 0) || decide (c < 0)) = !inRaster nrow ncol r c := by
  rw [Bool.eq_iff_iff]
  simp [inRaster]
  omega

/-- the tests of a kernel (`nd`: the nodata test, `tgt`: pit flag and designated row / column, `selfTest`: whether
`idx_ds == idx0` is tested) agree with a reading on the cells of the raster:
* `nd_iff`: the nodata test fires exactly on the cells that read as nodata;
* `pit`: a cell that reads as a pit has its pit flag set;
* `to`: a cell that reads as a link has the designated row and column as target, and its pit flag can only be set
  when that target is off the raster (NEXTXY: a pit code in the `y` layer), where the cell becomes a pit anyway;
* `noself`: a kernel without the self test never meets a link that designates its own cell (D8 / LDD: a direction
  code has a delta other than `(0, 0)`), so leaving the test out changes nothing. -/
structure Agrees (nrow ncol : Nat) (selfTest : Bool) (nd : Nat → Bool) (tgt : Nat → Bool × Int × Int)
    (read : Nat → Code) : Prop where
  nd_iff : ∀ j, j < nrow * ncol → (nd j = true ↔ read j = .nodata)
  pit : ∀ i, i < nrow * ncol → read i = .pit → (tgt i).1 = true
  to : ∀ i r c, i < nrow * ncol → read i = .to r c →
    (tgt i).2 = (r, c) ∧ ((tgt i).1 = true → inRaster nrow ncol r c = false)
  noself : selfTest = false → ∀ i r c, i < nrow * ncol → read i = .to r c → inRaster nrow ncol r c = true →
    cellIdx ncol r c ≠ i

theorem Agrees.nd_false {nrow ncol : Nat} {selfTest : Bool} {nd : Nat → Bool} {tgt : Nat → Bool × Int × Int}
    {read : Nat → Code} (ag : Agrees nrow ncol selfTest nd tgt read) {j : Nat} (hj : j < nrow * ncol)
    (h : read j ≠ .nodata) : nd j = false := by
  have := (not_congr (ag.nd_iff j hj)).2 h
  simpa using this

theorem cellDs_eq_dsOf {nrow ncol : Nat} {selfTest : Bool} {nd : Nat → Bool} {tgt : Nat → Bool × Int × Int}
    {read : Nat → Code} (ag : Agrees nrow ncol selfTest nd tgt read) (i : Nat) (hi : i < nrow * ncol) :
    (if nd i then nrow * ncol else cellDs nrow ncol selfTest nd tgt i) = dsOf nrow ncol read i ∧
    cellPit nrow ncol selfTest nd tgt i = (dsOf nrow ncol read i == i) := by
  unfold cellDs cellPit dsOf pitBranch
  cases h : read i with
  | nodata =>
    have := (ag.nd_iff i hi).2 h
    simp only [this, if_true, Bool.not_true, Bool.false_and, true_and]
    have : ¬ (nrow * ncol = i) := by omega
    simp [this]
  | pit =>
    simp [ag.nd_false hi (by simp [h]), ag.pit i hi h]
  | to r c =>
    have hnd : nd i = false := ag.nd_false hi (by simp [h])
    obtain ⟨h2, hp⟩ := ag.to i r c hi h
    have hr : (tgt i).2.1 = r := by rw [h2]
    have hc : (tgt i).2.2 = c := by rw [h2]
    simp only [hnd, hr, hc, outside_eq]
    by_cases hin : inRaster nrow ncol r c = true
    · have hp' : (tgt i).1 = false := by
        cases hh : (tgt i).1 with
        | false => rfl
        | true => have := hp hh; rw [hin] at this; cases this
      obtain ⟨e1, hlt, _, _⟩ := cellIdx_of_inRaster hin
      rw [e1]
      by_cases hv : read (cellIdx ncol r c) = .nodata
      · have := (ag.nd_iff _ hlt).2 hv
        simp [hp', hin, this, hv]
      · have hnd2 : nd (cellIdx ncol r c) = false := ag.nd_false hlt hv
        cases hs : selfTest with
        | false =>
          have := ag.noself hs i r c hi h hin
          simp [hp', hin, hnd2, hv, this]
        | true =>
          by_cases he : cellIdx ncol r c = i
          · simp [hp', hin, he]
          · simp [hp', hin, hnd2, hv, he]
    · have hin' : inRaster nrow ncol r c = false := by simpa using hin
      simp [hin']

/-- a kernel whose tests agree with a reading computes the declarative graph of that reading, reports
exactly its self-draining cells (in increasing order) and counts its non-nodata cells -/
theorem decode_eq_graph {nrow ncol : Nat} {selfTest : Bool} {nd : Nat → Bool} {tgt : Nat → Bool × Int × Int}
    {read : Nat → Code} (ag : Agrees nrow ncol selfTest nd tgt read) :
    (decode nrow ncol selfTest nd tgt).ds = graph nrow ncol read ∧
    (decode nrow ncol selfTest nd tgt).pits.toList = pitsOf (graph nrow ncol read) ∧
    (decode nrow ncol selfTest nd tgt).n = nvalidOf (nrow * ncol) read := by
  obtain ⟨hsz, hds, hp, hn⟩ := decode_results nrow ncol selfTest nd tgt
  refine ⟨?_, ?_, ?_⟩
  · apply array_ext_get! (by rw [hsz, graph_size])
    intro i hi
    rw [hsz] at hi
    rw [hds i hi, graph_get _ _ _ _ hi, (cellDs_eq_dsOf ag i hi).1]
  · rw [hp, pitsOf, graph_size]
    apply List.filter_congr
    intro i hi
    have hi' : i < nrow * ncol := by simpa using hi
    rw [graph_get _ _ _ _ hi', (cellDs_eq_dsOf ag i hi').2]
  · rw [hn, nvalidOf]
    congr 1
    apply List.filter_congr
    intro i hi
    have hi' : i < nrow * ncol := by simpa using hi
    by_cases h : read i = .nodata
    · simp [(ag.nd_iff i hi').2 h, h]
    · simp [ag.nd_false hi' h, h]

/-! ### the reading of a table raster, by cases on the cell's code -/

theorem lookup_mem {β : Type} {k : Nat} {v : β} : ∀ {l : List (Nat × β)}, l.lookup k = some v → (k, v) ∈ l
  | [], h => by simp [List.lookup] at h
  | (a, b) :: l, h => by
    by_cases hk : k = a
    · subst hk
      simp [List.lookup] at h
      subst h
      simp
    · have hk' : (k == a) = false := by simpa using hk
      simp only [List.lookup, hk'] at h
      exact List.mem_cons_of_mem _ (lookup_mem h)

theorem lookup_isSome_of_mem {β : Type} {k : Nat} : ∀ {l : List (Nat × β)}, k ∈ l.map (·.1) → ∃ v, l.lookup k = some v
  | [], h => by simp at h
  | (a, b) :: l, h => by
    by_cases hk : k = a
    · subst hk; exact ⟨b, by simp [List.lookup]⟩
    · have hk' : (k == a) = false := by simpa using hk
      simp only [List.lookup, hk']
      exact lookup_isSome_of_mem (by simpa [hk] using h)

section readTab
variable {dirs : List (Nat × (Int × Int))} {pits : List Nat} {mv ncol : Nat} {codes : Array Nat} {i : Nat}

theorem readTab_nodata (h : codes[i]! = mv) : readTab dirs pits mv ncol codes i = .nodata := by
  simp [readTab, h]

theorem readTab_pit (h1 : codes[i]! ≠ mv) (h2 : codes[i]! ∈ pits) : readTab dirs pits mv ncol codes i = .pit := by
  simp [readTab, h1, h2]

theorem readTab_dir {d : Int × Int} (h1 : codes[i]! ≠ mv) (h2 : codes[i]! ∉ pits) (hl : dirs.lookup codes[i]! = some d) :
    readTab dirs pits mv ncol codes i = .to (((i / ncol : Nat) : Int) + d.1) (((i % ncol : Nat) : Int) + d.2) := by
  simp [readTab, h1, h2, hl]

/-- a cell reads as a link only through an entry of the direction table -/
theorem readTab_to {r c : Int} (h : readTab dirs pits mv ncol codes i = .to r c) :
    codes[i]! ≠ mv ∧ codes[i]! ∉ pits ∧
    ∃ d, dirs.lookup codes[i]! = some d ∧ r = ((i / ncol : Nat) : Int) + d.1 ∧ c = ((i % ncol : Nat) : Int) + d.2 := by
  by_cases h1 : codes[i]! = mv
  · rw [readTab_nodata h1] at h; cases h
  · by_cases h2 : codes[i]! ∈ pits
    · rw [readTab_pit h1 h2] at h; cases h
    · cases hl : dirs.lookup codes[i]! with
      | none => simp [readTab, h1, h2, hl] at h
      | some d =>
        rw [readTab_dir h1 h2 hl] at h
        injection h with hr hc
        exact ⟨h1, h2, d, rfl, hr.symm, hc.symm⟩

theorem readTab_pit_iff : readTab dirs pits mv ncol codes i = .pit ↔ codes[i]! ≠ mv ∧ codes[i]! ∈ pits := by
  constructor
  · intro h
    by_cases h1 : codes[i]! = mv
    · rw [readTab_nodata h1] at h; cases h
    · by_cases h2 : codes[i]! ∈ pits
      · exact ⟨h1, h2⟩
      · cases hl : dirs.lookup codes[i]! with
        | none => simp [readTab, h1, h2, hl] at h
        | some d => rw [readTab_dir h1 h2 hl] at h; cases h
  · exact fun ⟨h1, h2⟩ => readTab_pit h1 h2

/-- on a legal code, the cell reads as nodata exactly when it carries the nodata code -/
theorem readTab_nodata_iff (hleg : codes[i]! ∈ alphabet dirs pits mv) :
    readTab dirs pits mv ncol codes i = .nodata ↔ codes[i]! = mv := by
  refine ⟨fun h => ?_, readTab_nodata⟩
  apply Classical.byContradiction
  intro h1
  by_cases h2 : codes[i]! ∈ pits
  · rw [readTab_pit h1 h2] at h; cases h
  · have hk : codes[i]! ∈ dirs.map (·.1) := by
      simp only [alphabet, List.mem_append, List.mem_singleton] at hleg
      rcases hleg with (hk | hp) | hm
      · exact hk
      · exact absurd hp h2
      · exact absurd hm h1
    obtain ⟨d, hl⟩ := lookup_isSome_of_mem hk
    rw [readTab_dir h1 h2 hl] at h; cases h

end readTab

theorem mv_mem_alphabet (dirs : List (Nat × (Int × Int))) (pits : List Nat) (mv : Nat) :
    mv ∈ alphabet dirs pits mv := by simp [alphabet]

theorem mem_alphabet_of_dir {dirs : List (Nat × (Int × Int))} {pits : List Nat} {mv : Nat} {v : Nat} {d : Int × Int}
    (h : (v, d) ∈ dirs) : v ∈ alphabet dirs pits mv := by
  unfold alphabet
  exact List.mem_append_left _ (List.mem_append_left _ (List.mem_map.2 ⟨(v, d), h, rfl⟩))

theorem mem_alphabet_of_pit {dirs : List (Nat × (Int × Int))} {pits : List Nat} {mv : Nat} {v : Nat}
    (h : v ∈ pits) : v ∈ alphabet dirs pits mv := by
  unfold alphabet
  exact List.mem_append_left _ (List.mem_append_right _ h)

/-! ### the three formats -/

/-- decidable table check: on every legal code other than nodata, the code's `drdc` is `(0,0)` exactly
on the pit codes and is the compass delta of the specification table otherwise -/
def tabOK (drdc : Nat → Int × Int) (dirs : List (Nat × (Int × Int))) (pits : List Nat) (mv : Nat) : Bool :=
  (alphabet dirs pits mv).all fun v =>
    v == mv ||
    (if pits.contains v then drdc v == (0, 0)
     else match dirs.lookup v with
       | some d => drdc v == d && d != (0, 0)
       | none => false)

/-- what `tabOK` says about one legal code other than nodata -/
theorem tabOK_key {drdc : Nat → Int × Int} {dirs : List (Nat × (Int × Int))} {pits : List Nat} {mv : Nat}
    (hok : tabOK drdc dirs pits mv = true) {v : Nat} (hv : v ∈ alphabet dirs pits mv) (hne : v ≠ mv) :
    (v ∈ pits ∧ drdc v = (0, 0)) ∨
    (v ∉ pits ∧ ∃ d, dirs.lookup v = some d ∧ drdc v = d ∧ d ≠ (0, 0)) := by
  have h := List.all_eq_true.1 hok _ hv
  simp only [Bool.or_eq_true, beq_iff_eq, hne, false_or] at h
  by_cases hp : v ∈ pits
  · left
    have : pits.contains v = true := by simpa using hp
    rw [this] at h
    exact ⟨hp, by simpa using h⟩
  · right
    have : pits.contains v = false := by simpa using hp
    rw [this] at h
    refine ⟨hp, ?_⟩
    cases hl : dirs.lookup v with
    | none => rw [hl] at h; simp at h
    | some d =>
      rw [hl] at h
      simp only [Bool.false_eq_true, if_false, Bool.and_eq_true, beq_iff_eq, bne_iff_ne] at h
      exact ⟨d, rfl, h.1, h.2⟩

theorem tab_agrees {drdc : Nat → Int × Int} {dirs : List (Nat × (Int × Int))} {pits : List Nat} {mv : Nat}
    (hok : tabOK drdc dirs pits mv = true) (nrow ncol : Nat) (codes : Array Nat)
    (hlegal : ∀ i, i < nrow * ncol → codes[i]! ∈ alphabet dirs pits mv) :
    Agrees nrow ncol false (fun j => codes[j]! == mv) (tabTgt drdc ncol codes)
      (readTab dirs pits mv ncol codes) := by
  -- a cell that reads as a link carries a direction code, whose `drdc` is the delta of the table and not `(0, 0)`
  have hto : ∀ i r c, i < nrow * ncol → readTab dirs pits mv ncol codes i = .to r c →
      drdc codes[i]! ≠ (0, 0) ∧ r = ((i / ncol : Nat) : Int) + (drdc codes[i]!).1 ∧
      c = ((i % ncol : Nat) : Int) + (drdc codes[i]!).2 := by
    intro i r c hi h
    obtain ⟨hne, hp, d, hl, hr, hc⟩ := readTab_to h
    rcases tabOK_key hok (hlegal i hi) hne with ⟨hp', _⟩ | ⟨_, d', hl', hd, hd0⟩
    · exact absurd hp' hp
    · rw [hl] at hl'
      injection hl' with hl'
      subst hl'
      rw [hd]
      exact ⟨hd0, hr, hc⟩
  refine ⟨?_, ?_, ?_, ?_⟩
  · intro j hj
    rw [beq_iff_eq]
    exact (readTab_nodata_iff (hlegal j hj)).symm
  · intro i hi h
    obtain ⟨hne, hp⟩ := readTab_pit_iff.1 h
    rcases tabOK_key hok (hlegal i hi) hne with ⟨_, hd⟩ | ⟨hp', _⟩
    · simp [tabTgt, hd]
    · exact absurd hp hp'
  · intro i r c hi h
    obtain ⟨hd0, hr, hc⟩ := hto i r c hi h
    refine ⟨by simp only [tabTgt]; rw [hr, hc], fun ht => ?_⟩
    simp only [tabTgt, Bool.and_eq_true, beq_iff_eq] at ht
    exact absurd (Prod.ext ht.1 ht.2) hd0
  · intro _ i r c hi h hin he
    obtain ⟨hd0, hr, hc⟩ := hto i r c hi h
    obtain ⟨_, _, e3, e4⟩ := cellIdx_of_inRaster hin
    rw [he] at e3 e4
    exact hd0 (Prod.ext (by simp; omega) (by simp; omega))

/-! ### the reading of a NEXTXY raster, by cases -/

theorem readXY_nodata_iff {xs ys : Array Int} {i : Nat} : readXY xs ys i = .nodata ↔ xs[i]! = xyNodata := by
  unfold readXY
  by_cases h1 : xs[i]! = xyNodata
  · simp [h1]
  · by_cases h2 : xs[i]! ∈ xyPits <;> simp [h1, h2]

theorem readXY_pit_iff {xs ys : Array Int} {i : Nat} : readXY xs ys i = .pit ↔ xs[i]! ∈ xyPits := by
  unfold readXY
  by_cases h1 : xs[i]! = xyNodata
  · simp [h1, xyNodata, xyPits]
  · by_cases h2 : xs[i]! ∈ xyPits <;> simp [h1, h2]

theorem readXY_to_iff {xs ys : Array Int} {i : Nat} {r c : Int} :
    readXY xs ys i = .to r c ↔ xs[i]! ≠ xyNodata ∧ xs[i]! ∉ xyPits ∧ r = ys[i]! - 1 ∧ c = xs[i]! - 1 := by
  unfold readXY
  by_cases h1 : xs[i]! = xyNodata
  · simp [h1]
  · by_cases h2 : xs[i]! ∈ xyPits
    · simp [h1, h2]
    · simp only [h1, h2, if_false, Code.to.injEq, ne_eq, not_false_eq_true, true_and]
      exact ⟨fun ⟨a, b⟩ => ⟨a.symm, b.symm⟩, fun ⟨a, b⟩ => ⟨a.symm, b.symm⟩⟩

theorem xyIsPit_iff (x : Int) : xyIsPit x = true ↔ x ∈ xyPits := by
  simp [xyIsPit, xyPv0, xyPv1, xyPits]

theorem xy_agrees (nrow ncol : Nat) (xs ys : Array Int) :
    Agrees nrow ncol true (fun j => xs[j]! == xyMv) (xyTgt xs ys) (readXY xs ys) := by
  refine ⟨fun j _ => ?_, fun i _ h => ?_, fun i r c _ h => ?_, fun h => by cases h⟩
  · rw [beq_iff_eq]; exact readXY_nodata_iff.symm
  · simp [xyTgt, (xyIsPit_iff _).2 (readXY_pit_iff.1 h)]
  · obtain ⟨_, hp, hr, hc⟩ := readXY_to_iff.1 h
    refine ⟨by simp [xyTgt, hr, hc], fun ht => ?_⟩
    -- the pit test can only have fired on the `y` layer: `r = y - 1` is then negative
    simp only [xyTgt, Bool.or_eq_true, xyIsPit_iff] at ht
    have hy : ys[i]! ∈ xyPits := ht.resolve_left hp
    simp only [xyPits, List.mem_cons, List.mem_nil_iff, or_false] at hy
    cases hh : inRaster nrow ncol r c with
    | false => rfl
    | true =>
      have := (inRaster_iff.1 hh).1
      omega

/-! ### user mask -/

theorem applyMask_size {α : Type} [Inhabited α] (mv : α) (mask : Array Bool) (vals : Array α) :
    (applyMask mv mask vals).size = vals.size := by simp [applyMask]

theorem applyMask_get {α : Type} [Inhabited α] (mv : α) (mask : Array Bool) (vals : Array α) (i : Nat)
    (hi : i < vals.size) : (applyMask mv mask vals)[i]! = if mask[i]! then vals[i]! else mv := by
  simp [applyMask, hi]

theorem readTab_mask (dirs : List (Nat × (Int × Int))) (pits : List Nat) (mv ncol : Nat) (codes : Array Nat)
    (mask : Array Bool) (j : Nat) (hj : j < codes.size) :
    readTab dirs pits mv ncol (applyMask mv mask codes) j =
      maskRead (fun i => mask[i]!) (readTab dirs pits mv ncol codes) j := by
  unfold readTab maskRead
  rw [applyMask_get _ _ _ _ hj]
  by_cases hm : mask[j]! = true <;> simp [hm]

/-- masking the two layers with masks that agree on cell `j` -/
theorem readXY_mask2 (xs ys : Array Int) (mx my : Array Bool) (j : Nat) (hx : j < xs.size) (hy : j < ys.size)
    (hm : my[j]! = mx[j]!) :
    readXY (applyMask xyMv mx xs) (applyMask xyMv my ys) j = maskRead (fun i => mx[i]!) (readXY xs ys) j := by
  unfold readXY maskRead
  rw [applyMask_get _ _ _ _ hx, applyMask_get _ _ _ _ hy, hm]
  by_cases hm : mx[j]! = true
  · simp only [hm, if_true]
  · simp [hm, xyMv, xyNodata]

theorem readXY_mask (xs ys : Array Int) (mask : Array Bool) (j : Nat) (hx : j < xs.size) (hy : j < ys.size) :
    readXY (applyMask xyMv mask xs) (applyMask xyMv mask ys) j =
      maskRead (fun i => mask[i]!) (readXY xs ys) j :=
  readXY_mask2 xs ys mask mask j hx hy rfl

/-- table formats: decoding `np.where(mask, raster, mv)` gives the declarative graph of the raster
in which the hidden cells are nodata, with its pits and count -/
theorem tab_mask_excludes {drdc : Nat → Int × Int} {dirs : List (Nat × (Int × Int))} {pits : List Nat} {mv : Nat}
    (hok : tabOK drdc dirs pits mv = true) (nrow ncol : Nat) (codes : Array Nat) (mask : Array Bool)
    (hsize : codes.size = nrow * ncol) (hlegal : ∀ i, i < nrow * ncol → codes[i]! ∈ alphabet dirs pits mv) :
    let d := decode nrow ncol false (fun j => (applyMask mv mask codes)[j]! == mv) (tabTgt drdc ncol (applyMask mv mask codes))
    let g := graph nrow ncol (maskRead (fun i => mask[i]!) (readTab dirs pits mv ncol codes))
    d.ds = g ∧ d.pits.toList = pitsOf g ∧
    d.n = nvalidOf (nrow * ncol) (maskRead (fun i => mask[i]!) (readTab dirs pits mv ncol codes)) := by
  have hl : ∀ i, i < nrow * ncol → (applyMask mv mask codes)[i]! ∈ alphabet dirs pits mv := by
    intro i hi
    rw [applyMask_get _ _ _ _ (by omega)]
    split
    · exact hlegal i hi
    · exact mv_mem_alphabet dirs pits mv
  exact decoded_congr (fun j hj => readTab_mask dirs pits mv ncol codes mask j (by omega))
    (decode_eq_graph (tab_agrees hok nrow ncol _ hl))

/-! ### validity predicates and type inference -/

theorem checkValues_iff (all l : List Nat) : checkValues all l = true ↔ ∀ v ∈ l, v ∈ all := by
  induction l with
  | nil => simp [checkValues]
  | cons dd rest ih =>
    unfold checkValues
    by_cases h : dd ∈ all
    · have : (all.all fun x => x != dd) = false := by
        rw [Bool.eq_false_iff]
        intro hall
        have := List.all_eq_true.1 hall dd h
        simp at this
      simp [this, ih, h]
    · have : (all.all fun x => x != dd) = true := by
        rw [List.all_eq_true]
        intro x hx
        have : x ≠ dd := fun e => h (e ▸ hx)
        simpa using this
      simp [this, h]

/-- the module constant `_all` lists the codes of the alphabet (in another order) -/
theorem mem_d8All_iff (v : Nat) : v ∈ d8All ↔ v ∈ d8Alphabet :=
  have h : (∀ v ∈ d8All, v ∈ d8Alphabet) ∧ (∀ v ∈ d8Alphabet, v ∈ d8All) := by decide
  ⟨h.1 v, h.2 v⟩

theorem mem_lddAll_iff (v : Nat) : v ∈ lddAll ↔ v ∈ lddAlphabet :=
  have h : (∀ v ∈ lddAll, v ∈ lddAlphabet) ∧ (∀ v ∈ lddAlphabet, v ∈ lddAll) := by decide
  ⟨h.1 v, h.2 v⟩

theorem d8Alphabet_lt : ∀ v ∈ d8Alphabet, v < 256 := by decide
theorem lddAlphabet_lt : ∀ v ∈ lddAlphabet, v < 256 := by decide

theorem validTab_iff (alpha : List Nat) (codes : Array Nat) :
    validTab alpha codes = true ↔ ∀ v ∈ codes.toList, v ∈ alpha := by
  unfold validTab
  rw [List.all_eq_true]
  constructor <;> intro h v hv <;> simpa using h v hv

theorem validXY_iff (xs ys : Array Int) :
    validXY xs ys = true ↔
      ∀ i, i < xs.size →
        (xs[i]! = xyNodata ∨ xs[i]! ∈ xyPits → ys[i]! = xs[i]!) ∧
        (¬ (xs[i]! = xyNodata ∨ xs[i]! ∈ xyPits) → xs[i]! ≥ 0) := by
  unfold validXY
  simp only [List.all_eq_true, List.mem_range]
  refine forall_congr' fun i => forall_congr' fun _ => ?_
  by_cases hc : xs[i]! = xyNodata ∨ xs[i]! ∈ xyPits
  · simp [hc]
  · simp [hc]

/-- the code tests the cells with a nodata / pit code in `x` and the others separately -/
theorem isvalidXY_eq (xs ys : Array Int) : isvalidXY xs ys = validXY xs ys := by
  have hm : ∀ i : Nat, (xs[i]! == xyMv || xyIsPit xs[i]!) = true ↔ (xs[i]! = xyNodata ∨ xs[i]! ∈ xyPits) := by
    intro i
    simp [xyMv, xyNodata, xyIsPit, xyPv0, xyPv1, xyPits]
  rw [Bool.eq_iff_iff, validXY_iff]
  unfold isvalidXY
  simp only [Bool.and_eq_true, List.all_eq_true, List.mem_filter, List.mem_range, decide_eq_true_eq,
    beq_iff_eq, and_imp, Bool.not_eq_true', ← Bool.not_eq_true, hm]
  exact ⟨fun ⟨h1, h2⟩ i hi => ⟨fun hc => (h2 i hi hc).symm, h1 i hi⟩,
    fun h => ⟨fun i hi => (h i hi).2, fun i hi hc => ((h i hi).1 hc).symm⟩⟩

/-- the code's `isvalid` is the declarative validity, for every format and container -/
theorem isvalid_eq_spec (t : Ftype) (data : Data) : isvalid t data = Spec.valid t data := by
  cases t <;> cases data <;> simp only [isvalid, Spec.valid]
  · rw [Bool.eq_iff_iff, checkValues_iff, validTab_iff]
    exact forall_congr' fun v => imp_congr_right fun _ => mem_d8All_iff v
  · rw [Bool.eq_iff_iff, checkValues_iff, validTab_iff]
    exact forall_congr' fun v => imp_congr_right fun _ => mem_lddAll_iff v
  · exact isvalidXY_eq _ _

theorem inferFtype_eq_spec (data : Data) : inferFtype data = Spec.infer data := by
  unfold inferFtype Spec.infer ftypes
  simp only [List.find?, isvalid_eq_spec]
  cases Spec.valid .d8 data <;> cases Spec.valid .ldd data <;> cases Spec.valid .nextxy data <;> rfl

end Pf.Fd
