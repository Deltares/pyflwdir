import PfVerif.Proofs.C13_bounds2
import PfVerif.Proofs.C15Last
/-! Lemmas for the `dem._adjust_elevation` part of `Props/C13_bounds2.lean`: every index range of the profile ends
at or before its length. -/
namespace Pf.C13b2
open Pf Pf.C15

theorem rangeAcc_inb (e : Array Int) (a b : Nat) (hb : b ≤ e.size) : InB (rangeAcc e a b) := by
  intro x hx
  obtain ⟨k, hk, rfl⟩ := List.mem_map.1 hx
  have := List.mem_range'_1.1 hk
  show k < e.size
  omega

theorem firstLeLog_inb (e : Array Int) (z : Int) : ∀ f lo, lo + f ≤ e.size → InB (firstLeLog e z f lo) := by
  intro f
  induction f with
  | zero => intro lo _; exact InB_nil
  | succ f ih =>
    intro lo h
    simp only [firstLeLog, InB_cons, apply_ite InB, InB_nil, acc_idx, acc_size, ih (lo + 1) (by omega), ite_self,
      and_true]
    omega

/-- a scan `for j in range(lo, hi + 1)` between two indices of the profile ends at an index of the profile -/
theorem firstLe_lt (e : Array Int) (z : Int) {lo hi n : Nat} (hlo : lo < n) (hhi : hi < n) :
    firstLe e z (hi - lo) lo < n := by
  have := firstLe_le e z (hi - lo) lo
  omega

/-- option 3 stays inside the profile as long as `imin`, `imax`, `i` and the running `i0`, `i1` do -/
theorem opt3Log_inb (e : Array Int) (imin imax i : Nat) (hmin : imin < e.size) (hmax : imax < e.size) (hi : i < e.size) :
    ∀ (zs : List Int) (i0 i1 : Nat), i0 < e.size → i1 < e.size → InB (opt3Log e imin imax i zs i0 i1) := by
  intro zs
  induction zs with
  | nil => intro _ _ _ _; exact InB_nil
  | cons z zs ih =>
    intro i0 i1 h0 h1
    have hj0 := firstLe_lt e z h0 hmin
    have hj1 := firstLe_lt e z h1 hi
    simp only [opt3Log, InB_append]
    exact ⟨⟨⟨firstLeLog_inb e z _ _ (by omega), firstLeLog_inb e z _ _ (by omega)⟩,
      rangeAcc_inb e _ _ (Nat.max_le.2 ⟨hmax, Nat.le_of_lt hj1⟩)⟩, ih _ _ hj0 hj1⟩

/-- the candidate that is written lies inside the profile -/
theorem opt3_b_le (e : Array Int) (imin imax i : Nat) (hmax : imax < e.size) (hi : i < e.size) :
    ∀ (zs : List Int) (i0 i1 : Nat) (best : Cand), i1 < e.size → best.b ≤ e.size →
      (opt3 e imin imax i zs i0 i1 best).b ≤ e.size := by
  intro zs
  induction zs with
  | nil => intro _ _ best _ hb; exact hb
  | cons z zs ih =>
    intro i0 i1 best h1 hb
    have hj1 := firstLe_lt e z h1 hi
    refine ih _ _ _ hj1 ?_
    unfold pick mkCand
    split
    · exact Nat.max_le.2 ⟨hmax, Nat.le_of_lt hj1⟩
    · exact hb

theorem a1FixLog_inb (e : Array Int) (imin imax i : Nat) (zmin zmax : Int) (hmin : imin < e.size)
    (hmax : imax < e.size) (hi : i < e.size) : InB (a1FixLog e imin imax i zmin zmax) := by
  simp only [a1FixLog, InB_append]
  refine ⟨⟨⟨rangeAcc_inb e _ _ (by omega), rangeAcc_inb e _ _ (by omega)⟩,
    opt3Log_inb e imin imax i hmin hmax hi _ 0 imax (by omega) hmax⟩, rangeAcc_inb e _ _ ?_⟩
  apply opt3_b_le e imin imax i hmax hi _ 0 imax _ hmax
  unfold pick mkCand
  split <;> dsimp only <;> omega

theorem a1Fix_size (e : Array Int) (imin imax i : Nat) (zmin zmax : Int) : (a1Fix e imin imax i zmin zmax).size = e.size :=
  applyCand_size _ _

/-- the loop invariant that keeps every index inside the profile -/
def AdjInv (n : Nat) (s : A1) : Prop := s.e.size = n ∧ s.imax < n ∧ s.imin < n

theorem a1Step_inv (n : Nat) (s : A1) (i : Nat) (hi : i < n) (h : AdjInv n s) : AdjInv n (a1Step n s i) := by
  obtain ⟨h1, h2, h3⟩ := h
  refine ⟨(a1Step_size ..).trans h1, ?_, ?_⟩
  · simp only [a1Step, apply_ite A1.imax]
    split
    · exact hi
    · split <;> omega
  · simp only [a1Step, apply_ite A1.imin]
    split <;> omega

theorem a1StepLog_inb (n : Nat) (s : A1) (i : Nat) (hi : i < n) (h : AdjInv n s) : InB (a1StepLog n i s) := by
  obtain ⟨h1, h2, h3⟩ := h
  have him : (if s.e[i]! ≥ s.zmax then i else s.imax) < s.e.size := by split <;> omega
  have hfix := a1FixLog_inb s.e s.imin _ i s.zmin (if s.e[i]! ≥ s.zmax then s.e[i]! else s.zmax) (by omega) him
    (by omega)
  simp only [a1StepLog, apply_ite InB, InB_cons, InB_append, InB_nil, acc_idx, acc_size, apply_ite Array.size,
    a1Fix_size, hfix, ite_self, and_true, true_and]
  split <;> omega

end Pf.C13b2
