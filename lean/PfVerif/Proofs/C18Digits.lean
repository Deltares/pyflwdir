import PfVerif.Proofs.C18Pfaf
/-! Algorithm-level digit invariant of `subbasins_pfafstetter`: every code ever written to
`pfaf_branch` is, modulo `10^depth`, a `depth`-digit number with digits in 1..9. -/
namespace Pf

/-- value of a little-endian digit list (head = deepest level) -/
def ofDigits : List Int → Int
  | [] => 0
  | d :: l => d + 10 * ofDigits l

theorem ofDigits_set (l : List Int) : ∀ (e : Nat) (x y : Int), l[e]? = some y →
    ofDigits (l.set e x) = ofDigits l + (x - y) * (10 : Int) ^ e := by
  induction l with
  | nil => intro e x y h; simp at h
  | cons d l ih =>
    intro e x y h
    cases e with
    | zero =>
      simp only [List.getElem?_cons_zero, Option.some.injEq] at h
      subst h
      simp only [List.set_cons_zero, ofDigits, Int.pow_zero]
      omega
    | succ e =>
      simp only [List.getElem?_cons_succ] at h
      simp only [List.set_cons_succ, ofDigits, ih e x y h, Int.pow_succ]
      rw [← Int.mul_assoc]
      generalize (x - y) * (10 : Int) ^ e = t
      omega

theorem ofDigits_snoc (l : List Int) (x : Int) :
    ofDigits (l ++ [x]) = ofDigits l + x * (10 : Int) ^ l.length := by
  induction l with
  | nil => simp [ofDigits]
  | cons d l ih =>
    simp only [List.cons_append, ofDigits, ih, List.length_cons, Int.pow_succ]
    rw [← Int.mul_assoc]
    generalize x * (10 : Int) ^ l.length = t
    omega

theorem ofDigits_bounds (l : List Int) (h : ∀ d ∈ l, 1 ≤ d ∧ d ≤ 9) :
    0 ≤ ofDigits l ∧ ofDigits l < (10 : Int) ^ l.length := by
  induction l with
  | nil => simp [ofDigits]
  | cons d l ih =>
    have hd := h d (by simp)
    have := ih (fun x hx => h x (by simp [hx]))
    simp only [ofDigits, List.length_cons, Int.pow_succ]
    generalize (10 : Int) ^ l.length = t at this ⊢
    omega

/-- `c` is, modulo `10^depth`, a `depth`-digit number with digits in 1..9 -/
def Good (depth : Nat) (c : Int) : Prop :=
  ∃ (l : List Int) (q : Int), l.length = depth ∧ (∀ d ∈ l, 1 ≤ d ∧ d ≤ 9) ∧
    c = ofDigits l + (10 : Int) ^ depth * q

/-- … and its digits at levels `0..e` are still 1 (not yet subdivided) -/
def GoodLow (depth e : Nat) (c : Int) : Prop :=
  ∃ (l : List Int) (q : Int), l.length = depth ∧ (∀ d ∈ l, 1 ≤ d ∧ d ≤ 9) ∧
    c = ofDigits l + (10 : Int) ^ depth * q ∧ ∀ k, k ≤ e → k < depth → l[k]? = some 1

theorem GoodLow.good {depth e : Nat} {c : Int} (h : GoodLow depth e c) : Good depth c := by
  obtain ⟨l, q, h1, h2, h3, _⟩ := h
  exact ⟨l, q, h1, h2, h3⟩

/-- adding `δ·10^e` (δ in 1..8) to a code whose digit `e` is still 1 sets that digit to `1+δ` -/
theorem GoodLow.add {depth e : Nat} {c : Int} (h : GoodLow depth e c) (he : e < depth) (δ : Int)
    (h1 : 1 ≤ δ) (h8 : δ ≤ 8) :
    Good depth (c + δ * (10 : Int) ^ e) ∧
    ∀ e', e' < e → GoodLow depth e' (c + δ * (10 : Int) ^ e) := by
  obtain ⟨l, q, hlen, hdig, hc, hlow⟩ := h
  have hle : l[e]? = some 1 := hlow e (Nat.le_refl e) he
  have hval : c + δ * (10 : Int) ^ e = ofDigits (l.set e (1 + δ)) + (10 : Int) ^ depth * q := by
    rw [ofDigits_set l e (1 + δ) 1 hle, hc]
    have : (1 + δ - 1) = δ := by omega
    rw [this]
    generalize δ * (10 : Int) ^ e = t
    generalize (10 : Int) ^ depth * q = u
    omega
  have hdig' : ∀ d ∈ l.set e (1 + δ), 1 ≤ d ∧ d ≤ 9 := by
    intro d hd
    rcases List.mem_or_eq_of_mem_set hd with hd | hd
    · exact hdig d hd
    · subst hd; omega
  refine ⟨⟨l.set e (1 + δ), q, by simp [hlen], hdig', hval⟩, fun e' he' => ?_⟩
  refine ⟨l.set e (1 + δ), q, by simp [hlen], hdig', hval, fun k hk hkd => ?_⟩
  have hne : e ≠ k := by omega
  rw [List.getElem?_set_ne hne]
  exact hlow k (by omega) hkd

theorem dig_ofDigits (l : List Int) (hl : ∀ d ∈ l, 1 ≤ d ∧ d ≤ 9) : ∀ (k : Nat) (y : Int), l[k]? = some y →
    dig k (ofDigits l) = y := by
  induction l with
  | nil => intro k y h; simp at h
  | cons d l ih =>
    intro k y h
    have hd := hl d (by simp)
    cases k with
    | zero =>
      simp only [List.getElem?_cons_zero, Option.some.injEq] at h
      subst h
      simp only [dig, ofDigits, Int.pow_zero, Int.ediv_one]
      omega
    | succ k =>
      simp only [List.getElem?_cons_succ] at h
      have := ih (fun x hx => hl x (by simp [hx])) k y h
      unfold dig at this ⊢
      simp only [ofDigits]
      have hp : (10 : Int) ^ (k + 1) = 10 * 10 ^ k := by rw [Int.pow_succ, Int.mul_comm]
      rw [hp, ← Int.ediv_ediv_of_nonneg (by decide : (0 : Int) ≤ 10)]
      have : (d + 10 * ofDigits l) / 10 = ofDigits l := by omega
      rw [this]; assumption

/-- a good code reduced modulo `10^depth`, in the form the certificate `digitsOK` tests -/
theorem Good.emod_dig {depth : Nat} (hd : 1 ≤ depth) {c : Int} (h : Good depth c) :
    0 < c % (10 : Int) ^ depth ∧ c % (10 : Int) ^ depth < (10 : Int) ^ depth ∧
    ∀ k, k < depth → 1 ≤ dig k (c % (10 : Int) ^ depth) ∧ dig k (c % (10 : Int) ^ depth) ≤ 9 := by
  obtain ⟨l, q, hlen, hdig, hc⟩ := h
  have hb := ofDigits_bounds l hdig
  rw [hlen] at hb
  -- reduced modulo `10^depth` the code is the value of its digit list
  rw [hc, Int.add_mul_emod_self_left, Int.emod_eq_of_lt hb.1 hb.2]
  refine ⟨?_, hb.2, fun k hk => ?_⟩
  · cases l with
    | nil => simp at hlen; omega
    | cons d l' =>
      have h1 := hdig d (by simp)
      have h2 := ofDigits_bounds l' (fun x hx => hdig x (by simp [hx]))
      simp only [ofDigits]
      omega
  · have hk' : k < l.length := by omega
    have hget : l[k]? = some l[k] := List.getElem?_eq_getElem hk'
    rw [dig_ofDigits l hdig k _ hget]
    exact hdig _ (List.getElem_mem hk')

/-! ### `pfaf0 = 11…1` -/

theorem pfBase_succ (d : Nat) :
    pfBase (d + 1) = pfBase d + (if d = 0 then 0 else (10 : Int) ^ d) := by
  unfold pfBase
  rw [List.range_succ, List.foldl_append]
  simp only [List.foldl_cons, List.foldl_nil]
  split <;> simp

theorem pfBase_eq : ∀ d, 1 ≤ d → pfBase d = ofDigits (List.replicate d 1) := by
  intro d
  induction d with
  | zero => intro h; omega
  | succ d ih =>
    intro _
    cases d with
    | zero => decide
    | succ d =>
      rw [pfBase_succ, ih (by omega), List.replicate_succ' (n := d + 1), ofDigits_snoc]
      simp

theorem pfaf1_goodLow (depth : Nat) (hd : 1 ≤ depth) (q : Int) (e : Nat) :
    GoodLow depth e (pfBase depth + q * (10 : Int) ^ depth) := by
  refine ⟨List.replicate depth 1, q, by simp, ?_, ?_, ?_⟩
  · intro d hdm
    have := List.eq_of_mem_replicate hdm
    omega
  · rw [pfBase_eq depth hd, Int.mul_comm]
  · intro k _ hk
    simp [hk]

/-! ### the invariant through the loops -/

/-- every seed is 0 or a good code -/
def BrGood (depth : Nat) (br : Array Int) : Prop := ∀ j : Nat, br[j]! = 0 ∨ Good depth br[j]!

/-- a pending entry `(c, d)` has a level `1 ≤ d ≤ depth` and a good code whose digits below level `d` are still 1 -/
def LabsGood (depth : Nat) (labs : List (Int × Nat)) : Prop :=
  ∀ p ∈ labs, 1 ≤ p.2 ∧ p.2 ≤ depth ∧ GoodLow depth (depth - p.2) p.1

theorem BrGood.set {depth : Nat} {br : Array Int} (h : BrGood depth br) {v : Int} (hv : Good depth v)
    (i : Nat) : BrGood depth (br.setIfInBounds i v) := by
  intro j
  rw [get!_setIfInBounds]
  split
  · exact Or.inr hv
  · exact h j

theorem stemFill_good {depth : Nat} (usMain : Array Nat) (n : Nat) (h : Nat → Int → Bool)
    {v : Int} (hv : Good depth v) :
    ∀ (f idx : Nat) (br r : Array Int), stemFill usMain n h v f idx br = some r →
      BrGood depth br → BrGood depth r := by
  intro f
  induction f with
  | zero => intro idx br r hr; simp [stemFill] at hr
  | succ f ih =>
    intro idx br r hr hb
    simp only [stemFill] at hr
    split at hr
    · simp only [Option.some.injEq] at hr; subst hr; exact hb
    · exact ih _ _ _ hr (hb.set hv _)

theorem LabsGood.snoc {depth : Nat} {labs : List (Int × Nat)} (h : LabsGood depth labs) {c : Int} {d : Nat}
    (h1 : 1 ≤ d) (h2 : d ≤ depth) (h3 : GoodLow depth (depth - d) c) : LabsGood depth (labs ++ [(c, d)]) := by
  intro p hp
  rcases List.mem_append.1 hp with hp | hp
  · exact h p hp
  · simp only [List.mem_singleton] at hp
    subst hp
    exact ⟨h1, h2, h3⟩

theorem pfInner_good (ds usMain : Array Nat) (so : Array Int) (depth : Nat) (pfaf0 : Int) (d0 : Nat)
    (hd1 : 1 ≤ d0) (hd2 : d0 ≤ depth) (hp0 : GoodLow depth (depth - d0) pfaf0) :
    ∀ (l : List Nat) (i : Nat) (st r : PfSt × Int × Bool), i + l.length ≤ 4 →
      pfInner ds usMain so depth pfaf0 d0 l i st = some r →
      BrGood depth st.1.1 → LabsGood depth st.1.2.2 →
      BrGood depth r.1.1 ∧ LabsGood depth r.1.2.2 := by
  intro l
  induction l with
  | nil =>
    intro i st r _ hr hb hl
    simp only [pfInner_nil, Option.some.injEq] at hr; subst hr; exact ⟨hb, hl⟩
  | cons idx rest ih =>
    rintro i ⟨⟨br, idxs, labs⟩, intDs, ok⟩ r hlen hr hb hl
    simp only [List.length_cons] at hlen
    have he : depth - d0 < depth := by omega
    -- `i ≤ 3`: the increments `2i+1` and `2i+2` are in 1..8
    have hsub := hp0.add he (2 * (i : Int) + 1) (by omega) (by omega)
    have hint := hp0.add he (((i : Int) + 1) * 2) (by omega) (by omega)
    have hlabs : ∀ (c : Int), (∀ e', e' < depth - d0 → GoodLow depth e' c) →
        ∀ labs', LabsGood depth labs' →
          LabsGood depth (if d0 < depth then labs' ++ [(c, d0 + 1)] else labs') := by
      intro c hc labs' hl'
      split
      · exact hl'.snoc (by omega) (by omega) (hc _ (by omega))
      · exact hl'
    obtain ⟨br1, h1, ⟨_, hr⟩ | ⟨_, br2, h2, hr⟩⟩ := pfInner_cons hr
    · exact ih _ _ _ (by omega) hr (stemFill_good _ _ _ hsub.1 _ _ _ _ h1 (hb.set hsub.1 _))
        (hlabs _ hsub.2 _ hl)
    · exact ih _ _ _ (by omega) hr
        (stemFill_good _ _ _ hint.1 _ _ _ _ h2
          ((stemFill_good _ _ _ hsub.1 _ _ _ _ h1 (hb.set hsub.1 _)).set hint.1 _))
        (hlabs _ hint.2 _ (hlabs _ hsub.2 _ hl))

theorem pfLoop_good (ds usMain : Array Nat) (so uparea : Array Int) (trib : List Nat) (depth : Nat)
    (f : Nat) (st r : PfSt × Bool × Bool)
    (h : pfLoop ds usMain so uparea trib depth f st = some r) :
    BrGood depth st.1.1 → LabsGood depth st.1.2.2 → BrGood depth r.1.1 := by
  refine pfLoop_induct (fun st => BrGood depth st.1.1 → LabsGood depth st.1.2.2 → BrGood depth r.1.1)
    (fun _ hb _ => hb) ?_ ?_ f st h
  · intro br idxs pfaf0 d0 labs tie ok _ ih hb hl
    exact ih hb (fun p hp => hl p (List.mem_cons_of_mem _ hp))
  · intro br idxs pfaf0 d0 labs tie tie' ok st' x ok' _ hin ih hb hl
    have ha := hl (pfaf0, d0) (by simp)
    have hlen := pfSel_length ds uparea br trib pfaf0
    have := pfInner_good ds usMain so depth pfaf0 d0 ha.1 ha.2.1 ha.2.2 _ 0 _ _ (by omega) hin hb
      (fun p hp => hl p (List.mem_cons_of_mem _ hp))
    exact ih this.1 this.2

theorem pfPits_good (usMain : Array Nat) (n : Nat) (so : Array Int) (depth : Nat) (hd : 1 ≤ depth) :
    ∀ (l : List Nat) (i : Nat) (st r : PfSt), pfPits usMain n so depth l i st = some r →
      BrGood depth st.1 → LabsGood depth st.2.2 →
      BrGood depth r.1 ∧ LabsGood depth r.2.2 := by
  intro l
  induction l with
  | nil =>
    intro i st r hr hb hl
    simp only [pfPits_nil, Option.some.injEq] at hr; subst hr; exact ⟨hb, hl⟩
  | cons idx rest ih =>
    rintro i ⟨br, idxs, labs⟩ r hr hb hl
    have hg := pfaf1_goodLow depth hd ((i : Int) + 1) (depth - 1)
    obtain ⟨br1, h1, hr⟩ := pfPits_cons hr
    exact ih _ _ _ hr (stemFill_good _ _ _ hg.good _ _ _ _ h1 (hb.set hg.good _))
      (hl.snoc (Nat.le_refl 1) hd hg)

/-- **digit invariant**: every entry of `pfaf_branch` after the two loops is 0 or good -/
theorem pfBranch_good (pits : List Nat) (ds : Array Nat) (seq : List Nat) (usMain : Array Nat)
    (uparea : Array Int) (mask : Option (Array Bool)) (depth : Nat) (hd : 1 ≤ depth)
    (br : Array Int) (idxs : List Nat) (tie ok : Bool)
    (h : pfBranch pits ds seq usMain uparea mask depth = some (br, idxs, tie, ok)) : BrGood depth br := by
  obtain ⟨st0, labs, hp, heq⟩ := pfBranch_some h
  have hpg := pfPits_good usMain ds.size _ depth hd pits 0 _ st0 hp
    (fun j => Or.inl (get!_replicate _ j (.inr rfl))) (fun p hp => by cases hp)
  exact pfLoop_good _ _ _ _ _ _ _ _ _ heq hpg.1 hpg.2

end Pf
