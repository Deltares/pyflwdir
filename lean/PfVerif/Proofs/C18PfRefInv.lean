import PfVerif.Proofs.C18PfLinkInv
/-! Pfafstetter refinement across depths, single-run invariants:
`PfOrd` — the cells that carry a pending code of level `d` have (unreduced) classic stream order `≤ d`;
`PfEvo` — what one run of `pfInner (pfaf0, d0)` does to `pfaf_branch`: a coded cell keeps its code or moves
inside the popped block, a newly coded cell and its downstream cell get codes of the popped block.
Step lemmas for the sub-basin fill and the inter-basin fill, from the value-level description of the
fills exported by `PfG.step_sub` / `PfG.step_int`. -/
namespace Pf.C18
open Pf

/-- what the invariants use of the unreduced stream orders `soraw` beside the reduced orders `so` of a run: a cell
with non-zero reduced order has non-zero order, and the main upstream cell keeps the order or has order 0 -/
def SoRaw (ds usMain : Array Nat) (so soraw : Array Int) : Prop :=
  (∀ s : Nat, so[s]! ≠ 0 → soraw[s]! ≠ 0) ∧
  (∀ c, c < ds.size → usMain[c]! < ds.size → soraw[usMain[c]!]! = 0 ∨ soraw[usMain[c]!]! = soraw[c]!)

/-- the cells written by a sub-basin fill from `x` (described by the closure property that `PfG.step_sub` exports)
have the stream order of `x` -/
theorem SoRaw.stem {ds usMain : Array Nat} {so soraw br r : Array Int} (h : SoRaw ds usMain so soraw) {x : Nat}
    (hclo : ∀ P : Nat → Prop, P x →
      (∀ s : Nat, s ≠ x → s < ds.size → ds[s]! < ds.size → br[s]! = 0 → P ds[s]! → usMain[ds[s]!]! = s →
        so[s]! ≠ 0 → P s) → ∀ s : Nat, r[s]! ≠ br[s]! → P s) :
    ∀ s : Nat, r[s]! ≠ br[s]! → soraw[s]! = soraw[x]! :=
  hclo (fun s => soraw[s]! = soraw[x]!) rfl fun s _ hs hds _ hP hu hso => by
    rcases h.2 ds[s]! hds (by rw [hu]; exact hs) with h1 | h1
    · rw [hu] at h1; exact absurd h1 (h.1 s hso)
    · rw [hu] at h1; rw [h1]; exact hP

/-- the cells carrying a pending code of level `d` have stream order `≤ d` -/
def PfOrd (soraw br : Array Int) (labs : List (Int × Nat)) : Prop :=
  ∀ en ∈ labs, ∀ s : Nat, br[s]! = en.1 → soraw[s]! ≤ (en.2 : Int)

/-- `PfOrd` while `pfInner (pfaf0, d0)` runs: the cells of `pfaf_int_ds` have order `≤ d0 + 1`, the remaining
tributaries order `≤ d0 + 1` and their confluences order `≤ d0` -/
structure PfOrdIn (ds : Array Nat) (soraw br : Array Int) (labs : List (Int × Nat)) (intDs : Int)
    (d0 : Nat) (l : List Nat) : Prop where
  ord : PfOrd soraw br labs
  oi : ∀ s : Nat, br[s]! = intDs → soraw[s]! ≤ (d0 : Int) + 1
  ol : ∀ t ∈ l, soraw[ds[t]!]! ≤ (d0 : Int) ∧ soraw[t]! ≤ (d0 : Int) + 1

/-- what `pfInner (pfaf0, d0)` has done to `br0` so far: a coded cell keeps its code or moves inside the used part
`[pfaf0, lo)` of the popped block (`e1`); a newly coded cell and its downstream cell carry codes of that part (`e2`) -/
structure PfEvo (ds : Array Nat) (br0 br : Array Int) (pfaf0 lo : Int) : Prop where
  e1 : ∀ s : Nat, br0[s]! ≠ 0 → br[s]! = br0[s]! ∨
    (pfaf0 ≤ br0[s]! ∧ br0[s]! < lo ∧ pfaf0 ≤ br[s]! ∧ br[s]! < lo)
  e2 : ∀ s : Nat, br0[s]! = 0 → br[s]! ≠ 0 →
    pfaf0 ≤ br[s]! ∧ br[s]! < lo ∧ ds[s]! ≠ s ∧ pfaf0 ≤ br[ds[s]!]! ∧ br[ds[s]!]! < lo

variable {ds : Array Nat} {soraw br br1 br0 : Array Int} {labs : List (Int × Nat)} {intDs : Int}
  {d0 depth : Nat} {l : List Nat} {pfaf0 lo : Int}

theorem PfEvo.refl (ds : Array Nat) (br : Array Int) (pfaf0 lo : Int) : PfEvo ds br br pfaf0 lo :=
  ⟨fun _ _ => Or.inl rfl, fun _ h0 h1 => absurd h0 h1⟩

theorem PfEvo.mono (h : PfEvo ds br0 br pfaf0 lo) {lo' : Int} (hle : lo ≤ lo') :
    PfEvo ds br0 br pfaf0 lo' :=
  ⟨fun s hs => by
      rcases h.e1 s hs with h1 | h1
      · exact Or.inl h1
      · exact Or.inr ⟨h1.1, by omega, h1.2.2.1, by omega⟩,
    fun s h0 h1 => by
      obtain ⟨a, b, c, d, e⟩ := h.e2 s h0 h1
      exact ⟨a, by omega, c, d, by omega⟩⟩

/-- a fill that writes the code `v` of the unused part on uncoded cells only (sub-basin stem) -/
theorem PfEvo.sub_step (h : PfEvo ds br0 br pfaf0 lo) (hp0 : 0 < pfaf0) {v : Int} (hv : pfaf0 ≤ v)
    {lo' : Int} (hlo : lo ≤ lo') (hvlo : v < lo')
    (hkeep : ∀ s : Nat, br[s]! ≠ 0 → br1[s]! = br[s]!)
    (hnew : ∀ s : Nat, br[s]! = 0 → br1[s]! ≠ 0 →
      br1[s]! = v ∧ ds[s]! ≠ s ∧ pfaf0 ≤ br1[ds[s]!]! ∧ br1[ds[s]!]! < lo') :
    PfEvo ds br0 br1 pfaf0 lo' := by
  refine ⟨fun s hs => ?_, fun s h0 h1 => ?_⟩
  · rcases h.e1 s hs with h1 | h1
    · left; rw [hkeep s (by rw [h1]; exact hs)]; exact h1
    · right
      rw [hkeep s (by omega)]
      exact ⟨h1.1, by omega, h1.2.2.1, by omega⟩
  · by_cases hb : br[s]! = 0
    · obtain ⟨a, b, c, d⟩ := hnew s hb h1
      exact ⟨by rw [a]; exact hv, by rw [a]; exact hvlo, b, c, d⟩
    · obtain ⟨a, b, c, d, e⟩ := h.e2 s h0 hb
      rw [hkeep s hb, hkeep _ (by omega)]
      exact ⟨a, by omega, c, d, by omega⟩

/-- a fill that relabels cells of the code `w` (of the used part) with the unused code `v`, and writes `v`
on the start cell `x` -/
theorem PfEvo.int_step {br2 : Array Int} (h : PfEvo ds br0 br1 pfaf0 lo) (hp0 : 0 < pfaf0) {v w : Int}
    (hv : pfaf0 ≤ v) {lo' : Int} (hlo : lo ≤ lo') (hvlo : v < lo')
    (hw : pfaf0 ≤ w ∧ w < lo) {x : Nat}
    (hw2 : ∀ s : Nat, br2[s]! = br1[s]! ∨ (br2[s]! = v ∧ (s = x ∨ br1[s]! = w)))
    (hx : br1[x]! = 0 ∨ br1[x]! = w) (hdx : ds[x]! ≠ x) (hbd : br2[ds[x]!]! = w) :
    PfEvo ds br0 br2 pfaf0 lo' := by
  have hin : ∀ s : Nat, pfaf0 ≤ br1[s]! → br1[s]! < lo → pfaf0 ≤ br2[s]! ∧ br2[s]! < lo' := by
    intro s a b
    rcases hw2 s with h1 | h1
    · rw [h1]; exact ⟨a, by omega⟩
    · rw [h1.1]; exact ⟨hv, hvlo⟩
  refine ⟨fun s hs => ?_, fun s h0 h1 => ?_⟩
  · rcases hw2 s with h2 | h2
    · rw [h2]
      rcases h.e1 s hs with h1 | h1
      · exact Or.inl h1
      · exact Or.inr ⟨h1.1, by omega, h1.2.2.1, by omega⟩
    · right
      rw [h2.1]
      have hb1 : br1[s]! = w ∨ br1[s]! = 0 := by
        rcases h2.2 with h3 | h3
        · rw [h3]; rcases hx with h4 | h4
          · exact Or.inr h4
          · exact Or.inl h4
        · exact Or.inl h3
      rcases h.e1 s hs with h1 | h1
      · rcases hb1 with h4 | h4
        · exact ⟨by omega, by omega, hv, hvlo⟩
        · exfalso; rw [h1] at h4; exact hs h4
      · exact ⟨h1.1, by omega, hv, hvlo⟩
  · by_cases hb : br1[s]! = 0
    · rcases hw2 s with h2 | h2
      · rw [h2] at h1; exact absurd hb h1
      · have hsx : s = x := by
          rcases h2.2 with h3 | h3
          · exact h3
          · omega
        subst hsx
        rw [h2.1, hbd]
        exact ⟨hv, hvlo, hdx, hw.1, by omega⟩
    · obtain ⟨a, b, c, d, e⟩ := h.e2 s h0 hb
      have h3 := hin s a b
      have h4 := hin _ d e
      exact ⟨h3.1, h3.2, c, h4.1, h4.2⟩

/-! ### stream orders of the cells of a code -/

/-- after a fill that writes the fresh code `v` on cells of stream order `≤ d0 + 1` (and queues it) -/
theorem PfOrdIn.write (h : PfOrdIn ds soraw br labs intDs d0 l) {v : Int} {rest : List Nat}
    (hrest : ∀ t ∈ rest, t ∈ l)
    (hw1 : ∀ s : Nat, br1[s]! = br[s]! ∨ br1[s]! = v) (hfresh : ∀ s : Nat, br[s]! ≠ v)
    (hvso : ∀ s : Nat, br1[s]! ≠ br[s]! → soraw[s]! ≤ (d0 : Int) + 1)
    (hvlabs : ∀ en ∈ labs, en.1 ≠ v) (b : Prop) [Decidable b] (intDs' : Int)
    (hint : intDs' = v ∨ (intDs' = intDs ∧ v ≠ intDs)) :
    PfOrdIn ds soraw br1 (if b then labs ++ [(v, d0 + 1)] else labs) intDs' d0 rest := by
  have hold : ∀ en ∈ labs, ∀ s : Nat, br1[s]! = en.1 → soraw[s]! ≤ (en.2 : Int) := by
    intro en hen s hs
    rcases hw1 s with h1 | h1
    · exact h.ord en hen s (by rw [← h1]; exact hs)
    · exact absurd (by rw [← hs, h1]) (hvlabs en hen)
  have hnewv : ∀ s : Nat, br1[s]! = v → soraw[s]! ≤ (d0 : Int) + 1 := by
    intro s hs
    exact hvso s (fun hc => hfresh s (by rw [← hc]; exact hs))
  refine ⟨fun en hen s hs => ?_, fun s hs => ?_, fun t ht => h.ol t (hrest t ht)⟩
  · rcases mem_push hen with hen | ⟨_, rfl⟩
    · exact hold en hen s hs
    · have := hnewv s hs
      simp only
      omega
  · rcases hint with hi | hi
    · exact hnewv s (by rw [hs, hi])
    · rcases hw1 s with h1 | h1
      · exact h.oi s (by rw [← h1, hs, hi.1])
      · exact absurd (by rw [← h1, hs, hi.1]) hi.2

end Pf.C18
