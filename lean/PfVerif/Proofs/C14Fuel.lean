import PfVerif.Proofs.C14Up
import PfVerif.Proofs.Paths
import PfVerif.Core.Folds
/-! Fuel sufficiency for the walk oracles of C14.

Every oracle the driver evaluates walks downstream with fuel `ds.size + 1`. Along a downstream-first
order (`Topo`) whose cells are in range, the flow path of a cell of the order reaches a pit in fewer
than `seq.length ≤ ds.size` steps, so the fuel is never exhausted: the `… = some v → …` shape of the
`_eq_spec` theorems becomes an unconditional equality. -/
namespace Pf

/-- the flow path from `i` reaches a pit in fewer than `k` steps -/
def pitWithin_c14 (ds : Array Nat) : Nat → Nat → Bool
  | 0, _ => false
  | k+1, i => ds[i]! == i || pitWithin_c14 ds k ds[i]!

theorem pitWithin_iff_c14 (ds : Array Nat) :
    ∀ k i, pitWithin_c14 ds k i = true ↔ ∃ m, m < k ∧ ds[iterA ds m i]! = iterA ds m i
  | 0, i => by simp [pitWithin_c14]
  | k+1, i => by
    rw [pitWithin_c14, Bool.or_eq_true, beq_iff_eq, pitWithin_iff_c14 ds k]
    constructor
    · rintro (h | ⟨m, hm, h⟩)
      · exact ⟨0, Nat.succ_pos k, h⟩
      · exact ⟨m+1, Nat.succ_lt_succ hm, h⟩
    · rintro ⟨m, hm, h⟩
      cases m with
      | zero => exact Or.inl h
      | succ m => exact Or.inr ⟨m, Nat.lt_of_succ_lt_succ hm, h⟩

/-- every cell of an in-range order reaches a pit within the fuel `ds.size + 1` the driver's oracles use -/
theorem Topo.reach_size_c14 {ds : Array Nat} {seq : List Nat} (h : Topo ds seq)
    (hb : ∀ i ∈ seq, i < ds.size) : ∀ i ∈ seq, pitWithin_c14 ds (ds.size + 1) i = true := fun i hi =>
  have ⟨k, hk, hp⟩ := h.reaches_pit i hi
  (pitWithin_iff_c14 ds _ i).2 ⟨k, by have := nodup_length_le h.nodup hb; omega, hp⟩

/-! ### the walks never run out of fuel -/

/-- a fuel-bounded walk `W` that answers at a pit at the latest, and otherwise whenever the walk from the
downstream cell answers, is defined wherever a pit is within reach of the fuel -/
theorem walk_total_c14 {β : Type} (ds : Array Nat) (W : Nat → Nat → Option β)
    (hW : ∀ f i, (ds[i]! = i ∨ ∃ v, W f ds[i]! = some v) → ∃ v, W (f+1) i = some v) :
    ∀ k i, pitWithin_c14 ds k i = true → ∃ v, W k i = some v := by
  intro k
  induction k with
  | zero => intro i h; cases h
  | succ k ih =>
    intro i h
    simp only [pitWithin_c14, Bool.or_eq_true, beq_iff_eq] at h
    exact hW k i (h.imp_right (ih _))

theorem walkValid_total_c14 (ds : Array Nat) (data : Array Int) (nd : Int) :
    ∀ k i, pitWithin_c14 ds k i = true → ∃ v, walkValid ds data nd k i = some v := by
  refine walk_total_c14 ds _ fun f i h => ?_
  simp only [walkValid]
  split
  · exact ⟨_, rfl⟩
  · split
    · exact ⟨_, rfl⟩
    · exact h.resolve_left ‹_›

theorem walkDist_total_c14 (ds : Array Nat) (mask : Option (Array Bool)) (step : Nat → Nat → Int) :
    ∀ k i, pitWithin_c14 ds k i = true → ∃ v, walkDist ds mask step k i = some v := by
  refine walk_total_c14 ds _ fun f i h => ?_
  simp only [walkDist]
  split
  · exact ⟨_, rfl⟩
  · rename_i hs
    obtain ⟨v, hv⟩ := h.resolve_left fun hp => hs (by simp [stopAt_c14, hp])
    exact ⟨_, by rw [hv]; rfl⟩

theorem walkFirst_total_c14 (ds : Array Nat) (p : Nat → Bool) :
    ∀ k i, pitWithin_c14 ds k i = true → ∃ s, walkFirst ds p k i = some s := by
  refine walk_total_c14 ds _ fun f i h => ?_
  simp only [walkFirst]
  split
  · exact ⟨_, rfl⟩
  · rename_i hs
    exact h.resolve_left fun hp => hs (by simp [hp])

/-! ### `Feeds` (snoc-shaped: extended at the downstream end) read from the upstream end -/

theorem Feeds.cons_c14 {ds : Array Nat} {data : Array Int} {nd : Int} {k j : Nat}
    (hp : ds[k]! ≠ k) (hd : data[ds[k]!]! = nd) (h : Feeds ds data nd ds[k]! j) : Feeds ds data nd k j := by
  induction h with
  | step h1 h2 => exact Feeds.next _ (Feeds.step hp hd) h1 h2
  | next c _ h1 h2 ih => exact Feeds.next c ih h1 h2

theorem Feeds.inv_c14 {ds : Array Nat} {data : Array Int} {nd : Int} {k j : Nat}
    (h : Feeds ds data nd k j) :
    ds[k]! ≠ k ∧ data[ds[k]!]! = nd ∧ (j = ds[k]! ∨ Feeds ds data nd ds[k]! j) := by
  induction h with
  | step h1 h2 => exact ⟨h1, h2, Or.inl rfl⟩
  | next c _ h1 h2 ih =>
    obtain ⟨a, b, hc⟩ := ih
    refine ⟨a, b, Or.inr ?_⟩
    rcases hc with hc | hc
    · subst hc; exact Feeds.step h1 h2
    · exact Feeds.next c hc h1 h2

/-- no cell of a downstream-first order feeds itself (flow paths do not return) -/
theorem Feeds.irrefl_c14 {ds : Array Nat} {data : Array Int} {nd : Int} {seq : List Nat}
    (htopo : Topo ds seq) : ∀ c ∈ seq, ¬ Feeds ds data nd c c := by
  induction htopo with
  | nil => intro c hc; cases hc
  | @snoc pre i hpre hi hds ih =>
    intro c hc hf
    simp only [List.mem_append, List.mem_singleton] at hc
    rcases hc with hc | hc
    · exact ih c hc hf
    · subst hc
      obtain ⟨h1, _, h3⟩ := Feeds.inv_c14 hf
      rcases hds with hd | hd
      · exact h1 hd
      · rcases h3 with e | e
        · exact h1 e.symm
        · exact hi (Feeds.mem_c14 hpre hd e)

/-- the executable check the driver reports as `cover` is the hypothesis `hcov` of the
model = oracle theorems -/
theorem coversNet_sound_c14 (ds : Array Nat) (seq : List Nat) (h : coversNet_c14 ds seq = true) :
    ∀ c, isValid ds c = true → c ∈ seq := by
  intro c hv
  have hc : c < ds.size := by
    simp only [isValid, Bool.and_eq_true, decide_eq_true_eq] at hv; exact hv.1
  simp only [coversNet_c14, List.all_eq_true, List.mem_range, Bool.or_eq_true, Bool.not_eq_true'] at h
  rcases h c hc with h | h
  · rw [hv] at h; cases h
  · rw [get!_foldl_set (fun _ => true)] at h
    by_cases hm : c ∈ seq ∧ c < (Array.replicate ds.size false).size
    · exact hm.1
    · rw [if_neg hm] at h
      simp [hc] at h

end Pf
