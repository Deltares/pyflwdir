import PfVerif.Proofs.C09Arith
import PfVerif.Proofs.C09Trace
import PfVerif.Proofs.C09Rep
/-! Scale factor 1 (C09): every coarse link is the fine link (`cds[c] = ds[c]`) and every valid pixel is its own outlet
(`identOut`). -/
namespace Pf

theorem Geo.cellfun_one (g : Geo) (h1 : g.cs = 1) :
    (fun q => subidx2idx q g.subncol g.cs g.ncol) = fun q => q :=
  funext fun q => g.cell_one h1 q

theorem repCells_one (ds : Array Nat) (upa : Array Int) (cand : Nat → Bool) (g : Geo) (hg : g.OK ds)
    (h1 : g.cs = 1) (hupa : ∀ p, p < ds.size → ds[p]! ≠ ds.size → 0 < upa[p]!)
    (hcand : ∀ p, p < ds.size → ds[p]! ≠ ds.size → ds[p]! = p ∨ cand p = true) :
    ∀ c, c < ds.size →
      (repCells ds upa cand g.cell g.ncell)[c]! = if ds[c]! = ds.size then ds.size else c := by
  intro c hc
  obtain ⟨_, h2⟩ := repCells_spec ds upa cand g.cell g.ncell
  have hcn : c < g.ncell := by rw [g.ncell_one ds hg h1]; exact hc
  rcases h2 c hcn with ⟨a, b⟩ | ⟨a, b, c', _⟩
  · by_cases hv : ds[c]! = ds.size
    · rw [if_pos hv]; exact a
    · have := b c hc ⟨hv, hcand c hc hv⟩ (g.cell_one h1 c)
      have := hupa c hc hv
      omega
  · rw [g.cell_one h1] at c'
    rw [c'] at b ⊢
    rw [if_neg b.1]

/-- the degenerate window of `dmm_nextidx` at scale 1: a pixel is outside iff it is not the cell itself -/
theorem dmmOutside_one (n c q : Nat) :
    dmmOutside n 0 (2 * Int.ofNat (c / n)) (2 * Int.ofNat (c % n)) q = true ↔ q ≠ c := by
  have hne : ∀ a b : Nat, (2 * (a : Int) - 2 * (b : Int)).natAbs > 0 ↔ a ≠ b := fun a b => by omega
  simp only [dmmOutside, Bool.or_eq_true, decide_eq_true_eq, Int.ofNat_eq_natCast, hne]
  refine ⟨?_, fun hqc => ?_⟩
  · rintro h rfl
    exact h.elim (· rfl) (· rfl)
  · by_cases hd : q / n = c / n
    · exact Or.inr fun hm => hqc (div_mod_inj hd hm)
    · exact Or.inl hd

/-- the expected representative / outlet array at scale 1: every valid pixel is its own outlet -/
def identOut (ds : Array Nat) (c : Nat) : Nat := if ds[c]! = ds.size then ds.size else c

/-- the per-cell loops at scale 1: with `rep = identOut ds` the loop of a valid cell `c` starts at pixel `c` -/
theorem collect_one {α : Type} [Inhabited α] (ds rep : Array Nat) (d : α) (F : Nat → Option α) (v : Nat → α)
    (hrs : rep.size = ds.size) (hrep : ∀ c, c < ds.size → rep[c]! = identOut ds c)
    (hmv : ∀ c, c < ds.size → ds[c]! = ds.size → v c = d)
    (hF : ∀ c, c < ds.size → ds[c]! ≠ ds.size → rep[c]! = c → F c = some (v c)) :
    ∃ a, collect rep.size (fun c => if rep[c]! = ds.size then some d else F c) = some a ∧
      a.size = ds.size ∧ ∀ c, c < ds.size → a[c]! = v c := by
  rw [hrs]
  apply collect_eq
  intro c hc
  have hr := hrep c hc
  unfold identOut at hr
  by_cases hv : ds[c]! = ds.size
  · rw [if_pos (hr.trans (if_pos hv)), hmv c hc hv]
  · rw [if_neg hv] at hr
    rw [if_neg (by rw [hr]; exact Nat.ne_of_lt hc), hF c hc hv hr]

theorem eamNextidx_one (ds rep : Array Nat) (ea : Array Bool) (g : Geo) (h1 : g.cs = 1) (hwf : FineWF ds)
    (hrs : rep.size = ds.size) (hrep : ∀ c, c < ds.size → rep[c]! = identOut ds c)
    (hea : ∀ p, p < ds.size → ds[p]! ≠ ds.size → ea[p]! = true) :
    ∃ cds, eamNextidx ds rep ea g.subncol g.cs g.ncol = some cds ∧ cds.size = ds.size ∧
      ∀ c, c < ds.size → cds[c]! = ds[c]! := by
  unfold eamNextidx
  rw [g.cellfun_one h1]
  refine collect_one ds rep _ _ (fun c => ds[c]!) hrs hrep (fun c _ hv => hv.trans hrs.symm) fun c hc hv hr => ?_
  have hv1 := hwf c hc hv
  rw [hr]
  simp only [eamTrace, hea _ hv1.1 hv1.2, and_true]
  by_cases hp : ds[c]! = c <;> simp [hp]

/-- the trace of `dmm_nextidx` at scale 1, started at pixel `c` (whose window is `{c}`), returns `ds[c]!` within two
iterations: the first leaves `c` unless it is a pit; the second stops at `ds[c]!`, which is outside the window, because
its downstream pixel is itself (a pit) or lies in another cell than `c` (`hno2`: the path does not turn straight back) -/
theorem dmmTrace_one (ds : Array Nat) (outside : Nat → Bool) (c f : Nat) (hout : ∀ q, outside q = true ↔ q ≠ c)
    (hno2 : ds[c]! ≠ c → ds[ds[c]!]! ≠ c) :
    dmmTrace ds (fun q => q) outside c (f + 2) c c = some ds[c]! := by
  have hoc : outside c = false := Bool.eq_false_iff.mpr fun h => (hout c).mp h rfl
  by_cases hp : ds[c]! = c
  · simp [dmmTrace, hp]
  · simp [dmmTrace, hoc, hp, (hout _).mpr hp, hno2 hp]

theorem dmmNextidx_one (ds rep : Array Nat) (g : Geo) (h1 : g.cs = 1)
    (hrs : rep.size = ds.size) (hrep : ∀ c, c < ds.size → rep[c]! = identOut ds c)
    (hno2 : ∀ p, p < ds.size → ds[p]! ≠ ds.size → ds[p]! ≠ p → ds[ds[p]!]! ≠ p) :
    ∃ cds, dmmNextidx ds rep g.subncol g.cs g.ncol = some cds ∧ cds.size = ds.size ∧
      ∀ c, c < ds.size → cds[c]! = ds[c]! := by
  unfold dmmNextidx
  rw [g.cellfun_one h1]
  refine collect_one ds rep _ _ (fun c => ds[c]!) hrs hrep (fun c _ hv => hv.trans hrs.symm) fun c hc hv hr => ?_
  simp only [hr, dmmCentre, if_pos h1, g.ncol_one h1]
  rw [show ds.size + 1 = (ds.size - 1) + 2 by omega]
  exact dmmTrace_one ds _ c _ (dmmOutside_one g.subncol c) (hno2 c hc hv)

theorem ihuOutlets_one (ds rep : Array Nat) (g : Geo) (h1 : g.cs = 1)
    (hrs : rep.size = ds.size) (hrep : ∀ c, c < ds.size → rep[c]! = identOut ds c) :
    ∃ out, ihuOutlets ds rep g.subncol g.cs g.ncol = some out ∧ out.size = ds.size ∧
      ∀ c, c < ds.size → out[c]! = identOut ds c := by
  unfold ihuOutlets
  rw [g.cellfun_one h1]
  refine collect_one ds rep _ _ (identOut ds) hrs hrep (fun c _ hv => if_pos hv) fun c hc hv hr => ?_
  rw [hr, identOut, if_neg hv]
  by_cases hp : ds[c]! = c
  · simp [ihuOutTrace, hp]
  · simp [ihuOutTrace, Ne.symm hp]

theorem ihuNextidx_one (ds out : Array Nat) (ea : Array Bool) (g : Geo) (h1 : g.cs = 1) (hwf : FineWF ds)
    (hos : out.size = ds.size) (hout : ∀ c, c < ds.size → out[c]! = identOut ds c)
    (hd8 : ∀ p, p < ds.size → ds[p]! ≠ ds.size → inD8 p ds[p]! g.subncol = true) :
    ∃ cds, ihuNextidx ds out ea g.subncol g.cs g.ncol = some (cds, []) ∧ cds.size = ds.size ∧
      ∀ c, c < ds.size → cds[c]! = ds[c]! := by
  -- the links are the first components of the collected pairs, and no cell is flagged
  have key : ∀ f : Nat → Option (Nat × Bool),
      (∃ a, collect out.size f = some a ∧ a.size = ds.size ∧ ∀ c, c < ds.size → a[c]! = (ds[c]!, false)) →
      ∃ cds, ((collect out.size f).map fun a =>
        (a.map (·.1), (List.range a.size).filter fun c => a[c]!.2)) = some (cds, []) ∧ cds.size = ds.size ∧
        ∀ c, c < ds.size → cds[c]! = ds[c]! := by
    rintro f ⟨a, ha, hsa, hva⟩
    refine ⟨a.map (·.1), ?_, by rw [Array.size_map, hsa], fun c hc => ?_⟩
    · rw [ha, Option.map_some]
      congr 2
      rw [List.filter_eq_nil_iff]
      intro c hc
      rw [hva c (hsa ▸ List.mem_range.mp hc)]
      exact Bool.false_ne_true
    · rw [getElem!_pos (a.map (·.1)) c (by simpa [hsa] using hc), Array.getElem_map, ← getElem!_pos a c (hsa ▸ hc),
        hva c hc]
  have hsub : ∀ q, subidx2idx q g.subncol g.cs g.subncol = q := fun q => by
    rw [h1]; exact subidx2idx_one q _
  unfold ihuNextidx
  simp only [g.ncol_one h1, hsub]
  apply key
  refine collect_one ds out _ _ (fun c => (ds[c]!, false)) hos hout (fun c _ hv => by rw [hv, hos])
    fun c hc hv hr => ?_
  have hv1 := hwf c hc hv
  have ho1 : out[ds[c]!]! = ds[c]! := by rw [hout _ hv1.1, identOut, if_neg hv1.2]
  simp [hr, ihuNextTrace, ho1, hd8 c hc hv]

end Pf
