import PfVerif.Proofs.C13_bounds
/-! `core.rank` with its three inner loops: logging variant = model, all accesses in bounds. -/
namespace Pf.C13b
open Pf

/-! ### the two pop loops -/

theorem rankAssignL_fst : ∀ (stack : List Nat) (ranks : Array Int) (rnk : Int) (log : List Acc),
    (rankAssignL ranks stack rnk log).1 = rankAssign ranks stack rnk := by
  intro stack
  induction stack with
  | nil => intro _ _ _; rfl
  | cons i rest ih =>
    intro ranks rnk log
    unfold rankAssignL rankAssign
    dsimp only
    rw [← ih (ranks.setIfInBounds i (rnk + 1)) (rnk + 1) (acc Arr.ranks ranks i :: log)]

theorem rankAssignL_inb {n : Nat} : ∀ (stack : List Nat) (ranks : Array Int) (rnk : Int) (log : List Acc),
    ranks.size = n → (∀ i ∈ stack, i < n) → InB log →
      (rankAssignL ranks stack rnk log).1.1.size = n ∧ InB (rankAssignL ranks stack rnk log).2 := by
  intro stack
  induction stack with
  | nil => intro _ _ _ hr _ hl; exact ⟨hr, hl⟩
  | cons i rest ih =>
    intro ranks rnk log hr hst hl
    exact ih _ _ _ ((Array.size_setIfInBounds ..).trans hr) (fun j hj => hst j (List.mem_cons_of_mem _ hj))
      (InB_acc _ _ _ _ (hr ▸ hst i (List.mem_cons_self ..)) hl)

theorem rankMarkLoopL_fst (ranks : Array Int) (stack : List Nat) (log : List Acc) :
    (rankMarkLoopL ranks stack log).1 = rankMarkLoop ranks stack :=
  foldl_fst _ _ (fun _ _ => rfl) _ _

theorem rankMarkLoopL_inb {n : Nat} (ranks : Array Int) (stack : List Nat) (log : List Acc) (hr : ranks.size = n)
    (hst : ∀ i ∈ stack, i < n) (hl : InB log) :
    (rankMarkLoopL ranks stack log).1.size = n ∧ InB (rankMarkLoopL ranks stack log).2 :=
  foldl_inv _ (fun st : Array Int × List Acc => st.1.size = n ∧ InB st.2) _
    (fun _ x hx h => ⟨(Array.size_setIfInBounds ..).trans h.1, InB_acc _ _ _ _ (h.1 ▸ hst x hx) h.2⟩)
    _ ⟨hr, hl⟩

/-! ### the `while True` walk -/

theorem rankWalkL_fst (ds : Array Nat) (ranks : Array Int) :
    ∀ (fuel idx0 idxds : Nat) (stack : List Nat) (log : List Acc),
      (rankWalkL ds ranks fuel idx0 idxds stack log).map Prod.fst = rankWalk ds ranks fuel idx0 idxds stack := by
  intro fuel
  induction fuel with
  | zero => intro _ _ _ _; rfl
  | succ f ih =>
    intro idx0 idxds stack log
    simp only [rankWalkL, rankWalk, apply_ite (Option.map Prod.fst), Option.map_some, rankAssignL_fst,
      rankMarkLoopL_fst, ih]

theorem rankWalkL_inb (ds : Array Nat) (hwf : WF ds) (ranks : Array Int) (hr : ranks.size = ds.size) :
    ∀ (fuel idx0 idxds : Nat) (stack : List Nat) (log : List Acc) (r : (Array Int × Nat) × List Acc),
      idxds < ds.size → ds[idxds]! < ds.size → (∀ i ∈ stack, i < ds.size) → InB log →
      rankWalkL ds ranks fuel idx0 idxds stack log = some r → r.1.1.size = ds.size ∧ InB r.2 := by
  intro fuel
  induction fuel with
  | zero => intro _ _ _ _ _ _ _ _ _ h; cases h
  | succ f ih =>
    intro idx0 idxds stack log r hi hd hst hl h
    have hl1 : InB (acc Arr.ranks ranks idxds :: log) := InB_acc _ _ _ _ (hr ▸ hi) hl
    unfold rankWalkL at h
    extract_lets log1 rnk at h
    split at h
    · cases h; exact rankAssignL_inb stack ranks _ _ hr hst hl1
    · split at h
      · cases h; exact rankAssignL_inb stack ranks _ _ hr hst hl1
      · split at h
        · cases h; exact rankMarkLoopL_inb ranks stack _ hr hst hl1
        · exact ih _ _ _ _ r hd ((hwf idxds hi).2 hd) (List.forall_mem_cons.2 ⟨hi, hst⟩)
            (InB_acc _ _ _ _ hi hl1) h

/-! ### the outer loop -/

theorem rankStepL_inb (ds : Array Nat) (hwf : WF ds) (st r : (Array Int × Nat) × List Acc) (x : Nat) (hx : x < ds.size)
    (hI : st.1.1.size = ds.size ∧ InB st.2) (h : rankStepL ds st x = some r) : r.1.1.size = ds.size ∧ InB r.2 := by
  obtain ⟨hs, hl⟩ := hI
  have hl1 : InB (acc Arr.ds ds x :: st.2) := InB_acc _ _ _ _ hx hl
  have hl2 : InB (acc Arr.ranks st.1.1 x :: acc Arr.ds ds x :: st.2) := InB_acc _ _ _ _ (hs ▸ hx) hl1
  unfold rankStepL at h
  extract_lets ranks n log1 log2 at h
  split at h
  · cases h; exact ⟨hs, hl1⟩
  · rename_i hd
    split at h
    · cases h; exact ⟨hs, hl2⟩
    · have hdlt : ds[x]! < ds.size := (IdxArr.of_wf hwf).lt hx hd
      split at h
      · cases h
      · rename_i r' hw
        cases h
        exact rankWalkL_inb ds hwf st.1.1 hs _ _ _ _ _ r' hdlt ((hwf x hx).2 hdlt)
          (fun i hi => List.mem_singleton.1 hi ▸ hx) hl2 hw

theorem rankL_inb (ds : Array Nat) (hwf : WF ds) (r : (Array Int × Nat) × List Acc) (h : rankL ds = some r) :
    r.1.1.size = ds.size ∧ InB r.2 :=
  foldlM_inv (rankStepL ds) (fun st => st.1.1.size = ds.size ∧ InB st.2) _
    (fun b x b' hx hI hb => rankStepL_inb ds hwf b b' x (List.mem_range.1 hx) hI hb) _ r (by simp) h

end Pf.C13b
