import PfVerif.Proofs.C09_ihuInv
import PfVerif.Proofs.C09Trace
/-! Well-formedness invariant of the (coarse links, outlet pixels) pair through the iterative IHU stages (C09 extension): array lemmas, exact restoration by "unroll edits", the pointwise relation `W`. -/
namespace Pf.C09ihu
open Pf

/-! ### arrays -/

theorem set_set_same (a : Array Nat) (c v w : Nat) :
    (a.setIfInBounds c v).setIfInBounds c w = a.setIfInBounds c w := by
  apply array_ext_get! (by simp)
  intro i _
  simp only [get!_setIfInBounds, Array.size_setIfInBounds]
  split <;> rfl

theorem get!_oob (a : Array Nat) (c : Nat) (h : ¬ c < a.size) : a[c]! = 0 :=
  Pf.get!_oob a c h

theorem set_comm (a : Array Nat) (c d v w : Nat) (h : c ≠ d) :
    (a.setIfInBounds c v).setIfInBounds d w = (a.setIfInBounds d w).setIfInBounds c v := by
  apply array_ext_get! (by simp)
  intro i _
  simp only [get!_setIfInBounds, Array.size_setIfInBounds]
  split
  · rename_i h1
    split
    · rename_i h2; exact absurd (h2.1.trans h1.1.symm) h
    · rfl
  · rfl

/-- apply a list of (index, value) edits from left to right (the two loops of "unroll edits") -/
def applyEd (l : List (Nat × Nat)) (a : Array Nat) : Array Nat := l.foldl (fun a x => a.setIfInBounds x.1 x.2) a

theorem applyEd_nil (a : Array Nat) : applyEd [] a = a := rfl

theorem applyEd_cons (x : Nat × Nat) (l : List (Nat × Nat)) (a : Array Nat) :
    applyEd (x :: l) a = applyEd l (a.setIfInBounds x.1 x.2) := rfl

theorem applyEd_snoc (l : List (Nat × Nat)) (x : Nat × Nat) (a : Array Nat) :
    applyEd (l ++ [x]) a = (applyEd l a).setIfInBounds x.1 x.2 := by
  simp [applyEd, List.foldl_append]

theorem applyEd_size (l : List (Nat × Nat)) (a : Array Nat) : (applyEd l a).size = a.size :=
  foldl_set_size l a

/-- an edit of a cell that does not occur in the list commutes with the list -/
theorem applyEd_set_comm (l : List (Nat × Nat)) : ∀ (a : Array Nat) (c v : Nat), (∀ x ∈ l, x.1 ≠ c) →
    applyEd l (a.setIfInBounds c v) = (applyEd l a).setIfInBounds c v := by
  induction l with
  | nil => intro a c v _; rfl
  | cons y l ih =>
    intro a c v h
    rw [applyEd_cons, applyEd_cons, set_comm a c y.1 v y.2 (fun hh => h y List.mem_cons_self hh.symm)]
    exact ih _ c v (fun x hx => h x (List.mem_cons_of_mem _ hx))

/-- a later edit of cell `c` absorbs an earlier one made before the list was applied -/
theorem applyEd_absorb (l : List (Nat × Nat)) : ∀ (a : Array Nat) (c v w : Nat),
    (applyEd l (a.setIfInBounds c v)).setIfInBounds c w = (applyEd l a).setIfInBounds c w := by
  induction l with
  | nil => intro a c v w; exact set_set_same a c v w
  | cons y l ih =>
    intro a c v w
    rw [applyEd_cons, applyEd_cons]
    by_cases hy : y.1 = c
    · rw [hy, set_set_same]
    · rw [set_comm a c y.1 v y.2 (fun hh => hy hh.symm)]
      exact ih _ c v w

/-- stated for the reversed list so that the induction peels off the LAST edit, the one that decides the final value -/
theorem applyEd_idem_rev (l : List (Nat × Nat)) : ∀ a : Array Nat,
    applyEd l.reverse (applyEd l.reverse a) = applyEd l.reverse a := by
  induction l with
  | nil => intro a; rfl
  | cons x l ih =>
    intro a
    rw [List.reverse_cons, applyEd_snoc, applyEd_snoc, applyEd_absorb, ih]

/-- applying a list of edits twice is the same as applying it once -/
theorem applyEd_idem (l : List (Nat × Nat)) (a : Array Nat) : applyEd l (applyEd l a) = applyEd l a := by
  have := applyEd_idem_rev l.reverse a
  rwa [List.reverse_reverse] at this

/-! ### the state of STEP 4 and exact restoration -/

theorem S4.setDs_cds (s : S4) (c v : Nat) : (s.setDs c v).cds = s.cds.setIfInBounds c v := by
  unfold S4.setDs
  split
  · rfl
  · rename_i h
    simp only [bne_iff_ne, ne_eq, Decidable.not_not] at h
    rw [← h, setIfInBounds_self]

theorem S4.setOut_out (s : S4) (c p : Nat) : (s.setOut c p).out = s.out.setIfInBounds c p := by
  unfold S4.setOut
  split
  · rfl
  · rename_i h
    simp only [bne_iff_ne, ne_eq, Decidable.not_not] at h
    rw [h, setIfInBounds_self]

theorem S4.setDs_bott (s : S4) (c v : Nat) : (s.setDs c v).bott = s.bott := by
  unfold S4.setDs; split <;> rfl
theorem S4.setDs_idx0 (s : S4) (c v : Nat) : (s.setDs c v).idx0 = s.idx0 := by
  unfold S4.setDs; split <;> rfl
theorem S4.setOut_bott (s : S4) (c v : Nat) : (s.setOut c v).bott = s.bott := by
  unfold S4.setOut; split <;> rfl
theorem S4.setOut_idx0 (s : S4) (c v : Nat) : (s.setOut c v).idx0 = s.idx0 := by
  unfold S4.setOut; split <;> rfl
theorem S4.setOut_dsEd (s : S4) (c v : Nat) : (s.setOut c v).dsEd = s.dsEd := by
  unfold S4.setOut; split <;> rfl

theorem S4.unroll_cds (s : S4) : s.unroll.cds = applyEd s.dsEd.reverse s.cds := rfl
theorem S4.unroll_out (s : S4) : s.unroll.out = applyEd s.outEd s.out := rfl

theorem outEdited_false (s : S4) (c : Nat) : s.outEdited c = false ↔ ∀ x ∈ s.outEd, x.1 ≠ c := by
  simp [S4.outEdited]

/-- "unroll edits" would give back exactly `(cds0, out0)`: `rds` - writing the saved coarse links back, last edit first,
restores `cds0`; `rout` - writing the saved outlet pixels back in the order of the edits restores `out0` (an outlet pixel
is only ever saved for a cell that was not edited before, so the first saved value of a cell is its original one and a
later one cannot occur); `rfix` - the outlet pixel of a cell that was never edited is still the original one, which is
what makes the value saved by the next `setOut` the original -/
structure Rest (s : S4) (cds0 out0 : Array Nat) : Prop where
  rds : applyEd s.dsEd.reverse s.cds = cds0
  rout : applyEd s.outEd s.out = out0
  rfix : ∀ c, s.outEdited c = false → s.out[c]! = out0[c]!

theorem Rest.start (s : S4) (h1 : s.dsEd = []) (h2 : s.outEd = []) : Rest s s.cds s.out := by
  refine ⟨by rw [h1]; rfl, by rw [h2]; rfl, fun _ _ => rfl⟩

theorem Rest.setDs {s : S4} {cds0 out0 : Array Nat} (h : Rest s cds0 out0) (c v : Nat) :
    Rest (s.setDs c v) cds0 out0 := by
  unfold S4.setDs
  split
  · refine ⟨?_, h.rout, h.rfix⟩
    show applyEd (s.dsEd ++ [(c, s.cds[c]!)]).reverse (s.cds.setIfInBounds c v) = cds0
    rw [List.reverse_append, List.reverse_singleton, List.singleton_append, applyEd_cons]
    show applyEd s.dsEd.reverse ((s.cds.setIfInBounds c v).setIfInBounds c s.cds[c]!) = cds0
    rw [set_set_same, setIfInBounds_self]
    exact h.rds
  · exact h

theorem Rest.setOut {s : S4} {cds0 out0 : Array Nat} (h : Rest s cds0 out0) (c p : Nat)
    (hc : s.outEdited c = false) : Rest (s.setOut c p) cds0 out0 := by
  unfold S4.setOut
  split
  · refine ⟨h.rds, ?_, ?_⟩
    · show applyEd (s.outEd ++ [(c, s.out[c]!)]) (s.out.setIfInBounds c p) = out0
      rw [applyEd_snoc, applyEd_set_comm _ _ _ _ ((outEdited_false s c).mp hc)]
      show ((applyEd s.outEd s.out).setIfInBounds c p).setIfInBounds c s.out[c]! = out0
      rw [set_set_same, h.rout, h.rfix c hc, setIfInBounds_self]
    · intro c' hc'
      have hc'' : (∀ x ∈ s.outEd ++ [(c, s.out[c]!)], x.1 ≠ c') := by
        have := hc'
        simp only [S4.outEdited, List.any_eq_false] at this
        intro x hx
        have := this x hx
        simpa using this
      have hne : c ≠ c' := hc'' (c, s.out[c]!) (by simp)
      show (s.out.setIfInBounds c p)[c']! = out0[c']!
      rw [get!_setIfInBounds]
      split
      · rename_i hh; exact absurd hh.1 hne
      · apply h.rfix c'
        rw [outEdited_false]
        intro x hx
        exact hc'' x (List.mem_append_left _ hx)
  · exact h

theorem Rest.unroll {s : S4} {cds0 out0 : Array Nat} (h : Rest s cds0 out0) :
    Rest s.unroll cds0 out0 ∧ s.unroll.cds = cds0 ∧ s.unroll.out = out0 := by
  have h1 : s.unroll.cds = cds0 := h.rds
  have h2 : s.unroll.out = out0 := h.rout
  refine ⟨⟨?_, ?_, ?_⟩, h1, h2⟩
  · show applyEd s.dsEd.reverse s.unroll.cds = cds0
    rw [S4.unroll_cds, applyEd_idem]; exact h.rds
  · show applyEd s.outEd s.unroll.out = out0
    rw [S4.unroll_out, applyEd_idem]; exact h.rout
  · intro c _; rw [h2]

/-! ### the pointwise relation `W c v p` between a coarse cell, its link and its outlet pixel -/

/-- what the invariant needs of the relation `W`, of the geometry and of the fine network -/
structure WCtx (e : Env) (n : Nat) (W : Nat → Nat → Nat → Prop) : Prop where
  /-- a link to an 8-neighbour inside the raster together with a valid outlet pixel is acceptable -/
  w1 : ∀ c v p, c < n → v < n → inD8 c v e.ncol = true → ValidPx e.ds p → W c v p
  /-- links are in range, outlet pixels are missing or valid, a linked cell has an outlet pixel -/
  w2 : ∀ c v p, W c v p → v ≤ n ∧ (p = e.ds.size ∨ ValidPx e.ds p) ∧ (v ≠ n → p ≠ e.ds.size)
  /-- the outlet pixel of a linked cell may be replaced by any valid pixel -/
  w3 : ∀ c v p p', W c v p → v ≠ n → ValidPx e.ds p' → W c v p'
  cell : ∀ p, ValidPx e.ds p → e.cell p < n
  wf : FineWF e.ds
  ncell : e.nrow * e.ncol = n

/-- the invariant on a pair of arrays; `A` / `B`: cells whose link / outlet pixel must stay non-missing -/
structure WArr (e : Env) (n : Nat) (W : Nat → Nat → Nat → Prop) (A B : Nat → Prop) (cds out : Array Nat) : Prop where
  szc : cds.size = n
  szo : out.size = n
  ok : ∀ c, c < n → W c cds[c]! out[c]!
  actC : ∀ c, c < n → A c → cds[c]! ≠ n
  actO : ∀ c, c < n → B c → out[c]! ≠ e.ds.size

section warr
variable {e : Env} {n : Nat} {W : Nat → Nat → Nat → Prop} {A B : Nat → Prop}

theorem WArr.valid_of_link (hw : WCtx e n W) {cds out : Array Nat} (h : WArr e n W A B cds out) (c : Nat) (hc : c < n)
    (hv : cds[c]! ≠ n) : ValidPx e.ds out[c]! := by
  obtain ⟨_, h2, h3⟩ := hw.w2 _ _ _ (h.ok c hc)
  rcases h2 with h2 | h2
  · exact absurd h2 (h3 hv)
  · exact h2

theorem WArr.valid_of_out (hw : WCtx e n W) {cds out : Array Nat} (h : WArr e n W A B cds out) (c : Nat) (hc : c < n)
    (hv : out[c]! ≠ e.ds.size) : ValidPx e.ds out[c]! := by
  obtain ⟨_, h2, _⟩ := hw.w2 _ _ _ (h.ok c hc)
  rcases h2 with h2 | h2
  · exact absurd h2 hv
  · exact h2

theorem WArr.link_le (hw : WCtx e n W) {cds out : Array Nat} (h : WArr e n W A B cds out) (c : Nat) :
    cds[c]! ≤ n := by
  by_cases hc : c < n
  · exact (hw.w2 _ _ _ (h.ok c hc)).1
  · rw [get!_oob cds c (by rw [h.szc]; exact hc)]; omega

/-- re-point cell `c` (which has an outlet pixel) to the 8-neighbour `v` -/
theorem WArr.setDs (hw : WCtx e n W) {cds out : Array Nat} (h : WArr e n W A B cds out) (c v : Nat)
    (hv : c < n → v < n ∧ inD8 c v e.ncol = true ∧ out[c]! ≠ e.ds.size) :
    WArr e n W A B (cds.setIfInBounds c v) out := by
  refine ⟨by simp [h.szc], h.szo, ?_, ?_, h.actO⟩
  · intro c' hc'
    rw [get!_setIfInBounds]
    split
    · rename_i hh
      obtain ⟨rfl, _⟩ := hh
      obtain ⟨h1, h2, h3⟩ := hv hc'
      exact hw.w1 _ _ _ hc' h1 h2 (h.valid_of_out hw _ hc' h3)
    · exact h.ok c' hc'
  · intro c' hc' ha
    rw [get!_setIfInBounds]
    split
    · rename_i hh
      obtain ⟨rfl, _⟩ := hh
      have := (hv hc').1
      omega
    · exact h.actC c' hc' ha

/-- move the outlet pixel of the linked cell `c` to the valid pixel `p` -/
theorem WArr.setOut (hw : WCtx e n W) {cds out : Array Nat} (h : WArr e n W A B cds out) (c p : Nat)
    (hv : c < n → cds[c]! ≠ n ∧ ValidPx e.ds p) :
    WArr e n W A B cds (out.setIfInBounds c p) := by
  refine ⟨h.szc, by simp [h.szo], ?_, h.actC, ?_⟩
  · intro c' hc'
    rw [get!_setIfInBounds]
    split
    · rename_i hh
      obtain ⟨rfl, _⟩ := hh
      obtain ⟨h1, h2⟩ := hv hc'
      exact hw.w3 _ _ _ _ (h.ok _ hc') h1 h2
    · exact h.ok c' hc'
  · intro c' hc' hb
    rw [get!_setIfInBounds]
    split
    · rename_i hh
      obtain ⟨rfl, _⟩ := hh
      have := (hv hc').2.1
      omega
    · exact h.actO c' hc' hb

theorem WArr.setPair {cds out : Array Nat} (h : WArr e n W A B cds out) (c v p : Nat)
    (hv : c < n → W c v p ∧ (A c → v ≠ n) ∧ (B c → p ≠ e.ds.size)) :
    WArr e n W A B (cds.setIfInBounds c v) (out.setIfInBounds c p) := by
  refine ⟨by simp [h.szc], by simp [h.szo], ?_, ?_, ?_⟩
  · intro c' hc'
    rw [get!_setIfInBounds, get!_setIfInBounds]
    by_cases hcc : c = c'
    · subst hcc
      rw [if_pos ⟨rfl, by rw [h.szc]; exact hc'⟩, if_pos ⟨rfl, by rw [h.szo]; exact hc'⟩]
      exact (hv hc').1
    · rw [if_neg (fun hh => hcc hh.1), if_neg (fun hh => hcc hh.1)]
      exact h.ok c' hc'
  · intro c' hc' ha
    rw [get!_setIfInBounds]
    split
    · rename_i hh
      obtain ⟨rfl, _⟩ := hh
      exact (hv hc').2.1 ha
    · exact h.actC c' hc' ha
  · intro c' hc' hb
    rw [get!_setIfInBounds]
    split
    · rename_i hh
      obtain ⟨rfl, _⟩ := hh
      exact (hv hc').2.2 hb
    · exact h.actO c' hc' hb

/-- give cell `c` a link to the 8-neighbour `v` and the valid outlet pixel `p` -/
theorem WArr.setBoth (hw : WCtx e n W) {cds out : Array Nat} (h : WArr e n W A B cds out) (c v p : Nat)
    (hv : c < n → v < n ∧ inD8 c v e.ncol = true ∧ ValidPx e.ds p) :
    WArr e n W A B (cds.setIfInBounds c v) (out.setIfInBounds c p) :=
  h.setPair c v p fun hc => ⟨hw.w1 _ _ _ hc (hv hc).1 (hv hc).2.1 (hv hc).2.2, fun _ => Nat.ne_of_lt (hv hc).1,
    fun _ => Nat.ne_of_lt (hv hc).2.2.1⟩

/-- any cells that are linked / have an outlet pixel may be declared "to be kept" -/
theorem WArr.self {A' B' : Nat → Prop} {cds out : Array Nat} (h : WArr e n W A B cds out)
    (hA : ∀ c, c < n → A' c → cds[c]! ≠ n) (hB : ∀ c, c < n → B' c → out[c]! ≠ e.ds.size) :
    WArr e n W A' B' cds out :=
  ⟨h.szc, h.szo, h.ok, hA, hB⟩

theorem WArr.mono {A' B' : Nat → Prop} {cds out : Array Nat} (h : WArr e n W A' B' cds out)
    (hA : ∀ c, A c → A' c) (hB : ∀ c, B c → B' c) : WArr e n W A B cds out :=
  h.self (fun c hc ha => h.actC c hc (hA c ha)) fun c hc hb => h.actO c hc (hB c hb)

/-- the cells that have an outlet pixel keep one; no link is singled out (what the stages are entered with) -/
theorem WArr.keepOut {cds out : Array Nat} (h : WArr e n W A B cds out) :
    WArr e n W (fun _ => False) (fun c => out[c]! ≠ e.ds.size) cds out :=
  h.self (fun _ _ hh => hh.elim) fun _ _ hh => hh

/-- the cells that are linked / have an outlet pixel keep link / outlet pixel, besides those of `A` / `B` -/
theorem WArr.keepAll {cds out : Array Nat} (h : WArr e n W A B cds out) :
    WArr e n W (fun c => A c ∨ cds[c]! ≠ n) (fun c => B c ∨ out[c]! ≠ e.ds.size) cds out :=
  h.self (fun c hc ha => ha.elim (h.actC c hc) id) fun c hc hb => hb.elim (h.actO c hc) id

end warr

end Pf.C09ihu
