import PfVerif.Proofs.C14
/-! The model of `streams.smooth_rivlen`: which cells the loop can change, and conservation of the total length. -/
namespace Pf

/-- `k` lies in the `_window` of `idx0` with half-width `n` -/
def inRivWindow (ds usMain : Array Nat) (n idx0 k : Nat) : Prop :=
  k = idx0 ∨ k ∈ upList ds usMain n idx0 ∨ k ∈ downList ds none 0 n idx0

theorem mem_rivSlice {ds usMain : Array Nat} {n i idx0 k : Nat} (h : k ∈ rivSlice ds usMain n i idx0) :
    inRivWindow ds usMain n idx0 k := by
  simp only [rivSlice, List.mem_append, List.mem_reverse, List.mem_singleton] at h
  rcases h with (h | h) | h
  · exact Or.inr (Or.inl (List.mem_of_mem_take h))
  · exact Or.inl h
  · exact Or.inr (Or.inr (List.mem_of_mem_take h))

theorem setAll_size (a : Array Rat) (idxs : List Nat) (v : Rat) : (setAll a idxs v).size = a.size :=
  size_foldl_set (fun _ => v) idxs a

theorem setAll_get (a : Array Rat) (idxs : List Nat) (v : Rat) (j : Nat) :
    (setAll a idxs v)[j]! = if j ∈ idxs ∧ j < a.size then v else a[j]! :=
  get!_foldl_set (fun _ => v) idxs a j

/-- a property of the candidate windows tried by the inner loop is a property of the remembered one -/
theorem smoothInner_inv (ds usMain : Array Nat) (a : Array Rat) (nd minLen : Rat) (n idx0 : Nat)
    (Q : Rat × List Nat → Prop)
    (hnew : ∀ i, Q (meanAt a ((rivSlice ds usMain n i idx0).filter fun k => a[k]! != nd),
                    (rivSlice ds usMain n i idx0).filter fun k => a[k]! != nd)) :
    ∀ (cnt i : Nat) (st : Rat × List Nat), Q st → Q (smoothInner ds usMain a nd minLen n idx0 cnt i st) := by
  intro cnt
  induction cnt with
  | zero => intro i st h; exact h
  | succ cnt ih =>
    intro i st h
    simp only [smoothInner]
    by_cases h1 : meanAt a ((rivSlice ds usMain n i idx0).filter fun k => a[k]! != nd) > st.1
    · simp only [h1, if_true]
      split
      · exact hnew i
      · exact ih _ _ (hnew i)
    · simp only [h1, if_false]
      split
      · exact h
      · exact ih _ _ h

theorem smoothInner_mem (ds usMain : Array Nat) (a : Array Rat) (nd minLen : Rat) (n idx0 : Nat) :
    ∀ (cnt i : Nat) (st : Rat × List Nat),
      (∀ k ∈ st.2, a[k]! ≠ nd ∧ inRivWindow ds usMain n idx0 k) →
      ∀ k ∈ (smoothInner ds usMain a nd minLen n idx0 cnt i st).2,
        a[k]! ≠ nd ∧ inRivWindow ds usMain n idx0 k :=
  smoothInner_inv ds usMain a nd minLen n idx0
    (fun st => ∀ k ∈ st.2, a[k]! ≠ nd ∧ inRivWindow ds usMain n idx0 k)
    fun i k hk => ⟨by simpa using (List.mem_filter.1 hk).2, mem_rivSlice (List.mem_filter.1 hk).1⟩

/-- one outer step changes only cells that hold a value and lie in the window of `idx0` -/
theorem smoothStep_changed (ds usMain : Array Nat) (nd minLen : Rat) (n : Nat) (st : Array Rat × Bool)
    (idx0 j : Nat) (h : (smoothStep ds usMain nd minLen n st idx0).1[j]! ≠ st.1[j]!) :
    st.1[j]! ≠ nd ∧ inRivWindow ds usMain n idx0 j := by
  unfold smoothStep at h
  simp only [] at h
  split at h
  · split at h
    · rw [setAll_get] at h
      split at h
      · rename_i hm
        exact smoothInner_mem ds usMain st.1 nd minLen n idx0 (n - 1) 1 (st.1[idx0]!, [])
          (fun k hk => by cases hk) j hm.1
      · exact absurd rfl h
    · exact absurd rfl h
  · exact absurd rfl h

theorem smoothStep_size (ds usMain : Array Nat) (nd minLen : Rat) (n : Nat) (st : Array Rat × Bool)
    (idx0 : Nat) : (smoothStep ds usMain nd minLen n st idx0).1.size = st.1.size := by
  unfold smoothStep
  simp only []
  split
  · split
    · exact setAll_size _ _ _
    · rfl
  · rfl

/-- a quantity `f` of the loop state that every step leaves alone as long as a condition `H` (on the cells still to
process and the state) holds, `H` being passed on, is the same after the loop -/
theorem foldl_preserved {σ α β : Type} (step : σ → β → σ) (f : σ → α) (H : List β → σ → Prop)
    (hstep : ∀ x l st, H (x :: l) st → f (step st x) = f st ∧ H l (step st x)) :
    ∀ (l : List β) (st : σ), H l st → f (l.foldl step st) = f st := by
  intro l
  induction l with
  | nil => intro st _; rfl
  | cons x l ih =>
    intro st h
    obtain ⟨h1, h2⟩ := hstep x l st h
    rw [List.foldl_cons, ih _ h2, h1]

/-- the outer loop: a cell not in the window of any processed cell, or holding no value, is unchanged -/
theorem smoothFold_frame (ds usMain : Array Nat) (nd minLen : Rat) (n j : Nat) :
    ∀ (l : List Nat) (st : Array Rat × Bool),
      (st.1[j]! = nd ∨ ∀ idx0 ∈ l, ¬ inRivWindow ds usMain n idx0 j) →
      (l.foldl (smoothStep ds usMain nd minLen n) st).1[j]! = st.1[j]! := by
  refine foldl_preserved (smoothStep ds usMain nd minLen n) (fun st => st.1[j]!)
    (fun l st => st.1[j]! = nd ∨ ∀ idx0 ∈ l, ¬ inRivWindow ds usMain n idx0 j) fun x l st h => ?_
  have hx : (smoothStep ds usMain nd minLen n st x).1[j]! = st.1[j]! :=
    Classical.byContradiction fun hne =>
      have ⟨h1, h2⟩ := smoothStep_changed ds usMain nd minLen n st x j hne
      h.elim h1 fun h => h x List.mem_cons_self h2
  exact ⟨hx, h.imp (fun h => hx.trans h) fun h i hi => h i (List.mem_cons_of_mem _ hi)⟩

/-- with `max_window < 4` no window is ever tried: every step is the identity -/
theorem smoothStep_small (ds usMain : Array Nat) (nd minLen : Rat) (n : Nat) (hn : n ≤ 1)
    (st : Array Rat × Bool) (idx0 : Nat) : smoothStep ds usMain nd minLen n st idx0 = st := by
  have h0 : n - 1 = 0 := by omega
  unfold smoothStep
  simp only [h0, smoothInner]
  split
  · rw [if_neg (Rat.lt_irrefl)]
  · rfl

/-- a cell at or above the threshold that lies in no OTHER cell's window is unchanged -/
theorem smoothFold_frame_ge (ds usMain : Array Nat) (nd minLen : Rat) (n j : Nat) :
    ∀ (l : List Nat) (st : Array Rat × Bool), ¬ (st.1[j]! < minLen) →
      (∀ idx0 ∈ l, idx0 ≠ j → ¬ inRivWindow ds usMain n idx0 j) →
      (l.foldl (smoothStep ds usMain nd minLen n) st).1[j]! = st.1[j]! := by
  intro l st hge h
  refine foldl_preserved (smoothStep ds usMain nd minLen n) (fun st => st.1[j]!)
    (fun l st => ¬ (st.1[j]! < minLen) ∧ ∀ idx0 ∈ l, idx0 ≠ j → ¬ inRivWindow ds usMain n idx0 j)
    (fun x l st h => ?_) l st ⟨hge, h⟩
  have hx : (smoothStep ds usMain nd minLen n st x).1[j]! = st.1[j]! := by
    by_cases hxj : x = j
    · subst hxj
      unfold smoothStep
      simp [h.1]
    · exact Classical.byContradiction fun hne =>
        h.2 x List.mem_cons_self hxj (smoothStep_changed ds usMain nd minLen n st x j hne).2
  exact ⟨hx, by rw [hx]; exact h.1, fun i hi => h.2 i (List.mem_cons_of_mem _ hi)⟩

/-! ### conservation of the total length -/

/-- `Σ_j a[j]` -/
def totalLen (a : Array Rat) : Rat := a.toList.sum

theorem sum_set_rat (l : List Rat) : ∀ (k : Nat) (v : Rat), k < l.length →
    (l.set k v).sum = l.sum - l[k]! + v := by
  induction l with
  | nil => intro k v h; simp at h
  | cons x l ih =>
    intro k v h
    cases k with
    | zero => simp; grind
    | succ k =>
      have := ih k v (by simpa using h)
      simp [List.set] at this ⊢
      grind

theorem totalLen_set (a : Array Rat) (k : Nat) (v : Rat) (hk : k < a.size) :
    totalLen (a.setIfInBounds k v) = totalLen a - a[k]! + v := by
  unfold totalLen
  rw [Array.toList_setIfInBounds, sum_set_rat _ _ _ (by simpa using hk)]
  simp [hk]

theorem totalLen_setAll (v : Rat) : ∀ (idxs : List Nat) (a : Array Rat), idxs.Nodup → (∀ k ∈ idxs, k < a.size) →
    totalLen (setAll a idxs v) = totalLen a - (idxs.map fun k => a[k]!).sum + (idxs.length : Rat) * v := by
  intro idxs
  induction idxs with
  | nil => intro a _ _; simp [setAll]; grind
  | cons k rest ih =>
    intro a hnd hb
    have hk : k < a.size := hb k (by simp)
    have hnd' := (List.nodup_cons.1 hnd)
    have hrest : ∀ k' ∈ rest, (a.setIfInBounds k v)[k']! = a[k']! := by
      intro k' hk'
      rw [get!_setIfInBounds]
      have : k ≠ k' := fun h => hnd'.1 (h ▸ hk')
      simp [this]
    have hmap : (rest.map fun k' => (a.setIfInBounds k v)[k']!) = rest.map fun k' => a[k']! :=
      List.map_congr_left hrest
    show totalLen (setAll (a.setIfInBounds k v) rest v) = _
    rw [ih (a.setIfInBounds k v) hnd'.2 (fun k' hk' => by simpa using hb k' (by simp [hk'])),
      totalLen_set a k v hk, hmap]
    simp only [List.map_cons, List.sum_cons, List.length_cons]
    have : ((rest.length + 1 : Nat) : Rat) = (rest.length : Rat) + 1 := by simp
    rw [this]
    grind

/-- overwriting a duplicate-free set of cells with their mean keeps the total -/
theorem totalLen_setAll_mean (a : Array Rat) (idxs : List Nat) (hnd : idxs.Nodup)
    (hb : ∀ k ∈ idxs, k < a.size) : totalLen (setAll a idxs (meanAt a idxs)) = totalLen a := by
  rw [totalLen_setAll _ idxs a hnd hb]
  unfold meanAt
  by_cases h0 : idxs.length = 0
  · have : idxs = [] := List.length_eq_zero_iff.1 h0
    subst this; simp; grind
  · have hne : (idxs.length : Rat) ≠ 0 := by exact_mod_cast h0
    -- what is taken out is put back: `len * (Σ / len) = Σ`
    have hback : (idxs.length : Rat) * ((idxs.map fun k => a[k]!).sum / (idxs.length : Rat)) =
        (idxs.map fun k => a[k]!).sum := by grind
    rw [hback]; grind

theorem smoothStep_total (ds usMain : Array Nat) (nd minLen : Rat) (n : Nat) (st : Array Rat × Bool)
    (idx0 : Nat)
    (hnd : ∀ i, (rivSlice ds usMain n i idx0).Nodup)
    (hb : ∀ k, inRivWindow ds usMain n idx0 k → k < st.1.size) :
    totalLen (smoothStep ds usMain nd minLen n st idx0).1 = totalLen st.1 := by
  have hQ := smoothInner_inv ds usMain st.1 nd minLen n idx0
    (fun s => s.2 = [] ∨ (s.1 = meanAt st.1 s.2 ∧ s.2.Nodup ∧ ∀ k ∈ s.2, k < st.1.size))
    (fun i => Or.inr ⟨rfl, (hnd i).filter _, fun k hk => hb k (mem_rivSlice (List.mem_filter.1 hk).1)⟩)
    (n - 1) 1 (st.1[idx0]!, []) (Or.inl rfl)
  unfold smoothStep
  simp only []
  split
  · split
    · rcases hQ with h | ⟨h1, h2, h3⟩
      · rw [h]; rfl
      · show totalLen (setAll st.1 _ _) = _
        rw [h1]
        exact totalLen_setAll_mean st.1 _ h2 h3
    · rfl
  · rfl

theorem smoothStep_nd (ds usMain : Array Nat) (nd minLen : Rat) (n : Nat) (st : Array Rat × Bool)
    (idx0 : Nat) (h : st.1[idx0]! = nd) : smoothStep ds usMain nd minLen n st idx0 = st := by
  unfold smoothStep
  simp [h]

/-- the outer loop conserves the total provided every processed cell either holds no value or has a
duplicate-free in-range window -/
theorem smoothFold_total (ds usMain : Array Nat) (nd minLen : Rat) (n : Nat) :
    ∀ (l : List Nat) (st : Array Rat × Bool),
      (∀ idx0 ∈ l, st.1[idx0]! = nd ∨ ((∀ i, (rivSlice ds usMain n i idx0).Nodup) ∧
        ∀ k, inRivWindow ds usMain n idx0 k → k < st.1.size)) →
      totalLen (l.foldl (smoothStep ds usMain nd minLen n) st).1 = totalLen st.1 := by
  refine foldl_preserved (smoothStep ds usMain nd minLen n) (fun st => totalLen st.1)
    (fun l st => ∀ idx0 ∈ l, st.1[idx0]! = nd ∨ ((∀ i, (rivSlice ds usMain n i idx0).Nodup) ∧
      ∀ k, inRivWindow ds usMain n idx0 k → k < st.1.size)) fun x l st h => ⟨?_, fun i hi => ?_⟩
  · rcases h x List.mem_cons_self with h1 | h1
    · rw [smoothStep_nd ds usMain nd minLen n st x h1]
    · exact smoothStep_total ds usMain nd minLen n st x h1.1 h1.2
  · -- a cell without a value stays without, sizes do not change
    refine (h i (List.mem_cons_of_mem _ hi)).imp (fun h1 => Classical.byContradiction fun hne => ?_)
      (fun h1 => by rw [smoothStep_size]; exact h1)
    exact (smoothStep_changed ds usMain nd minLen n st x i (by rw [h1]; exact hne)).1 h1

/-! the hypotheses in terms of `core._window` itself -/

theorem window_none_eq (ds usMain : Array Nat) (n idx0 : Nat) :
    window ds usMain none n idx0 =
      (upList ds usMain n idx0).reverse ++ [idx0] ++ downList ds none 0 n idx0 := by
  rw [window_eq]; rfl

theorem inRivWindow_iff (ds usMain : Array Nat) (n idx0 k : Nat) :
    inRivWindow ds usMain n idx0 k ↔ k ∈ window ds usMain none n idx0 := by
  rw [window_none_eq]
  simp only [inRivWindow, List.mem_append, List.mem_reverse, List.mem_singleton]
  constructor
  · rintro (h | h | h)
    · exact Or.inl (Or.inr h)
    · exact Or.inl (Or.inl h)
    · exact Or.inr h
  · rintro ((h | h) | h)
    · exact Or.inr (Or.inl h)
    · exact Or.inl h
    · exact Or.inr (Or.inr h)

theorem rivSlice_nodup (ds usMain : Array Nat) (n i idx0 : Nat)
    (h : (window ds usMain none n idx0).Nodup) : (rivSlice ds usMain n i idx0).Nodup := by
  rw [window_none_eq] at h
  refine List.Sublist.nodup ?_ h
  unfold rivSlice
  exact ((List.take_sublist i _).reverse.append (List.Sublist.refl _)).append (List.take_sublist i _)

end Pf
