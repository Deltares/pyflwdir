import PfVerif.Proofs.C06Elv
/-! `max_depth >= 0`: the three branches of one visit and what the normal branch does field by field; the
measure `potD` of the depth-limited priority flood (heap size + cells not done), which drops by one per pop
and rises by at most 10 per too-deep event, and why the fuel `12 n + 1` suffices when there are at most `n`
events (`loopD_empty_of_events`). -/
namespace Pf.C06
open Pf

variable {G : Grid} {conn : Nat} {elev : Array Int} {nod : Array Bool} {md : Int}

/-! ### the loop and the model run -/

/-- a property kept by every pop holds after the loop -/
theorem fillLoopD_induct (P : StD → Prop)
    (hpop : ∀ (s : StD) (h : HE) (rest : List HE), P s → s.q = h :: rest →
      P (popStepD G conn elev nod md h { s with q := rest }))
    (fuel : Nat) (s : StD) (h : P s) : P (fillLoopD G conn elev nod md fuel s) := by
  induction fuel generalizing s with
  | zero => exact h
  | succ k ih =>
    unfold fillLoopD
    split
    · exact h
    · rename_i hd rest hq
      exact ih _ (hpop s hd rest h hq)

theorem fillModelDepth_run {pits : Option (List Nat)} {minMode : Bool} {elvMax : Option Int}
    {f : Array Int} {d8 : Array Nat} {fin : Bool} {ev : Nat} {evc : Array Nat}
    (h : fillModelDepth G conn elev nod pits minMode elvMax md = .ok (f, d8, fin, ev, evc)) :
    ∃ seed, seedsOfE G conn elev nod pits minMode elvMax = .ok seed ∧
      f = (fillLoopD G conn elev nod md (fuelD G) (initStateD G elev nod seed)).f ∧
      d8 = (fillLoopD G conn elev nod md (fuelD G) (initStateD G elev nod seed)).d8 ∧
      fin = (fillLoopD G conn elev nod md (fuelD G) (initStateD G elev nod seed)).q.isEmpty ∧
      ev = (fillLoopD G conn elev nod md (fuelD G) (initStateD G elev nod seed)).ev ∧
      evc = (fillLoopD G conn elev nod md (fuelD G) (initStateD G elev nod seed)).evc := by
  unfold fillModelDepth at h
  split at h
  · cases h
  · rename_i seed hseed
    injection h with h
    simp only [Prod.mk.injEq] at h
    exact ⟨seed, hseed, h.1.symm, h.2.1.symm, h.2.2.1.symm, h.2.2.2.1.symm, h.2.2.2.2.symm⟩

/-! ### one visit -/

/-- one visit of the neighbour loop: nothing (outside the raster or done), the too-deep branch, or the
normal branch -/
theorem visitD_cases (z0 : Int) (i0 : Nat) (s : StD) (o : Int × Int) :
    (visitD G conn elev nod md z0 i0 s o = s ∧
      (shift G i0 o.1 o.2 = none ∨ ∃ j, shift G i0 o.1 o.2 = some j ∧ s.done[j]! = true)) ∨
    (∃ j, shift G i0 o.1 o.2 = some j ∧ s.done[j]! = false ∧ tooDeep md (z0 - elev[j]!) = true ∧
      visitD G conn elev nod md z0 i0 s o = deepStep G conn elev nod s j) ∨
    (∃ j, shift G i0 o.1 o.2 = some j ∧ s.done[j]! = false ∧ tooDeep md (z0 - elev[j]!) = false ∧
      visitD G conn elev nod md z0 i0 s o = fillStep elev z0 (resetStep elev s j) j (usCode o.1 o.2)) := by
  unfold visitD
  cases hs : shift G i0 o.1 o.2 with
  | none => exact Or.inl ⟨rfl, Or.inl rfl⟩
  | some j =>
    simp only
    by_cases hd : s.done[j]! = true
    · rw [if_pos hd]; exact Or.inl ⟨rfl, Or.inr ⟨j, rfl, hd⟩⟩
    · rw [if_neg hd]
      have hd' : s.done[j]! = false := by simpa using hd
      by_cases ht : tooDeep md (z0 - elev[j]!) = true
      · rw [if_pos ht]; exact Or.inr (Or.inl ⟨j, rfl, hd', ht, rfl⟩)
      · rw [if_neg ht]; exact Or.inr (Or.inr ⟨j, rfl, hd', by simpa using ht, rfl⟩)

/-- the rasters of the state have the size of the grid (`evc` is sized by `OnceBase.esz`) -/
def SizedD (G : Grid) (s : StD) : Prop :=
  s.done.size = G.n ∧ s.queued.size = G.n ∧ s.f.size = G.n ∧ s.d8.size = G.n ∧ s.delv.size = G.n

theorem reopen_size (G : Grid) (conn : Nat) (nod : Array Bool) (j : Nat) (d : Array Bool) :
    (reopen G conn nod j d).size = d.size := by
  unfold reopen
  generalize offsets conn = l
  induction l generalizing d with
  | nil => rfl
  | cons o l ih =>
    simp only [List.foldl_cons]
    rw [ih]
    split
    · split <;> simp
    · rfl

theorem sizedD_deep (s : StD) (j : Nat) (h : SizedD G s) : SizedD G (deepStep G conn elev nod s j) := by
  obtain ⟨h1, h2, h3, h4, h5⟩ := h
  exact ⟨by simp [deepStep, reopen_size, h1], by simp [deepStep, h2], h3, h4, h5⟩

theorem sizedD_reset (s : StD) (j : Nat) (h : SizedD G s) : SizedD G (resetStep elev s j) := by
  obtain ⟨h1, h2, h3, h4, h5⟩ := h
  unfold resetStep
  split
  · exact ⟨h1, by simp [h2], by simp [h3], h4, by simp [h5]⟩
  · exact ⟨h1, h2, h3, h4, h5⟩

theorem sizedD_fill {z0 : Int} (s : StD) (j code : Nat) (h : SizedD G s) :
    SizedD G (fillStep elev z0 s j code) := by
  obtain ⟨h1, h2, h3, h4, h5⟩ := h
  unfold fillStep
  refine ⟨by simp [h1], ?_, ?_, by simp [h4], ?_⟩
  · simp only; split <;> simp [h2]
  · simp only; split <;> simp [h3]
  · simp only; split <;> simp [h5]

theorem sizedD_visit {z0 : Int} {i0 : Nat} (s : StD) (o : Int × Int) (h : SizedD G s) :
    SizedD G (visitD G conn elev nod md z0 i0 s o) := by
  rcases visitD_cases (G := G) (conn := conn) (elev := elev) (nod := nod) (md := md) z0 i0 s o with
    ⟨heq, _⟩ | ⟨j, _, _, _, heq⟩ | ⟨j, _, _, _, heq⟩
  · rw [heq]; exact h
  · rw [heq]; exact sizedD_deep s _ h
  · rw [heq]; exact sizedD_fill _ _ _ (sizedD_reset s _ h)

theorem sizedD_fold {z0 : Int} {i0 : Nat} (l : List (Int × Int)) (s : StD) (h : SizedD G s) :
    SizedD G (l.foldl (visitD G conn elev nod md z0 i0) s) := by
  induction l generalizing s with
  | nil => exact h
  | cons o l ih => exact ih _ (sizedD_visit s o h)

theorem sizedD_init {seed : Array Bool} (hN : nod.size = G.n) (hE : elev.size = G.n) (hS : seed.size = G.n) :
    SizedD G (initStateD G elev nod seed) :=
  ⟨hN, hS, hE, by simp [initStateD, hN], by simp [initStateD]⟩

/-! ### the normal branch (reset + fill), field by field -/

theorem resetStep_get (s : StD) (j : Nat) (hs : SizedD G s) (hj : j < G.n) :
    (resetStep elev s j).q = s.q ∧ (resetStep elev s j).done = s.done ∧ (resetStep elev s j).d8 = s.d8 ∧
    (resetStep elev s j).ev = s.ev ∧ (resetStep elev s j).evc = s.evc ∧
    (∀ c, c ≠ j → (resetStep elev s j).queued[c]! = s.queued[c]! ∧ (resetStep elev s j).f[c]! = s.f[c]!) ∧
    (resetStep elev s j).queued[j]! = (if s.delv[j]! > 0 then false else s.queued[j]!) ∧
    (resetStep elev s j).f[j]! = (if s.delv[j]! > 0 then elev[j]! else s.f[j]!) := by
  unfold resetStep
  by_cases hdv : s.delv[j]! > 0
  · rw [if_pos hdv, if_pos hdv, if_pos hdv]
    exact ⟨rfl, rfl, rfl, rfl, rfl,
      fun c hc => ⟨get!_set_ne hc _, get!_set_ne hc _⟩,
      get!_set_self (by rw [hs.2.1]; exact hj) _, get!_set_self (by rw [hs.2.2.1]; exact hj) _⟩
  · rw [if_neg hdv, if_neg hdv, if_neg hdv]
    exact ⟨rfl, rfl, rfl, rfl, rfl, fun _ _ => ⟨rfl, rfl⟩, rfl, rfl⟩

theorem fillStep_get (z0 : Int) (r : StD) (j code : Nat) (hr : SizedD G r) (hj : j < G.n) :
    (∀ c, c ≠ j → (fillStep elev z0 r j code).done[c]! = r.done[c]! ∧
      (fillStep elev z0 r j code).queued[c]! = r.queued[c]! ∧
      (fillStep elev z0 r j code).f[c]! = r.f[c]! ∧ (fillStep elev z0 r j code).d8[c]! = r.d8[c]!) ∧
    (fillStep elev z0 r j code).done[j]! = true ∧ (fillStep elev z0 r j code).queued[j]! = true ∧
    (fillStep elev z0 r j code).d8[j]! = code ∧
    (fillStep elev z0 r j code).f[j]! = (if z0 - elev[j]! > 0 then z0 else r.f[j]!) ∧
    (fillStep elev z0 r j code).q =
      (if r.queued[j]! = false then hpush ⟨lvl z0 elev[j]!, 0, j⟩ r.q else r.q) := by
  obtain ⟨h1, h2, h3, h4, _⟩ := hr
  have e1 : (fillStep elev z0 r j code).done = r.done.setIfInBounds j true := rfl
  have e2 : (fillStep elev z0 r j code).queued =
      if (!r.queued[j]!) = true then r.queued.setIfInBounds j true else r.queued := rfl
  have e3 : (fillStep elev z0 r j code).f =
      if decide (z0 - elev[j]! > 0) = true then r.f.setIfInBounds j z0 else r.f := rfl
  have e4 : (fillStep elev z0 r j code).d8 = r.d8.setIfInBounds j code := rfl
  have e5 : (fillStep elev z0 r j code).q =
      if (!r.queued[j]!) = true then
        hpush ⟨if decide (z0 - elev[j]! > 0) = true then z0 else elev[j]!, 0, j⟩ r.q else r.q := rfl
  rw [e1, e2, e3, e4, e5]
  refine ⟨fun c hc => ?_, get!_set_self (by rw [h1]; exact hj) _, ?_,
    get!_set_self (by rw [h4]; exact hj) _, ?_, ?_⟩
  · have hjc : j ≠ c := Ne.symm hc
    refine ⟨get!_set_ne (Ne.symm hjc) _, ?_, ?_, get!_set_ne (Ne.symm hjc) _⟩
    · split
      · exact get!_set_ne (Ne.symm hjc) _
      · rfl
    · split
      · exact get!_set_ne (Ne.symm hjc) _
      · rfl
  · cases hq : r.queued[j]! with
    | false => exact get!_set_self (by rw [h2]; exact hj) _
    | true => exact hq
  · by_cases hf : z0 - elev[j]! > 0
    · rw [if_pos (decide_eq_true hf), if_pos hf]; exact get!_set_self (by rw [h3]; exact hj) _
    · rw [if_neg (by simpa using hf), if_neg hf]
  · cases hq : r.queued[j]! <;> simp [lvl]

/-- the normal branch at `j`: the other cells are untouched, `j` becomes done and queued with the code of
the visit, is raised to the popped level if that is higher (and reset to its input elevation first if it had
been filled before), and gets a heap entry unless it is still queued -/
theorem fill_get (z0 : Int) (s : StD) (j code : Nat) (hs : SizedD G s) (hj : j < G.n) :
    let s' := fillStep elev z0 (resetStep elev s j) j code
    (∀ c, c ≠ j → s'.done[c]! = s.done[c]! ∧ s'.queued[c]! = s.queued[c]! ∧ s'.f[c]! = s.f[c]! ∧
      s'.d8[c]! = s.d8[c]!) ∧
    s'.done[j]! = true ∧ s'.queued[j]! = true ∧ s'.d8[j]! = code ∧
    s'.f[j]! = (if z0 - elev[j]! > 0 then z0 else if s.delv[j]! > 0 then elev[j]! else s.f[j]!) ∧
    s'.ev = s.ev ∧ s'.evc = s.evc ∧
    (s'.q = s.q ∨ s'.q = hpush ⟨lvl z0 elev[j]!, 0, j⟩ s.q) ∧
    (s.queued[j]! = false → s'.q = hpush ⟨lvl z0 elev[j]!, 0, j⟩ s.q) := by
  intro s'
  obtain ⟨r1, r2, r3, r4, r5, r6, r7, r8⟩ := resetStep_get (elev := elev) s j hs hj
  obtain ⟨f1, f2, f3, f4, f5, f6⟩ := fillStep_get (elev := elev) z0 _ j code (sizedD_reset s j hs) hj
  refine ⟨fun c hc => ?_, f2, f3, f4, by rw [f5, r8], r4, r5, ?_, fun hq => ?_⟩
  · obtain ⟨a, b, c', d⟩ := f1 c hc
    exact ⟨by rw [a, r2], by rw [b, (r6 c hc).1], by rw [c', (r6 c hc).2], by rw [d, r3]⟩
  · rw [f6, r1]
    split
    · exact Or.inr rfl
    · exact Or.inl rfl
  · rw [f6, r1, r7, hq, if_pos]
    split <;> rfl

/-- membership and sortedness of a heap that is `q`, possibly with `x` pushed -/
theorem hpush_or_facts {x : HE} {q q' : List HE} (h : q' = q ∨ q' = hpush x q) :
    (∀ e, e ∈ q' → e = x ∨ e ∈ q) ∧ (∀ e, e ∈ q → e ∈ q') ∧ (HSorted q → HSorted q') := by
  rcases h with rfl | rfl
  · exact ⟨fun _ he => Or.inr he, fun _ he => he, id⟩
  · exact ⟨fun _ he => (mem_hpush _ _ _).1 he, fun _ he => (mem_hpush _ _ _).2 (Or.inr he),
      hsorted_hpush _ _⟩

/-! ### the potential -/

/-- potential of the depth-limited loop: heap size + number of cells that are not done -/
def potD (G : Grid) (s : StD) : Nat := s.q.length + unq G.n s.done

theorem unq_reopen_le (G : Grid) (conn : Nat) (nod : Array Bool) (j : Nat) (d : Array Bool) :
    unq G.n (reopen G conn nod j d) ≤ unq G.n d + (offsets conn).length := by
  unfold reopen
  generalize offsets conn = l
  induction l generalizing d with
  | nil => simp
  | cons o l ih =>
    simp only [List.foldl_cons, List.length_cons]
    refine Nat.le_trans (ih _) ?_
    split
    · split
      · omega
      · have := unq_set_false_le G.n d (by assumption); omega
    · omega

theorem potD_deep {G : Grid} {conn : Nat} {elev : Array Int} {nod : Array Bool} (s : StD) (j : Nat) :
    (deepStep G conn elev nod s j).ev = s.ev + 1 ∧
    potD G (deepStep G conn elev nod s j) ≤ potD G s + ((offsets conn).length + 1) := by
  refine ⟨rfl, ?_⟩
  unfold potD deepStep
  simp only [length_hpush]
  have := unq_reopen_le G conn nod j s.done
  omega

theorem potD_reset {G : Grid} {elev : Array Int} (s : StD) (j : Nat) :
    (resetStep elev s j).ev = s.ev ∧ potD G (resetStep elev s j) = potD G s ∧
    (resetStep elev s j).done = s.done := by
  unfold resetStep
  split <;> exact ⟨rfl, rfl, rfl⟩

theorem potD_fill {G : Grid} {elev : Array Int} {z0 : Int} (s : StD) (j code : Nat) (hs : SizedD G s)
    (hj : j < G.n) (hd : s.done[j]! = false) :
    (fillStep elev z0 s j code).ev = s.ev ∧ potD G (fillStep elev z0 s j code) ≤ potD G s := by
  refine ⟨rfl, ?_⟩
  unfold potD fillStep
  simp only
  have h1 := unq_set s.done j hs.1 hj hd
  split
  · simp only [length_hpush]; omega
  · omega

/-- one visit: the potential rises by at most 10 per too-deep event (one push and at most nine re-opened
cells, `offsets_length_le`) and never otherwise -/
theorem potD_visit {G : Grid} {conn : Nat} {elev : Array Int} {nod : Array Bool} {md z0 : Int} {i0 : Nat}
    (s : StD) (o : Int × Int) (hs : SizedD G s) :
    s.ev ≤ (visitD G conn elev nod md z0 i0 s o).ev ∧
    potD G (visitD G conn elev nod md z0 i0 s o) + 10 * s.ev ≤
      potD G s + 10 * (visitD G conn elev nod md z0 i0 s o).ev := by
  rcases visitD_cases (G := G) (conn := conn) (elev := elev) (nod := nod) (md := md) z0 i0 s o with
    ⟨heq, _⟩ | ⟨j, _, _, _, heq⟩ | ⟨j, hsh, hd, _, heq⟩
  · rw [heq]; exact ⟨Nat.le_refl _, Nat.le_refl _⟩
  · obtain ⟨a, b⟩ := potD_deep (G := G) (conn := conn) (elev := elev) (nod := nod) s j
    have := offsets_length_le conn
    rw [heq, a]; exact ⟨Nat.le_succ _, by omega⟩
  · obtain ⟨r1, r2, r3⟩ := potD_reset (G := G) (elev := elev) s j
    obtain ⟨a, b⟩ := potD_fill (G := G) (elev := elev) (z0 := z0) (resetStep elev s j) j (usCode o.1 o.2)
      (sizedD_reset s j hs) (shift_spec.1 hsh).1 (by rw [r3]; exact hd)
    rw [heq, a, r1]
    exact ⟨Nat.le_refl _, by omega⟩

theorem potD_fold {G : Grid} {conn : Nat} {elev : Array Int} {nod : Array Bool} {md z0 : Int} {i0 : Nat}
    (l : List (Int × Int)) (s : StD) (hs : SizedD G s) :
    s.ev ≤ (l.foldl (visitD G conn elev nod md z0 i0) s).ev ∧
    potD G (l.foldl (visitD G conn elev nod md z0 i0) s) + 10 * s.ev ≤
      potD G s + 10 * (l.foldl (visitD G conn elev nod md z0 i0) s).ev := by
  induction l generalizing s with
  | nil => exact ⟨Nat.le_refl _, Nat.le_refl _⟩
  | cons o l ih =>
    simp only [List.foldl_cons]
    obtain ⟨a1, a2⟩ := potD_visit (conn := conn) (elev := elev) (nod := nod) (md := md) (z0 := z0) (i0 := i0) s o hs
    obtain ⟨b1, b2⟩ := ih _ (sizedD_visit s o hs)
    exact ⟨Nat.le_trans a1 b1, by omega⟩

/-- **the measure**: every iteration of the `while` loop lowers `potD` by at least one, except that
each too-deep event may add up to 10. So after `fuel` iterations with a non-empty heap,
`fuel + potD ≤ potD₀ + 10 · (events so far)`. -/
theorem potD_loop {G : Grid} {conn : Nat} {elev : Array Int} {nod : Array Bool} {md : Int}
    (fuel : Nat) (s : StD) (hs : SizedD G s) :
    s.ev ≤ (fillLoopD G conn elev nod md fuel s).ev ∧
    ((fillLoopD G conn elev nod md fuel s).q ≠ [] →
      fuel + potD G (fillLoopD G conn elev nod md fuel s) + 10 * s.ev ≤
        potD G s + 10 * (fillLoopD G conn elev nod md fuel s).ev) := by
  induction fuel generalizing s with
  | zero =>
    unfold fillLoopD
    exact ⟨Nat.le_refl _, fun _ => by omega⟩
  | succ k ih =>
    unfold fillLoopD
    split
    · rename_i hq
      exact ⟨Nat.le_refl _, fun h => absurd hq h⟩
    · rename_i h rest hq
      have hs0 : SizedD G { s with q := rest } := hs
      obtain ⟨a1, a2⟩ := potD_fold (conn := conn) (elev := elev) (nod := nod) (md := md) (z0 := h.z)
        (i0 := h.idx) (offsets conn) { s with q := rest } hs0
      obtain ⟨b1, b2⟩ := ih (popStepD G conn elev nod md h { s with q := rest }) (sizedD_fold _ _ hs0)
      have hp0 : potD G { s with q := rest } + 1 = potD G s := by
        unfold potD; rw [hq]; simp only [List.length_cons]; omega
      have hev0 : ({ s with q := rest } : StD).ev = s.ev := rfl
      rw [hev0] at a1 a2
      unfold popStepD at b1 b2 ⊢
      refine ⟨Nat.le_trans a1 b1, fun hne => ?_⟩
      have := b2 hne
      omega


theorem potD_init_le (G : Grid) (elev : Array Int) (nod seed : Array Bool) :
    potD G (initStateD G elev nod seed) ≤ 2 * G.n := by
  unfold potD initStateD initHeap unq
  simp only
  rw [length_initHeap_fold]
  have h1 := List.countP_le_length (p := fun c => seed[c]!) (l := List.range G.n)
  have h2 := List.countP_le_length (p := fun c => !nod[c]!) (l := List.range G.n)
  simp only [List.length_range, List.length_nil] at h1 h2 ⊢
  omega

/-- why the fuel `12 n + 1` suffices: while the heap is not empty, `fuel + potD ≤ potD₀ + 10 · events`
(`potD_loop`) and `potD₀ ≤ 2 n` (`potD_init_le`); so with at most `n` events the heap is empty as soon as
`fuel > 12 n` -/
theorem loopD_empty_of_events {seed : Array Bool} (hN : nod.size = G.n) (hE : elev.size = G.n)
    (hS : seed.size = G.n) (fuel : Nat) (hf : fuelD G ≤ fuel)
    (hev : (fillLoopD G conn elev nod md fuel (initStateD G elev nod seed)).ev ≤ G.n) :
    (fillLoopD G conn elev nod md fuel (initStateD G elev nod seed)).q = [] := by
  obtain ⟨_, hl⟩ := potD_loop (conn := conn) (elev := elev) (nod := nod) (md := md) fuel _
    (sizedD_init (elev := elev) (seed := seed) hN hE hS)
  have hp := potD_init_le G elev nod seed
  cases hq : (fillLoopD G conn elev nod md fuel (initStateD G elev nod seed)).q with
  | nil => rfl
  | cons a r =>
    have := hl (by rw [hq]; simp)
    have h0 : (initStateD G elev nod seed).ev = 0 := rfl
    unfold fuelD at hf
    omega

end Pf.C06
