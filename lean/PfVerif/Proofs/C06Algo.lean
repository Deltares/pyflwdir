import PfVerif.Proofs.C06Heap
/-! The model of `fill_depressions` as a loop of pops: induction over the loop, what a run of the model
is, and the invariant `Safe` (nodata untouched, nothing lowered), which needs no hypothesis on the outlets. -/
namespace Pf.C06
open Pf

/-- the part of the loop invariant of the priority flood that is proved for the model itself -/
def Safe (G : Grid) (elev : Array Int) (nod : Array Bool) (s : St) : Prop :=
  ∀ c, c < G.n →
    (nod[c]! = true → s.done[c]! = true ∧ s.f[c]! = elev[c]! ∧ s.d8[c]! = 247) ∧ elev[c]! ≤ s.f[c]!

theorem safe_visit {G : Grid} {elev : Array Int} {nod : Array Bool} (z0 : Int) (i0 : Nat) (s : St)
    (o : Int × Int) (h : Safe G elev nod s) : Safe G elev nod (visit G elev z0 i0 s o) := by
  unfold visit
  split
  · exact h
  · rename_i j _
    by_cases hd : s.done[j]! = true
    · rw [if_pos hd]; exact h
    · rw [if_neg hd]
      intro c hc
      obtain ⟨h1, h2⟩ := h c hc
      simp only
      by_cases hjc : j = c
      · subst hjc
        refine ⟨fun hn => absurd (h1 hn).1 hd, ?_⟩
        by_cases hf : z0 - elev[j]! > 0
        · simp only [hf, decide_true, if_true]
          rw [get!_setIfInBounds]
          split <;> omega
        · simp only [hf, decide_false]
          exact h2
      · have hne : ∀ (sz : Nat), ¬ (j = c ∧ j < sz) := fun _ h => hjc h.1
        refine ⟨fun hn => ?_, ?_⟩
        · obtain ⟨a, b, d⟩ := h1 hn
          refine ⟨?_, ?_, ?_⟩
          · rw [get!_setIfInBounds, if_neg (hne _)]; exact a
          · split
            · rw [get!_setIfInBounds, if_neg (hne _)]; exact b
            · exact b
          · rw [get!_setIfInBounds, if_neg (hne _)]; exact d
        · split
          · rw [get!_setIfInBounds, if_neg (hne _)]; exact h2
          · exact h2

/-- a property kept by every pop holds after the loop -/
theorem fillLoop_induct {G : Grid} {conn : Nat} {elev : Array Int} (P : St → Prop)
    (hpop : ∀ (s : St) (h : HE) (rest : List HE), P s → s.q = h :: rest →
      P (popStep G conn elev h { s with q := rest }))
    (fuel : Nat) (s : St) (h : P s) : P (fillLoop G conn elev fuel s) := by
  induction fuel generalizing s with
  | zero => exact h
  | succ k ih =>
    unfold fillLoop
    split
    · exact h
    · rename_i hd rest hq
      exact ih _ (hpop s hd rest h hq)

theorem fillModel_run {G : Grid} {conn : Nat} {elev : Array Int} {nod : Array Bool}
    {pits : Option (List Nat)} {minMode : Bool} {f : Array Int} {d8 : Array Nat} {fin : Bool}
    (h : fillModel G conn elev nod pits minMode = some (f, d8, fin)) :
    ∃ seed, seedsOf G conn elev nod pits minMode = some seed ∧
      f = (fillLoop G conn elev (G.n + 1) (initState G elev nod seed)).f ∧
      d8 = (fillLoop G conn elev (G.n + 1) (initState G elev nod seed)).d8 ∧
      fin = (fillLoop G conn elev (G.n + 1) (initState G elev nod seed)).q.isEmpty := by
  unfold fillModel at h
  split at h
  · cases h
  · rename_i seed hseed
    simp only [Option.some.injEq, Prod.mk.injEq] at h
    exact ⟨seed, hseed, h.1.symm, h.2.1.symm, h.2.2.symm⟩

theorem safe_fold {G : Grid} {elev : Array Int} {nod : Array Bool} (z0 : Int) (i0 : Nat)
    (l : List (Int × Int)) (s : St) (h : Safe G elev nod s) :
    Safe G elev nod (l.foldl (visit G elev z0 i0) s) := by
  induction l generalizing s with
  | nil => exact h
  | cons o l ih => exact ih _ (safe_visit z0 i0 s o h)

theorem safe_loop {G : Grid} {conn : Nat} {elev : Array Int} {nod : Array Bool} (fuel : Nat) (s : St)
    (h : Safe G elev nod s) : Safe G elev nod (fillLoop G conn elev fuel s) :=
  fillLoop_induct _ (fun _ _ _ h _ => safe_fold _ _ _ _ h) fuel s h

/-- the direction raster before the loop: 247 on nodata cells, 0 elsewhere -/
theorem init_d8 (nod : Array Bool) {c : Nat} (hc : c < nod.size) :
    (nod.map fun b => if b then 247 else 0)[c]! = if nod[c]! = true then 247 else 0 := by
  have : nod[c]! = nod[c] := by simp [hc]
  rw [this]
  simp [hc]

theorem safe_init {G : Grid} {elev : Array Int} {nod : Array Bool} (queued : Array Bool)
    (hn : nod.size = G.n) : Safe G elev nod (initState G elev nod queued) := by
  intro c hc
  refine ⟨fun hnod => ⟨hnod, rfl, ?_⟩, Int.le_refl _⟩
  show (nod.map fun b => if b then 247 else 0)[c]! = 247
  rw [init_d8 nod (by omega), if_pos hnod]

end Pf.C06
