import PfVerif.Proofs.C20Alg
/-! C20: the pieces of `region_dissolve` (seeding, minimum position, relabelling) and the spreading run on
the seeds. -/
namespace Pf
open SpGrid Sp

theorem dissolveSeeds_size (regions : Array Int) (labels : List Int) :
    (dissolveSeeds regions labels).size = regions.size := by
  simp [dissolveSeeds]

theorem dissolveSeeds_get (regions : Array Int) (labels : List Int) (c : Nat) (hc : c < regions.size) :
    (dissolveSeeds regions labels)[c]! = if regions[c]! ∈ labels then 0 else regions[c]! := by
  simp [dissolveSeeds, hc]

/-- a seed cell is a cell of a surviving (non-background, not dissolved) region and keeps its label -/
theorem dissolveSeeds_ne_zero (regions : Array Int) (labels : List Int) (c : Nat) (hc : c < regions.size)
    (h : (dissolveSeeds regions labels)[c]! ≠ 0) :
    regions[c]! ∉ labels ∧ regions[c]! ≠ 0 ∧ (dissolveSeeds regions labels)[c]! = regions[c]! := by
  rw [dissolveSeeds_get regions labels c hc] at h ⊢
  by_cases hm : regions[c]! ∈ labels
  · simp [hm] at h
  · rw [if_neg hm] at h ⊢
    exact ⟨hm, h, rfl⟩

/-- `minPosition` returns a cell of the region at which `dst` is least over the region -/
theorem minPosition_spec (dst : Array Rat) (regions : Array Int) (lab : Int)
    (hne : ∃ c, c < regions.size ∧ regions[c]! = lab) :
    minPosition dst regions lab < regions.size ∧ regions[minPosition dst regions lab]! = lab ∧
    ∀ c, c < regions.size → regions[c]! = lab → dst[minPosition dst regions lab]! ≤ dst[c]! := by
  obtain ⟨c0, hc0, hl0⟩ := hne
  have hmem : ∀ c, c ∈ (List.range regions.size).filter (fun i => regions[i]! == lab) ↔
      c < regions.size ∧ regions[c]! = lab := fun c => by simp
  unfold minPosition
  cases hf : (List.range regions.size).filter (fun i => regions[i]! == lab) with
  | nil => exact absurd ((hmem c0).2 ⟨hc0, hl0⟩) (hf ▸ List.not_mem_nil)
  | cons i t =>
    simp only []
    obtain ⟨h1, h2⟩ := foldl_argmin (fun j => dst[j]!) (fun j m => dst[j]! < dst[m]!)
      (fun _ _ => ⟨Rat.le_of_lt, Rat.not_lt.1⟩) t i
    rw [← hf] at h1 h2
    obtain ⟨g1, g2⟩ := (hmem _).1 h1
    exact ⟨g1, g2, fun c hc hl => h2 c ((hmem c).2 ⟨hc, hl⟩)⟩

theorem relabel_size (regions : Array Int) (labels l1 : List Int) :
    (relabel regions labels l1).size = regions.size := by
  simp [relabel]

theorem relabel_get (regions : Array Int) (labels l1 : List Int) (c : Nat) (hc : c < regions.size) :
    (relabel regions labels l1)[c]! = relabelVal labels l1 regions[c]! := by
  simp [relabel, hc]

theorem relabelVal_of_not_mem {labels l1 : List Int} {v : Int} (h : v ∉ labels) : relabelVal labels l1 v = v := by
  have : (labels.zip l1).reverse.find? (fun p => p.1 == v) = none :=
    List.find?_eq_none.2 fun p hp hpe => h (eq_of_beq hpe ▸ (List.of_mem_zip (List.mem_reverse.1 hp)).1)
  rw [relabelVal, this]

theorem relabelVal_getElem {labels l1 : List Int} (hnd : labels.Nodup) (hlen : l1.length = labels.length)
    {k : Nat} (hk : k < labels.length) : relabelVal labels l1 labels[k] = l1[k]! := by
  have hkz : k < (labels.zip l1).length := by rw [List.length_zip, hlen, Nat.min_self]; exact hk
  unfold relabelVal
  cases hf : (labels.zip l1).reverse.find? (fun p => p.1 == labels[k]) with
  | none =>
    refine absurd ?_ (List.find?_eq_none.1 hf _ (List.mem_reverse.2 (List.getElem_mem hkz)))
    rw [List.getElem_zip]; exact beq_self_eq_true _
  | some p =>
    -- the pair found sits at some position `j` of the zip; its label is `labels[k]`, hence `j = k`
    obtain ⟨j, hj, hjp⟩ := List.mem_iff_getElem.1 (List.mem_reverse.1 (List.mem_of_find?_eq_some hf))
    rw [List.getElem_zip] at hjp
    rw [List.length_zip, hlen, Nat.min_self] at hj
    have hp : (p.1 == labels[k]) = true := List.find?_some (p := fun q : Int × Int => q.1 == labels[k]) hf
    have hjk : j = k := (List.getElem_inj hnd).1 ((congrArg Prod.fst hjp).trans (eq_of_beq hp))
    subst hjk
    rw [← hjp, getElem!_pos l1 j (hlen ▸ hj)]

/-! `G` is any grid whose observations are the seeds of `regions` and `labels` (nodata 0), as the grid
`region_dissolve` spreads on. -/

theorem regionDissolve_eq (G0 : SpGrid) (regions : Array Int) (labels : List Int) (idxs : Option (List Nat)) :
    regionDissolve G0 regions labels idxs =
      (spread2d { G0 with obs := dissolveSeeds regions labels, nodata := 0 }).map fun st =>
        relabel regions labels ((idxs.getD (labels.map (minPosition st.dst regions))).map fun i => st.out[i]!) := by
  simp only [regionDissolve]
  generalize spread2d _ = r
  cases r <;> cases idxs <;> rfl

section
variable {G : SpGrid} {regions : Array Int} {labels : List Int} (hobs : G.obs = dissolveSeeds regions labels)
  (hnd : G.nodata = 0) (hsz : regions.size = G.n)
include hobs hsz

theorem seeds_obs_size : G.obs.size = G.n := by
  rw [hobs, dissolveSeeds_size, hsz]

variable (hw : ∀ a d, 0 ≤ G.wgt a d) {st : SpState} (hrun : spread2d G = some st)
include hnd hw hrun

/-- the value spreading delivers at a reached location is the label of a surviving region from which
a walk of cost `dst[loc]` arrives -/
theorem seeds_value {loc : Nat} (hloc : loc < regions.size) (hla : G.allowed loc = true)
    (hreach : ∃ s κ, SpWalk G s loc κ) :
    ∃ s : Nat, s < regions.size ∧ SpWalk G s loc st.dst[loc]! ∧ st.out[loc]! = regions[s]! ∧
      regions[s]! ∉ labels ∧ regions[s]! ≠ 0 := by
  have hl := spread2d_leastCost (seeds_obs_size hobs hsz) hw hrun
  have hn : loc < G.n := hsz ▸ hloc
  obtain ⟨s, _, hwk, hout⟩ := hl.attained loc hn hla ((hl.reached_iff hn hla).2 hreach)
  obtain ⟨hsn, hso, _⟩ := (G.isSource_iff s).1 hwk.facts.1
  rw [hobs, hnd] at hso
  rw [hobs] at hout
  obtain ⟨g1, g2, g3⟩ := dissolveSeeds_ne_zero regions labels s (hsz ▸ hsn) hso
  exact ⟨s, hsz ▸ hsn, hwk, hout.trans g3, g1, g2⟩

/-- relabelling with the values found at one location per label: every cell of the `k`-th listed region
gets the label of the surviving region nearest to the `k`-th location -/
theorem dissolve_nearest_at (hnodup : labels.Nodup) {locs : List Nat} (hlen : locs.length = labels.length)
    {k : Nat} (hk : k < labels.length) (hloc : locs[k]! < regions.size) (hla : G.allowed locs[k]! = true)
    (hreach : ∃ s κ, SpWalk G s locs[k]! κ) :
    ∃ s : Nat, s < regions.size ∧ SpWalk G s locs[k]! st.dst[locs[k]!]! ∧ regions[s]! ∉ labels ∧
      regions[s]! ≠ 0 ∧
      (∀ c, c < regions.size → regions[c]! = labels[k] →
        (relabel regions labels (locs.map fun i => st.out[i]!))[c]! = regions[s]!) ∧
      (∀ s' κ', SpWalk G s' locs[k]! κ' → st.dst[locs[k]!]! ≤ κ') := by
  obtain ⟨s, hs1, hs2, hs3, hs4, hs5⟩ := seeds_value hobs hnd hsz hw hrun hloc hla hreach
  refine ⟨s, hs1, hs2, hs4, hs5, fun c hc hl => ?_, fun s' κ' hwk =>
    ((spread2d_leastCost (seeds_obs_size hobs hsz) hw hrun).lower hwk).2⟩
  rw [relabel_get _ _ _ c hc, hl, relabelVal_getElem hnodup (by simp [hlen]) hk, ← hs3]
  simp [hlen ▸ hk]

end

end Pf
