import PfVerif.Proofs.C05_extOut
/-! `core.inflow_idxs`: the mask of the loop is an upstream sweep that decides `ChainClear`, and the loop
returns the cells of the order that pass its test against the final mask. -/
namespace Pf.C05x
open Pf

/-- upstream induction over all cells: a cell outside `seq` is only asked for the cells of `seq` that drain into it -/
theorem induction_up_all {ds : Array Nat} {seq : List Nat} (htopo : Topo ds seq) (P : Nat → Prop)
    (step : ∀ j, (∀ c ∈ seq, ds[c]! = j → c ≠ j → P c) → P j) (j : Nat) : P j :=
  step j fun c hc _ _ => Pf.Topo.induction_up htopo P (fun j _ => step j) c hc

variable {α : Type} [Inhabited α]

@[simp] theorem size_sweepUp (ds : Array Nat) (upd : Nat → α → α → α) (l : List Nat) (m : Array α) :
    (sweepUp ds upd l m).size = m.size :=
  Pf.size_sweepUp ds upd l m

/-! ### `inflow_idxs` -/

/-- update of the mask at the downstream cell (the old value there is ignored) -/
def updIn (ds : Array Nat) (region : Array Bool) (c : Nat) (_acc own : Bool) : Bool :=
  if own && region[ds[c]!]! && !region[c]! then false else own

/-- body of the loop of `core.inflow_idxs` -/
def inStep (ds : Array Nat) (region : Array Bool) (idx0 : Nat) (st : Array Bool × List Nat) :
    Array Bool × List Nat :=
  let (mask, acc) := st
  let d := ds[idx0]!
  if idx0 ≠ d then
    if mask[idx0]! && region[d]! && !region[idx0]! then (mask.setIfInBounds d false, idx0 :: acc)
    else (mask.setIfInBounds d mask[idx0]!, acc)
  else st

theorem inflowIdxs_eq (ds : Array Nat) (seq : List Nat) (region : Array Bool) :
    inflowIdxs ds seq region =
      ((seq.foldr (inStep ds region) (Array.replicate ds.size true, [])).2).reverse := rfl

theorem inStep_eq (ds : Array Nat) (region : Array Bool) (i : Nat) (m : Array Bool) (a : List Nat) :
    inStep ds region i (m, a) =
      (stepUp ds (updIn ds region) i m, if (enterCell ds region i && m[i]!) = true then i :: a else a) := by
  by_cases hp : ds[i]! = i
  · simp [inStep, stepUp, enterCell, hp]
  · simp only [inStep, stepUp, updIn, enterCell, ne_eq, Ne.symm hp, hp, not_false_eq_true, if_true,
      if_false, bne_iff_ne.2 hp, Bool.true_and]
    cases m[i]! <;> cases region[ds[i]!]! <;> cases region[i]! <;> rfl

theorem inflow_fst (ds : Array Nat) (region : Array Bool) (seq : List Nat) (m0 : Array Bool) (a0 : List Nat) :
    (seq.foldr (inStep ds region) (m0, a0)).1 = sweepUp ds (updIn ds region) seq m0 := by
  induction seq with
  | nil => rfl
  | cons a l ih => rw [List.foldr_cons, ← Prod.eta (List.foldr _ _ l), inStep_eq, ih]; rfl

/-- the list can be read off the final mask because what the test reads is never written again -/
theorem inflow_fold (ds : Array Nat) (region : Array Bool) (seq : List Nat) (htopo : Topo ds seq) :
    ∀ (m0 : Array Bool) (a0 : List Nat), seq.foldr (inStep ds region) (m0, a0) =
      (sweepUp ds (updIn ds region) seq m0,
        seq.filter (fun i => enterCell ds region i && (sweepUp ds (updIn ds region) seq m0)[i]!) ++ a0) := by
  induction htopo with
  | nil => intro m0 a0; rfl
  | @snoc pre i hpre hi hds ih =>
    intro m0 a0
    have hfin : (sweepUp ds (updIn ds region) pre (stepUp ds (updIn ds region) i m0))[i]! = m0[i]! := by
      rw [sweepUp_untouched ds _ pre _ i fun c hc hci => absurd (hci ▸ hpre.ds_mem c hc) hi,
        stepUp_get_of ds _ m0 fun _ => rfl]
    rw [List.foldr_append, List.foldr_cons, List.foldr_nil, inStep_eq, ih, sweepUp_snoc,
      List.filter_append, List.filter_cons, List.filter_nil, hfin, List.append_assoc]
    split <;> rfl

theorem inflowIdxs_eq_filter (ds : Array Nat) (region : Array Bool) (seq : List Nat) (htopo : Topo ds seq) :
    inflowIdxs ds seq region = seq.reverse.filter fun i => enterCell ds region i &&
      (sweepUp ds (updIn ds region) seq (Array.replicate ds.size true))[i]! := by
  rw [inflowIdxs_eq, inflow_fold ds region seq htopo, List.append_nil, List.filter_reverse]

/-- the update overwrites, so of the cells draining into `j` only the one processed last, the first of
`seq`, counts -/
theorem inflow_mask_rec (ds : Array Nat) (region : Array Bool) (seq : List Nat) (htopo : Topo ds seq)
    (m0 : Array Bool) (hb : ∀ i ∈ seq, i < m0.size) (j : Nat) :
    (sweepUp ds (updIn ds region) seq m0)[j]! =
      match firstKid ds seq j with
      | none => m0[j]!
      | some c => (sweepUp ds (updIn ds region) seq m0)[c]! && !enterCell ds region c := by
  rw [sweepUp_spec ds (updIn ds region) seq htopo m0 hb j, kids, List.filter_reverse, List.foldl_reverse,
    firstKid, ← List.head?_filter]
  cases hl : seq.filter (fun c => ds[c]! == j && c != j) with
  | nil => rfl
  | cons c rest =>
    have hc : c ∈ seq.filter (fun c => ds[c]! == j && c != j) := hl ▸ List.mem_cons_self
    simp only [List.mem_filter, Bool.and_eq_true, beq_iff_eq, bne_iff_ne] at hc
    simp only [List.foldr_cons, List.head?_cons, updIn, enterCell, bne_iff_ne.2 (hc.2.1 ▸ hc.2.2.symm),
      Bool.true_and]
    cases (sweepUp ds (updIn ds region) seq m0)[c]! <;> cases region[ds[c]!]! <;> cases region[c]! <;> rfl

theorem firstKid_some {ds : Array Nat} {seq : List Nat} {j c : Nat} (h : firstKid ds seq j = some c) :
    c ∈ seq ∧ ds[c]! = j ∧ c ≠ j := by
  have h1 := List.find?_some h
  simp only [Bool.and_eq_true, beq_iff_eq, bne_iff_ne, ne_eq] at h1
  exact ⟨List.mem_of_find?_eq_some h, h1.1, h1.2⟩

theorem ChainClear_iff (ds : Array Nat) (seq : List Nat) (region : Array Bool) (j : Nat) :
    ChainClear ds seq region j ↔
      match firstKid ds seq j with
      | none => True
      | some c => enterCell ds region c = false ∧ ChainClear ds seq region c := by
  constructor
  · rintro (⟨_, hk⟩ | ⟨_, c, hk, he, hc⟩) <;> rw [hk]
    · trivial
    · exact ⟨he, hc⟩
  · intro h
    split at h
    · next hk => exact .head j hk
    · next c hk => exact .up j c hk h.1 h.2

theorem inflow_mask_iff (ds : Array Nat) (region : Array Bool) (seq : List Nat) (htopo : Topo ds seq)
    (m0 : Array Bool) (hb : ∀ i ∈ seq, i < m0.size) (h0 : ∀ i ∈ seq, m0[i]! = true) :
    ∀ j ∈ seq, (sweepUp ds (updIn ds region) seq m0)[j]! = true ↔ ChainClear ds seq region j := by
  refine htopo.induction_up _ fun j hj ih => ?_
  rw [inflow_mask_rec ds region seq htopo _ hb j, ChainClear_iff]
  split
  · exact iff_of_true (h0 j hj) trivial
  · next c hk =>
    obtain ⟨hc1, hc2, hc3⟩ := firstKid_some hk
    rw [Bool.and_eq_true, Bool.not_eq_true', ih c hc1 hc2 hc3, and_comm]

theorem chainClear_sound (ds : Array Nat) (seq : List Nat) (region : Array Bool) :
    ∀ fuel j b, chainClear ds seq region fuel j = some b → (b = true ↔ ChainClear ds seq region j)
  | 0, _, _, h => nomatch h
  | f+1, j, b, h => by
    rw [ChainClear_iff]
    simp only [chainClear] at h
    split at h
    · next hk => cases h; rw [hk]; exact iff_of_true rfl trivial
    · next c hk =>
      rw [hk]
      split at h
      · next he => cases h; exact iff_of_false Bool.false_ne_true fun hn => Bool.noConfusion (he.symm.trans hn.1)
      · next he =>
        rw [chainClear_sound ds seq region f c b h]
        exact (and_iff_right (Bool.eq_false_iff.2 he)).symm

/-- the declarative list the harness compares the implementation with is the list `inflow_idxs`
returns, wherever the chain walks end -/
theorem inflowSpec_eq (ds : Array Nat) (seq : List Nat) (region : Array Bool) (htopo : Topo ds seq)
    (hb : ∀ i ∈ seq, i < ds.size)
    (hfuel : ∀ x ∈ seq, (chainClear ds seq region (ds.size + 1) x).isSome = true) :
    inflowSpec ds seq region = inflowIdxs ds seq region := by
  rw [inflowIdxs_eq_filter ds region seq htopo, inflowSpec]
  refine List.filter_congr fun x hx => congrArg _ ?_
  have hx := List.mem_reverse.1 hx
  obtain ⟨b, hc⟩ := Option.isSome_iff_exists.1 (hfuel x hx)
  rw [hc, Bool.eq_iff_iff, inflow_mask_iff ds region seq htopo _ (allTrue_start hb).1 (allTrue_start hb).2 x hx,
    ← chainClear_sound ds seq region _ x b hc, beq_iff_eq, Option.some.injEq]

theorem chainClear_of_no_enter_up (ds : Array Nat) (region : Array Bool) (seq : List Nat)
    (htopo : Topo ds seq) (j : Nat)
    (h : ∀ y ∈ seq, ∀ k, iterA ds (k+1) y = j → enterCell ds region y = false) :
    ChainClear ds seq region j := by
  revert h
  refine induction_up_all htopo (fun j =>
    (∀ y ∈ seq, ∀ k, iterA ds (k+1) y = j → enterCell ds region y = false) →
      ChainClear ds seq region j) (fun j ih h => ?_) j
  cases hk : firstKid ds seq j with
  | none => exact ChainClear.head j hk
  | some c =>
    obtain ⟨hc1, hc2, hc3⟩ := firstKid_some hk
    refine ChainClear.up j c hk (h c hc1 0 (by simp [iterA, hc2])) (ih c hc1 hc2 hc3 ?_)
    intro y hy k hyk
    refine h y hy (k+1) ?_
    rw [iterA_succ', hyk, hc2]

end Pf.C05x
