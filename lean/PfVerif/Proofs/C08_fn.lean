import PfVerif.Model.C08
import PfVerif.Proofs.C04_fn
import PfVerif.Generated.Sweeps2
/-! Bridging lemmas for the extension `C08_fn`: the generated kernels of `Generated/Sweeps2.lean` store the stream orders
in `Array Int` (value arrays of the translator are unbounded integers), the hand-written models of `Model/C08.lean` in
`Array Nat`; `toI` is the embedding. -/
namespace Pf.Sw2Bridge
open Pf

/-- a `Nat` array read as an `Int` array -/
def toI (a : Array Nat) : Array Int := a.map Int.ofNat

@[simp] theorem toI_size (a : Array Nat) : (toI a).size = a.size := by simp [toI]

theorem toI_get (a : Array Nat) (i : Nat) : (toI a)[i]! = (a[i]! : Int) := by
  by_cases h : i < a.size
  · rw [getElem!_pos (toI a) i (by simpa using h), getElem!_pos a i h]; simp [toI]
  · rw [getElem!_neg (toI a) i (by simpa using h), getElem!_neg a i h]; rfl

theorem toI_set (a : Array Nat) (i v : Nat) : toI (a.setIfInBounds i v) = (toI a).setIfInBounds i (v : Int) := by
  simp [toI, Array.map_setIfInBounds]

theorem toI_set_one_add (a : Array Nat) (i v : Nat) :
    (toI a).setIfInBounds i ((1 : Int) + (v : Int)) = toI (a.setIfInBounds i (1 + v)) := by
  rw [toI_set]; rfl

theorem toI_replicate (n : Nat) : Array.replicate n (0 : Int) = toI (Array.replicate n 0) := by
  simp [toI]

theorem toI_ite (c : Prop) [Decidable c] (a b : Array Nat) : toI (if c then a else b) = if c then toI a else toI b := by
  split <;> rfl

/-- two `Int` arrays are equal when they have the same size and the same (defaulting) reads -/
theorem ext_get! (a b : Array Int) (hs : a.size = b.size) (h : ∀ j : Nat, a[j]! = b[j]!) : a = b := by
  apply Array.ext hs
  intro j h1 h2
  have := h j
  rwa [getElem!_pos a j h1, getElem!_pos b j h2] at this

/-- simulation of a reversed `foldl` (the generated `for … in seq[::-1]`) by the `foldr` of a model over another state type -/
theorem foldl_reverse_sim {σ τ α : Type} (R : σ → τ → Prop) (f : σ → α → σ) (g : α → τ → τ)
    (h : ∀ s t a, R s t → R (f s a) (g a t)) (l : List α) (s : σ) (t : τ) (h0 : R s t) :
    R (List.foldl f s l.reverse) (List.foldr g t l) := by
  induction l with
  | nil => exact h0
  | cons a l ih => simp only [List.reverse_cons, List.foldl_append, List.foldl_cons, List.foldl_nil, List.foldr_cons]; exact h _ _ a ih

/-- simulation of a forward `foldl` by a `foldl` over another state type -/
theorem foldl_sim {σ τ α : Type} (R : σ → τ → Prop) (f : σ → α → σ) (g : τ → α → τ)
    (h : ∀ s t a, R s t → R (f s a) (g t a)) (l : List α) (s : σ) (t : τ) (h0 : R s t) :
    R (List.foldl f s l) (List.foldl g t l) := by
  induction l generalizing s t with
  | nil => exact h0
  | cons a l ih => exact ih _ _ (h _ _ a h0)

/-- a list-append scan (`if p i: lst.append(i)`) is a filter -/
theorem foldl_snoc_filter (p : Nat → Bool) (l acc : List Nat) :
    List.foldl (fun acc i => if p i then acc ++ [i] else acc) acc l = acc ++ l.filter p := by
  induction l generalizing acc with
  | nil => simp
  | cons a l ih =>
    simp only [List.foldl_cons, List.filter_cons]
    rw [ih]
    split <;> simp

/-- `mask is not None and not mask[i]` is the negation of the model's `maskAt` -/
theorem mask_invalid (mask : Option (Array Bool)) (i : Nat) :
    (mask.isSome && !Generated.Sw.optGetB mask i) = !maskAt mask i := by
  cases mask <;> simp [Generated.Sw.optGetB, maskAt]

end Pf.Sw2Bridge
