import PfVerif.Model.C05_ext
import PfVerif.Core.Folds
/-! Lemmas for `regions.region_sum / region_slices / region_bounds`: the label list, sums per label,
tight boxes per label (one coordinate axis at a time), and the affine cell edges `x0 + xres * c`. -/
namespace Pf.C05x
open Pf

/-! ### `np.unique(regions[regions > 0])` -/

theorem insertAsc_mem (x y : Int) : ∀ l : List Int, y ∈ insertAsc x l ↔ y = x ∨ y ∈ l
  | [] => by simp [insertAsc]
  | z :: zs => by
    simp only [insertAsc]
    split
    · simp
    · split
      · next h => subst h; simp
      · simp only [List.mem_cons, insertAsc_mem x y zs, or_left_comm]

theorem insertAsc_sorted (x : Int) : ∀ l : List Int, l.Pairwise (· < ·) → (insertAsc x l).Pairwise (· < ·)
  | [], _ => by simp [insertAsc]
  | z :: zs, h => by
    have hz := List.pairwise_cons.1 h
    simp only [insertAsc]
    split
    · next h1 =>
      exact List.pairwise_cons.2 ⟨fun a ha => by
        rcases List.mem_cons.1 ha with rfl | ha
        · exact h1
        · exact Int.lt_trans h1 (hz.1 a ha), h⟩
    · split
      · exact h
      · next h1 h2 =>
        refine List.pairwise_cons.2 ⟨fun a ha => ?_, insertAsc_sorted x zs hz.2⟩
        rcases (insertAsc_mem x a zs).1 ha with rfl | ha
        · exact Int.lt_iff_le_and_ne.2 ⟨Int.not_lt.1 h1, Ne.symm h2⟩
        · exact hz.1 a ha

theorem foldl_insertAsc (l : List Int) : ∀ acc : List Int, acc.Pairwise (· < ·) →
    (l.foldl (fun acc x => insertAsc x acc) acc).Pairwise (· < ·) ∧
    ∀ y, y ∈ l.foldl (fun acc x => insertAsc x acc) acc ↔ y ∈ acc ∨ y ∈ l := by
  induction l with
  | nil => intro acc h; exact ⟨h, by simp⟩
  | cons x xs ih =>
    intro acc h
    obtain ⟨h1, h2⟩ := ih _ (insertAsc_sorted x acc h)
    refine ⟨h1, fun y => ?_⟩
    rw [List.foldl_cons, h2, insertAsc_mem, List.mem_cons, or_left_comm, or_assoc]

theorem uniquePos_eq (regions : Array Int) :
    uniquePos regions = (regions.toList.filter (· > 0)).foldl (fun acc x => insertAsc x acc) [] := by
  simp only [uniquePos, List.foldl_filter, decide_eq_true_eq]

theorem mem_toList_iff_get! (regions : Array Int) (l : Int) :
    l ∈ regions.toList ↔ ∃ i, i < regions.size ∧ regions[i]! = l := by
  rw [Array.mem_toList_iff, Array.mem_iff_getElem]
  exact ⟨fun ⟨i, hi, e⟩ => ⟨i, hi, (getElem!_pos regions i hi).trans e⟩,
    fun ⟨i, hi, e⟩ => ⟨i, hi, (getElem!_pos regions i hi).symm.trans e⟩⟩

/-! ### `ndimage.sum` -/

theorem labelSum_eq_spec (data regions : Array Int) (l : Int) :
    labelSum data regions l = labelSumSpec data regions l := by
  rw [labelSumSpec, ← Int.zero_add (List.sum _), ← foldl_add_eq_sum, List.foldl_filter]
  simp only [labelSum, beq_iff_eq]

/-! ### `ndimage.find_objects`: tight bounding boxes -/

/-- cell `i` lies inside the box -/
def InBox (ncol : Nat) (b : Box) (i : Nat) : Prop :=
  b.1 ≤ i / ncol ∧ i / ncol < b.2.1 ∧ b.2.2.1 ≤ i % ncol ∧ i % ncol < b.2.2.2

/-- `b` is the tight bounding box of the cell set `S`: it contains every cell of `S` and each of its
four sides is attained by some cell of `S` -/
structure TightBox (ncol : Nat) (S : Nat → Prop) (b : Box) : Prop where
  inside : ∀ i, S i → InBox ncol b i
  top : ∃ i, S i ∧ i / ncol = b.1
  bottom : ∃ i, S i ∧ i / ncol + 1 = b.2.1
  left : ∃ i, S i ∧ i % ncol = b.2.2.1
  right : ∃ i, S i ∧ i % ncol + 1 = b.2.2.2

/-- `[lo, hi)` is the tight range of the coordinate `f` over the cell set `S` -/
def TightAxis (f : Nat → Nat) (S : Nat → Prop) (lo hi : Nat) : Prop :=
  (∀ i, S i → lo ≤ f i ∧ f i < hi) ∧ (∃ i, S i ∧ f i = lo) ∧ (∃ i, S i ∧ f i + 1 = hi)

theorem tightBox_iff {ncol : Nat} {S : Nat → Prop} {r0 r1 c0 c1 : Nat} :
    TightBox ncol S (r0, r1, c0, c1) ↔
      TightAxis (· / ncol) S r0 r1 ∧ TightAxis (· % ncol) S c0 c1 :=
  ⟨fun h => ⟨⟨fun i hi => ⟨(h.inside i hi).1, (h.inside i hi).2.1⟩, h.top, h.bottom⟩,
      ⟨fun i hi => ⟨(h.inside i hi).2.2.1, (h.inside i hi).2.2.2⟩, h.left, h.right⟩⟩,
    fun ⟨⟨hr, ht, hb⟩, ⟨hc, hl, hrt⟩⟩ =>
      ⟨fun i hi => ⟨(hr i hi).1, (hr i hi).2, (hc i hi).1, (hc i hi).2⟩, ht, hb, hl, hrt⟩⟩

theorem TightAxis.single {f : Nat → Nat} {S : Nat → Prop} {c : Nat} (hS : ∀ i, S i ↔ i = c) :
    TightAxis f S (f c) (f c + 1) :=
  ⟨fun i hi => by rw [(hS i).1 hi]; omega, ⟨c, (hS c).2 rfl, rfl⟩, ⟨c, (hS c).2 rfl, rfl⟩⟩

theorem TightAxis.insert {f : Nat → Nat} {S S' : Nat → Prop} {lo hi c : Nat} (h : TightAxis f S lo hi)
    (hS : ∀ i, S' i ↔ S i ∨ i = c) : TightAxis f S' (min lo (f c)) (max hi (f c + 1)) := by
  obtain ⟨hin, ⟨a, ha, hal⟩, ⟨b, hb, hbh⟩⟩ := h
  refine ⟨fun i hi => ?_, ?_, ?_⟩
  · rcases (hS i).1 hi with hi | rfl
    · exact ⟨Nat.le_trans (Nat.min_le_left ..) (hin i hi).1,
        Nat.lt_of_lt_of_le (hin i hi).2 (Nat.le_max_left ..)⟩
    · exact ⟨Nat.min_le_right .., Nat.le_max_right ..⟩
  · by_cases hle : lo ≤ f c
    · exact ⟨a, (hS a).2 (Or.inl ha), by rw [Nat.min_eq_left hle, hal]⟩
    · exact ⟨c, (hS c).2 (Or.inr rfl), by rw [Nat.min_eq_right (Nat.le_of_not_le hle)]⟩
  · by_cases hle : f c + 1 ≤ hi
    · exact ⟨b, (hS b).2 (Or.inl hb), by rw [Nat.max_eq_left hle, hbh]⟩
    · exact ⟨c, (hS c).2 (Or.inr rfl), by rw [Nat.max_eq_right (Nat.le_of_not_le hle)]⟩

/-- invariant of the box fold: no box iff no cell, otherwise the tight box -/
def BoxInv (ncol : Nat) (S : Nat → Prop) : Option Box → Prop
  | none => ∀ i, ¬ S i
  | some b => TightBox ncol S b

theorem boxStep_inv {ncol : Nat} {regions : Array Int} {l : Int} {S S' : Nat → Prop} {c : Nat}
    {ob : Option Box} (h : BoxInv ncol S ob) (hS : ∀ i, S' i ↔ S i ∨ (i = c ∧ regions[i]! = l)) :
    BoxInv ncol S' (boxStep ncol regions l ob c) := by
  unfold boxStep
  split
  · next hc =>
    have hS' : ∀ i, S' i ↔ S i ∨ i = c := fun i =>
      (hS i).trans (or_congr_right (and_iff_left_of_imp fun e => e ▸ hc))
    match ob, h with
    | none, h =>
      have hc' : ∀ i, S' i ↔ i = c := fun i => (hS' i).trans (or_iff_right (h i))
      exact tightBox_iff.2 ⟨.single hc', .single hc'⟩
    | some (r0, r1, c0, c1), h =>
      obtain ⟨hr, hc⟩ := tightBox_iff.1 h
      exact tightBox_iff.2 ⟨hr.insert hS', hc.insert hS'⟩
  · next hc =>
    have : S' = S := funext fun i => propext
      ((hS i).trans (or_iff_left fun ⟨e, hl⟩ => hc (e ▸ hl)))
    rw [this]; exact h

/-- `find_objects` returns, per label, nothing iff no cell carries the label, else the tight box -/
theorem labelBox_inv (ncol : Nat) (regions : Array Int) (l : Int) :
    BoxInv ncol (fun i => i < regions.size ∧ regions[i]! = l) (labelBox ncol regions l) := by
  have := foldl_induct (boxStep ncol regions l)
    (fun done ob => BoxInv ncol (fun i => i ∈ done ∧ regions[i]! = l) ob) (List.range regions.size)
    (fun done c ob _ h => boxStep_inv h fun i => by rw [List.mem_append, List.mem_singleton, or_and_right])
    [] none (fun i hi => nomatch hi.1)
  simpa only [labelBox, List.nil_append, List.mem_range] using this

/-! ### coordinates of a box: the cell edges `x0 + xres * c` are monotone or antitone in `c` -/

theorem edge_mono {x0 xres : Int} (hx : 0 ≤ xres) {a b : Int} (h : a ≤ b) :
    x0 + xres * a ≤ x0 + xres * b :=
  Int.add_le_add_left (Int.mul_le_mul_of_nonneg_left h hx) x0

theorem edge_anti {x0 xres : Int} (hx : xres ≤ 0) {a b : Int} (h : a ≤ b) :
    x0 + xres * b ≤ x0 + xres * a :=
  Int.add_le_add_left (Int.mul_le_mul_of_nonpos_left hx h) x0

theorem hull_mono (x0 xres : Int) {a' a b b' : Int} (h0 : a' ≤ a) (h1 : a ≤ b) (h2 : b ≤ b') :
    min (x0 + xres * a') (x0 + xres * b') ≤ min (x0 + xres * a) (x0 + xres * b) ∧
    max (x0 + xres * a) (x0 + xres * b) ≤ max (x0 + xres * a') (x0 + xres * b') := by
  by_cases hx : 0 ≤ xres
  · exact ⟨Int.le_min.2 ⟨Int.le_trans (Int.min_le_left ..) (edge_mono hx h0),
        Int.le_trans (Int.min_le_left ..) (edge_mono hx (Int.le_trans h0 h1))⟩,
      Int.max_le.2 ⟨Int.le_trans (edge_mono hx (Int.le_trans h1 h2)) (Int.le_max_right ..),
        Int.le_trans (edge_mono hx h2) (Int.le_max_right ..)⟩⟩
  · have hx := Int.le_of_lt (Int.not_le.1 hx)
    exact ⟨Int.le_min.2 ⟨Int.le_trans (Int.min_le_right ..) (edge_anti hx (Int.le_trans h1 h2)),
        Int.le_trans (Int.min_le_right ..) (edge_anti hx h2)⟩,
      Int.max_le.2 ⟨Int.le_trans (edge_anti hx h0) (Int.le_max_left ..),
        Int.le_trans (edge_anti hx (Int.le_trans h0 h1)) (Int.le_max_left ..)⟩⟩

/-- the rectangle of a cell between the outer edges lies inside the hull -/
theorem axis_cell_inside (x0 xres : Int) (c0 c1 c : Nat) (h0 : c0 ≤ c) (h1 : c < c1) :
    min (x0 + xres * (c0 : Int)) (x0 + xres * (c1 : Int)) ≤
      min (x0 + xres * (c : Int)) (x0 + xres * ((c : Int) + 1)) ∧
    max (x0 + xres * (c : Int)) (x0 + xres * ((c : Int) + 1)) ≤
      max (x0 + xres * (c0 : Int)) (x0 + xres * (c1 : Int)) :=
  hull_mono x0 xres (Int.ofNat_le.2 h0) (Int.le_add_one (Int.le_refl _)) (Int.ofNat_le.2 h1)

theorem centre2_eq (x0 xres : Int) (c : Nat) :
    centre2 x0 xres c = 2 * (x0 + xres * (c : Int)) + xres := by
  rw [centre2, Int.mul_add xres, Int.mul_one, Int.mul_left_comm, ← Int.add_assoc, ← Int.mul_add]

theorem centre2_sub (x0 xres : Int) (c : Nat) :
    centre2 x0 xres c - xres = 2 * (x0 + xres * (c : Int)) := by
  rw [centre2_eq, Int.add_sub_cancel]

theorem centre2_add (x0 xres : Int) (c : Nat) :
    centre2 x0 xres c + xres = 2 * (x0 + xres * ((c + 1 : Nat) : Int)) := by
  rw [centre2_eq, Int.natCast_succ, Int.mul_add xres, Int.mul_one, ← Int.add_assoc x0, Int.mul_add 2 _ xres,
    Int.two_mul xres, Int.add_assoc]

/-- `axisBounds2` is the doubled hull `[min, max]` of the two outer cell edges, for both signs of the
cell size -/
theorem axisBounds2_hull (x0 xres : Int) (c0 c1 : Nat) (h : c0 < c1) :
    axisBounds2 x0 xres c0 c1 =
      (2 * min (x0 + xres * (c0 : Int)) (x0 + xres * (c1 : Int)),
       2 * max (x0 + xres * (c0 : Int)) (x0 + xres * (c1 : Int))) := by
  have hc : (c0 : Int) ≤ (c1 : Int) := Int.ofNat_le.2 (Nat.le_of_lt h)
  have h1 : c1 - 1 + 1 = c1 := Nat.sub_add_cancel (Nat.lt_of_le_of_lt (Nat.zero_le _) h)
  unfold axisBounds2
  by_cases hx : xres < 0
  · have hx' := Int.le_of_lt hx
    simp only [if_pos hx, Int.ofNat_natAbs_of_nonpos hx', Int.sub_neg, ← Int.sub_eq_add_neg,
      centre2_sub, centre2_add, h1, Int.min_eq_right (edge_anti hx' hc), Int.max_eq_left (edge_anti hx' hc)]
  · have hx' := Int.not_lt.1 hx
    simp only [if_neg hx, Int.natAbs_of_nonneg hx', centre2_sub, centre2_add, h1,
      Int.min_eq_left (edge_mono hx' hc), Int.max_eq_right (edge_mono hx' hc)]

/-! ### minima / maxima of the total box -/

theorem listMin_le (l : List Int) (d : Int) : listMin l d ≤ d ∧ (∀ x ∈ l, listMin l d ≤ x) ∧
    (listMin l d = d ∨ listMin l d ∈ l) :=
  foldl_select (R := (· ≤ ·)) Int.le_refl Int.le_trans
    (fun a b => (Int.le_total a b).imp (fun h => ⟨Int.min_eq_left h, h⟩)
      fun h => ⟨Int.min_eq_right h, h⟩) l d

theorem listMax_ge (l : List Int) (d : Int) : d ≤ listMax l d ∧ (∀ x ∈ l, x ≤ listMax l d) ∧
    (listMax l d = d ∨ listMax l d ∈ l) :=
  foldl_select (R := (· ≥ ·)) Int.le_refl (fun h1 h2 => Int.le_trans h2 h1)
    (fun a b => (Int.le_total b a).imp (fun h => ⟨Int.max_eq_left h, h⟩)
      fun h => ⟨Int.max_eq_right h, h⟩) l d

theorem select_component {β : Type} (f : β → Int) (b0 : β) (rest : List β) {R : Int → Int → Prop} {F : Int}
    (h : R F (f b0) ∧ (∀ x ∈ rest.map f, R F x) ∧ (F = f b0 ∨ F ∈ rest.map f)) :
    (∀ b ∈ b0 :: rest, R F (f b)) ∧ ∃ b ∈ b0 :: rest, f b = F := by
  obtain ⟨h1, h2, h3⟩ := h
  refine ⟨List.forall_mem_cons.2 ⟨h1, fun b hb => h2 _ (List.mem_map_of_mem hb)⟩, ?_⟩
  rcases h3 with h3 | h3
  · exact ⟨b0, List.mem_cons_self, h3.symm⟩
  · obtain ⟨b, hb, e⟩ := List.mem_map.1 h3
    exact ⟨b, List.mem_cons_of_mem _ hb, e⟩

theorem filterMap_map_some {β γ : Type} (f : β → Option γ) :
    ∀ L : List β, (∀ l ∈ L, ∃ b, f l = some b) → (L.filterMap f).map some = L.map f
  | [], _ => rfl
  | x :: xs, h => by
    obtain ⟨b, hb⟩ := h x List.mem_cons_self
    rw [List.filterMap_cons, hb, List.map_cons, List.map_cons, hb,
      filterMap_map_some f xs (fun l hl => h l (List.mem_cons_of_mem _ hl))]

end Pf.C05x
