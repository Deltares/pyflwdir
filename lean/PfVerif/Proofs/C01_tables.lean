import PfVerif.Model.C01
import PfVerif.Generated.Tables
/-! The `drdc` tables extracted from /repo against the model's `drdc` functions, on all 256 `uint8` codes: one
list equation per table, from which the per-code lookups other modules state follow. -/
namespace Pf.Fd

theorem getElem!_map_range {α : Type} [Inhabited α] (f : Nat → α) {n v : Nat} (h : v < n) :
    ((List.range n).map f)[v]! = f v := by simp [h]

theorem getD_map_range {α : Type} (f : Nat → α) {n v : Nat} (h : v < n) (d : α) :
    ((List.range n).map f).getD v d = f v := by simp [h]

theorem gen_d8Drdc_eq : Generated.d8Drdc = (List.range 256).map d8Drdc := by decide +kernel
theorem gen_lddDrdc_eq : Generated.lddDrdc = (List.range 256).map lddDrdc := by decide +kernel

theorem gen_d8Drdc_get! {v : Nat} (hv : v < 256) : Generated.d8Drdc[v]! = d8Drdc v := by
  rw [gen_d8Drdc_eq, getElem!_map_range _ hv]

theorem gen_lddDrdc_get! {v : Nat} (hv : v < 256) : Generated.lddDrdc[v]! = lddDrdc v := by
  rw [gen_lddDrdc_eq, getElem!_map_range _ hv]

end Pf.Fd
