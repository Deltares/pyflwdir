import PfVerif.Model.C16_val
import PfVerif.Proofs.C16_machArith
import PfVerif.Proofs.C04
import PfVerif.Props.C03
import PfVerif.Props.C08
import PfVerif.Props.C18
import PfVerif.Core.Folds
/-! Helper lemmas of the C16 extension `C16_val` (capacity of the fixed-width value arrays): the counters,
and the bounds of the unbounded model values (rank, inflow count, classic order, catchment count,
Pfafstetter base). -/
namespace Pf.C16v
open Pf Pf.C16m Pf.C03 Pf.C08 Pf.C18

/-- capacity in the form the `*_fits` statements use it: the range of the dtype as two numerals -/
theorem fits_iff {t : ValTy} {a b : Int} (h : lo t = a ∧ hi t = b) (x : Int) : Fits t x ↔ a ≤ x ∧ x ≤ b := by
  rw [Fits, h.1, h.2]

theorem get!_map_store (t : ValTy) (a : Array Int) (i : Nat) (hi : i < a.size) :
    (storeArr t a)[i]! = store t a[i]! :=
  map_get! a (store t) hi

theorem incM_store (t : ValTy) (x : Int) : incM (store t x) = store t (x + 1) :=
  ((BitVec.ofInt_add x 1).trans (congrArg _ (BitVec.ofInt_ofNat t.w 1))).symm

theorem chainCountM_store (t : ValTy) (s : Int) (k : Nat) :
    chainCountM (store t s) k = store t (s + k) := by
  induction k with
  | zero => rw [chainCountM, Int.natCast_zero, Int.add_zero]
  | succ k ih => rw [chainCountM, ih, incM_store, Int.natCast_succ, Int.add_assoc]

/-- the 32-bit index dtypes address fewer than `2^32` cells -/
theorem cap32_lt {n : Nat} (hc : Cap i32 n ∨ Cap u32 n) : n < 2 ^ 32 := by
  rcases hc with h | h <;> exact cap_lt h (Nat.le_refl n)

/-- a cell of rank `k` heads a duplicate-free path of `k+1` cells (their ranks are `k, k-1, …, 0`) -/
theorem rank_path {ds : Array Nat} {rk : Array Int} (hc : RankCertA ds rk) :
    ∀ (k : Nat) (i : Nat), i < ds.size → rk[i]! = (k : Int) →
      ∃ l : List Nat, l.length = k + 1 ∧ l.Nodup ∧ ∀ x ∈ l, x < ds.size ∧ rk[x]! ≤ (k : Int) := by
  intro k
  induction k with
  | zero =>
    intro i hi hr
    exact ⟨[i], rfl, List.pairwise_singleton _ i, fun x hx => by rw [List.mem_singleton.1 hx]; exact ⟨hi, Int.le_of_eq hr⟩⟩
  | succ k ih =>
    intro i hi hr
    -- a positive rank: `i` has a downstream cell other than itself, whose rank is one less
    have hnd : ds[i]! ≠ ds.size := fun h => by have := hc.nodata i hi h; omega
    have hnp : ds[i]! ≠ i := fun h => by have := hc.pit i hi h; omega
    have hds : rk[ds[i]!]! = (k : Int) := by
      rcases hc.step i hi hnd hnp with ⟨h1, _⟩ | ⟨_, h2⟩ <;> omega
    obtain ⟨l, hl, hnd', hall⟩ := ih ds[i]! (hc.lt i hi hnd) hds
    refine ⟨i :: l, by rw [List.length_cons, hl], List.nodup_cons.2 ⟨fun hmem => ?_, hnd'⟩, ?_⟩
    · -- the cells of `l` have rank at most `k`, the rank of `i` is `k + 1`
      have := (hall i hmem).2
      omega
    · intro x hx
      rcases List.mem_cons.1 hx with rfl | hx
      · exact ⟨hi, Int.le_of_eq hr⟩
      · exact ⟨(hall x hx).1, Int.le_trans (hall x hx).2 (Int.ofNat_le.2 (Nat.le_succ k))⟩

theorem rank_lt_size {ds : Array Nat} {rk : Array Int} (hc : RankCertA ds rk) (i : Nat) (hi : i < ds.size) :
    rk[i]! < (ds.size : Int) := by
  by_cases hneg : rk[i]! < 0
  · exact Int.lt_of_lt_of_le hneg (Int.natCast_nonneg _)
  · obtain ⟨k, hk⟩ := Int.eq_ofNat_of_zero_le (Int.not_lt.1 hneg)
    obtain ⟨l, hl, hnd, hall⟩ := rank_path hc k i hi hk
    have := nodup_length_le hnd fun x hx => (hall x hx).1
    rw [hl] at this
    exact hk ▸ Int.ofNat_lt.2 this

theorem rank_ge {ds : Array Nat} {rk : Array Int} (hc : RankCertA ds rk) (i : Nat) (hi : i < ds.size) :
    -9999 ≤ rk[i]! := by
  by_cases hd : ds[i]! = ds.size
  · rw [hc.nodata i hi hd]; decide
  by_cases hp : ds[i]! = i
  · rw [hc.pit i hi hp]; decide
  rcases hc.step i hi hd hp with ⟨h, _⟩ | ⟨_, _⟩ <;> omega

theorem nupSpec_le (ds : Array Nat) (mask : Option (Array Bool)) (d : Nat) : nupSpec ds mask d ≤ ds.size :=
  calc nupSpec ds mask d ≤ (upsOf ds d).length := List.length_filter_le _ _
    _ ≤ (List.range ds.size).length := List.length_filter_le _ _
    _ = ds.size := List.length_range

theorem classic_le_length (ds : Array Nat) (seq : List Nat) (usMain : Array Nat) (mask : Option (Array Bool))
    (htopo : Topo ds seq) (hb : ∀ i ∈ seq, i < ds.size) :
    ∀ i ∈ seq, (classicOrder ds seq usMain mask)[i]! ≤ seq.length := by
  obtain ⟨h1, h2, h3⟩ := classic_rec ds seq usMain mask htopo hb
  suffices hs : ∀ (pre : List Nat), Topo ds pre → (∀ i ∈ pre, i ∈ seq) →
      ∀ i ∈ pre, (classicOrder ds seq usMain mask)[i]! ≤ pre.length from hs seq htopo (fun _ h => h)
  intro pre hpre
  induction hpre with
  | nil => intro _ i hi; cases hi
  | @snoc pre i _ hi hds ih =>
    intro hsub j hj
    have ihp := ih (fun k hk => hsub k (List.mem_append_left _ hk))
    rw [List.length_append, List.length_singleton]
    rcases List.mem_append.1 hj with hj | hj
    · exact Nat.le_succ_of_le (ihp j hj)
    · rw [List.mem_singleton.1 hj]
      have hjs := hsub i (List.mem_append_right _ (List.mem_singleton_self i))
      by_cases hm : maskAt mask i = true
      · by_cases hp : ds[i]! = i
        · rw [h1 i hjs hm hp]; exact Nat.succ_pos _
        · rw [h2 i hjs hm hp]
          have := ihp _ (hds.resolve_left hp)
          split <;> omega
      · rw [h3 i (Or.inr (Bool.eq_false_iff.2 hm))]; exact Nat.zero_le _

theorem classicOrderW_8 (ds : Array Nat) (seq : List Nat) (usMain : Array Nat) (mask : Option (Array Bool)) :
    classicOrderW 8 ds seq usMain mask = classicOrderU8 ds seq usMain mask := rfl

/-! `maskedCount` (the accumulation of the constant field 1 over the stream network, the right-hand side of the
C08 bound `2^(ord-1) ≤ maskedCount`): transport of the `Nat` sweep to the `Int` sweep of C04 and its closed
form `sweepUp_add_sum`. -/

theorem map_get!_cast (xs : Array Nat) (i : Nat) : (xs.map (fun k : Nat => (k : Int)))[i]! = (xs[i]! : Int) := by
  by_cases hi : i < xs.size
  · exact map_get! xs _ hi
  · rw [getElem!_neg (xs.map _) i (by rw [Array.size_map]; exact hi), getElem!_neg xs i hi]
    rfl

theorem sweepUp_cast (ds : Array Nat) (ok : Nat → Bool) (seq : List Nat) (o : Array Nat) :
    (sweepUp ds (fun c acc v => if ok c = true then acc + v else acc) seq o).map (fun k : Nat => (k : Int))
      = sweepUp ds (updAdd ok) seq (o.map (fun k : Nat => (k : Int))) := by
  induction seq with
  | nil => rfl
  | cons i rest ih =>
    simp only [sweepUp, List.foldr_cons] at ih ⊢
    rw [← ih, stepUp, stepUp]
    split
    · rfl
    · rw [Array.map_setIfInBounds, map_get!_cast, map_get!_cast, updAdd, apply_ite Nat.cast, Int.natCast_add]

theorem sumRange_ite0_one_le (P : Nat → Prop) : ∀ n : Nat, sumRange n (fun k => ite0 (P k) 1) ≤ (n : Int) := by
  intro n
  induction n with
  | zero => exact Int.le_refl 0
  | succ n ih =>
    simp only [sumRange]
    by_cases hp : P n
    · rw [ite0_pos hp]; omega
    · rw [ite0_neg hp]; omega

theorem maskedCount_le (ds : Array Nat) (seq : List Nat) (mask : Option (Array Bool))
    (htopo : Topo ds seq) (hb : ∀ i ∈ seq, i < ds.size) (j : Nat) (hj : j ∈ seq) :
    (maskedCount ds seq mask)[j]! ≤ ds.size := by
  have h3 : ((maskedCount ds seq mask)[j]! : Int) =
      (sweepUp ds (updAdd (maskAt mask)) seq ((Array.replicate ds.size 1).map (fun k : Nat => (k : Int))))[j]! := by
    rw [← sweepUp_cast, map_get!_cast]; rfl
  rw [sweepUp_add_sum ds (maskAt mask) seq htopo ds.size hb _
      (fun i hi => by rw [Array.size_map, Array.size_replicate]; exact hb i hi) j hj,
    sumOver_congr (g := fun _ => 1) (fun _ _ => Iff.rfl) (fun k hk _ => by
      rw [map_get!_cast, getElem!_pos _ k (by rw [Array.size_replicate]; exact hk), Array.getElem_replicate]; rfl)] at h3
  exact Int.ofNat_le.1 (h3 ▸ sumRange_ite0_one_le _ ds.size)

theorem pfBase_succ (d : Nat) : pfBase (d + 1) = if d = 0 then pfBase d else pfBase d + (10 : Int) ^ d := by
  unfold pfBase
  rw [List.range_succ, List.foldl_append]
  rfl

theorem pfBase_zero : pfBase 0 = 1 := rfl

theorem pow10_pos (d : Nat) : (0 : Int) < (10 : Int) ^ d := Int.pow_pos (by decide)

/-- `pfaf0` is the repunit: `9 * pfaf0 + 1 = 10^depth` -/
theorem pfBase_repunit : ∀ d : Nat, 0 < d → 9 * pfBase d + 1 = (10 : Int) ^ d := by
  intro d
  induction d with
  | zero => intro h; cases h
  | succ d ih =>
    intro _
    rw [pfBase_succ]
    by_cases hd : d = 0
    · subst hd; rfl
    · have := ih (Nat.pos_of_ne_zero hd)
      rw [if_neg hd, Int.pow_succ]
      omega

theorem pfBase_pos : ∀ d : Nat, 1 ≤ pfBase d := by
  intro d
  induction d with
  | zero => exact Int.le_refl 1
  | succ d ih =>
    rw [pfBase_succ]
    split
    · exact ih
    · exact Int.le_trans ih (Int.le_add_of_nonneg_right (Int.le_of_lt (pow10_pos d)))

/-- the repunit has `depth` digits -/
theorem pfBase_lt (depth : Nat) (hd : 0 < depth) : pfBase depth < (10 : Int) ^ depth := by
  have h := pfBase_repunit depth hd
  have hb1 := pfBase_pos depth
  omega

/-- the seed `pfaf0 + (i+1) * 10^depth` of pit `i` lies strictly between `(i+1) * 10^depth` and `(i+2) * 10^depth`,
because `0 < pfaf0 < 10^depth` -/
theorem pfafSeed_bounds (depth i : Nat) (hd : 0 < depth) :
    ((i : Int) + 1) * (10 : Int) ^ depth < pfafSeed depth i ∧
    pfafSeed depth i < ((i : Int) + 2) * (10 : Int) ^ depth := by
  have hlt := pfBase_lt depth hd
  have hb1 := pfBase_pos depth
  have e : ((i : Int) + 2) * (10 : Int) ^ depth = ((i : Int) + 1) * (10 : Int) ^ depth + (10 : Int) ^ depth := by
    rw [show (i : Int) + 2 = (i : Int) + 1 + 1 from rfl, Int.add_mul _ 1, Int.one_mul]
  rw [e, pfafSeed]
  omega

/-- all seeds of `npits` pits lie in `[0, (npits + 1) * 10^depth)` -/
theorem pfafSeed_range (depth npits : Nat) (hd : 0 < depth) (i : Nat) (hi : i < npits) :
    0 ≤ pfafSeed depth i ∧ pfafSeed depth i < ((npits : Int) + 1) * (10 : Int) ^ depth := by
  obtain ⟨h1, h2⟩ := pfafSeed_bounds depth i hd
  have hp := Int.le_of_lt (pow10_pos depth)
  exact ⟨Int.le_trans (Int.mul_nonneg (by omega) hp) (Int.le_of_lt h1),
    Int.lt_of_lt_of_le h2 (Int.mul_le_mul_of_nonneg_right (by omega) hp)⟩

end Pf.C16v
