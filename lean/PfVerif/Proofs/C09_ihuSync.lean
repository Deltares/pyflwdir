import PfVerif.Proofs.C09_ihuRel2
import PfVerif.Proofs.C09_ihuNew
/-! Outlet pixels stay pairwise distinct through `ihu_optimize_rivlen` and `ihu_minimize_error`, also when
`pit_out_of_cell > 0` moves an outlet to a pit outside its cell: `upscale_check` records the cell of every outlet pixel in
`streams`, the stages keep `streams` in step with the outlet array, and a pixel that `streams` marks as an outlet is never
given to a second cell; hence the outlet pixels `ihu` returns are distinct for every `pit_out_of_cell` (C09 extension). -/
namespace Pf.C09ihu
open Pf

/-- `streams` knows the outlet pixels: the entry of every (in-range) outlet pixel is its coarse cell -/
def SyncD (ds : Array Nat) (streams : Array Int) (out : Array Nat) : Prop :=
  ∀ c, c < out.size → out[c]! < ds.size → streams[out[c]!]! = Int.ofNat c

/-- in-range outlet pixels are pairwise distinct -/
def DistinctD (ds : Array Nat) (out : Array Nat) : Prop :=
  ∀ c c', c < out.size → c' < out.size → out[c]! < ds.size → out[c]! = out[c']! → c = c'

theorem SyncD.distinct {ds : Array Nat} {streams : Array Int} {out : Array Nat} (h : SyncD ds streams out) :
    DistinctD ds out := by
  intro c c' hc hc' hlt heq
  have h1 := h c hc hlt
  have h2 := h c' hc' (heq ▸ hlt)
  rw [heq, h2] at h1
  exact (Int.ofNat.inj h1).symm

/-- the marking of a path (`streams[p] = max(streams[p], -1)`) leaves non-negative entries alone -/
theorem pathFold_get (path : List Nat) : ∀ (s : Array Int) (p : Nat), 0 ≤ s[p]! →
    (path.foldl (fun s q => s.setIfInBounds q (max s[q]! (-1))) s)[p]! = s[p]! := by
  induction path with
  | nil => intro s p _; rfl
  | cons q path ih =>
    intro s p hp
    rw [List.foldl_cons]
    have h1 : (s.setIfInBounds q (max s[q]! (-1)))[p]! = s[p]! := by
      rw [get!_setIfInBounds]
      split
      · rename_i hh
        rw [hh.1]
        omega
      · rfl
    rw [ih _ p (by rw [h1]; exact hp), h1]

theorem pathFold_size (path : List Nat) : ∀ (s : Array Int),
    (path.foldl (fun s q => s.setIfInBounds q (max s[q]! (-1))) s).size = s.size := by
  induction path with
  | nil => intro s; rfl
  | cons q path ih => intro s; rw [List.foldl_cons, ih]; simp

/-! ### `new_outlet` -/

/-- moving the outlet pixel of `idx0` to a pixel `p` that is no other cell's outlet pixel keeps `streams` in step -/
theorem move_sync (ds : Array Nat) (s : Array Int) (out : Array Nat) (idx0 p : Nat) (hsz : s.size = ds.size)
    (hi : idx0 < out.size) (hs : SyncD ds s out)
    (hp : ∀ c, c < out.size → c ≠ idx0 → out[c]! < ds.size → out[c]! ≠ p) :
    SyncD ds ((s.setIfInBounds out[idx0]! (-1)).setIfInBounds p (Int.ofNat idx0)) (out.setIfInBounds idx0 p) := by
  intro c hc hlt
  simp only [Array.size_setIfInBounds] at hc
  have hoc : (out.setIfInBounds idx0 p)[c]! = if idx0 = c ∧ idx0 < out.size then p else out[c]! :=
    get!_setIfInBounds out idx0 c p
  rw [hoc] at hlt ⊢
  by_cases hci : idx0 = c
  · subst hci
    rw [if_pos ⟨rfl, hi⟩] at hlt ⊢
    rw [get!_setIfInBounds, if_pos ⟨rfl, by simp [hsz]; exact hlt⟩]
  · rw [if_neg (fun hh => hci hh.1)] at hlt ⊢
    have hcne : c ≠ idx0 := fun hh => hci hh.symm
    have h1 : out[c]! ≠ p := hp c hc hcne hlt
    have h2 : out[c]! ≠ out[idx0]! := fun heq => hcne (hs.distinct c idx0 hc hi hlt heq)
    rw [get!_setIfInBounds, if_neg (fun hh => h1 hh.1.symm), get!_setIfInBounds, if_neg (fun hh => h2 hh.1.symm)]
    exact hs c hc hlt

theorem newOutlet_sync (ds : Array Nat) (upa : Array Int) (idx0 : Nat) (streams : Array Int)
    (cds out : Array Nat) (ncol subncol cs minNum minDen : Nat) (minupa : Int) (target : Option Nat)
    (s' : Array Int) (c' o' : Array Nat) (f : Bool)
    (h : newOutlet ds upa idx0 out[idx0]! streams cds out ncol subncol cs minNum minDen minupa target =
      some (s', c', o', f))
    (hsz : streams.size = ds.size) (hi : idx0 < out.size) (hs : SyncD ds streams out) :
    s'.size = ds.size ∧ o'.size = out.size ∧ SyncD ds s' o' ∧ ∀ c, c ≠ idx0 → o'[c]! = out[c]! := by
  rcases newOutlet_cases _ _ _ _ _ _ _ _ _ _ _ _ _ _ _ _ _ _ h with
    ⟨rfl, _, rfl⟩ | ⟨pout, idxds, path0, ⟨_, hm9, _⟩, rfl, _, rfl⟩
  · refine ⟨by simp [hsz], rfl, ?_, fun _ _ => rfl⟩
    have := move_sync ds streams o' idx0 o'[idx0]! hsz hi hs
      fun c hc hne hlt heq => hne (hs.distinct c idx0 hc hi hlt heq)
    rwa [setIfInBounds_self] at this
  · dsimp only at hm9
    refine ⟨by rw [pathFold_size]; simp [hsz], by simp, ?_,
      fun c hc => by rw [get!_setIfInBounds, if_neg (fun hh => hc hh.1.symm)]⟩
    have hmv := move_sync ds streams out idx0 pout hsz hi hs fun c hc hne hlt heq => ?_
    · intro c hc hlt
      rw [pathFold_get _ _ _ (by rw [hmv c hc hlt]; exact Int.natCast_nonneg _)]
      exact hmv c hc hlt
    · -- `streams` marks the outlet pixel of another cell `c`, but not the selected candidate
      rw [← heq, get!_setIfInBounds, if_neg (fun hh => hne (hs.distinct c idx0 hc hi hlt hh.1.symm)), hs c hc hlt] at hm9
      have := Int.natCast_nonneg c
      simp only [Int.ofNat_eq_natCast] at hm9
      omega

/-! ### the stages -/

/-- `streams` has one entry per pixel, the outlet array one per coarse cell, and they are in step -/
def TriSync (e : Env) (n : Nat) (st : Tri) : Prop :=
  st.1.size = e.ds.size ∧ st.2.2.size = n ∧ SyncD e.ds st.1 st.2.2

theorem newOutletE_sync (e : Env) (par : Par) (n idx0 : Nat) (streams : Array Int) (cds out : Array Nat)
    (target : Option Nat) (s' : Array Int) (c' o' : Array Nat) (f : Bool)
    (h : newOutletE e par idx0 out[idx0]! streams cds out target = some (s', c', o', f))
    (hs : TriSync e n (streams, cds, out)) (hi : idx0 < n) :
    TriSync e n (s', c', o') ∧ ∀ c, c ≠ idx0 → o'[c]! = out[c]! := by
  unfold newOutletE at h
  obtain ⟨h1, h2, h3⟩ := hs
  simp only at h1 h2 h3
  obtain ⟨a, b, c, d⟩ := newOutlet_sync _ _ _ _ _ _ _ _ _ _ _ _ _ _ _ _ _ h h1 (by rw [h2]; exact hi) h3
  exact ⟨⟨a, by rw [b, h2], c⟩, d⟩

theorem rivlenOne_sync (e : Env) (par : Par) (n : Nat) (valid : Array Bool) (hvs : valid.size ≤ n) (st : Tri)
    (idx0 : Nat) (r : Tri × Bool) (hs : TriSync e n st) (h : rivlenOne e par valid st idx0 = some r) :
    TriSync e n r.1 := by
  obtain ⟨streams, cds, out⟩ := st
  rcases rivlenOne_cases e par valid streams cds out idx0 r h with h1 | ⟨hv0, _, s1, c1, o1, f, hnew, hP⟩
  · rw [h1]; exact hs
  · have hi0 : idx0 < n := Nat.lt_of_lt_of_le (bool_get_lt valid _ hv0) hvs
    obtain ⟨hs1, hsame⟩ := newOutletE_sync e par n idx0 streams cds out none s1 c1 o1 f hnew hs hi0
    obtain ⟨hz1, hz2, hz3⟩ := hs
    -- the outlet pixels of the other cells do not move, so the old outlet pixel of `idx0` stays free
    refine (hP (fun st => TriSync e n st ∧ ∀ c, c ≠ idx0 → st.2.2[c]! = out[c]!) ⟨hs1, hsame⟩ ?_ ?_).1
    · intro s c o idx _ _ _ hst
      exact hst
    · intro s c o ⟨⟨hm1, hm2, hm3⟩, hm4⟩
      refine ⟨⟨by simp [hm1], by simp [hm2], ?_⟩, fun c hc => ?_⟩
      · apply move_sync e.ds s o idx0 out[idx0]! hm1 (by rw [hm2]; exact hi0) hm3
        intro c hc hcne hlt heq
        rw [hm4 c hcne] at hlt heq
        exact hcne (SyncD.distinct hz3 c idx0 (by rw [hz2, ← hm2]; exact hc) (by rw [hz2]; exact hi0) hlt heq)
      · show (o.setIfInBounds idx0 out[idx0]!)[c]! = out[c]!
        rw [get!_setIfInBounds, if_neg (fun hh => hc hh.1.symm)]
        exact hm4 c hc

theorem optimizeRivlen_sync (e : Env) (par : Par) (n : Nat) (short : List Nat) (valid : Array Bool)
    (hvs : valid.size ≤ n) (st st' : Tri) (h : optimizeRivlen e par short valid st = some st')
    (hs : TriSync e n st) : TriSync e n st' :=
  optimizeRivlen_lift (TriSync e n) (fun st idx r => rivlenOne_sync e par n valid hvs st idx r) short st st' h hs

/-! ### `ihu_minimize_error` -/

theorem minimizeError_sync (e : Env) (par : Par) (n poc : Nat) (fix : List Nat) (st st' : Tri) (sorts sorts' : Sorts)
    (hn : e.nrow * e.ncol = n) (hfix : ∀ c ∈ fix, c < n)
    (h : minimizeError e par poc fix st sorts = some (st', sorts')) (hs : TriSync e n st) : TriSync e n st' := by
  have htake := Sorts.take_ok sorts (fix.map fun c => e.upa[st.2.2[c]!]!).toArray
  simp only [List.size_toArray, List.length_map] at htake
  refine minimizeError_lift (TriSync e n) poc fix st st' sorts sorts' (fun b i0 b' hi0 hb hstep => ?_) h hs
  have hi : fix[i0]! < n := hfix _ (getElem!_mem fix i0 (htake.2 i0 hi0))
  refine minErrOne_lift (TriSync e n) poc fix[i0]! ?_ ?_ (fun s c o idxs fixed hst => hst) b b' hstep hb
  · -- the pit is free: it is the old outlet pixel, or no pixel that `streams` marks was met on the way to it
    intro s c o idxs subidx hpath _ _ hc ⟨hz1, hz2, hz3⟩
    refine ⟨by simp [hz1], by simp [hz2], move_sync e.ds s o _ subidx hz1 (hz2 ▸ hi) hz3 fun c' hcl hcne hlt heq => ?_⟩
    have hne0 : o[c']! ≠ o[fix[i0]!]! := fun hh => hcne (SyncD.distinct hz3 c' _ hcl (hz2 ▸ hi) hlt hh)
    rcases hc with h1 | h1
    · exact hne0 (heq.trans h1)
    · subst h1
      rcases (errPath_res e s _ (fun _ => True) (fun _ _ => trivial) _ _ _ _ hpath trivial).2.2.2 rfl with h2 | h2
      · exact hne0 (heq.trans h2)
      · exact h2 (by rw [← heq, hz3 c' hcl hlt]; exact Int.natCast_nonneg c')
  · intro s c o idx tgt r hidx hst hnew
    exact (newOutletE_sync e par n idx s c o tgt r.1 r.2.1 r.2.2.1 r.2.2.2 hnew hst
      (hidx.elim (fun h => h ▸ hi) fun h => hn ▸ (d8Idx_mem _ _ _ _ h).1)).1

/-! ### `upscale_check` -/

theorem streamsInit_sync (ds out : Array Nat) (hd : DistinctD ds out) :
    (streamsInit ds.size out).size = ds.size ∧ SyncD ds (streamsInit ds.size out) out := by
  -- after `k` rounds the entries of the outlet pixels of the cells below `k` are in place
  refine foldl_range_inv (fun k (s : Array Int) => k ≤ out.size → s.size = ds.size ∧
      ∀ c, c < k → out[c]! < ds.size → s[out[c]!]! = Int.ofNat c) _ _
    (fun _ => ⟨Array.size_replicate .., fun c hc => absurd hc (Nat.not_lt_zero c)⟩) out.size
    (fun k hk s ih _ => ?_) (Nat.le_refl _)
  obtain ⟨ih1, ih2⟩ := ih (Nat.le_of_lt hk)
  refine ite_ind (P := fun (s' : Array Int) => s'.size = ds.size ∧
    ∀ c, c < k + 1 → out[c]! < ds.size → s'[out[c]!]! = Int.ofNat c) (fun hmiss => ?_) fun _ => ?_
  · refine ⟨ih1, fun c hc hlt => ih2 c ?_ hlt⟩
    by_cases hck : c = k
    · subst hck; omega
    · omega
  · refine ⟨(Array.size_setIfInBounds ..).trans ih1, fun c hc hlt => ?_⟩
    rw [get!_setIfInBounds]
    by_cases hck : c = k
    · subst hck
      rw [if_pos ⟨rfl, by rw [ih1]; exact hlt⟩]
    · rw [if_neg fun hh => hck (hd c k (by omega) hk hlt hh.1.symm)]
      exact ih2 c (by omega) hlt

theorem checkWalk_keep (ds : Array Nat) :
    ∀ fuel p d streams r, checkWalk ds fuel p d streams = some r →
      r.2.2.size = streams.size ∧ ∀ x : Nat, 0 ≤ streams[x]! → r.2.2[x]! = streams[x]! := by
  intro fuel
  induction fuel with
  | zero => intro p d streams r h; simp [checkWalk] at h
  | succ f ih =>
    intro p d streams r h
    simp only [checkWalk] at h
    split at h
    · cases h; exact ⟨rfl, fun _ _ => rfl⟩
    · obtain ⟨h1, h2⟩ := ih _ _ _ _ h
      have hx : ∀ x : Nat, 0 ≤ streams[x]! → (streams.setIfInBounds p (max streams[p]! (-1)))[x]! = streams[x]! := by
        intro x hx
        rw [get!_setIfInBounds]
        split
        · rename_i hh; rw [hh.1]; omega
        · rfl
      refine ⟨by rw [h1]; simp, fun x hx0 => ?_⟩
      rw [h2 x (by rw [hx x hx0]; exact hx0), hx x hx0]

/-- after `upscale_check` on a duplicate-free outlet array `streams` is in step with it -/
theorem upscaleCheck_sync (ds out cds : Array Nat) (minNum minDen : Nat)
    (r : Array Bool × Array Int × List Nat × List Nat) (h : upscaleCheck ds out cds minNum minDen = some r)
    (hd : DistinctD ds out) :
    r.1.size = cds.size ∧ r.2.1.size = ds.size ∧ SyncD ds r.2.1 out ∧ ∀ c ∈ r.2.2.1, c < cds.size := by
  unfold upscaleCheck at h
  have h0 := streamsInit_sync ds out hd
  refine foldlM_inv _ (fun (st : Array Bool × Array Int × List Nat × List Nat) =>
    st.1.size = cds.size ∧ st.2.1.size = ds.size ∧ SyncD ds st.2.1 out ∧ ∀ c ∈ st.2.2.1, c < cds.size) _ ?_ _ _ ?_ h
  · intro ⟨valid, streams, fix, short⟩ idx0 b' hidx hb hstep
    dsimp only at hb hstep
    by_cases hmiss : cds[idx0]! = cds.size
    · rw [if_pos hmiss] at hstep; cases hstep; exact hb
    rw [if_neg hmiss] at hstep
    cases hcw : checkWalk ds (ds.size + 1) out[idx0]! 0 streams with
    | none => rw [hcw] at hstep; cases hstep
    | some x =>
      obtain ⟨q, d, s'⟩ := x
      rw [hcw] at hstep
      dsimp only at hstep
      have hk := checkWalk_keep ds _ _ _ _ _ hcw
      -- the walk only marks pixels whose entry is negative, the entries of outlet pixels are coarse cells
      have hsync : SyncD ds s' out := fun c hc hl => by
        rw [hk.2 _ (by rw [hb.2.2.1 c hc hl]; exact Int.natCast_nonneg c)]
        exact hb.2.2.1 c hc hl
      have hrest : valid.size = cds.size ∧ s'.size = ds.size ∧ SyncD ds s' out ∧ ∀ c ∈ fix, c < cds.size :=
        ⟨hb.1, hk.1.trans hb.2.1, hsync, hb.2.2.2⟩
      by_cases hq : q ≠ out[cds[idx0]!]!
      · rw [if_pos hq] at hstep
        cases hstep
        refine ⟨(Array.size_setIfInBounds ..).trans hb.1, hk.1.trans hb.2.1, hsync, fun c hc => ?_⟩
        rcases List.mem_append.mp hc with hc | hc
        · exact hb.2.2.2 c hc
        · rw [List.mem_singleton.mp hc]; exact List.mem_range.mp hidx
      · rw [if_neg hq] at hstep
        by_cases hsh : minNum > 0 ∧ (d + 1) * minDen ≤ minNum
        · rw [if_pos hsh] at hstep; cases hstep; exact hrest
        · rw [if_neg hsh] at hstep; cases hstep; exact hrest
  · exact ⟨by simp, h0.1, h0.2, fun c hc => by cases hc⟩

/-! ### the `niter` loop -/

theorem own_distinct (e : Env) (out : Array Nat)
    (h : OutOK (fun c p => p = e.ds.size ∨ (p < e.ds.size ∧ e.cell p = c)) out) : DistinctD e.ds out :=
  fun _ _ hc hc' hlt heq =>
    distinct_of_own_cell (fun c hc => (h c hc).imp id And.right) hc hc' (Nat.ne_of_lt hlt) heq

/-- the outlet pixels at the end of the `niter` loop are pairwise distinct, whatever `pit_out_of_cell` is: before the
last call of `ihu_minimize_error` every outlet pixel lies in its own cell, and that call keeps `streams` in step -/
theorem ihuLoop_distinct (e : Env) (par : Par) (o : IhuOpt) (n : Nat) (hn : e.nrow * e.ncol = n) :
    ∀ k fix cds out sorts r, ihuLoop e par o k fix cds out sorts = some r → cds.size = n → out.size = n →
      OutOK (fun c p => p = e.ds.size ∨ (p < e.ds.size ∧ e.cell p = c)) out → DistinctD e.ds r.2.1 := by
  have hle : n ≤ e.ncell := by rw [← hn]; exact Nat.le_refl _
  have hR : ∀ p, Exit e p → e.cell p < n → (fun c p => p = e.ds.size ∨ (p < e.ds.size ∧ e.cell p = c)) (e.cell p) p :=
    fun p _ hlt => Or.inr ⟨lt_of_cell_lt e p n hle hlt, rfl⟩
  intro k
  induction k with
  | zero =>
    intro fix cds out sorts r h _ _ ho
    rw [ihuLoop] at h
    cases h
    exact own_distinct e out ho
  | succ k ih =>
    intro fix cds out sorts res h hcs hos ho
    obtain ⟨rr, valid, streams, fix1, short, st1, s2, c2, o2, sorts2, poc, hrel, hchk, hst1, hst2, hres⟩ :=
      ihuLoop_succ e par o k fix cds out sorts _ h
    obtain ⟨hrc, hr⟩ := relocateOutlets_inv e _ fix cds out sorts rr (fun p hp hlt => hR p hp (hos ▸ hlt)) hrel ho
    rw [hcs] at hrc
    have hro : rr.out.size = n := hr.1.trans hos
    obtain ⟨hv1, hv2, hv3, hv4⟩ := upscaleCheck_sync e.ds rr.out rr.cds par.minNum par.minDen _ hchk
      (own_distinct e rr.out hr.2)
    dsimp only at hv1 hv2 hv3 hv4
    have h0 : TriSync e n (streams, rr.cds, rr.out) ∧
        TriInv (fun c p => p = e.ds.size ∨ (p < e.ds.size ∧ e.cell p = c)) n n (streams, rr.cds, rr.out) :=
      ⟨⟨hv2, hro, hv3⟩, hrc, hro, hr.2⟩
    have h1 : TriSync e n st1 ∧ TriInv (fun c p => p = e.ds.size ∨ (p < e.ds.size ∧ e.cell p = c)) n n st1 :=
      of_ite_some (P := fun st => TriSync e n st ∧
          TriInv (fun c p => p = e.ds.size ∨ (p < e.ds.size ∧ e.cell p = c)) n n st) hst1 (fun hh => ⟨optimizeRivlen_sync e par n short valid (by rw [hv1, hrc]; exact Nat.le_refl _) _ st1
        hh h0.1, optimizeRivlen_inv e par _ n n short valid _ st1 hR hle hh h0.2⟩) h0
    have hfix1 : ∀ c ∈ fix1, c < n := fun c hc => hrc ▸ hv4 c hc
    have h2 : TriSync e n (s2, c2, o2) :=
      of_ite_some (P := fun x : Tri × Sorts => TriSync e n x.1) hst2
        (fun hh => minimizeError_sync e par n poc fix1 st1 _ rr.sorts sorts2 hn hfix1 hh h1.1) h1.1
    rcases hres with ⟨_, hres⟩ | ⟨hp0, hres⟩
    · cases hres; exact SyncD.distinct h2.2.2
    · -- a round that is not the last runs `ihu_minimize_error` with `pit_out_of_cell = 0`: outlets stay in their cells
      subst hp0
      have h3 : TriInv (fun c p => p = e.ds.size ∨ (p < e.ds.size ∧ e.cell p = c)) n n (s2, c2, o2) :=
        of_ite_some (P := fun x : Tri × Sorts => TriInv _ n n x.1) hst2
          (fun hh => minimizeError_inv e par _ n n 0 fix1 st1 _ rr.sorts sorts2 hR hle
            (fun hp => absurd hp (Nat.lt_irrefl 0)) hh h1.2) h1.2
      exact ih _ _ _ _ _ hres h3.1 h3.2.1 h3.2.2

end Pf.C09ihu
