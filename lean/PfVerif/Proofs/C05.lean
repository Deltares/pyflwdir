import PfVerif.Model.C05
/-! The first valid value read off a flow path. -/
namespace Pf

theorem FirstValid.of_path {ds : Array Nat} {data : Array Int} {nd : Int} : ∀ (k i : Nat),
    (∀ m, m < k → data[iterA ds m i]! = nd ∧ ds[iterA ds m i]! ≠ iterA ds m i) →
    data[iterA ds k i]! ≠ nd → FirstValid ds data nd i data[iterA ds k i]!
  | 0, i, _, hl => .here i hl
  | k+1, i, hpre, hl =>
    .down i _ (hpre 0 (Nat.succ_pos k)).1 (hpre 0 (Nat.succ_pos k)).2
      (of_path k ds[i]! (fun m hm => hpre (m+1) (Nat.succ_lt_succ hm)) hl)

end Pf
