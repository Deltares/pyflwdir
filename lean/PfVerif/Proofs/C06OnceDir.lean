import PfVerif.Proofs.C06Once
/-! `max_depth >= 0`: every direction the depth-limited flood writes at a valid cell is `0` (pit) or the
code that points back to a valid cell of which it is a structure neighbour; hence the decoded
downstream cell is an allowed valid neighbour. -/
namespace Pf.C06
open Pf

variable {G : Grid} {conn : Nat} {elev : Array Int} {nod : Array Bool} {md : Int}

/-- every valid cell carries code 0 or the code written from a valid cell `i` at the offset that leads from `i`
to it -/
def DirOk (G : Grid) (conn : Nat) (nod : Array Bool) (d8 : Array Nat) : Prop :=
  ∀ c, c < G.n → nod[c]! = false → d8[c]! = 0 ∨
    ∃ o, o ∈ offsets conn ∧ d8[c]! = usCode o.1 o.2 ∧
      ∃ i, i < G.n ∧ nod[i]! = false ∧ shift G i o.1 o.2 = some c

theorem dirOk_visit {z0 : Int} {i0 : Nat} (s : StD) (o : Int × Int) (hs : SizedD G s)
    (ho : o ∈ offsets conn) (hi0 : i0 < G.n) (hn0 : nod[i0]! = false) (h : DirOk G conn nod s.d8) :
    DirOk G conn nod (visitD G conn elev nod md z0 i0 s o).d8 := by
  rcases visitD_cases (G := G) (conn := conn) (elev := elev) (nod := nod) (md := md) z0 i0 s o with
    ⟨heq, _⟩ | ⟨j, _, _, _, heq⟩ | ⟨j, hsh, _, _, heq⟩
  · rw [heq]; exact h
  · rw [heq]; exact h
  · rw [heq]
    have hj : j < G.n := (shift_spec.1 hsh).1
    obtain ⟨hne, _, _, hd8, _⟩ := fill_get (elev := elev) z0 s j (usCode o.1 o.2) hs hj
    intro c hc hn
    by_cases hcj : c = j
    · rw [hcj, hd8]
      exact Or.inr ⟨o, ho, rfl, i0, hi0, hn0, hcj ▸ hsh⟩
    · rw [(hne c hcj).2.2.2]; exact h c hc hn

theorem dirOk_fold {z0 : Int} {i0 : Nat} (l : List (Int × Int)) (hl : ∀ o, o ∈ l → o ∈ offsets conn)
    (s : StD) (hs : SizedD G s) (hi0 : i0 < G.n) (hn0 : nod[i0]! = false) (h : DirOk G conn nod s.d8) :
    DirOk G conn nod (l.foldl (visitD G conn elev nod md z0 i0) s).d8 := by
  induction l generalizing s with
  | nil => exact h
  | cons o l ih =>
    exact ih (fun o' ho' => hl o' (List.mem_cons_of_mem _ ho')) _ (sizedD_visit s o hs)
      (dirOk_visit s o hs (hl o List.mem_cons_self) hi0 hn0 h)

theorem dirOk_loop (fuel : Nat) (s : StD) (hs : SizedD G s) (hsafe : SafeD G elev nod md s)
    (B : OnceBase G conn elev nod md 0 [] s) (h : DirOk G conn nod s.d8) :
    DirOk G conn nod (fillLoopD G conn elev nod md fuel s).d8 :=
  (fillLoopD_induct
    (fun s => SizedD G s ∧ SafeD G elev nod md s ∧ OnceBase G conn elev nod md 0 [] s ∧ DirOk G conn nod s.d8)
    (fun s hd _ ⟨hs, hsafe, B, h⟩ hq =>
      have hmem : hd ∈ s.q := by rw [hq]; exact List.mem_cons_self
      ⟨sizedD_fold _ _ hs, safeD_fold _ _ hs (safeD_tail hq hsafe), onceBase_pop hs B hq,
        dirOk_fold _ (fun _ ho => ho) _ hs (B.entry hd hmem).1 (hsafe.1 hd hmem) h⟩)
    fuel s ⟨hs, hsafe, B, h⟩).2.2.2

theorem dirOk_init {seed : Array Bool} (hN : nod.size = G.n) :
    DirOk G conn nod (initStateD G elev nod seed).d8 := by
  intro c hc hn
  exact Or.inl ((init_d8 nod (by omega)).trans (if_neg (by rw [hn]; exact Bool.false_ne_true)))

/-- a direction accepted by `DirOk` decodes to an allowed valid neighbour -/
theorem dirOk_nbr {d8 : Array Nat} (h : DirOk G conn nod d8)
    (h247 : ∀ c, c < G.n → nod[c]! = false → d8[c]! ≠ 247) (c : Nat) (hc : c < G.n)
    (hn : nod[c]! = false) (h0 : d8[c]! ≠ 0) : Nbr G conn nod c (dsOf G d8 c) := by
  rcases h c hc hn with h | ⟨⟨a, b⟩, ho, hcode, i, hi, hni, hsh⟩
  · exact absurd h h0
  · have hne : (a, b) ≠ (0, 0) := fun e => h0 (hcode.trans ((usCode_eq_zero_iff ho).2 e))
    rw [dsOf_eq hcode ho hne hsh hi (h247 i hi hni)]
    exact ⟨((adj_iff_shift hi).2 ⟨(a, b), ho, hne, hsh⟩).symm, ⟨hc, hn⟩, ⟨hi, hni⟩⟩

end Pf.C06
