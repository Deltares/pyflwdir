import PfVerif.Proofs.C13_bounds
import PfVerif.Proofs.C03Walk
/-! The walk-shaped kernels of `core.py` (`_trace`, `_window`, `idxs_seq`): logging variant = model, and every
logged access is in bounds. -/
namespace Pf.C13b
open Pf

/-! ### `_trace` -/

theorem traceL_fst (nxt : Array Nat) (mask : Option (Array Bool)) (maxLen : Option Int) (step : Nat → Nat → Int) :
    ∀ (fuel idx0 : Nat) (acc0 : List Nat) (dist : Int) (log : List Acc),
      (traceL nxt mask maxLen step fuel idx0 acc0 dist log).map Prod.fst =
        trace nxt mask maxLen step fuel idx0 acc0 dist := by
  intro fuel
  induction fuel with
  | zero => intro _ _ _ _; rfl
  | succ f ih =>
    intro idx0 acc0 dist log
    simp only [traceL, trace, apply_ite (Option.map Prod.fst), Option.map_some, ih]
    -- the two sides differ only in the names of the compiled `match`es on `mask` and `maxLen`
    rfl

theorem traceL_inb (nxt : Array Nat) (hn : IdxArr nxt) (mask : Option (Array Bool))
    (hm : ∀ m, mask = some m → m.size = nxt.size) (maxLen : Option Int) (step : Nat → Nat → Int) :
    ∀ (fuel idx0 : Nat) (acc0 : List Nat) (dist : Int) (log : List Acc) (r : (List Nat × Int) × List Acc),
      idx0 < nxt.size → InB log → traceL nxt mask maxLen step fuel idx0 acc0 dist log = some r → InB r.2 := by
  intro fuel
  induction fuel with
  | zero => intro _ _ _ _ _ _ _ h; cases h
  | succ f ih =>
    intro idx0 acc0 dist log r hi hl h
    have hl1 : InB (accOpt Arr.mask mask idx0 log) := InB_accOpt _ _ _ _ _ hm hi hl
    have hl2 : InB (acc Arr.nxt nxt idx0 :: accOpt Arr.mask mask idx0 log) := InB_acc _ _ _ _ hi hl1
    unfold traceL at h
    extract_lets log1 stop log2 idx1 d over at h
    split at h
    · cases h; exact hl1
    · split at h
      · cases h; exact hl2
      · rename_i hne
        split at h
        · cases h; exact hl2
        · exact ih _ _ _ _ r (hn.lt hi fun e => hne (Or.inr e)) hl2 h

/-! ### `_window` -/

theorem windowDownL_inb (ds : Array Nat) (hn : IdxArr ds) (strord : Option (Array Int))
    (hs : ∀ s, strord = some s → s.size = ds.size) (s0 : Int) (w : Nat) :
    ∀ (k pos idx0 : Nat) (acc0 : List Nat) (log : List Acc),
      idx0 < ds.size → pos + k ≤ 2 * w + 1 → InB log → InB (windowDownL ds strord s0 w k pos idx0 acc0 log).2 := by
  intro k
  induction k with
  | zero => intro _ _ _ _ _ _ hl; exact hl
  | succ k ih =>
    intro pos idx0 acc0 log hi hp hl
    have hl1 : InB (acc Arr.ds ds idx0 :: log) := InB_acc _ _ _ _ hi hl
    unfold windowDownL
    extract_lets log1 d log2 higher
    split
    · exact hl1
    · rename_i h1
      have hd : d < ds.size := hn.lt hi fun e => h1 (Or.inr e)
      have hl2 : InB log2 := InB_accOpt _ _ _ _ _ hs hd hl1
      split
      · exact hl2
      · exact ih _ _ _ _ hd (by omega) ((InB_cons ..).2 ⟨by show pos < 2 * w + 1; omega, hl2⟩)

theorem windowUpL_fst (ds usMain : Array Nat) (w : Nat) :
    ∀ (k idx0 : Nat) (acc0 : List Nat) (log : List Acc),
      (windowUpL ds usMain w k idx0 acc0 log).1 = windowUp ds usMain k idx0 acc0 := by
  intro k
  induction k with
  | zero => intro _ _ _; rfl
  | succ k ih =>
    intro idx0 acc0 log
    simp only [windowUpL, windowUp, apply_ite Prod.fst, ih]

theorem windowUpL_inb (ds usMain : Array Nat) (hn : IdxArr usMain) (hsz : usMain.size = ds.size) (w : Nat) :
    ∀ (k idx0 : Nat) (acc0 : List Nat) (log : List Acc),
      idx0 < ds.size → k ≤ w → InB log → InB (windowUpL ds usMain w k idx0 acc0 log).2 := by
  intro k
  induction k with
  | zero => intro _ _ _ _ _ hl; exact hl
  | succ k ih =>
    intro idx0 acc0 log hi hk hl
    have hl1 : InB (acc Arr.usMain usMain idx0 :: log) := InB_acc _ _ _ _ (hsz ▸ hi) hl
    unfold windowUpL
    extract_lets log1 u
    split
    · exact hl1
    · rename_i hu
      have hu' : u < ds.size := hsz ▸ hn.lt (hsz ▸ hi) (hsz ▸ hu)
      exact ih _ _ _ hu' (by omega) ((InB_cons ..).2 ⟨by show k < 2 * w + 1; omega, hl1⟩)

/-! ### `idxs_seq`

The reads `idxs_seq[i]` and the writes `idxs_seq[j]` stay inside the `n` slots by the loop invariant `WalkInv` of
`Proofs/C03Walk.lean`: processed and waiting cells are distinct cells. -/

theorem seqWalkLoopL_fst (ds : Array Nat) : ∀ (fuel : Nat) (q acc0 : List Nat) (log : List Acc),
    (seqWalkLoopL ds fuel q acc0 log).1 = seqWalkLoop ds fuel q acc0 := by
  intro fuel
  induction fuel with
  | zero => intro q acc0 log; rfl
  | succ f ih =>
    intro q acc0 log
    cases q with
    | nil => rfl
    | cons c rest => exact ih ..

theorem WalkInv.length_le {ds : Array Nat} {fuel : Nat} {queue acc0 : List Nat} (h : WalkInv ds fuel queue acc0) :
    acc0.length + queue.length ≤ ds.size := by
  simpa only [List.length_append, List.length_reverse] using nodup_length_le h.nodup h.bound

theorem InB_enqLog (n j : Nat) (cells : List Nat) (log : List Acc) (hj : j + cells.length ≤ n) (hl : InB log) :
    InB (enqLog n j cells log) := by
  unfold enqLog
  rw [InB_append]
  refine ⟨?_, hl⟩
  intro e he
  rw [List.mem_reverse] at he
  obtain ⟨k, hk, rfl⟩ := List.mem_map.1 he
  have := List.mem_range.1 hk
  show j + k < n
  omega

theorem seqWalkLoopL_inb (ds : Array Nat) : ∀ (fuel : Nat) (queue acc0 : List Nat) (log : List Acc),
    WalkInv ds fuel queue acc0 → InB log → InB (seqWalkLoopL ds fuel queue acc0 log).2 := by
  intro fuel
  induction fuel with
  | zero => intro queue acc0 log _ hl; exact hl
  | succ f ih =>
    intro queue acc0 log h hl
    have hf := h.fuel
    cases queue with
    | nil => exact (InB_cons ..).2 ⟨by show acc0.length < ds.size; omega, hl⟩
    | cons q rest =>
      have hlen := WalkInv.length_le h.step
      simp only [List.length_cons, List.length_append] at hlen
      exact ih _ _ _ h.step (InB_enqLog _ _ _ _ (by omega)
        ((InB_cons ..).2 ⟨by show acc0.length < ds.size; omega, hl⟩))

end Pf.C13b
