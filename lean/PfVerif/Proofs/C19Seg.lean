import PfVerif.Proofs.C19Walk
/-! `subgrid.segment_indices` (C19, `streams(idxs_out=...)`): what one segment walk returns, what the list of
segments consists of, and fuel totality of the walk from a measure that decreases along its steps (the instances for the
directions "down" and "up" stand under `segment_walk_total`, `segment_walk_total_up`). -/
namespace Pf.C19
open Pf

/-- `SegFrom … idx len tail pit last`: started at `idx` with `len` vertices collected, the loop appends
`tail`, and leaves the Python variables `pit`, `idx1` with the values `pit`, `last` -/
inductive SegFrom (nxt : Array Nat) (outlets : Array Bool) (mask : Option (Array Bool)) (maxLen : Nat) :
    Nat → Nat → List Nat → Bool → Nat → Prop
  | stop (idx len : Nat) : segStop nxt mask maxLen idx len = true →
      SegFrom nxt outlets mask maxLen idx len [] (nxt[idx]! == idx) nxt[idx]!
  | outlet (idx len : Nat) : segStop nxt mask maxLen idx len = false → outlets[nxt[idx]!]! = true →
      SegFrom nxt outlets mask maxLen idx len [nxt[idx]!] (nxt[idx]! == idx) nxt[idx]!
  | step (idx len : Nat) (tail : List Nat) (pit : Bool) (last : Nat) :
      segStop nxt mask maxLen idx len = false → outlets[nxt[idx]!]! = false →
      SegFrom nxt outlets mask maxLen nxt[idx]! (len + 1) tail pit last →
      SegFrom nxt outlets mask maxLen idx len (nxt[idx]! :: tail) pit last

theorem segWalk_spec (nxt : Array Nat) (outlets : Array Bool) (mask : Option (Array Bool)) (maxLen : Nat) :
    ∀ (fuel idx : Nat) (acc : List Nat) (r : List Nat × Bool × Nat),
      segWalk nxt outlets mask maxLen fuel idx acc = some r →
      ∃ tail, SegFrom nxt outlets mask maxLen idx acc.length tail r.2.1 r.2.2 ∧ r.1 = acc.reverse ++ tail := by
  intro fuel
  induction fuel with
  | zero => intro idx acc r h; simp [segWalk] at h
  | succ fuel ih =>
    intro idx acc r h
    simp only [segWalk] at h
    by_cases hs : segStop nxt mask maxLen idx acc.length = true
    · simp only [hs, if_true, Option.some.injEq] at h
      subst h
      exact ⟨[], SegFrom.stop idx _ hs, by simp⟩
    · have hs' : segStop nxt mask maxLen idx acc.length = false := by simpa using hs
      simp only [hs', Bool.false_eq_true, if_false] at h
      by_cases ho : outlets[nxt[idx]!]! = true
      · simp only [ho, if_true, Option.some.injEq] at h
        subst h
        exact ⟨[nxt[idx]!], SegFrom.outlet idx _ hs' ho, by simp⟩
      · have ho' : outlets[nxt[idx]!]! = false := by simpa using ho
        simp only [ho', Bool.false_eq_true, if_false] at h
        obtain ⟨tail, hw, hr⟩ := ih _ _ r h
        exact ⟨nxt[idx]! :: tail, SegFrom.step idx _ tail _ _ hs' ho' (by simpa using hw), by simp [hr]⟩

theorem segStop_false {nxt : Array Nat} {mask : Option (Array Bool)} {maxLen idx len : Nat}
    (h : segStop nxt mask maxLen idx len = false) :
    nxt[idx]! ≠ nxt.size ∧ nxt[idx]! ≠ idx ∧ maskAt mask nxt[idx]! = true ∧ (0 < maxLen → len ≠ maxLen) := by
  unfold segStop at h
  simp only [Bool.or_eq_false_iff, decide_eq_false_iff_not, beq_eq_false_iff_ne, ne_eq,
    Bool.and_eq_false_imp, decide_eq_true_eq] at h
  obtain ⟨⟨⟨h1, h2⟩, h3⟩, h4⟩ := h
  refine ⟨h1, h2, ?_, h4⟩
  cases mask with
  | none => rfl
  | some mk => simpa [maskAt] using h3

variable {nxt : Array Nat} {outlets : Array Bool} {mask : Option (Array Bool)} {maxLen : Nat}

/-- consecutive vertices of a segment are a cell and its different, existing, unmasked next cell -/
theorem SegFrom.linked {idx len : Nat} {tail : List Nat} {pit : Bool} {last : Nat}
    (h : SegFrom nxt outlets mask maxLen idx len tail pit last) :
    ∀ p ∈ pairsOf (idx :: tail), nxt[p.1]! = p.2 ∧ p.1 ≠ p.2 ∧ p.2 ≠ nxt.size ∧ maskAt mask p.2 = true := by
  induction h with
  | stop idx len _ => intro p hp; simp at hp
  | outlet idx len hs _ =>
    intro p hp
    rw [pairsOf_cons_cons] at hp
    simp at hp
    subst hp
    obtain ⟨h1, h2, h3, _⟩ := segStop_false hs
    exact ⟨rfl, fun h => h2 h.symm, h1, h3⟩
  | step idx len tail pit last hs _ _ ih =>
    intro p hp
    rw [pairsOf_cons_cons] at hp
    rcases List.mem_cons.mp hp with hp | hp
    · subst hp
      obtain ⟨h1, h2, h3, _⟩ := segStop_false hs
      exact ⟨rfl, fun h => h2 h.symm, h1, h3⟩
    · exact ih p hp

/-- no interior vertex of a segment is an outlet -/
theorem SegFrom.interior {idx len : Nat} {tail : List Nat} {pit : Bool} {last : Nat}
    (h : SegFrom nxt outlets mask maxLen idx len tail pit last) :
    ∀ v ∈ interior (idx :: tail), outlets[v]! = false := by
  induction h with
  | stop idx len _ => intro v hv; simp [Pf.interior] at hv
  | outlet idx len _ _ => intro v hv; simp [Pf.interior] at hv
  | step idx len tail pit last _ ho hw ih =>
    intro v hv
    cases tail with
    | nil => simp [Pf.interior] at hv
    | cons y r =>
      simp only [Pf.interior, List.tail_cons] at hv ih
      rw [List.dropLast_cons_cons] at hv
      rcases List.mem_cons.mp hv with hv | hv
      · subst hv; exact ho
      · exact ih v hv

/-- with a maximum length the segment never has more than `max_len` vertices -/
theorem SegFrom.length {idx len : Nat} {tail : List Nat} {pit : Bool} {last : Nat}
    (h : SegFrom nxt outlets mask maxLen idx len tail pit last) (hm : 0 < maxLen) (hl : len ≤ maxLen) :
    len + tail.length ≤ maxLen := by
  induction h with
  | stop idx len _ => simpa using hl
  | outlet idx len hs _ =>
    have := (segStop_false hs).2.2.2 hm
    simp; omega
  | step idx len tail pit last hs _ _ ih =>
    have := (segStop_false hs).2.2.2 hm
    have := ih (by omega)
    simp; omega

/-- how a segment ends: at a cell where the loop breaks (no next cell, pit, masked next cell, `max_len`
reached) — then `idx1` is that cell's next cell and `pit` says whether it is the cell itself — or at the
next outlet -/
theorem SegFrom.ends {idx len : Nat} {tail : List Nat} {pit : Bool} {last : Nat}
    (h : SegFrom nxt outlets mask maxLen idx len tail pit last) :
    ∃ e, (idx :: tail).getLast? = some e ∧
      ((segStop nxt mask maxLen e (len + tail.length) = true ∧ last = nxt[e]! ∧ pit = (nxt[e]! == e)) ∨
       (tail ≠ [] ∧ outlets[e]! = true ∧ last = e ∧ pit = false)) := by
  induction h with
  | stop idx len hs => exact ⟨idx, rfl, Or.inl ⟨by simpa using hs, rfl, rfl⟩⟩
  | outlet idx len hs ho =>
    refine ⟨nxt[idx]!, rfl, Or.inr ⟨by simp, ho, rfl, ?_⟩⟩
    have := (segStop_false hs).2.1
    simpa using this
  | step idx len tail pit last _ _ _ ih =>
    obtain ⟨e, he, hcase⟩ := ih
    refine ⟨e, by rw [List.getLast?_cons_cons]; exact he, ?_⟩
    rcases hcase with ⟨h1, h2, h3⟩ | ⟨_, h2, h3, h4⟩
    · left
      refine ⟨?_, h2, h3⟩
      have : len + (nxt[idx]! :: tail).length = len + 1 + tail.length := by simp; omega
      rw [this]; exact h1
    · exact Or.inr ⟨by simp, h2, h3, h4⟩

/-- `pit` is set only when the segment ended at a pit, and then `idx1` is that pit -/
theorem SegFrom.pit_last {idx len : Nat} {tail : List Nat} {pit : Bool} {last : Nat}
    (h : SegFrom nxt outlets mask maxLen idx len tail pit last) (hp : pit = true) : nxt[last]! = last := by
  obtain ⟨e, _, hcase⟩ := h.ends
  rcases hcase with ⟨_, h2, h3⟩ | ⟨_, _, _, h4⟩
  · rw [h3] at hp
    have : nxt[e]! = e := by simpa using hp
    rw [h2, this, this]
  · rw [h4] at hp; cases hp

/-! ### the list of segments -/

theorem segmentIndices_forall (idxsOut : List Nat) (nxt : Array Nat) (mask : Option (Array Bool))
    (maxLen : Nat) (P : List Nat → Prop)
    (hstep : ∀ (idx0 : Nat) (r : List Nat × Bool × Nat), idx0 ∈ idxsOut → idx0 ≠ nxt.size →
      segWalk nxt (segOutlets idxsOut nxt.size) mask maxLen (nxt.size + 1) idx0 [idx0] = some r →
      ∀ f ∈ segFeatures r, P f)
    (out : List (List Nat)) (h : segmentIndices idxsOut nxt mask maxLen = some out) : ∀ f ∈ out, P f := by
  refine foldlM_inv _ (fun out => ∀ f ∈ out, P f) _ ?_ _ out (by simp) h
  intro out a out1 ha hI hs
  unfold segStep at hs
  split at hs
  · cases hs; exact hI
  · rename_i hne
    split at hs
    · cases hs
    · rename_i r hr
      cases hs
      intro f hf
      rcases List.mem_append.mp hf with hf | hf
      · exact hI f hf
      · exact hstep a r ha hne hr f hf

theorem segOutlets_get (idxsOut : List Nat) (n i : Nat) :
    (segOutlets idxsOut n)[i]! = true ↔ (i ∈ idxsOut ∧ i < n) := by
  unfold segOutlets
  suffices hs : ∀ (l : List Nat) (o : Array Bool), o.size = n →
      ((l.foldl (fun o i => if i ≠ n then o.setIfInBounds i true else o) o)[i]! = true ↔
        (o[i]! = true ∨ (i ∈ l ∧ i < n))) by
    rw [hs idxsOut _ (by simp)]
    exact or_iff_right (replicate_false_ne_true n i)
  intro l
  induction l with
  | nil => intro o _; simp
  | cons x l ih =>
    intro o ho
    rw [List.foldl_cons]
    by_cases hx : x = n
    · rw [if_neg (not_not_intro hx), ih _ ho, List.mem_cons]
      exact or_congr_right ⟨fun h => ⟨Or.inr h.1, h.2⟩, fun h => ⟨h.1.resolve_left (fun hi => by omega), h.2⟩⟩
    · rw [if_pos hx, ih _ (by simpa using ho), get!_set_true, ho, List.mem_cons, or_assoc, or_and_right]

/-! ### fuel -/

/-- if a measure `μ` strictly decreases along every step the loop can
take inside a set `S` closed under such steps, the walk from a cell of `S` returns as soon as the fuel
exceeds the measure of the start cell -/
theorem segWalk_total_measure (nxt : Array Nat) (outlets : Array Bool) (mask : Option (Array Bool))
    (maxLen : Nat) (μ : Nat → Nat) (S : Nat → Prop)
    (hS : ∀ x len, S x → segStop nxt mask maxLen x len = false → S nxt[x]! ∧ μ nxt[x]! < μ x) :
    ∀ (fuel c : Nat) (acc : List Nat), S c → μ c < fuel →
      ∃ r, segWalk nxt outlets mask maxLen fuel c acc = some r := by
  intro fuel
  induction fuel with
  | zero => intro c acc _ hf; omega
  | succ fuel ih =>
    intro c acc hc hf
    simp only [segWalk]
    by_cases hs : segStop nxt mask maxLen c acc.length = true
    · simp [hs]
    · have hs' : segStop nxt mask maxLen c acc.length = false := by simpa using hs
      simp only [hs', Bool.false_eq_true, if_false]
      by_cases ho : outlets[nxt[c]!]! = true
      · simp [ho]
      · have ho' : outlets[nxt[c]!]! = false := by simpa using ho
        simp only [ho', Bool.false_eq_true, if_false]
        obtain ⟨hSd, hlt⟩ := hS c acc.length hc hs'
        exact ih _ _ hSd (by omega)

/-- a start cell without next cell (outlet pixel outside the network) ends the walk at once -/
theorem segWalk_offnet (nxt : Array Nat) (outlets : Array Bool) (mask : Option (Array Bool))
    (maxLen fuel c : Nat) (acc : List Nat) (h : nxt[c]! = nxt.size) :
    ∃ r, segWalk nxt outlets mask maxLen (fuel + 1) c acc = some r := by
  have hs : segStop nxt mask maxLen c acc.length = true := by
    unfold segStop; simp [h]
  simp [segWalk, hs]

theorem foldlM_seg_total (nxt : Array Nat) (outlets : Array Bool) (mask : Option (Array Bool))
    (maxLen : Nat) :
    ∀ (l : List Nat) (out : List (List Nat)),
      (∀ c ∈ l, c ≠ nxt.size → ∃ r, segWalk nxt outlets mask maxLen (nxt.size + 1) c [c] = some r) →
      ∃ out', l.foldlM (segStep nxt outlets mask maxLen) out = some out' := by
  intro l
  induction l with
  | nil => intro out _; exact ⟨out, rfl⟩
  | cons a l ih =>
    intro out h
    rw [List.foldlM_cons]
    have htl : ∀ c ∈ l, c ≠ nxt.size → ∃ r, segWalk nxt outlets mask maxLen (nxt.size + 1) c [c] = some r :=
      fun c hc => h c (List.mem_cons_of_mem _ hc)
    by_cases ha : a = nxt.size
    · have : segStep nxt outlets mask maxLen out a = some out := by unfold segStep; rw [if_pos ha]
      rw [this]
      exact ih out htl
    · obtain ⟨r, hr⟩ := h a (by simp) ha
      have : segStep nxt outlets mask maxLen out a = some (out ++ segFeatures r) := by
        unfold segStep; rw [if_neg ha, hr]
      rw [this]
      exact ih _ htl

end Pf.C19
