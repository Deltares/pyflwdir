import PfVerif.Model.C06
import PfVerif.Core.RankCert
/-! Lemmas for C06: what the array-level certificate `FillCert` gives, and the instantiation of the
abstract certificate theorems `fill_lower` / `fill_attained` (Core/FillCert.lean) for the raster
neighbour relation. -/
namespace Pf.C06
open Pf

variable {G : Grid} {conn : Nat} {elev : Array Int} {nod seed : Array Bool}
  {f : Array Int} {d8 rk : Array Nat}

/-- neighbour paths from `c` to an outlet: `p` starts at `c`, every step is an allowed move between
valid cells, the last cell is an outlet -/
abbrev Path (G : Grid) (conn : Nat) (nod seed : Array Bool) (c : Nat) (p : List Nat) : Prop :=
  PathTo (Nbr G conn nod) (IsSeed G seed) c p

/-- highest input elevation on a path -/
abbrev pathMax (elev : Array Int) (p : List Nat) : Int := pmax (fun i => elev[i]!) p

def Connected (G : Grid) (conn : Nat) (nod seed : Array Bool) (c : Nat) : Prop :=
  ∃ p, Path G conn nod seed c p

theorem Adj.symm {a b : Nat} (h : Adj G conn a b) : Adj G conn b a := by
  obtain ⟨h1, h2, h3, h4, h5, h6, h7, h8⟩ := h
  refine ⟨h2, h1, fun e => h3 e.symm, h5, h4, h7, h6, fun e => ?_⟩
  rcases h8 e with h | h
  · exact Or.inl h.symm
  · exact Or.inr h.symm

theorem Nbr.symm {a b : Nat} (h : Nbr G conn nod a b) : Nbr G conn nod b a :=
  ⟨h.1.symm, h.2.2, h.2.1⟩

/-! ### reading the certificate -/

theorem cert_nod (h : FillCert G conn elev nod seed f d8 rk) {c : Nat} (hc : c < G.n)
    (hn : nod[c]! = true) : f[c]! = elev[c]! ∧ d8[c]! = 247 ∧ seed[c]! = false := by
  have := h c hc
  unfold CellOk at this
  rwa [if_pos hn] at this

theorem cert_reached (h : FillCert G conn elev nod seed f d8 rk) {c : Nat}
    (hr : Reached G nod seed d8 c) :
    d8[c]! ≠ 247 ∧ (seed[c]! = true → f[c]! = elev[c]!) ∧
    (d8[c]! ≠ 0 → Nbr G conn nod c (dsOf G d8 c) ∧ f[c]! = max elev[c]! f[dsOf G d8 c]! ∧
      rk[dsOf G d8 c]! < rk[c]!) ∧
    (∀ b, b < G.n → Nbr G conn nod c b → Reached G nod seed d8 b ∧ f[c]! ≤ max elev[c]! f[b]!) := by
  have := h c hr.1.1
  unfold CellOk at this
  have hn : ¬ (nod[c]! = true) := by rw [hr.1.2]; simp
  rwa [if_neg hn, if_pos hr] at this

theorem cert_unreached (h : FillCert G conn elev nod seed f d8 rk) {c : Nat}
    (hv : Valid G nod c) (hr : ¬ Reached G nod seed d8 c) : f[c]! = elev[c]! := by
  have := h c hv.1
  unfold CellOk at this
  have hn : ¬ (nod[c]! = true) := by rw [hv.2]; simp
  rwa [if_neg hn, if_neg hr] at this

theorem seed_valid (h : FillCert G conn elev nod seed f d8 rk) {c : Nat} (hs : IsSeed G seed c) :
    Valid G nod c := by
  refine ⟨hs.1, ?_⟩
  cases hn : nod[c]! with
  | false => rfl
  | true => have := (cert_nod h hs.1 hn).2.2; rw [hs.2] at this; cases this

theorem seed_reached (h : FillCert G conn elev nod seed f d8 rk) {c : Nat} (hs : IsSeed G seed c) :
    Reached G nod seed d8 c := ⟨seed_valid h hs, Or.inl hs.2⟩

theorem reached_closed (h : FillCert G conn elev nod seed f d8 rk) {a b : Nat}
    (ha : Reached G nod seed d8 a) (hn : Nbr G conn nod a b) : Reached G nod seed d8 b :=
  ((cert_reached h ha).2.2.2 b hn.2.2.1 hn).1

theorem cert_L1 (h : FillCert G conn elev nod seed f d8 rk) {a b : Nat}
    (ha : Reached G nod seed d8 a) (hn : Nbr G conn nod a b) : f[a]! ≤ max elev[a]! f[b]! :=
  ((cert_reached h ha).2.2.2 b hn.2.2.1 hn).2

theorem cert_L2 (h : FillCert G conn elev nod seed f d8 rk) {c : Nat} (hs : IsSeed G seed c) :
    f[c]! = elev[c]! := (cert_reached h (seed_reached h hs)).2.1 hs.2

/-- a reached cell with a direction steps to an allowed neighbour of lower rank, and its level is the higher of
its own elevation and the level downstream -/
theorem cert_L3 (h : FillCert G conn elev nod seed f d8 rk) {c : Nat}
    (hr : Reached G nod seed d8 c) (h0 : d8[c]! ≠ 0) :
    Nbr G conn nod c (dsOf G d8 c) ∧ f[c]! = max elev[c]! f[dsOf G d8 c]! ∧ rk[dsOf G d8 c]! < rk[c]! :=
  (cert_reached h hr).2.2.1 h0

/-- a reached cell without direction is an outlet -/
theorem reached_pit_seed {c : Nat} (hr : Reached G nod seed d8 c) (h0 : d8[c]! = 0) :
    IsSeed G seed c := by
  refine ⟨hr.1.1, ?_⟩
  rcases hr.2 with h | h
  · exact h
  · exact absurd h0 h

theorem dsOf_pit {c : Nat} (h0 : d8[c]! = 0) : dsOf G d8 c = c := by
  simp [dsOf, drdc, h0]

/-- every cell with a neighbour path to an outlet is reached -/
theorem connected_reached (h : FillCert G conn elev nod seed f d8 rk) {c : Nat} {p : List Nat}
    (hp : Path G conn nod seed c p) : Reached G nod seed d8 c := by
  induction hp with
  | base s hs => exact seed_reached h hs
  | step c d p hn _ ih => exact reached_closed h ih hn.symm

/-- induction along the direction chain (well-founded by the rank witness) -/
theorem cert_induction (h : FillCert G conn elev nod seed f d8 rk) (P : Nat → Prop)
    (hpit : ∀ c, Reached G nod seed d8 c → d8[c]! = 0 → P c)
    (hstep : ∀ c, Reached G nod seed d8 c → d8[c]! ≠ 0 → Reached G nod seed d8 (dsOf G d8 c) →
      P (dsOf G d8 c) → P c) :
    ∀ c, Reached G nod seed d8 c → P c := by
  have key : ∀ k c, rk[c]! = k → Reached G nod seed d8 c → P c := by
    intro k
    induction k using Nat.strongRecOn with
    | _ k ih =>
      intro c hk hr
      by_cases h0 : d8[c]! = 0
      · exact hpit c hr h0
      · obtain ⟨hn, _, hlt⟩ := cert_L3 h hr h0
        have hrd := reached_closed h hr hn
        exact hstep c hr h0 hrd (ih _ (hk ▸ hlt) _ rfl hrd)
  exact fun c hr => key _ c rfl hr

/-! ### instantiating the abstract certificate theorems -/

section inst
variable (G conn elev nod seed f d8)

/-- neighbour relation restricted to reached cells -/
def nbrR (a b : Nat) : Prop :=
  Nbr G conn nod a b ∧ Reached G nod seed d8 a ∧ Reached G nod seed d8 b

/-- outlets, plus (so that the abstract theorem's totality assumption holds) everything not reached -/
def seedR (s : Nat) : Prop := IsSeed G seed s ∨ ¬ Reached G nod seed d8 s

def fR (i : Nat) : Int := if Reached G nod seed d8 i then f[i]! else elev[i]!

def dsR (c : Nat) : Nat := if Reached G nod seed d8 c ∧ d8[c]! ≠ 0 then dsOf G d8 c else c
end inst

theorem path_to_R (h : FillCert G conn elev nod seed f d8 rk) {c : Nat} {p : List Nat}
    (hp : Path G conn nod seed c p) :
    PathTo (nbrR G conn nod seed d8) (seedR G nod seed d8) c p := by
  induction hp with
  | base s hs => exact PathTo.base s (Or.inl hs)
  | step c d p hn hp ih =>
    have hd := connected_reached h hp
    exact PathTo.step c d p ⟨hn, reached_closed h hd hn.symm, hd⟩ ih

theorem path_of_R {c : Nat} {p : List Nat}
    (hp : PathTo (nbrR G conn nod seed d8) (seedR G nod seed d8) c p)
    (hr : Reached G nod seed d8 c) : Path G conn nod seed c p := by
  induction hp with
  | base s hs =>
    rcases hs with hs | hs
    · exact PathTo.base s hs
    · exact absurd hr hs
  | step c d p hn _ ih => exact PathTo.step c d p hn.1 (ih hn.2.2)

theorem R_L1 (h : FillCert G conn elev nod seed f d8 rk) :
    ∀ a b, nbrR G conn nod seed d8 a b →
      fR G elev nod seed f d8 a ≤ max ((fun i => elev[i]!) a) (fR G elev nod seed f d8 b) := by
  intro a b ⟨hn, ha, hb⟩
  simp only [fR, if_pos ha, if_pos hb]
  exact cert_L1 h ha hn

theorem R_L2 (h : FillCert G conn elev nod seed f d8 rk) :
    ∀ s, seedR G nod seed d8 s → fR G elev nod seed f d8 s = (fun i => elev[i]!) s := by
  intro s hs
  rcases hs with hs | hs
  · simp only [fR, if_pos (seed_reached h hs)]
    exact cert_L2 h hs
  · simp only [fR, if_neg hs]

theorem R_L3 (h : FillCert G conn elev nod seed f d8 rk) :
    ∀ c, dsR G nod seed d8 c ≠ c →
      nbrR G conn nod seed d8 c (dsR G nod seed d8 c) ∧
      fR G elev nod seed f d8 c = max ((fun i => elev[i]!) c) (fR G elev nod seed f d8 (dsR G nod seed d8 c)) ∧
      (fun i => rk[i]!) (dsR G nod seed d8 c) < (fun i => rk[i]!) c := by
  intro c hne
  unfold dsR at hne ⊢
  by_cases hc : Reached G nod seed d8 c ∧ d8[c]! ≠ 0
  · rw [if_pos hc] at hne ⊢
    obtain ⟨hn, hf, hlt⟩ := cert_L3 h hc.1 hc.2
    have hd := reached_closed h hc.1 hn
    refine ⟨⟨hn, hc.1, hd⟩, ?_, hlt⟩
    simp only [fR, if_pos hc.1, if_pos hd]
    exact hf
  · rw [if_neg hc] at hne
    exact absurd rfl hne

theorem R_L4 (h : FillCert G conn elev nod seed f d8 rk) :
    ∀ c, dsR G nod seed d8 c = c → seedR G nod seed d8 c := by
  intro c he
  unfold dsR at he
  by_cases hr : Reached G nod seed d8 c
  · by_cases h0 : d8[c]! = 0
    · exact Or.inl (reached_pit_seed hr h0)
    · rw [if_pos ⟨hr, h0⟩] at he
      have hn := (cert_L3 h hr h0).1
      exact absurd he.symm hn.1.2.2.1
  · exact Or.inr hr

/-- (a) no neighbour path to an outlet stays below the filled level -/
theorem cert_lower (h : FillCert G conn elev nod seed f d8 rk) {c : Nat} {p : List Nat}
    (hp : Path G conn nod seed c p) : f[c]! ≤ pathMax elev p := by
  have := fill_lower (nbrR G conn nod seed d8) (fun i => elev[i]!) (fR G elev nod seed f d8)
    (seedR G nod seed d8) (R_L1 h) (R_L2 h) c p (path_to_R h hp)
  simpa [fR, if_pos (connected_reached h hp)] using this

/-- (b) from every reached cell there is a neighbour path to an outlet whose highest input
elevation is exactly the filled level -/
theorem cert_attained (h : FillCert G conn elev nod seed f d8 rk) {c : Nat}
    (hr : Reached G nod seed d8 c) : ∃ p, Path G conn nod seed c p ∧ pathMax elev p = f[c]! := by
  obtain ⟨p, hp, hm⟩ := fill_attained (nbrR G conn nod seed d8) (fun i => elev[i]!)
    (fR G elev nod seed f d8) (seedR G nod seed d8) (dsR G nod seed d8) (fun i => rk[i]!)
    (R_L2 h) (R_L3 h) (R_L4 h) c
  refine ⟨p, path_of_R hp hr, ?_⟩
  simpa [fR, if_pos hr] using hm

end Pf.C06
