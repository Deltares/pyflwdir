import PfVerif.Proofs.C09Arith
import PfVerif.Proofs.C09Trace
/-! 8-neighbour adjacency of the coarse links of `eam_nextidx`, `ihu_nextidx` (first pass) and `dmm_nextidx`, by
construction (C09). The geometry: a flow path that starts in coarse cell `(R0, C0)` and only visits pixels that lie
in that cell or off the centre cross of their own cell stays between the centre lines of the neighbouring cells. One
axis at a time, in doubled coordinates (`2x+1` = pixel centre). -/
namespace Pf

/-- the pixel coordinate `x` lies between the centre lines of the cells before and after the cell that starts at
`t = R0 * cs` (inclusive): `(2 R0 - 1) cs ≤ 2x+1 ≤ (2 R0 + 3) cs` -/
def NearAx (cs t x : Nat) : Prop := 2 * t ≤ 2 * x + 1 + cs ∧ 2 * x + 1 ≤ 2 * t + 3 * cs

/-- `x` is on the centre line of its own cell: `|x % cs - (cs/2 - 0.5)| ≤ 0.5` (the `ri <= 0.5` clause of
`effective_area`) -/
def CentreAx (cs x : Nat) : Prop := cs ≤ 2 * (x % cs) + 2 ∧ 2 * (x % cs) ≤ cs

theorem NearAx.bounds {cs t x : Nat} (hcs : 0 < cs) (h : NearAx cs t x) : t ≤ x + cs ∧ x < t + 2 * cs := by
  unfold NearAx at h; omega

theorem near_cell (cs R0 x : Nat) (hcs : 0 < cs) (h : NearAx cs (R0 * cs) x) : StepAx R0 (x / cs) :=
  within_cell cs R0 x (h.bounds hcs).1 (h.bounds hcs).2

theorem near_of_cell (cs R0 x : Nat) (hcs : 0 < cs) (h : x / cs = R0) : NearAx cs (R0 * cs) x := by
  have h1 := Nat.div_add_mod x cs
  have h2 := Nat.mod_lt x hcs
  rw [h, Nat.mul_comm] at h1
  unfold NearAx; omega

/-- **the centre line cannot be jumped**: from a near coordinate that lies in the start cell or off the centre line
of its own cell, one D8 step leads to a near coordinate. (A step could leave the near range only from one of its two
outermost coordinates on either side; those lie on the centre lines of the neighbouring cells.) -/
theorem near_step (cs R0 x x' : Nat) (hcs : 0 < cs) (h : NearAx cs (R0 * cs) x)
    (hg : x / cs = R0 ∨ ¬ CentreAx cs x) (hs : StepAx x x') : NearAx cs (R0 * cs) x' := by
  -- a near coordinate in the start cell or off the centre lines of the neighbouring cells keeps one pixel away from
  -- both ends of the near range
  have margin : 2 * (R0 * cs) + 2 ≤ 2 * x + 1 + cs ∧ 2 * x + 3 ≤ 2 * (R0 * cs) + 3 * cs := by
    have h3 := three_cells cs R0 x (h.bounds hcs).1 (h.bounds hcs).2
    have hlt := Nat.mod_lt x hcs
    unfold NearAx CentreAx at *
    generalize x % cs = m at *
    generalize x / cs = q at *
    generalize R0 * cs = t at *
    grind
  unfold NearAx StepAx at *
  omega

/-! ### two axes -/

/-- pixel `p` is near coarse cell `idx0` on both axes -/
def Near2 (g : Geo) (idx0 p : Nat) : Prop :=
  NearAx g.cs ((idx0 / g.ncol) * g.cs) (p / g.subncol) ∧ NearAx g.cs ((idx0 % g.ncol) * g.cs) (p % g.subncol)

/-- pixel `p` lies, on each axis, in the band of `idx0` or off the centre line of its own cell -/
def Good2 (g : Geo) (idx0 p : Nat) : Prop :=
  ((p / g.subncol) / g.cs = idx0 / g.ncol ∨ ¬ CentreAx g.cs (p / g.subncol)) ∧
  ((p % g.subncol) / g.cs = idx0 % g.ncol ∨ ¬ CentreAx g.cs (p % g.subncol))

theorem centreAxB_iff (cs x : Nat) : centreAxB cs x = true ↔ CentreAx cs x := by
  simp only [centreAxB, CentreAx, Bool.and_eq_true, decide_eq_true_eq]

/-- the fine network links 8-neighbours (`in_d8` on pixel indices) -/
def FineD8 (ds : Array Nat) (subncol : Nat) : Prop :=
  ∀ p, p < ds.size → ds[p]! ≠ ds.size → inD8 p ds[p]! subncol = true

/-- the effective-area map contains the centre cross of every coarse cell (the `ri <= 0.5 or ci <= 0.5` clause of
`effective_area`, exact in floating point) -/
def EaCross (g : Geo) (ea : Array Bool) (n : Nat) : Prop :=
  ∀ p, p < n → (CentreAx g.cs (p / g.subncol) ∨ CentreAx g.cs (p % g.subncol)) → ea[p]! = true

theorem absDiff_le_one (a b : Nat) : absDiff a b ≤ 1 ↔ a ≤ b + 1 ∧ b ≤ a + 1 := by
  unfold absDiff; omega

theorem inD8_iff (i j ncol : Nat) :
    inD8 i j ncol = true ↔ StepAx (i % ncol) (j % ncol) ∧ StepAx (i / ncol) (j / ncol) := by
  simp only [inD8, Bool.and_eq_true, decide_eq_true_eq, absDiff_le_one, StepAx]

theorem inD8_self (c ncol : Nat) : inD8 c c ncol = true :=
  (inD8_iff c c ncol).mpr ⟨⟨Nat.le_succ _, Nat.le_succ _⟩, Nat.le_succ _, Nat.le_succ _⟩

theorem near2_of_cell (g : Geo) (ds : Array Nat) (hg : g.OK ds) (idx0 p : Nat) (hp : p < ds.size)
    (hc : g.cell p = idx0) : Near2 g idx0 p ∧ Good2 g idx0 p := by
  have hr := g.cell_row ds hg p hp
  have hcol := g.cell_col ds hg p hp
  rw [hc] at hr hcol
  exact ⟨⟨near_of_cell _ _ _ hg.cs hr.symm, near_of_cell _ _ _ hg.cs hcol.symm⟩, Or.inl hr.symm, Or.inl hcol.symm⟩

theorem near2_inD8 (g : Geo) (ds : Array Nat) (hg : g.OK ds) (idx0 q : Nat) (hq : q < ds.size)
    (hn : Near2 g idx0 q) : inD8 idx0 (g.cell q) g.ncol = true := by
  rw [inD8_iff, g.cell_row ds hg q hq, g.cell_col ds hg q hq]
  exact ⟨near_cell _ _ _ hg.cs hn.2, near_cell _ _ _ hg.cs hn.1⟩

theorem good2_of_not_ea (g : Geo) (ea : Array Bool) (n idx0 p : Nat) (hea : EaCross g ea n) (hp : p < n)
    (h : ¬ ea[p]! = true) : Good2 g idx0 p :=
  ⟨Or.inr (fun hc => h (hea p hp (Or.inl hc))), Or.inr (fun hc => h (hea p hp (Or.inr hc)))⟩

/-- what the traces of `eam_nextidx` / `ihu_nextidx` maintain while they have not met an effective-area pixel outside
the start cell -/
def NearGood (g : Geo) (idx0 p : Nat) : Prop := Near2 g idx0 p ∧ Good2 g idx0 p

theorem NearGood.next {ds : Array Nat} {g : Geo} {idx0 p : Nat} (h : NearGood g idx0 p) (hg : g.OK ds)
    (hd8 : FineD8 ds g.subncol) (hp : ValidPx ds p) : Near2 g idx0 ds[p]! := by
  obtain ⟨s1, s2⟩ := (inD8_iff _ _ _).mp (hd8 p hp.1 hp.2)
  exact ⟨near_step _ _ _ _ hg.cs h.1.1 h.2.1 s2, near_step _ _ _ _ hg.cs h.1.2 h.2.2 s1⟩

/-! ### `eam_nextidx`: the trace stops at the first effective-area pixel of another cell -/

theorem eamTrace_near (ds : Array Nat) (ea : Array Bool) (g : Geo) (idx0 : Nat) (hg : g.OK ds) (hwf : FineWF ds)
    (hd8 : FineD8 ds g.subncol) (hea : EaCross g ea ds.size) {fuel p r : Nat}
    (h : eamTrace ds ea g.cell idx0 fuel p = some r) (hp : ValidPx ds p) (hc : g.cell p = idx0) :
    inD8 idx0 r g.ncol = true := by
  obtain ⟨p', ⟨hv, hn⟩, rfl, _⟩ := eamTrace_rule ds ea g.cell idx0 (fun p => ValidPx ds p ∧ NearGood g idx0 p)
    (fun p ⟨hv, hn⟩ _ hc => ⟨hwf.next hv, hn.next hg hd8 hv, by
      by_cases hcell : g.cell ds[p]! = idx0
      · exact (near2_of_cell g ds hg idx0 _ (hwf.next hv).1 hcell).2
      · exact good2_of_not_ea g ea ds.size idx0 _ hea (hwf.next hv).1 fun he => hc ⟨hcell, he⟩⟩)
    _ _ _ h ⟨hp, near2_of_cell g ds hg idx0 p hp.1 hc⟩
  exact near2_inD8 g ds hg idx0 _ (hwf.next hv).1 (hn.next hg hd8 hv)

/-! ### `ihu_nextidx`: next outlet pixel if it is in the 3×3 neighbourhood, else the first effective-area pixel -/

/-- a cell with an outlet pixel always gets a link into its 3×3 neighbourhood: if the next outlet pixel (or pit)
downstream is outside, the path has crossed an effective-area pixel before, and the first such pixel is near -/
theorem ihuNextTrace_near (ds out : Array Nat) (ea : Array Bool) (g : Geo) (idx0 : Nat) (hg : g.OK ds)
    (hwf : FineWF ds) (hd8 : FineD8 ds g.subncol) (hea : EaCross g ea ds.size) {fuel p : Nat}
    {r : Option Nat × Bool} (h : ihuNextTrace ds out ea g.cell g.ncol idx0 fuel p none = some r)
    (hp : ValidPx ds p) (hc : g.cell p = idx0) :
    ∃ q, r.1 = some q ∧ ValidPx ds q ∧ inD8 idx0 (g.cell q) g.ncol = true := by
  obtain ⟨p', hv, _, hr⟩ := ihuNextTrace_rule ds out ea g.cell g.ncol idx0 (ValidPx ds) (NearGood g idx0)
    (fun q => ValidPx ds q ∧ Near2 g idx0 q) (fun p hv _ => hwf.next hv)
    (fun p hv hb _ he => ⟨hb.next hg hd8 hv, good2_of_not_ea g ea ds.size idx0 _ hea (hwf.next hv).1 he⟩)
    (fun p hv hb _ _ => ⟨hwf.next hv, hb.next hg hd8 hv⟩) _ _ _ _ h hp
    (fun _ => near2_of_cell g ds hg idx0 p hp.1 hc) (fun q hq => nomatch hq)
  rcases hr with ⟨hd, rfl⟩ | ⟨hd, _, hn, hs⟩
  · exact ⟨_, rfl, hwf.next hv, hd⟩
  · cases hr1 : r.1 with
    | none =>
      rw [near2_inD8 g ds hg idx0 _ (hwf.next hv).1 ((hn hr1).next hg hd8 hv)] at hd
      cases hd
    | some q => exact ⟨q, rfl, (hs q hr1).1, near2_inD8 g ds hg idx0 q (hs q hr1).1.1 (hs q hr1).2⟩

/-! ### `dmm_nextidx`: the trace stops at the first pixel outside the offset window -/

/-- one axis of the offset window of `dmm_nextidx` for `cellsize > 1` (`dmmCentre`, doubled coordinates): the window
reaches half a cell to either side of the corner `(R0 + d) * cs`, `d ≤ 1`, of cell `R0`; a coordinate one step from a
coordinate inside the window lies in the cell `R0` or a neighbouring one -/
theorem win_axis (cs R0 d x x' : Nat) (hcs : 1 < cs) (hd : d ≤ 1)
    (hin : ¬ (2 * Int.ofNat x - (2 * Int.ofNat ((R0 + d) * cs) - 1)).natAbs > cs) (hs : StepAx x x') :
    StepAx R0 (x' / cs) := by
  have corner : (R0 + d) * cs = R0 * cs ∨ (R0 + d) * cs = R0 * cs + cs := by
    match d, hd with
    | 0, _ => exact Or.inl rfl
    | 1, _ => exact Or.inr (Nat.succ_mul R0 cs)
  have inside : 2 * ((R0 + d) * cs) ≤ 2 * x + 1 + cs ∧ 2 * x + 1 ≤ 2 * ((R0 + d) * cs) + cs := by
    simp only [Int.ofNat_eq_natCast] at hin
    generalize (R0 + d) * cs = w at *
    grind
  have hb : R0 * cs ≤ x' + cs ∧ x' < R0 * cs + 2 * cs := by
    unfold StepAx at hs
    clear hin
    generalize (R0 + d) * cs = w at *
    generalize R0 * cs = t at *
    grind
  exact within_cell cs R0 x' hb.1 hb.2

/-- for `cellsize == 1` the window is the cell itself -/
theorem win_axis_one (R0 x x' : Nat) (hin : ¬ (2 * Int.ofNat x - 2 * Int.ofNat R0).natAbs > 0) (hs : StepAx x x') :
    StepAx R0 x' := by
  simp only [Int.ofNat_eq_natCast] at hin
  unfold StepAx at *
  omega

/-- a pixel one D8 step from a pixel inside the window of `dmm_nextidx` lies in the 3×3 neighbourhood of `idx0` -/
theorem dmm_window_near (ds : Array Nat) (g : Geo) (hg : g.OK ds) (idx0 p0 p q : Nat) (hq : q < ds.size)
    (hin : dmmOutside g.subncol (dmmCentre g.subncol g.cs g.ncol idx0 p0).2.2
      (dmmCentre g.subncol g.cs g.ncol idx0 p0).1 (dmmCentre g.subncol g.cs g.ncol idx0 p0).2.1 p = false)
    (hstep : inD8 p q g.subncol = true) : inD8 idx0 (g.cell q) g.ncol = true := by
  obtain ⟨s1, s2⟩ := (inD8_iff _ _ _).mp hstep
  rw [inD8_iff, g.cell_row ds hg q hq, g.cell_col ds hg q hq]
  simp only [dmmOutside, Bool.or_eq_false_iff, decide_eq_false_iff_not] at hin
  by_cases h1 : g.cs = 1
  · simp only [dmmCentre, if_pos h1] at hin
    rw [h1, Nat.div_one, Nat.div_one]
    exact ⟨win_axis_one _ _ _ hin.2 s1, win_axis_one _ _ _ hin.1 s2⟩
  · simp only [dmmCentre, if_neg h1] at hin
    have hcs : 1 < g.cs := Nat.lt_of_le_of_ne hg.cs (Ne.symm h1)
    -- `dr = 2 ri / cs` of `dmmCentre` is 0 or 1
    have hd : ∀ ri, 2 * (ri % g.cs) / g.cs ≤ 1 := fun ri =>
      Nat.le_of_lt_succ ((Nat.div_lt_iff_lt_mul hg.cs).mpr (by have := Nat.mod_lt ri hg.cs; omega))
    exact ⟨win_axis g.cs _ _ _ _ hcs (hd _) hin.2 s1, win_axis g.cs _ _ _ _ hcs (hd _) hin.1 s2⟩

theorem dmmTrace_near (ds : Array Nat) (g : Geo) (hg : g.OK ds) (hwf : FineWF ds) (hd8 : FineD8 ds g.subncol)
    (idx0 p0 : Nat) {fuel p idx r : Nat}
    (h : dmmTrace ds g.cell (dmmOutside g.subncol (dmmCentre g.subncol g.cs g.ncol idx0 p0).2.2
      (dmmCentre g.subncol g.cs g.ncol idx0 p0).1 (dmmCentre g.subncol g.cs g.ncol idx0 p0).2.1) idx0 fuel p idx
      = some r) (hp : ValidPx ds p) (hidx : idx = g.cell p) (hc : g.cell p = idx0) :
    inD8 idx0 r g.ncol = true := by
  obtain ⟨q, ⟨_, hq⟩, rfl⟩ := dmmTrace_rule ds g.cell _ idx0
    (fun q => ValidPx ds q ∧ inD8 idx0 (g.cell q) g.ncol = true)
    (fun p ⟨hv, _⟩ _ hc => ⟨hwf.next hv, by
      by_cases hcell : g.cell ds[p]! = idx0
      · rw [hcell]; exact inD8_self idx0 g.ncol
      · refine dmm_window_near ds g hg idx0 p0 p _ (hwf.next hv).1 ?_ (hd8 p hv.1 hv.2)
        exact Bool.eq_false_iff.mpr fun ho => hc ⟨hcell, ho⟩⟩)
    _ _ _ _ h ⟨hp, hc ▸ inD8_self _ _⟩ hidx
  exact hq

end Pf
