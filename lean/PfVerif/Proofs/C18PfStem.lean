import PfVerif.Proofs.C18Part
/-! Pfafstetter, joint invariant: the static hypotheses (`PfCtx`) and the strict monotonicity of the upstream area
along the iterated main upstream cells (`iterU`). -/
namespace Pf.C18
open Pf

/-- the documented preconditions of `subbasins_pfafstetter` that the invariant needs: a downstream-first
order holding every cell of the network, a main-upstream map that picks one inflowing cell for every cell
that has an inflow, an upstream-area field that is strictly larger at the downstream cell -/
structure PfCtx (ds usMain : Array Nat) (seq : List Nat) (uparea : Array Int) : Prop where
  topo : Topo ds seq
  hb : ∀ i ∈ seq, i < ds.size
  hall : ∀ i, i < ds.size → ds[i]! < ds.size → i ∈ seq
  hus : ∀ i, i < ds.size → usMain[i]! < ds.size → usMain[i]! ≠ i ∧ ds[usMain[i]!]! = i
  htot : ∀ i ∈ seq, ds[i]! ≠ i → usMain[ds[i]!]! < ds.size
  hmono : ∀ i ∈ seq, ds[i]! ≠ i → uparea[i]! < uparea[ds[i]!]!

variable {ds usMain : Array Nat} {seq : List Nat} {uparea : Array Int}

theorem PfCtx.ustep (c : PfCtx ds usMain seq uparea) {x : Nat} (hx : x < ds.size)
    (hu : usMain[x]! < ds.size) :
    usMain[x]! ∈ seq ∧ ds[usMain[x]!]! = x ∧ usMain[x]! ≠ x ∧ uparea[usMain[x]!]! < uparea[x]! := by
  obtain ⟨h1, h2⟩ := c.hus x hx hu
  have hm : usMain[x]! ∈ seq := c.hall _ hu (by rw [h2]; exact hx)
  refine ⟨hm, h2, h1, ?_⟩
  have := c.hmono _ hm (by rw [h2]; exact Ne.symm h1)
  rw [h2] at this
  exact this

theorem PfCtx.upa_iterU (c : PfCtx ds usMain seq uparea) {x : Nat} :
    ∀ m, (∀ k, k ≤ m → iterU usMain k x < ds.size) →
      uparea[iterU usMain m x]! ≤ uparea[x]! ∧ (1 ≤ m → uparea[iterU usMain m x]! < uparea[x]!) := by
  intro m
  induction m with
  | zero => intro _; exact ⟨Int.le_refl _, fun h => absurd h (by omega)⟩
  | succ m ih =>
    intro h
    have h1 := ih (fun k hk => h k (by omega))
    have hm := h m (by omega)
    have hm1 := h (m + 1) (by omega)
    rw [iterU_succ'] at hm1 ⊢
    have := (c.ustep hm hm1).2.2.2
    exact ⟨by omega, fun _ => by omega⟩

end Pf.C18
