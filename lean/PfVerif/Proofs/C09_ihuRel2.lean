import PfVerif.Proofs.C09_ihuRel
import PfVerif.Proofs.C09Arith
import PfVerif.Proofs.C09_ihuNew
/-! `ihu_relocate_outlets` keeps the well-formedness invariant `WArr` and never runs out of fuel: STEPS 1-3 (trace,
tributaries, connections), the `np.argsort` oracle, the loop @0A (C09 extension). -/
namespace Pf.C09ihu
open Pf

/-! ### `core._d8_idx` -/

theorem d8Offsets_small (dr dc : Int) (h : (dr, dc) ∈ d8Offsets) : -1 ≤ dr ∧ dr ≤ 1 ∧ -1 ≤ dc ∧ dc ≤ 1 := by
  simp only [d8Offsets, List.mem_cons, Prod.mk.injEq, List.not_mem_nil, or_false] at h
  omega

/-- the cells `core._d8_idx` returns lie in the raster and in the 3x3 neighbourhood -/
theorem d8Idx_mem (idx0 nrow ncol i : Nat) (h : i ∈ d8Idx idx0 nrow ncol) :
    i < nrow * ncol ∧ inD8 idx0 i ncol = true := by
  unfold d8Idx at h
  simp only [List.mem_filterMap] at h
  obtain ⟨⟨dr, dc⟩, hmem, hx⟩ := h
  have hsm := d8Offsets_small dr dc hmem
  dsimp only at hx
  by_cases hc : 0 ≤ Int.ofNat (idx0 / ncol) + dr ∧ Int.ofNat (idx0 / ncol) + dr < Int.ofNat nrow ∧
      0 ≤ Int.ofNat (idx0 % ncol) + dc ∧ Int.ofNat (idx0 % ncol) + dc < Int.ofNat ncol
  · rw [if_pos hc] at hx
    obtain ⟨h1, h2, h3, h4⟩ := hc
    obtain ⟨r, hr⟩ := Int.eq_ofNat_of_zero_le h1
    obtain ⟨c, hc⟩ := Int.eq_ofNat_of_zero_le h3
    rw [hr] at h2 hx
    rw [hc] at h4 hx
    simp only [Int.ofNat_eq_natCast, Option.some.injEq] at h2 h4 hx hr hc
    have hx' : r * ncol + c = i := by
      rw [← Int.natCast_mul, ← Int.natCast_add, Int.toNat_natCast] at hx
      exact hx
    have hcl : c < ncol := by omega
    refine ⟨hx' ▸ mul_add_lt r c nrow ncol (by omega) hcl, ?_⟩
    unfold inD8 absDiff
    rw [← hx', div_block r ncol c hcl, mod_block r ncol c hcl]
    generalize idx0 / ncol = q at hr
    generalize idx0 % ncol = m at hc
    simp only [Bool.and_eq_true, decide_eq_true_eq]
    omega
  · rw [if_neg hc] at hx; cases hx

theorem upstreamD8_mem (cds : Array Nat) (idx0 nrow ncol i : Nat) (h : i ∈ upstreamD8 cds idx0 nrow ncol) :
    i < nrow * ncol ∧ cds[i]! = idx0 := by
  unfold upstreamD8 at h
  simp only [List.mem_filter, beq_iff_eq] at h
  exact ⟨(d8Idx_mem _ _ _ _ h.1).1, h.2⟩

/-! ### the `np.argsort` oracle: every permutation handed out has entries below the number of keys -/

theorem insertByKey_mem (keys : Array Int) (i : Nat) : ∀ (l : List Nat) (x : Nat), x ∈ insertByKey keys i l → x = i ∨ x ∈ l := by
  intro l
  induction l with
  | nil => intro x hx; simp [insertByKey] at hx; exact Or.inl hx
  | cons j rest ih =>
    intro x hx
    simp only [insertByKey] at hx
    split at hx
    · simp only [List.mem_cons] at hx ⊢
      exact hx
    · simp only [List.mem_cons] at hx ⊢
      rcases hx with hx | hx
      · exact Or.inr (Or.inl hx)
      · rcases ih x hx with h | h
        · exact Or.inl h
        · exact Or.inr (Or.inr h)

theorem insertByKey_length (keys : Array Int) (i : Nat) : ∀ l : List Nat, (insertByKey keys i l).length = l.length + 1 := by
  intro l
  induction l with
  | nil => simp [insertByKey]
  | cons j rest ih =>
    simp only [insertByKey]
    split
    · simp
    · simp [ih]

theorem stableArgsort_ok (keys : Array Int) :
    (stableArgsort keys).length = keys.size ∧ ∀ x ∈ stableArgsort keys, x < keys.size := by
  unfold stableArgsort
  have key : ∀ (l : List Nat) (acc : List Nat), (∀ x ∈ l, x < keys.size) → (∀ x ∈ acc, x < keys.size) →
      (l.foldl (fun acc i => insertByKey keys i acc) acc).length = acc.length + l.length ∧
        ∀ x ∈ l.foldl (fun acc i => insertByKey keys i acc) acc, x < keys.size := by
    intro l
    induction l with
    | nil => intro acc _ h2; exact ⟨rfl, h2⟩
    | cons a l ih =>
      intro acc h1 h2
      rw [List.foldl_cons]
      have := ih (insertByKey keys a acc) (fun x hx => h1 x (List.mem_cons_of_mem _ hx)) (fun x hx => by
        rcases insertByKey_mem keys a acc x hx with h | h
        · rw [h]; exact h1 a List.mem_cons_self
        · exact h2 x h)
      refine ⟨?_, this.2⟩
      rw [this.1, insertByKey_length]
      simp only [List.length_cons]
      omega
  have := key (List.range keys.size).reverse [] (fun x hx => by simpa using hx) (fun _ h => by cases h)
  refine ⟨?_, this.2⟩
  rw [this.1]; simp

theorem isSortPerm_lt (keys : Array Int) (p : List Nat) (h : isSortPerm keys p = true) :
    p.length = keys.size ∧ ∀ x ∈ p, x < keys.size := by
  unfold isSortPerm at h
  simp only [Bool.and_eq_true, beq_iff_eq, List.all_eq_true, List.mem_range, List.contains_iff_mem] at h
  obtain ⟨⟨hlen, hall⟩, _⟩ := h
  refine ⟨hlen, ?_⟩
  intro x hx
  by_cases hlt : x < keys.size
  · exact hlt
  · exfalso
    -- pigeonhole: all of `0 … n-1` occur in `p` without the out-of-range entry `x`, a list of `n - 1` entries
    have hsub : List.range keys.size ⊆ p.erase x := by
      intro a ha
      have ha' := List.mem_range.mp ha
      exact (List.mem_erase_of_ne (by omega)).2 (hall a ha')
    have h1 := (List.nodup_range (n := keys.size)).length_le_of_subset hsub
    have h2 : (p.erase x).length = p.length - 1 := by rw [List.length_erase]; simp [hx]
    have h3 : 1 ≤ p.length := List.length_pos_of_mem hx
    simp only [List.length_range] at h1
    omega

theorem Sorts.take_ok (s : Sorts) (keys : Array Int) :
    (s.take keys).1.length = keys.size ∧ ∀ x ∈ (s.take keys).1, x < keys.size := by
  unfold Sorts.take
  split
  · split
    · rename_i h; exact isSortPerm_lt keys _ h
    · exact stableArgsort_ok keys
  · exact stableArgsort_ok keys

/-! ### STEP 1: what STEP 4 uses of the trace lists (obtained from `relocTrace_ok`) -/

section rel2
variable {e : Env} {n : Nat} {W : Nat → Nat → Nat → Prop} {A B : Nat → Prop}

/-- list form of the trace facts -/
def TrL (e : Env) (n : Nat) (A B : Nat → Prop) (cells pixs : List Nat) : Prop :=
  cells.length = pixs.length ∧ (∀ c ∈ cells, c < n ∧ A c ∧ B c) ∧ ∀ p ∈ pixs, ValidPx e.ds p

theorem TrL.trw {cells pixs : List Nat} (h : TrL e n A B cells pixs) : TrW e n A B cells pixs := by
  refine ⟨fun j hj => ?_⟩
  have h1 := h.2.1 _ (getElem!_mem cells j (by rw [h.1]; exact hj))
  exact ⟨h1.1, h1.2.1, h1.2.2, h.2.2 _ (getElem!_mem pixs j hj)⟩

/-! ### STEP 2 -/

theorem insertUniq_mem (x : Nat) : ∀ (l : List Nat) (y : Nat), y ∈ insertUniq x l → y = x ∨ y ∈ l := by
  intro l
  induction l with
  | nil => intro y hy; simp [insertUniq] at hy; exact Or.inl hy
  | cons z r ih =>
    intro y hy
    simp only [insertUniq] at hy
    split at hy
    · simpa using hy
    · split at hy
      · exact Or.inr hy
      · simp only [List.mem_cons] at hy ⊢
        rcases hy with hy | hy
        · exact Or.inr (Or.inl hy)
        · rcases ih y hy with h | h
          · exact Or.inl h
          · exact Or.inr (Or.inr h)

theorem uniqueSorted_mem (l : List Nat) (y : Nat) (h : y ∈ uniqueSorted l) : y ∈ l := by
  unfold uniqueSorted at h
  have key : ∀ (l acc : List Nat), y ∈ l.foldl (fun acc x => insertUniq x acc) acc → y ∈ acc ∨ y ∈ l := by
    intro l
    induction l with
    | nil => intro acc h; exact Or.inl h
    | cons a l ih =>
      intro acc h
      rw [List.foldl_cons] at h
      rcases ih _ h with h | h
      · rcases insertUniq_mem a acc y h with h | h
        · exact Or.inr (by rw [h]; exact List.mem_cons_self)
        · exact Or.inl h
      · exact Or.inr (List.mem_cons_of_mem _ h)
  rcases key l [] h with h | h
  · cases h
  · exact h

theorem relocTribs_mem (cds out : Array Nat) (idx00 : Nat) (t : Trace) (i : Nat)
    (h : i ∈ relocTribs e cds out idx00 t) : i < e.nrow * e.ncol ∧ cds[i]! ∈ t.cells := by
  unfold relocTribs at h
  revert h
  refine foldl_inv _ (fun acc => i ∈ acc → i < e.nrow * e.ncol ∧ cds[i]! ∈ t.cells) _ ?_ _ (fun h => by cases h)
  intro acc idxds hidxds hacc
  refine foldl_inv _ (fun acc => i ∈ acc → i < e.nrow * e.ncol ∧ cds[i]! ∈ t.cells) _ ?_ _ hacc
  intro acc idx0 hidx0 hacc
  split
  · exact hacc
  · intro hi
    rcases List.mem_append.mp hi with hi | hi
    · exact hacc hi
    · simp only [List.mem_singleton] at hi
      subst hi
      have := upstreamD8_mem _ _ _ _ _ hidx0
      exact ⟨this.1, by rw [this.2]; exact uniqueSorted_mem _ _ hidxds⟩

/-! ### STEP 3 -/

/-- STEP 3 is defined when the pixels below the outlet pixels of the tributary cells are valid; it returns one
connection per tributary cell -/
theorem relocConn_tot (hr : ∀ p, ValidPx e.ds p → ∃ k, k ≤ e.ds.size ∧ PitAt e.ds k p) (out : Array Nat)
    (pixs tribs : List Nat) (idx1 : Nat) (hv : ∀ i ∈ tribs, ValidPx e.ds e.ds[out[i]!]!) :
    ∃ r, relocConn e out pixs tribs idx1 = some r ∧ r.1.length = tribs.length := by
  unfold relocConn
  refine (foldlM_tot_count _ (fun st : List Nat × List Nat × Nat => st.1.length) tribs (fun st a ha => ?_) _).imp
    fun r hr => ⟨hr.1, hr.2.trans (Nat.zero_add _)⟩
  obtain ⟨c, hc⟩ := Option.isSome_iff_exists.mp
    ((connLoop_walk e pixs a e.ds.size).isSome (hr _ (hv a ha)) (a, 0, ⟨0, 0, false, st.2.2⟩))
  rw [hc]
  exact ite_ind (P := fun o : Option (List Nat × List Nat × Nat) => ∃ b', o = some b' ∧ b'.1.length = st.1.length + 1)
    (fun _ => ⟨_, rfl, List.length_append⟩) fun _ => ⟨_, rfl, List.length_append⟩

end rel2

/-! ### one flagged cell (loop @0A) -/

section rel3
variable {e : Env} {n : Nat} {W : Nat → Nat → Nat → Prop} {A B : Nat → Prop}

theorem getElem!_map_toArray (l : List Nat) (f : Nat → Nat) (k : Nat) (hk : k < l.length) :
    (l.map f).toArray[k]! = f l[k]! := by
  simp [hk]

theorem relocOne_tot (hw : WCtx e n W) (hr : ∀ p, ValidPx e.ds p → ∃ k, k ≤ e.ds.size ∧ PitAt e.ds k p)
    (st : RelSt) (idx00 : Nat) (h : WArr e n W A B st.cds st.out) (hlt : idx00 < n) (hb : B idx00) :
    ∃ st', relocOne e st idx00 = some st' ∧ WArr e n W A B st'.cds st'.out := by
  have h' := h.keepAll
  have hmono : ∀ {cds out : Array Nat},
      WArr e n W (fun c => A c ∨ st.cds[c]! ≠ n) (fun c => B c ∨ st.out[c]! ≠ e.ds.size) cds out →
      WArr e n W A B cds out := fun hh => hh.mono (fun _ ha => Or.inl ha) (fun _ hb => Or.inl hb)
  have hv00 : ValidPx e.ds st.out[idx00]! := h.valid_of_out hw idx00 hlt (h.actO idx00 hlt hb)
  have hv0 : ValidPx e.ds e.ds[st.out[idx00]!]! := hw.wf.next hv00
  have htsome := (relocTrace_walk e st.cds st.out e.ds.size).isSome (hr _ hv0)
    (e.cell e.ds[st.out[idx00]!]!, st.cds[idx00]!, [], [])
  obtain ⟨t, ht⟩ := Option.isSome_iff_exists.mp htsome
  have htr := relocTrace_ok e st.cds st.out (ValidPx e.ds) (fun _ => hw.wf.next) _ _ _ _ _ _ t ht hv0 rfl
    ⟨rfl, fun _ hp => nomatch hp⟩
  have htl : TrL e n (fun c => A c ∨ st.cds[c]! ≠ n) (fun c => B c ∨ st.out[c]! ≠ e.ds.size) t.cells t.pixs := by
    refine ⟨by rw [htr.1, List.length_map], fun c hc => ?_, fun p hp => (htr.2 p hp).1⟩
    rw [htr.1] at hc
    obtain ⟨p, hp, rfl⟩ := List.mem_map.mp hc
    obtain ⟨hv, _, hne⟩ := htr.2 p hp
    have hc := hw.cell p hv
    rw [h.szc] at hne
    have := (h.valid_of_link hw _ hc hne).1
    exact ⟨hc, Or.inr hne, Or.inr (by omega)⟩
  unfold relocOne
  simp only [ht]
  split
  · exact ⟨st, rfl, h⟩
  · have htribs : ∀ i ∈ relocTribs e st.cds st.out idx00 t, i < n ∧ st.cds[i]! ≠ n := by
      intro i hi
      have := relocTribs_mem st.cds st.out idx00 t i hi
      rw [hw.ncell] at this
      exact ⟨this.1, by have := (htl.2.1 _ this.2).1; omega⟩
    obtain ⟨⟨conn, conn1, idx1⟩, hconn, hl1⟩ := relocConn_tot hr st.out t.pixs
      (relocTribs e st.cds st.out idx00 t) t.idx1
      (fun i hi => hw.wf.next (h.valid_of_link hw i (htribs i hi).1 (htribs i hi).2))
    simp only at hl1
    simp only [hconn]
    have htake := Sorts.take_ok st.sorts (conn.map Int.ofNat).toArray
    generalize st.sorts.take (conn.map Int.ofNat).toArray = tk at htake
    obtain ⟨seq1, sorts⟩ := tk
    simp only [List.size_toArray, List.length_map] at htake
    have htrok : TrOK n (fun c => A c ∨ st.cds[c]! ≠ n)
        { us0 := (seq1.map fun k => (relocTribs e st.cds st.out idx00 t)[k]!).toArray,
          sds0 := ((seq1.map fun k => (relocTribs e st.cds st.out idx00 t)[k]!).map
            fun c => st.out[st.cds[c]!]!).toArray,
          conn := (seq1.map fun k => conn[k]!).toArray, conn1 := (seq1.map fun k => conn1[k]!).toArray } := by
      intro k hk
      simp only [List.size_toArray, List.length_map] at hk
      simp only
      rw [getElem!_map_toArray _ _ _ hk]
      have hmem : seq1[k]! ∈ seq1 := getElem!_mem seq1 k hk
      have hlt' : seq1[k]! < (relocTribs e st.cds st.out idx00 t).length := by
        have := htake.2 _ hmem; omega
      have := htribs _ (getElem!_mem _ _ hlt')
      exact ⟨this.1, Or.inr this.2⟩
    obtain ⟨s, hs, hs1, hs2⟩ := step4_tot hw hr idx00 (Or.inl hb) t.cells t.pixs _ htl.trw htrok
      (st.cds.size + 3)
      { cds := st.cds, out := st.out, outEd := [], dsEd := [], idx0 := idx00, j0 := 0, k0 := 0,
        nextiter := false, bott := [], idx1 := idx1 } h' List.nodup_nil (fun _ hb => by cases hb)
      (by simp only [List.length_nil]; rw [h.szc]; omega)
    simp only [hs]
    split
    · exact ⟨_, rfl, hmono hs2⟩
    · exact ⟨_, rfl, hmono hs1⟩

theorem relocateOutlets_tot (hw : WCtx e n W) (hr : ∀ p, ValidPx e.ds p → ∃ k, k ≤ e.ds.size ∧ PitAt e.ds k p)
    (fix : List Nat) (cds out : Array Nat) (sorts : Sorts) (h : WArr e n W A B cds out)
    (hfix : ∀ c ∈ fix, c < n ∧ B c) :
    ∃ r, relocateOutlets e fix cds out sorts = some r ∧ WArr e n W A B r.cds r.out := by
  unfold relocateOutlets
  have htake := Sorts.take_ok sorts (fix.map fun c => e.upa[out[c]!]!).toArray
  generalize sorts.take (fix.map fun c => e.upa[out[c]!]!).toArray = tk at htake
  obtain ⟨seq, sorts'⟩ := tk
  simp only [List.size_toArray, List.length_map] at htake
  simp only
  refine foldlM_tot _ (fun (st : RelSt) => WArr e n W A B st.cds st.out) seq ?_ _ h
  intro b i0 hi0 hb
  have hf := hfix _ (getElem!_mem fix i0 (htake.2 i0 hi0))
  exact relocOne_tot hw hr b _ hb hf.1 hf.2

end rel3

end Pf.C09ihu
