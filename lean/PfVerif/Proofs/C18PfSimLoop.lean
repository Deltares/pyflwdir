import PfVerif.Proofs.C18PfSim
import PfVerif.Proofs.C18PfLinkLoop
/-! Pfafstetter refinement across depths: equality of the tributary selections of the two runs
(`trib_filter_eq`), simulation of the pit loop. -/
namespace Pf.C18
open Pf

variable {ds usMain : Array Nat} {seq : List Nat} {uparea so : Array Int}

/-! ### the two reduced stream orders -/

theorem so_agree (ds : Array Nat) (seq : List Nat) (usMain : Array Nat) (mask : Option (Array Bool))
    (D : Nat) (u : Nat) (hu : u < ds.size)
    (h : (streamOrderClassic ds seq usMain mask)[u]! ≤ (D : Int) + 1) :
    (pfStrord ds seq usMain mask D)[u]! = (pfStrord ds seq usMain mask (D + 1))[u]! := by
  rw [pfStrord_get ds seq usMain mask D hu, pfStrord_get ds seq usMain mask (D + 1) hu]
  have : (streamOrderClassic ds seq usMain mask)[u]! ≤ ((D + 1 : Nat) : Int) + 1 := by omega
  rw [if_pos h, if_pos this]

theorem trib_order (ds : Array Nat) (seq : List Nat) (usMain : Array Nat) (mask : Option (Array Bool))
    (D : Nat) (hb : ∀ i ∈ seq, i < ds.size) (t : Nat)
    (ht : t ∈ tributaries ds seq (pfStrord ds seq usMain mask D)) :
    t < ds.size ∧ (streamOrderClassic ds seq usMain mask)[t]! ≤ (D : Int) + 1 := by
  unfold tributaries at ht
  obtain ⟨hts, hcond⟩ := List.mem_filter.1 ht
  simp only [Bool.and_eq_true, decide_eq_true_eq] at hcond
  have hlt := hb t hts
  refine ⟨hlt, ?_⟩
  have h1 := hcond.1
  rw [pfStrord_get ds seq usMain mask D hlt] at h1
  split at h1
  · assumption
  · omega

/-- the two runs select the same tributaries for a code of level `≤ depth` whose cells have order `≤ depth` -/
theorem trib_filter_eq (c : PfCtx ds usMain seq uparea) (mask : Option (Array Bool)) (D : Nat)
    {brA brB : Array Int} (hsim : SimBr brA brB) {pfaf0 : Int}
    (hord : ∀ s : Nat, brA[s]! = pfaf0 → (streamOrderClassic ds seq usMain mask)[s]! ≤ (D : Int)) :
    (tributaries ds seq (pfStrord ds seq usMain mask (D + 1))).filter
        (fun idx => brB[idx]! == 0 && brB[ds[idx]!]! == phi pfaf0) =
    (tributaries ds seq (pfStrord ds seq usMain mask D)).filter
        (fun idx => brA[idx]! == 0 && brA[ds[idx]!]! == pfaf0) := by
  unfold tributaries
  rw [List.filter_filter, List.filter_filter]
  apply List.filter_congr
  intro t ht
  have hc : (brB[t]! == 0 && brB[ds[t]!]! == phi pfaf0) = (brA[t]! == 0 && brA[ds[t]!]! == pfaf0) := by
    rw [hsim.val, hsim.val, phi_beq_zero, phi_beq]
  rw [hc]
  by_cases hcA : (brA[t]! == 0 && brA[ds[t]!]! == pfaf0) = true
  · rw [hcA]
    simp only [Bool.and_eq_true, beq_iff_eq] at hcA
    have hb := hord _ hcA.2
    have htlt := c.hb t ht
    have hdlt := c.hb _ (c.topo.ds_mem t ht)
    have hd := so_agree ds seq usMain mask D _ hdlt (by omega)
    by_cases hp : ds[t]! = t
    · rw [hp]; simp
    · have hst := soraw_step ds seq usMain mask c.topo c.hb t ht hp
      have ha : (streamOrderClassic ds seq usMain mask)[t]! ≤ (D : Int) + 1 := by
        rcases hst with h | h | h <;> omega
      rw [so_agree ds seq usMain mask D t htlt ha, hd]
  · simp only [Bool.not_eq_true] at hcA
    rw [hcA]; simp

/-! ### the pit loop -/

theorem R1_succ10 : ∀ k, R1 (k + 1) = 10 * R1 k + 1 := by
  intro k
  induction k with
  | zero => simp [R1]
  | succ k ih =>
    have : R1 (k + 1 + 1) = (10 : Int) ^ (k + 1) + R1 (k + 1) := rfl
    rw [this, ih, Int.pow_succ]
    simp only [R1] at ih ⊢
    omega

theorem pfBase_phi (D : Nat) (hD : 1 ≤ D) : pfBase (D + 1) = phi (pfBase D) := by
  rw [pfBase_R1 _ (by omega), pfBase_R1 _ hD, R1_succ10, phi_ne]
  have := pfBase_pos D
  rw [pfBase_R1 _ hD] at this
  omega

theorem pfPits_sim (usMain : Array Nat) (n : Nat) (soA soB soraw : Array Int) (D : Nat) (hD : 1 ≤ D)
    (hag : ∀ u, u < n → soraw[u]! ≤ (D : Int) + 1 → soA[u]! = soB[u]!)
    (hmainS : ∀ c, c < n → usMain[c]! < n → soraw[usMain[c]!]! = 0 ∨ soraw[usMain[c]!]! = soraw[c]!) :
    ∀ (l : List Nat) (i : Nat) (stA stB rA : PfSt),
      (∀ q ∈ l, q < n ∧ soraw[q]! ≤ (D : Int) + 1) →
      pfPits usMain n soA D l i stA = some rA →
      SimBr stA.1 stB.1 → stB.2.1 = stA.2.1 → stB.2.2 = stA.2.2.map (fun e => (phi e.1, e.2)) →
      ∃ rB, pfPits usMain n soB (D + 1) l i stB = some rB ∧
        SimBr rA.1 rB.1 ∧ rB.2.1 = rA.2.1 ∧ rB.2.2 = rA.2.2.map (fun e => (phi e.1, e.2)) := by
  intro l
  induction l with
  | nil =>
    intro i stA stB rA _ h s1 s2 s3
    simp only [pfPits_nil, Option.some.injEq] at h ⊢
    subst h; exact ⟨stB, rfl, s1, s2, s3⟩
  | cons x rest ih =>
    intro i stA stB rA hl h s1 s2 s3
    obtain ⟨brA, idxsA, labsA⟩ := stA
    obtain ⟨brB, idxsB, labsB⟩ := stB
    simp only at s1 s2 s3
    subst s2 s3
    obtain ⟨hxlt, hxso⟩ := hl x (by simp)
    have hcode : pfBase (D + 1) + ((i : Int) + 1) * (10 : Int) ^ (D + 1) =
        phi (pfBase D + ((i : Int) + 1) * (10 : Int) ^ D) := by
      rw [pfBase_phi D hD, Int.pow_succ, Int.mul_comm ((10 : Int) ^ D) 10]
      exact phi_code (pfBase_pos D) (by omega) (pow10_pos D)
    obtain ⟨br1A, h1A, h⟩ := pfPits_cons h
    obtain ⟨br1B, h1B, sim1⟩ := stemFill_sim_sub usMain n soA soB soraw D hag hmainS _ _ x _
      (brB.setIfInBounds x (phi (pfBase D + ((i : Int) + 1) * (10 : Int) ^ D))) br1A hxlt hxso h1A
      (s1.set x _)
    rw [← hcode] at h1B
    rw [pfPits_step h1B, hcode]
    exact ih (i + 1) _ _ rA (fun q hq => hl q (List.mem_cons_of_mem _ hq)) h sim1 rfl (by simp)

end Pf.C18
