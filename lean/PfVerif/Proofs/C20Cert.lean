import PfVerif.Model.C20
import PfVerif.Core.Folds
/-! C20: walks on the raster, outputs `(src, dst, out)` that report least walk costs, and soundness of
the spreading certificate (`spreadCert`).

The certificate is local (one cell and its 8 neighbours at a time); the conclusions quantify over
all walks. Lower bound: induction on the walk. Attainment: the tight-predecessor chain has strictly
decreasing distance (positive step costs), so induction on the number of cells with smaller distance
ends at an observation cell. -/
namespace Pf
open SpGrid

namespace Sp

theorem rat_le_add_of_nonneg {a b : Rat} (h : 0 ≤ b) : a ≤ a + b := by
  have := (Rat.add_le_add_left (c := a)).2 h
  rwa [Rat.add_zero] at this

theorem foldl_argmin {α : Type} (key : α → Rat) (lt : α → α → Prop) [∀ y m, Decidable (lt y m)]
    (hlt : ∀ y m, (lt y m → key y ≤ key m) ∧ (¬ lt y m → key m ≤ key y)) :
    ∀ (t : List α) (x : α), t.foldl (fun m y => if lt y m then y else m) x ∈ x :: t ∧
      ∀ y ∈ x :: t, key (t.foldl (fun m y => if lt y m then y else m) x) ≤ key y := by
  intro t x
  obtain ⟨h1, h2, h3⟩ := foldl_select (op := fun m y => if lt y m then y else m)
    (R := fun a b => key a ≤ key b) (fun _ => Rat.le_refl) Rat.le_trans
    (fun m y => if h : lt y m then Or.inr ⟨if_pos h, (hlt y m).1 h⟩ else Or.inl ⟨if_neg h, (hlt y m).2 h⟩) t x
  exact ⟨h3.elim (fun h => by rw [h]; exact List.mem_cons_self) (List.mem_cons_of_mem _),
    List.forall_mem_cons.2 ⟨h1, h2⟩⟩

end Sp
open Sp

theorem countP_lt_of_witness {l : List Nat} {p q : Nat → Bool} (hpq : ∀ x ∈ l, p x = true → q x = true)
    {a : Nat} (ha : a ∈ l) (hpa : p a = false) (hqa : q a = true) : l.countP p < l.countP q := by
  induction l with
  | nil => cases ha
  | cons x t ih =>
    have hpq' : ∀ y ∈ t, p y = true → q y = true := fun y hy => hpq y (List.mem_cons_of_mem _ hy)
    rw [List.countP_cons, List.countP_cons]
    rcases List.mem_cons.1 ha with rfl | hat
    · rw [hpa, hqa]
      exact Nat.lt_succ_of_le (List.countP_mono_left hpq')
    · refine Nat.add_lt_add_of_lt_of_le (ih hpq' hat) ?_
      cases hp : p x
      · exact Nat.zero_le _
      · rw [hpq x List.mem_cons_self hp]; exact Nat.le_refl _

theorem get!_nonneg_of_all (f : Array Rat) (h : f.all (fun x => decide (0 ≤ x)) = true) (i : Nat) :
    0 ≤ f[i]! := by
  by_cases hi : i < f.size
  · rw [Array.all_eq_true] at h
    have := h i hi
    simp only [getElem!_pos f i hi]
    simpa using this
  · simp only [getElem!_neg f i hi]
    exact Rat.le_refl

theorem SpGrid.nbrOf_lt (G : SpGrid) {a b : Nat} {o : Int × Int} (h : G.nbrOf a o = some b) : b < G.n := by
  unfold SpGrid.nbrOf at h
  simp only [] at h
  split at h
  · exact absurd h (by simp)
  · rename_i hc
    simp only [not_or, Int.not_lt, ge_iff_le, Int.not_le] at hc
    obtain ⟨h0, h1, h2, h3⟩ := hc
    cases Option.some.inj h
    calc _ < _ * G.ncol + G.ncol := Nat.add_lt_add_left ((Int.toNat_lt h2).2 h3) _
      _ = _ := (Nat.succ_mul _ _).symm
      _ ≤ G.nrow * G.ncol := Nat.mul_le_mul_right _ ((Int.toNat_lt h0).2 h1)

theorem SpGrid.isSource_iff (G : SpGrid) (i : Nat) :
    G.isSource i = true ↔ i < G.n ∧ G.obs[i]! ≠ G.nodata ∧ G.allowed i = true := by
  simp [SpGrid.isSource, and_assoc]

theorem SpWalk.facts {G : SpGrid} {s c : Nat} {k : Rat} (h : SpWalk G s c k) :
    G.isSource s = true ∧ c < G.n ∧ G.allowed c = true := by
  induction h with
  | src hs => exact ⟨hs, ((G.isSource_iff _).1 hs).1, ((G.isSource_iff _).1 hs).2.2⟩
  | step o _ _ hn ha ih => exact ⟨ih.1, G.nbrOf_lt hn, ha⟩

/-! The predicates below speak of the three arrays `(src, dst, out)`, so that they apply to a state of
the loop and to an output offered to the certificate alike. -/

def RelaxedOn (G : SpGrid) (src : Array Int) (dst : Array Rat) (a : Nat) (ds : List (Int × Int)) : Prop :=
  ∀ d ∈ ds, ∀ b, G.nbrOf a d = some b → G.allowed b = true → src[b]! ≠ -1 ∧ dst[b]! ≤ dst[a]! + G.wgt a d

theorem relaxedOn_snoc {G : SpGrid} {src : Array Int} {dst : Array Rat} {a : Nat} {ds : List (Int × Int)}
    {o : Int × Int} : RelaxedOn G src dst a (ds ++ [o]) ↔ RelaxedOn G src dst a ds ∧
      ∀ b, G.nbrOf a o = some b → G.allowed b = true → src[b]! ≠ -1 ∧ dst[b]! ≤ dst[a]! + G.wgt a o := by
  simp only [RelaxedOn, List.forall_mem_append, List.forall_mem_singleton]

def Feasible (G : SpGrid) (src : Array Int) (dst : Array Rat) : Prop :=
  ∀ a, a < G.n → G.allowed a = true → src[a]! ≠ -1 → RelaxedOn G src dst a nbrOffsets

/-- what spreading has to leave alone at cell `i`, given its origin `s`, distance `d` and value `v`:
a disallowed cell is untouched (an observation there still reports itself as origin), an observation
cell has distance 0 and is its own origin, a cell not reached is untouched -/
structure CellFixed (G : SpGrid) (i : Nat) (s : Int) (d : Rat) (v : Int) : Prop where
  dis : G.allowed i = false → s = (if G.obs[i]! ≠ G.nodata then (i : Int) else -1) ∧ d = 0 ∧ v = G.obs[i]!
  srcs : G.isSource i = true → s = (i : Int) ∧ d = 0 ∧ v = G.obs[i]!
  unr : G.allowed i = true → s = -1 → d = 0 ∧ v = G.obs[i]!

def SpFixed (G : SpGrid) (src : Array Int) (dst : Array Rat) (out : Array Int) : Prop :=
  ∀ i, i < G.n → CellFixed G i src[i]! dst[i]! out[i]!

/-- `dst` is a lower bound for the cost of every walk from an observation and is attained by a walk
from the reported origin, whose observation is the reported value -/
structure LeastCost (G : SpGrid) (src : Array Int) (dst : Array Rat) (out : Array Int) : Prop where
  lower : ∀ {s c : Nat} {k : Rat}, SpWalk G s c k → src[c]! ≠ -1 ∧ dst[c]! ≤ k
  attained : ∀ c, c < G.n → G.allowed c = true → src[c]! ≠ -1 →
    ∃ s : Nat, src[c]! = (s : Int) ∧ SpWalk G s c dst[c]! ∧ out[c]! = G.obs[s]!

section
variable {G : SpGrid} {src src' : Array Int} {dst dst' : Array Rat} {out out' : Array Int}

theorem walk_lower (hf : SpFixed G src dst out) (hr : Feasible G src dst) {s c : Nat} {k : Rat}
    (hw : SpWalk G s c k) : src[c]! ≠ -1 ∧ dst[c]! ≤ k := by
  induction hw with
  | src hs =>
    obtain ⟨h1, h2, _⟩ := (hf _ ((G.isSource_iff _).1 hs).1).srcs hs
    exact ⟨by rw [h1]; omega, Std.le_of_eq h2⟩
  | @step a b k d hwa hd hn hab ih =>
    obtain ⟨_, ha, haa⟩ := hwa.facts
    obtain ⟨h1, h2⟩ := hr a ha haa ih.1 d hd b hn hab
    exact ⟨h1, Rat.le_trans h2 (Rat.add_le_add_right.2 ih.2)⟩

theorem LeastCost.reached_iff (h : LeastCost G src dst out) {c : Nat} (hc : c < G.n)
    (hca : G.allowed c = true) : src[c]! ≠ -1 ↔ ∃ s k, SpWalk G s c k :=
  ⟨fun hr => let ⟨s, _, hw, _⟩ := h.attained c hc hca hr; ⟨s, _, hw⟩, fun ⟨_, _, hw⟩ => (h.lower hw).1⟩

theorem LeastCost.le_of_reached (h : LeastCost G src dst out) (h' : LeastCost G src' dst' out') {c : Nat}
    (hc : c < G.n) (hca : G.allowed c = true) (hr : src[c]! ≠ -1) : src'[c]! ≠ -1 ∧ dst'[c]! ≤ dst[c]! :=
  let ⟨_, _, hw, _⟩ := h.attained c hc hca hr
  h'.lower hw

theorem LeastCost.dst_unique (h : LeastCost G src dst out) (h' : LeastCost G src' dst' out') {c : Nat}
    (hc : c < G.n) (hca : G.allowed c = true) :
    (src[c]! ≠ -1 ↔ src'[c]! ≠ -1) ∧ (src[c]! ≠ -1 → dst[c]! = dst'[c]!) :=
  ⟨⟨fun hr => (h.le_of_reached h' hc hca hr).1, fun hr => (h'.le_of_reached h hc hca hr).1⟩, fun hr =>
    have h1 := h.le_of_reached h' hc hca hr
    Rat.le_antisymm (h'.le_of_reached h hc hca h1.1).2 h1.2⟩

theorem SpFixed.unchanged (hf : SpFixed G src dst out) (hl : LeastCost G src dst out) {c : Nat} (hc : c < G.n)
    (h : G.allowed c = false ∨ ¬ ∃ s k, SpWalk G s c k) :
    out[c]! = G.obs[c]! ∧ dst[c]! = 0 ∧
      src[c]! = (if G.allowed c = false ∧ G.obs[c]! ≠ G.nodata then (c : Int) else -1) := by
  by_cases hca : G.allowed c = false
  · obtain ⟨h1, h2, h3⟩ := (hf c hc).dis hca
    exact ⟨h3, h2, by rw [h1]; simp only [hca, true_and]⟩
  · have hca' : G.allowed c = true := Bool.of_not_eq_false hca
    have hs : src[c]! = -1 := Decidable.byContradiction fun hne =>
      h.elim hca fun hn => hn ((hl.reached_iff hc hca').1 hne)
    obtain ⟨h2, h3⟩ := (hf c hc).unr hca' hs
    exact ⟨h3, h2, by rw [hs, if_neg fun h => hca h.1]⟩

end

/-- induction along `<` on the values that `f` takes below `n`; the rank that descends is the number of `a < n`
with `f a` below the value at hand -/
theorem induction_on_lt_rat (n : Nat) (f : Nat → Rat) {P : Nat → Prop}
    (h : ∀ c, c < n → (∀ a, a < n → f a < f c → P a) → P c) : ∀ c, c < n → P c := by
  have key : ∀ m c, c < n → ((List.range n).countP fun a => decide (f a < f c)) = m → P c := by
    intro m
    induction m using Nat.strongRecOn with
    | _ m ih =>
      intro c hc hm
      refine h c hc fun a ha hlt => ih _ (hm ▸ ?_) a ha rfl
      exact countP_lt_of_witness (a := a) (fun x _ hx => decide_eq_true (Std.lt_trans (of_decide_eq_true hx) hlt))
        (List.mem_range.2 ha) (decide_eq_false Rat.lt_irrefl) (decide_eq_true hlt)
  exact fun c hc => key _ c hc rfl

/-- what `spreadCert` checks, as propositions.
`fixed`: disallowed cells, observation cells and cells not reached carry their prescribed values;
`feas`: every allowed step out of a reached cell reaches, with `dst b ≤ dst a + w(a, b)` — gives the lower bound
over all walks;
`tight`: a reached cell that is no observation has a reached neighbour `a` with `dst b = dst a + w(a, b)` whose
origin and value it inherits — following these back gives the walk that attains `dst`. -/
structure SpreadCertP (G : SpGrid) (o : SpOut) : Prop where
  fixed : SpFixed G o.src o.dst o.out
  feas : Feasible G o.src o.dst
  tight : ∀ b, b < G.n → G.allowed b = true → o.src[b]! ≠ -1 → G.isSource b = false →
    ∃ a, a < G.n ∧ G.allowed a = true ∧ o.src[a]! ≠ -1 ∧ ∃ d ∈ nbrOffsets, G.nbrOf a d = some b ∧
      o.dst[b]! = o.dst[a]! + G.wgt a d ∧ o.src[b]! = o.src[a]! ∧ o.out[b]! = o.out[a]!

theorem spreadCert_imp (G : SpGrid) (o : SpOut) (h : spreadCert G o = true) : SpreadCertP G o := by
  simp only [spreadCert, certDisallowed, certSource, certUnreached, certFeasible, certTight, Bool.and_eq_true,
    Bool.or_eq_true, Bool.not_eq_true', Bool.and_eq_false_imp, List.all_eq_true, List.any_eq_true,
    List.mem_range, beq_iff_eq, bne_iff_ne, beq_eq_false_iff_ne, bne_eq_false_iff_eq, Bool.not_eq_false', and_assoc] at h
  refine ⟨fun i hi => ?_, fun a ha haa hs d hd b hn hab => ?_, fun b hb hab hs hns => ?_⟩
  · obtain ⟨h1, h2, h3, _⟩ := h.2 i hi
    exact ⟨fun ha => h1.resolve_left (by rw [ha]; exact Bool.false_ne_true),
      fun hs => h2.resolve_left (by rw [hs]; exact Bool.noConfusion), fun ha hs => h3.resolve_left fun h' => h' ha hs⟩
  · have := (h.2 a ha).2.2.2.1.resolve_left (fun h' => hs (h' haa)) d hd
    simpa only [hn, hab, Bool.not_true, Bool.false_or, Bool.and_eq_true, bne_iff_ne, ne_eq, decide_eq_true_eq] using this
  · obtain ⟨a, ha, haa, has, d, hd, h1, h2, h3, h4⟩ :=
      (h.2 b hb).2.2.2.2.resolve_left fun h' => by rw [h' ⟨hab, hs⟩] at hns; cases hns
    exact ⟨a, ha, haa, has, d, hd, h1, h2, h3, h4⟩

theorem certPositive_imp (G : SpGrid) (h : certPositive G = true) :
    ∀ a, a < G.n → ∀ d ∈ nbrOffsets, ∀ b, G.nbrOf a d = some b → 0 < G.wgt a d := by
  intro a ha d hd b hn
  unfold certPositive at h
  simp only [List.all_eq_true, List.mem_range] at h
  have := h a ha d hd
  simpa [hn] using this

/-- following tight predecessors back, along strictly falling distances, ends at an observation cell -/
theorem cert_attained {G : SpGrid} {o : SpOut} (hc : SpreadCertP G o)
    (hpos : ∀ a, a < G.n → ∀ d ∈ nbrOffsets, ∀ b, G.nbrOf a d = some b → 0 < G.wgt a d) :
    ∀ c, c < G.n → G.allowed c = true → o.src[c]! ≠ -1 →
      ∃ s : Nat, o.src[c]! = (s : Int) ∧ SpWalk G s c o.dst[c]! ∧ o.out[c]! = G.obs[s]! := by
  refine induction_on_lt_rat G.n (fun c => o.dst[c]!) fun c hcn ih hca hcs => ?_
  cases hsrc : G.isSource c with
  | true =>
    obtain ⟨h1, h2, h3⟩ := (hc.fixed c hcn).srcs hsrc
    exact ⟨c, h1, by rw [h2]; exact SpWalk.src c hsrc, h3⟩
  | false =>
    obtain ⟨a, ha, haa, has, d, hd, hn, hdst, hs, ho⟩ := hc.tight c hcn hca hcs hsrc
    have hlt : o.dst[a]! < o.dst[c]! := by
      have := (Rat.add_lt_add_left (c := o.dst[a]!)).2 (hpos a ha d hd c hn)
      rwa [Rat.add_zero, ← hdst] at this
    obtain ⟨s, h1, h2, h3⟩ := ih a ha hlt haa has
    exact ⟨s, by rw [hs, h1], by rw [hdst]; exact SpWalk.step d h2 hd hn hca, by rw [ho, h3]⟩

theorem cert_leastCost {G : SpGrid} {o : SpOut} (hc : SpreadCertP G o)
    (hpos : ∀ a, a < G.n → ∀ d ∈ nbrOffsets, ∀ b, G.nbrOf a d = some b → 0 < G.wgt a d) :
    LeastCost G o.src o.dst o.out :=
  ⟨walk_lower hc.fixed hc.feas, cert_attained hc hpos⟩

end Pf
