import PfVerif.Proofs.C18PfSo
/-! Pfafstetter refinement across depths: the run for `depth + 1` simulates the run for `depth`
as long as levels `≤ depth` are processed: its codes are `phi c = 10·c + 1`, its outlets are the same.
This file: `phi`, the simulation of the two kinds of `stemFill` and of the inner loop `pfInner`. -/
namespace Pf.C18
open Pf

/-- where the run for `depth` writes the code `c`, the run for `depth + 1` writes `10·c + 1` (its first sub-basin digit),
as long as levels `≤ depth` are processed; 0 (no code) stays 0 -/
def phi (c : Int) : Int := if c = 0 then 0 else 10 * c + 1

theorem phi_zero : phi 0 = 0 := by simp [phi]
theorem phi_ne {c : Int} (h : c ≠ 0) : phi c = 10 * c + 1 := by simp [phi, h]
theorem phi_eq_zero {c : Int} : phi c = 0 ↔ c = 0 := by
  unfold phi; split <;> omega
theorem phi_inj {a b : Int} : phi a = phi b ↔ a = b := by
  unfold phi; split <;> split <;> omega
theorem phi_div (c : Int) : phi c / 10 = c := by
  unfold phi; split <;> omega
theorem phi_beq (a b : Int) : (phi a == phi b) = (a == b) := by
  by_cases h : a = b
  · rw [h, beq_self_eq_true, beq_self_eq_true]
  · rw [beq_eq_false_iff_ne.2 h, beq_eq_false_iff_ne.2 fun h' => h (phi_inj.1 h')]
theorem phi_beq_zero (a : Int) : (phi a == 0) = (a == 0) := by
  rw [← phi_beq a 0, phi_zero]

theorem phi_code {pfaf0 p m : Int} (hp0 : 0 < pfaf0) (hm : 0 ≤ m) (hp : 0 < p) :
    phi pfaf0 + m * (10 * p) = phi (pfaf0 + m * p) := by
  have : 0 ≤ m * p := Int.mul_nonneg hm (Int.le_of_lt hp)
  rw [phi_ne (by omega), phi_ne (by omega)]
  grind

/-- the code maps of the two runs are related by `phi` cell by cell -/
structure SimBr (brA brB : Array Int) : Prop where
  size : brB.size = brA.size
  val : ∀ s : Nat, brB[s]! = phi brA[s]!

theorem SimBr.set {brA brB : Array Int} (h : SimBr brA brB) (i : Nat) (v : Int) :
    SimBr (brA.setIfInBounds i v) (brB.setIfInBounds i (phi v)) := by
  refine ⟨by simp [h.size], fun s => ?_⟩
  rw [get!_setIfInBounds, get!_setIfInBounds, h.size]
  split
  · rfl
  · exact h.val s

/-- two stem fills whose stop tests agree on the cells of a set `Q` closed under main-upstream steps stop at the
same cell when started in `Q` -/
theorem stemFill_sim (usMain : Array Nat) (n : Nat) (hA hB : Nat → Int → Bool) (Q : Nat → Prop)
    (hQ : ∀ c, Q c → usMain[c]! < n → Q usMain[c]!)
    (htest : ∀ u x, Q u → hB u (phi x) = hA u x) (v : Int) :
    ∀ (f idx : Nat) (brA brB rA : Array Int), Q idx →
      stemFill usMain n hA v f idx brA = some rA → SimBr brA brB →
      ∃ rB, stemFill usMain n hB (phi v) f idx brB = some rB ∧ SimBr rA rB := by
  intro f
  induction f with
  | zero => intro idx brA brB rA _ h; simp [stemFill] at h
  | succ f ih =>
    intro idx brA brB rA hq h hsim
    simp only [stemFill] at h ⊢
    by_cases hu : usMain[idx]! ≥ n
    · simp only [hu, decide_true, Bool.true_or, if_true, Option.some.injEq] at h ⊢
      subst h; exact ⟨brB, rfl, hsim⟩
    · have hqu := hQ idx hq (by omega)
      have hdec : decide (usMain[idx]! ≥ n) = false := by simpa using hu
      rw [hdec, Bool.false_or, hsim.val, htest _ _ hqu]
      rw [hdec, Bool.false_or] at h
      split at h
      · rename_i hc
        simp only [Option.some.injEq] at h
        subst h; exact ⟨brB, if_pos hc, hsim⟩
      · rename_i hc
        rw [if_neg hc]
        exact ih _ _ _ rA hqu h (hsim.set _ v)

/-- sub-basin / pit fill: both runs stop at the same cell, because along a main stem that starts at a
cell of order `≤ depth + 1` the two reduced orders agree -/
theorem stemFill_sim_sub (usMain : Array Nat) (n : Nat) (soA soB soraw : Array Int) (D : Nat)
    (hag : ∀ u, u < n → soraw[u]! ≤ (D : Int) + 1 → soA[u]! = soB[u]!)
    (hmainS : ∀ c, c < n → usMain[c]! < n → soraw[usMain[c]!]! = 0 ∨ soraw[usMain[c]!]! = soraw[c]!)
    (v : Int) :
    ∀ (f idx : Nat) (brA brB rA : Array Int), idx < n → soraw[idx]! ≤ (D : Int) + 1 →
      stemFill usMain n (fun u _ => soA[u]! == 0) v f idx brA = some rA → SimBr brA brB →
      ∃ rB, stemFill usMain n (fun u _ => soB[u]! == 0) (phi v) f idx brB = some rB ∧ SimBr rA rB :=
  fun f idx brA brB rA hidx hso =>
    stemFill_sim usMain n _ _ (fun c => c < n ∧ soraw[c]! ≤ (D : Int) + 1)
      (fun c hc hu => ⟨hu, by rcases hmainS c hc.1 hu with h | h <;> omega⟩)
      (fun u _ hu => by rw [hag u hu.1 hu.2]) v f idx brA brB rA ⟨hidx, hso⟩

/-- inter-basin fill: the stop test `code != pfaf_int_ds` gives the same answers -/
theorem stemFill_sim_int (usMain : Array Nat) (n : Nat) (w v : Int) :
    ∀ (f idx : Nat) (brA brB rA : Array Int),
      stemFill usMain n (fun _ x => x != w) v f idx brA = some rA → SimBr brA brB →
      ∃ rB, stemFill usMain n (fun _ x => x != phi w) (phi v) f idx brB = some rB ∧ SimBr rA rB :=
  fun f idx brA brB rA =>
    stemFill_sim usMain n _ _ (fun _ => True) (fun _ _ _ => trivial)
      (fun _ x _ => congrArg not (phi_beq x w))
      v f idx brA brB rA trivial

/-- relation between the states of the two inner loops -/
structure SimIn (D d0 : Nat) (stA stB : PfSt × Int × Bool) : Prop where
  br : SimBr stA.1.1 stB.1.1
  idxs : stB.1.2.1 = stA.1.2.1
  labs : ∃ extra, stB.1.2.2 = stA.1.2.2.map (fun e => (phi e.1, e.2)) ++ extra ∧
    (∀ e ∈ extra, e.2 = D + 1) ∧ (d0 < D → extra = [])
  int : stB.2.1 = phi stA.2.1

theorem simLabs_push {D d0 : Nat} {labsA labsB : List (Int × Nat)} {v : Int}
    (h : ∃ extra, labsB = labsA.map (fun e => (phi e.1, e.2)) ++ extra ∧
      (∀ e ∈ extra, e.2 = D + 1) ∧ (d0 < D → extra = [])) (hd : d0 ≤ D) :
    ∃ extra, (labsB ++ [(phi v, d0 + 1)]) =
        (if d0 < D then labsA ++ [(v, d0 + 1)] else labsA).map (fun e => (phi e.1, e.2)) ++ extra ∧
      (∀ e ∈ extra, e.2 = D + 1) ∧ (d0 < D → extra = []) := by
  obtain ⟨extra, h1, h2, h3⟩ := h
  by_cases hlt : d0 < D
  · have he := h3 hlt
    subst he
    refine ⟨[], ?_, by simp, fun _ => rfl⟩
    rw [if_pos hlt, h1]; simp
  · have hD : d0 = D := by omega
    refine ⟨extra ++ [(phi v, d0 + 1)], ?_, fun e he => ?_, fun h => absurd h hlt⟩
    · rw [if_neg hlt, h1]; simp
    · rcases List.mem_append.1 he with he | he
      · exact h2 e he
      · simp only [List.mem_singleton] at he; subst he; simp [hD]

variable {ds usMain : Array Nat}

theorem pfInner_sim (soA soB soraw : Array Int) (D : Nat) (pfaf0 : Int) (d0 : Nat)
    (hag : ∀ u, u < ds.size → soraw[u]! ≤ (D : Int) + 1 → soA[u]! = soB[u]!)
    (hmainS : ∀ c, c < ds.size → usMain[c]! < ds.size →
      soraw[usMain[c]!]! = 0 ∨ soraw[usMain[c]!]! = soraw[c]!)
    (hp0 : 0 < pfaf0) (hd : d0 ≤ D) :
    ∀ (l : List Nat) (i : Nat) (stA stB rA : PfSt × Int × Bool),
      (∀ t ∈ l, t < ds.size ∧ soraw[t]! ≤ (D : Int) + 1) →
      pfInner ds usMain soA D pfaf0 d0 l i stA = some rA → SimIn D d0 stA stB →
      ∃ rB, pfInner ds usMain soB (D + 1) (phi pfaf0) d0 l i stB = some rB ∧ SimIn D d0 rA rB := by
  intro l
  induction l with
  | nil =>
    intro i stA stB rA _ h hsim
    simp only [pfInner_nil, Option.some.injEq] at h ⊢
    subst h; exact ⟨stB, rfl, hsim⟩
  | cons t rest ih =>
    intro i stA stB rA hl h hsim
    obtain ⟨⟨brA, idxsA, labsA⟩, intA, okA⟩ := stA
    obtain ⟨⟨brB, idxsB, labsB⟩, intB, okB⟩ := stB
    obtain ⟨sbr, sidx, slabs, sint⟩ := hsim
    simp only at sbr sidx slabs sint
    subst sidx sint
    obtain ⟨htlt, htso⟩ := hl t (by simp)
    have hpp : (0 : Int) < (10 : Int) ^ (D - d0) := pow10_pos _
    have hpB : (10 : Int) ^ (D + 1 - d0) = 10 * (10 : Int) ^ (D - d0) := by
      have : D + 1 - d0 = (D - d0) + 1 := by omega
      rw [this, Int.pow_succ, Int.mul_comm]
    have hsub : phi pfaf0 + (2 * (i : Int) + 1) * (10 : Int) ^ (D + 1 - d0) =
        phi (pfaf0 + (2 * (i : Int) + 1) * (10 : Int) ^ (D - d0)) := by
      rw [hpB]; exact phi_code hp0 (by omega) hpp
    have hpint : phi pfaf0 + ((i : Int) + 1) * 2 * (10 : Int) ^ (D + 1 - d0) =
        phi (pfaf0 + ((i : Int) + 1) * 2 * (10 : Int) ^ (D - d0)) := by
      rw [hpB]; exact phi_code hp0 (by omega) hpp
    have hdB : d0 < D + 1 := by omega
    obtain ⟨br1A, h1A, hcase⟩ := pfInner_cons h
    obtain ⟨br1B, h1B, sim1⟩ := stemFill_sim_sub usMain ds.size soA soB soraw D hag hmainS _ _ t _
      (brB.setIfInBounds t (phi (pfaf0 + (2 * (i : Int) + 1) * (10 : Int) ^ (D - d0)))) br1A htlt htso h1A
      (sbr.set t _)
    have slabs1 := simLabs_push (v := pfaf0 + (2 * (i : Int) + 1) * (10 : Int) ^ (D - d0)) slabs hd
    rw [← hsub] at h1B
    rcases hcase with ⟨hc, h⟩ | ⟨hc, br2A, h2A, h⟩
    · rw [pfInner_skip h1B hc, hsub]
      simp only [hdB, if_true]
      exact ih (i + 1) _ _ rA (fun t' ht' => hl t' (List.mem_cons_of_mem _ ht')) h
        ⟨sim1, rfl, slabs1, rfl⟩
    · obtain ⟨br2B, h2B, sim2⟩ := stemFill_sim_int usMain ds.size intA _ _ _ _
        (br1B.setIfInBounds usMain[ds[t]!]!
          (phi (pfaf0 + ((i : Int) + 1) * 2 * (10 : Int) ^ (D - d0)))) br2A h2A (sim1.set _ _)
      rw [← hpint] at h2B
      rw [pfInner_int h1B hc h2B, hsub, hpint]
      simp only [hdB, if_true]
      have slabs2 := simLabs_push (v := pfaf0 + ((i : Int) + 1) * 2 * (10 : Int) ^ (D - d0)) slabs1 hd
      exact ih (i + 1) _ _ rA (fun t' ht' => hl t' (List.mem_cons_of_mem _ ht')) h
        ⟨sim2, rfl, slabs2, rfl⟩

end Pf.C18
