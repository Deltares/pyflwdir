import PfVerif.Model.C10
import PfVerif.Core.Folds
/-! C10, unit catchments: the seed map holds last positions in the outlet vector; the label is
`fillnodata_upstream` of the seed map (Core's `FirstValid`); the accumulator entries are sums over the
labelled cells of the raster, by one invariant of the second loop. -/
namespace Pf.C10
open Pf

/-! ### seeds: last position of a pixel in the outlet vector -/

/-- the scan returns `acc` if `i` is not listed, else `k + p + 1` for the LAST position `p` of `i` -/
theorem lastPosAux_spec (i : Nat) : ∀ (outs : List Nat) (k : Nat) (acc : Int),
    (lastPosAux i outs k acc = acc ∧ i ∉ outs) ∨
    (∃ p : Nat, outs[p]? = some i ∧ lastPosAux i outs k acc = (k : Int) + p + 1 ∧
      ∀ q : Nat, outs[q]? = some i → q ≤ p)
  | [], k, acc => Or.inl ⟨rfl, List.not_mem_nil⟩
  | o :: rest, k, acc => by
    rw [lastPosAux]
    rcases lastPosAux_spec i rest (k + 1) (if o = i then (k : Int) + 1 else acc) with ⟨h1, h2⟩ | ⟨p, hp, hv, hq⟩
    · by_cases ho : o = i
      · -- the head is the only occurrence
        refine Or.inr ⟨0, by rw [ho]; rfl, by rw [h1, if_pos ho]; rfl, fun q hq => ?_⟩
        cases q with
        | zero => exact Nat.le_refl 0
        | succ q => exact absurd (List.mem_of_getElem? (l := rest) hq) h2
      · exact Or.inl ⟨by rw [h1, if_neg ho], fun h => (List.mem_cons.mp h).elim (fun e => ho e.symm) h2⟩
    · refine Or.inr ⟨p + 1, hp, by rw [hv]; push_cast; omega, fun q hq' => ?_⟩
      cases q with
      | zero => exact Nat.zero_le _
      | succ q => exact Nat.succ_le_succ (hq q hq')

/-- `lastPos1` is 0 off the outlet vector and `p + 1` at a pixel whose LAST position is `p` -/
theorem lastPos1_cases (outs : List Nat) (i : Nat) :
    (lastPos1 outs i = 0 ∧ i ∉ outs) ∨
    (∃ p : Nat, outs[p]? = some i ∧ lastPos1 outs i = (p : Int) + 1 ∧ ∀ q : Nat, outs[q]? = some i → q ≤ p) := by
  rcases lastPosAux_spec i outs 0 0 with h | ⟨p, h1, h2, h3⟩
  · exact Or.inl h
  · exact Or.inr ⟨p, h1, by rw [lastPos1, h2, Int.natCast_zero, Int.zero_add], h3⟩

/-- `k + 1` is the value of `lastPos1` exactly at the pixel whose last entry is entry `k` -/
theorem lastPos1_eq_succ_iff (outs : List Nat) (i k : Nat) :
    lastPos1 outs i = (k : Int) + 1 ↔ outs[k]? = some i ∧ ∀ q : Nat, outs[q]? = some i → q ≤ k := by
  rcases lastPos1_cases outs i with ⟨h0, hn⟩ | ⟨p, hp, hv, hmx⟩
  · exact ⟨fun h => by omega, fun h => absurd (List.mem_of_getElem? h.1) hn⟩
  · constructor
    · intro h
      obtain rfl : p = k := by omega
      exact ⟨hp, hmx⟩
    · intro ⟨hk, hl⟩
      rw [hv, Nat.le_antisymm (hl p hp) (hmx k hk)]

theorem size_mapSeedAux (mv : Nat) : ∀ (outs : List Nat) (k : Nat) (m : Array Int),
    (mapSeedAux mv outs k m).size = m.size
  | [], _, _ => rfl
  | o :: rest, k, m => by
    rw [mapSeedAux, size_mapSeedAux mv rest]
    split <;> simp

@[simp] theorem size_mapSeed (n : Nat) (outs : List Nat) : (mapSeed n outs).size = n := by
  simp [mapSeed, size_mapSeedAux]

theorem mapSeedAux_get (mv : Nat) : ∀ (outs : List Nat) (k : Nat) (m : Array Int) (j : Nat),
    (mapSeedAux mv outs k m)[j]! =
      if j < m.size ∧ j ≠ mv then lastPosAux j outs k m[j]! else m[j]!
  | [], k, m, j => by rw [mapSeedAux, lastPosAux, ite_self]
  | o :: rest, k, m, j => by
    rw [mapSeedAux, lastPosAux, mapSeedAux_get mv rest]
    by_cases ho : o = mv
    · subst ho
      rw [show (if o ≠ o then m.setIfInBounds o ((k : Int) + 1) else m) = m from if_neg fun h => h rfl]
      by_cases hj : j < m.size ∧ j ≠ o
      · rw [if_pos hj, if_pos hj, if_neg fun e => hj.2 e.symm]
      · rw [if_neg hj, if_neg hj]
    · rw [if_pos ho, Array.size_setIfInBounds, get!_setIfInBounds]
      by_cases hj : j < m.size ∧ j ≠ mv
      · -- inside the raster the bounds test of the write is void
        rw [if_pos hj, if_pos hj]
        by_cases hoj : o = j
        · rw [if_pos ⟨hoj, hoj ▸ hj.1⟩, if_pos hoj]
        · rw [if_neg fun h => hoj h.1, if_neg hoj]
      · rw [if_neg hj, if_neg hj, if_neg fun h : o = j ∧ o < m.size => hj ⟨h.1 ▸ h.2, h.1 ▸ ho⟩]

/-- the seed map holds, at every cell of the raster, the 1-based last position of the cell in the
outlet vector (0 if it is not listed) -/
theorem mapSeed_get (n : Nat) (outs : List Nat) (j : Nat) :
    (mapSeed n outs)[j]! = if j < n then lastPos1 outs j else 0 := by
  rw [mapSeed, mapSeedAux_get]
  by_cases hj : j < n
  · have : j ≠ n := Nat.ne_of_lt hj
    simp [hj, this, lastPos1]
  · simp [hj]

theorem accSeed_size (n : Nat) (outs : List Nat) (w : Nat → Int) : (accSeed n outs w).size = outs.length := by
  simp [accSeed]

theorem accSeed_get (n : Nat) (outs : List Nat) (w : Nat → Int) (k o : Nat) (h : outs[k]? = some o) :
    (accSeed n outs w)[k]! = if o ≠ n then w o else -9999 := by
  obtain ⟨hk, ho⟩ := List.getElem?_eq_some_iff.mp h
  simp [accSeed, hk, ho]

theorem mapSeed_eq_zero_iff {n : Nat} {outs : List Nat} {i : Nat} :
    (mapSeed n outs)[i]! = 0 ↔ i ∉ outs ∨ n ≤ i := by
  rw [mapSeed_get]
  by_cases hi : i < n
  · rw [if_pos hi]
    rcases lastPos1_cases outs i with ⟨h0, hn⟩ | ⟨p, hp, hv, _⟩
    · exact ⟨fun _ => Or.inl hn, fun _ => h0⟩
    · exact ⟨fun h => by omega, fun h => (h.elim (absurd (List.mem_of_getElem? hp)) (by omega))⟩
  · rw [if_neg hi]
    exact ⟨fun _ => Or.inr (by omega), fun _ => rfl⟩

theorem mapSeed_ne_zero {n : Nat} {outs : List Nat} {i : Nat}
    (h : (mapSeed n outs)[i]! ≠ 0) :
    i < n ∧ ∃ p : Nat, outs[p]? = some i ∧ (mapSeed n outs)[i]! = (p : Int) + 1 ∧
      ∀ q : Nat, outs[q]? = some i → q ≤ p := by
  rw [mapSeed_get] at h ⊢
  by_cases hi : i < n
  · rw [if_pos hi] at h ⊢
    rcases lastPos1_cases outs i with ⟨h1, _⟩ | h1
    · exact absurd h1 h
    · exact ⟨hi, h1⟩
  · exact absurd (if_neg hi) h

/-! ### the label: first outlet pixel downstream = first valid cell of the seed map -/

theorem firstOutlet_iff_firstValid {ds : Array Nat} {outs : List Nat} {i : Nat} {v : Int} :
    FirstOutlet ds outs i v ↔ FirstValid ds (mapSeed ds.size outs) 0 i v := by
  constructor
  · intro h
    induction h with
    | here i p hp hi hmax =>
      have hs : (mapSeed ds.size outs)[i]! = (p : Int) + 1 := by
        rw [mapSeed_get, if_pos hi, lastPos1_eq_succ_iff]; exact ⟨hp, hmax⟩
      rw [← hs]
      exact FirstValid.here i (by omega)
    | pit i hn hp => exact FirstValid.pit i (mapSeed_eq_zero_iff.mpr hn) hp
    | down i v hn hnp _ ih => exact FirstValid.down i v (mapSeed_eq_zero_iff.mpr hn) hnp ih
  · intro h
    induction h with
    | here i hne =>
      obtain ⟨hi, p, hp, hv, hmax⟩ := mapSeed_ne_zero hne
      rw [hv]
      exact FirstOutlet.here i p hp hi hmax
    | pit i he hp => exact FirstOutlet.pit i (mapSeed_eq_zero_iff.mp he) hp
    | down i v he hnp _ ih => exact FirstOutlet.down i v (mapSeed_eq_zero_iff.mp he) hnp ih

theorem FirstOutlet.unique {ds : Array Nat} {outs : List Nat} {i : Nat} {v w : Int}
    (h1 : FirstOutlet ds outs i v) (h2 : FirstOutlet ds outs i w) : v = w :=
  (firstOutlet_iff_firstValid.mp h1).unique (firstOutlet_iff_firstValid.mp h2)

/-- the declarative label walk is Core's first-valid walk over the seed map -/
theorem labelWalk_eq_walkValid (ds : Array Nat) (outs : List Nat) : ∀ (fuel i : Nat),
    labelWalk ds outs fuel i = walkValid ds (mapSeed ds.size outs) 0 fuel i
  | 0, _ => rfl
  | f+1, i => by
    rw [labelWalk, walkValid, labelWalk_eq_walkValid ds outs f, mapSeed_get]
    by_cases hi : i < ds.size
    · simp only [hi, true_and, if_true]
    · simp only [hi, false_and, if_false, ne_eq, not_true_eq_false]

theorem ucatStep_fst (ds : Array Nat) (w : Nat → Int) (st : Array Int × Array Int) (i : Nat) :
    (ucatStep ds w st i).1 = stepDown ds (gFillNd 0) st.1 i := by
  simp only [ucatStep, stepDown, gFillNd]
  split
  · rfl
  · exact (setIfInBounds_self st.1 i).symm

/-- the unit catchment map of `ucat_area` / `ucat_volume` is `fillnodata_upstream` of the seed map -/
theorem ucatAccum_fst (ds : Array Nat) (seq outs : List Nat) (w : Nat → Int) :
    (ucatAccum ds seq outs w).1 = sweepDown ds (gFillNd 0) seq (mapSeed ds.size outs) :=
  foldl_induct (ucatStep ds w) (fun done st => st.1 = sweepDown ds (gFillNd 0) done (mapSeed ds.size outs)) seq
    (fun done i st _ h => by rw [sweepDown_snoc, ucatStep_fst, h]) [] _ rfl

/-! ### sums over the selected cells of a list -/

theorem sumIf_cons (a : Nat) (t : List Nat) (p : Nat → Bool) (f : Nat → Int) :
    sumIf (a :: t) p f = (if p a then f a else 0) + sumIf t p f := by
  by_cases h : p a <;> simp [sumIf, h]

theorem sumIf_append (l1 l2 : List Nat) (p : Nat → Bool) (f : Nat → Int) :
    sumIf (l1 ++ l2) p f = sumIf l1 p f + sumIf l2 p f := by
  simp [sumIf, List.sum_append]

theorem sumIf_singleton (i : Nat) (p : Nat → Bool) (f : Nat → Int) :
    sumIf [i] p f = if p i then f i else 0 := by
  rw [sumIf_cons]; exact Int.add_zero _

theorem sumIf_congr {l : List Nat} {p q : Nat → Bool} (f : Nat → Int) (h : ∀ i ∈ l, p i = q i) :
    sumIf l p f = sumIf l q f := by
  unfold sumIf
  rw [List.filter_congr h]

theorem sumIf_false {l : List Nat} {p : Nat → Bool} (f : Nat → Int) (h : ∀ i ∈ l, p i = false) :
    sumIf l p f = 0 := by
  have : l.filter p = [] := by
    rw [List.filter_eq_nil_iff]
    intro a ha; simp [h a ha]
  simp [sumIf, this]

/-- a selection that is the disjoint union of two others -/
theorem sumIf_or {l : List Nat} {r p q : Nat → Bool} (f : Nat → Int)
    (hr : ∀ i ∈ l, r i = (p i || q i)) (hd : ∀ i ∈ l, ¬ (p i = true ∧ q i = true)) :
    sumIf l r f = sumIf l p f + sumIf l q f := by
  induction l with
  | nil => rfl
  | cons a t ih =>
    rw [sumIf_cons, sumIf_cons, sumIf_cons, hr a List.mem_cons_self,
      ih (fun i hi => hr i (List.mem_cons_of_mem _ hi)) (fun i hi => hd i (List.mem_cons_of_mem _ hi))]
    have hsplit : (if (p a || q a) = true then f a else 0) =
        (if p a = true then f a else 0) + (if q a = true then f a else 0) := by
      cases hp : p a
      · rw [Bool.false_or, if_neg Bool.false_ne_true, Int.zero_add]
      · rw [Bool.eq_false_iff.mpr fun hq => hd a List.mem_cons_self ⟨hp, hq⟩, Bool.or_false, if_pos rfl,
          if_neg Bool.false_ne_true, Int.add_zero]
    omega

/-- changing the selection at one entry of a duplicate-free list moves that entry's term -/
theorem sumIf_update {l : List Nat} (hl : l.Nodup) {i : Nat} (hi : i ∈ l) {p p' : Nat → Bool} (f : Nat → Int)
    (h : ∀ j ∈ l, j ≠ i → p' j = p j) :
    sumIf l p' f + (if p i then f i else 0) = sumIf l p f + (if p' i then f i else 0) := by
  induction l with
  | nil => cases hi
  | cons a t ih =>
    rw [sumIf_cons, sumIf_cons]
    obtain ⟨hat, ht⟩ := List.nodup_cons.mp hl
    by_cases hai : a = i
    · subst hai
      rw [sumIf_congr f fun j hj => h j (List.mem_cons_of_mem _ hj) fun e => hat (e ▸ hj)]
      omega
    · have := ih ht ((List.mem_cons.mp hi).resolve_left (Ne.symm hai))
        fun j hj => h j (List.mem_cons_of_mem _ hj)
      rw [h a List.mem_cons_self hai]
      omega

theorem sumIf_eq_single {l : List Nat} (hl : l.Nodup) {o : Nat} (ho : o ∈ l) {p : Nat → Bool} (f : Nat → Int)
    (h : ∀ j ∈ l, p j = true ↔ j = o) : sumIf l p f = f o := by
  have := sumIf_update hl ho f (p := fun _ => false) (p' := p)
    (fun j hj hne => Bool.eq_false_iff.mpr fun hp => hne ((h j hj).mp hp))
  rw [sumIf_false f (fun _ _ => rfl), (h o ho).mpr rfl] at this
  simpa using this

/-- relabelling one cell of the raster moves its weight into the class of the new label -/
theorem sumIf_set (M : Array Int) {i n : Nat} (hi : i < n) (hsz : M.size = n) (v t : Int) (h0 : M[i]! ≠ t)
    (f : Nat → Int) :
    sumIf (List.range n) (fun j => (M.setIfInBounds i v)[j]! == t) f =
      sumIf (List.range n) (fun j => M[j]! == t) f + if v = t then f i else 0 := by
  have := sumIf_update List.nodup_range (List.mem_range.mpr hi) f
    (p := fun j => M[j]! == t) (p' := fun j => (M.setIfInBounds i v)[j]! == t)
    (fun j _ hj => by simp only [get!_setIfInBounds]; rw [if_neg fun h => hj h.1.symm])
  have e1 : ((M.setIfInBounds i v)[i]! == t) = (v == t) := by
    rw [get!_setIfInBounds, if_pos ⟨rfl, hsz ▸ hi⟩]
  simp only [e1, beq_false_of_ne h0, Bool.false_eq_true, if_false, beq_iff_eq] at this
  omega

/-- the sum over the classes `1 … m` of a labelling is the sum over their union -/
theorem sumIf_range_classes (l : List Nat) (lab : Nat → Int) (f : Nat → Int) (p : Nat → Bool) (g : Nat → Int)
    (bound : Nat)
    (hg : ∀ k, k < bound → (if p k then g k else 0) = sumIf l (fun i => lab i == (k : Int) + 1) f) :
    ∀ m, m ≤ bound →
      sumIf (List.range m) p g = sumIf l (fun i => decide (1 ≤ lab i ∧ lab i ≤ (m : Int))) f
  | 0, _ => (sumIf_false f fun i _ => decide_eq_false (by omega)).symm
  | m+1, hm => by
    rw [List.range_succ, sumIf_append, sumIf_singleton,
      sumIf_range_classes l lab f p g bound hg m (Nat.le_of_succ_le hm), hg m hm]
    refine (sumIf_or f (fun i _ => ?_) (fun i _ => ?_)).symm
    · -- `x ≤ m + 1` is `x ≤ m` or `x = m + 1`, and `m + 1` is at least 1
      rw [Bool.eq_iff_iff, Bool.or_eq_true, decide_eq_true_eq, decide_eq_true_eq, beq_iff_eq, Int.natCast_succ,
        Int.le_add_one_iff, and_or_left]
      exact or_congr_right (and_iff_right_of_imp fun h => h ▸ Int.le_add_of_nonneg_left (Int.natCast_nonneg m))
    · rw [decide_eq_true_eq, beq_iff_eq]
      exact fun h => Int.lt_irrefl _ (Int.lt_of_le_of_lt (h.2 ▸ h.1.2) (Int.lt_succ _))

/-! ### the second loop of `ucat_area`: labels and accumulated weights -/

/-- `v` is no label, or `p + 1` for a listed, in-range outlet pixel whose LAST position is `p` -/
def IsLabel (n : Nat) (outs : List Nat) (v : Int) : Prop :=
  v = 0 ∨ ∃ p c : Nat, outs[p]? = some c ∧ c < n ∧ v = (p : Int) + 1 ∧ ∀ q : Nat, outs[q]? = some c → q ≤ p

theorem isLabel_seed (n : Nat) (outs : List Nat) (j : Nat) : IsLabel n outs (mapSeed n outs)[j]! := by
  by_cases h : (mapSeed n outs)[j]! = 0
  · exact Or.inl h
  · obtain ⟨hj, p, hp, hv, hmx⟩ := mapSeed_ne_zero h
    exact Or.inr ⟨p, j, hp, hj, hv, hmx⟩

theorem isLabel_succ_iff {n : Nat} {outs : List Nat} {k : Nat} :
    IsLabel n outs ((k : Int) + 1) ↔
      ∃ c, outs[k]? = some c ∧ c < n ∧ ∀ q : Nat, outs[q]? = some c → q ≤ k := by
  constructor
  · rintro (h | ⟨p, c, hp, hc, hv, hmx⟩)
    · omega
    · obtain rfl : k = p := by omega
      exact ⟨c, hp, hc, hmx⟩
  · rintro ⟨c, hk, hc, hmx⟩
    exact Or.inr ⟨k, c, hk, hc, rfl, hmx⟩

/-- invariant of the second loop, for ANY list of cells of the raster: every label is the last position
of a listed outlet pixel (`label`), and what entry `k` has gained over its seed value is the weight of the
cells that have gained label `k + 1` (`acc`); both arrays keep their sizes (`size_map`, `size_acc`), which is
what makes the two guarded writes of a step take effect -/
structure UcatInv (n : Nat) (outs : List Nat) (w : Nat → Int) (st : Array Int × Array Int) : Prop where
  size_map : st.1.size = n
  size_acc : st.2.size = outs.length
  label : ∀ j : Nat, IsLabel n outs st.1[j]!
  acc : ∀ k : Nat, st.2[k]! + sumIf (List.range n) (fun i => (mapSeed n outs)[i]! == (k : Int) + 1) w =
    (accSeed n outs w)[k]! + sumIf (List.range n) (fun i => st.1[i]! == (k : Int) + 1) w

theorem ucatInv_step {n : Nat} {outs : List Nat} {w : Nat → Int} {st : Array Int × Array Int}
    (h : UcatInv n outs w st) (ds : Array Nat) {i : Nat} (hi : i < n) :
    UcatInv n outs w (ucatStep ds w st i) := by
  unfold ucatStep
  by_cases hc : st.1[i]! = 0 ∧ st.1[ds[i]!]! ≠ 0
  · obtain ⟨p, c, hp, _, hv, _⟩ := (h.label ds[i]!).resolve_left hc.2
    have hplt : p < st.2.size := h.size_acc ▸ (List.getElem?_eq_some_iff.mp hp).1
    rw [if_pos hc, hv, Int.add_sub_cancel, Int.toNat_natCast]
    refine ⟨(Array.size_setIfInBounds ..).trans h.size_map, (Array.size_setIfInBounds ..).trans h.size_acc,
      fun j => ?_, fun k => ?_⟩
    · rw [get!_setIfInBounds]
      split
      · exact hv ▸ h.label ds[i]!
      · exact h.label j
    · -- the weight of cell `i` enters entry `p` and the class of label `p + 1`
      rw [get!_setIfInBounds, sumIf_set st.1 hi h.size_map _ _ (hc.1 ▸ Int.ne_of_lt (Int.succ_ofNat_pos k))]
      by_cases hpk : p = k
      · subst hpk
        rw [if_pos ⟨rfl, hplt⟩, if_pos rfl, Int.add_right_comm, h.acc p, Int.add_assoc]
      · rw [if_neg fun h => hpk h.1, if_neg fun h => hpk (Int.ofNat_inj.mp ((Int.add_left_inj 1).mp h)),
          Int.add_zero]
        exact h.acc k
  · rw [if_neg hc]
    exact h

theorem ucatAccum_inv (ds : Array Nat) (seq outs : List Nat) (w : Nat → Int) (hb : ∀ i ∈ seq, i < ds.size) :
    UcatInv ds.size outs w (ucatAccum ds seq outs w) :=
  foldl_inv (ucatStep ds w) (UcatInv ds.size outs w) seq (fun _ i hi h => ucatInv_step h ds (hb i hi)) _
    ⟨size_mapSeed .., accSeed_size .., isLabel_seed _ _, fun _ => rfl⟩

/-- entry `k` of an outlet pixel whose last entry it is: the weight of the cells with label `k + 1` -/
theorem UcatInv.acc_label {n : Nat} {outs : List Nat} {w : Nat → Int} {st : Array Int × Array Int}
    (h : UcatInv n outs w st) {k : Nat} (hl : IsLabel n outs ((k : Int) + 1)) :
    st.2[k]! = sumIf (List.range n) (fun i => st.1[i]! == (k : Int) + 1) w := by
  obtain ⟨o, hk, ho, hlast⟩ := isLabel_succ_iff.mp hl
  have hseed : sumIf (List.range n) (fun i => (mapSeed n outs)[i]! == (k : Int) + 1) w = w o := by
    refine sumIf_eq_single List.nodup_range (List.mem_range.mpr ho) w fun j hj => ?_
    rw [beq_iff_eq, mapSeed_get, if_pos (List.mem_range.mp hj), lastPos1_eq_succ_iff]
    exact ⟨fun hj => Option.some.inj (hj.1.symm.trans hk), fun hj => hj ▸ ⟨hk, hlast⟩⟩
  have := h.acc k
  rw [hseed, accSeed_get _ _ _ k o hk, if_pos (Nat.ne_of_lt ho)] at this
  omega

/-- entry `k` of a missing outlet, or of a pixel that is listed again later: nothing is added to the seed
value and no cell carries label `k + 1` -/
theorem UcatInv.acc_not_label {n : Nat} {outs : List Nat} {w : Nat → Int} {st : Array Int × Array Int}
    (h : UcatInv n outs w st) {k : Nat} (hk : ¬ IsLabel n outs ((k : Int) + 1)) :
    st.2[k]! = (accSeed n outs w)[k]! ∧ ∀ i : Nat, st.1[i]! ≠ (k : Int) + 1 := by
  have hno : ∀ i : Nat, st.1[i]! ≠ (k : Int) + 1 := fun i hi => hk (hi ▸ h.label i)
  have hno' : ∀ i : Nat, (mapSeed n outs)[i]! ≠ (k : Int) + 1 := fun i hi => hk (hi ▸ isLabel_seed n outs i)
  have := h.acc k
  rw [sumIf_false w fun i _ => beq_false_of_ne (hno i), sumIf_false w fun i _ => beq_false_of_ne (hno' i)] at this
  exact ⟨by omega, hno⟩

/-- the entries counted in the totals (not missing, last entry of their pixel) are those whose position
is a label -/
theorem lastEntry_iff_isLabel {n : Nat} {outs : List Nat} (hrange : ∀ o ∈ outs, o ≤ n) {k : Nat}
    (hk : k < outs.length) :
    (outs[k]! != n && lastPos1 outs outs[k]! == (k : Int) + 1) = true ↔ IsLabel n outs ((k : Int) + 1) := by
  have hget : outs[k]? = some outs[k] := List.getElem?_eq_getElem hk
  rw [getElem!_pos outs k hk, Bool.and_eq_true_iff, bne_iff_ne, beq_iff_eq, lastPos1_eq_succ_iff,
    isLabel_succ_iff]
  constructor
  · rintro ⟨hne, hc, hmx⟩
    exact ⟨_, hc, Nat.lt_of_le_of_ne (hrange _ (List.getElem_mem hk)) hne, hmx⟩
  · rintro ⟨c, hc, hlt, hmx⟩
    obtain rfl : outs[k] = c := Option.some.inj (hget.symm.trans hc)
    exact ⟨Nat.ne_of_lt hlt, hc, hmx⟩

end Pf.C10
