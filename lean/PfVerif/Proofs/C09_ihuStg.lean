import PfVerif.Proofs.C09_ihuRel2
import PfVerif.Proofs.C09_ihuNew
/-! `new_outlet`, `ihu_optimize_rivlen`, `ihu_minimize_error`, `upscale_check` and the `niter` loop of `ihu` keep the
well-formedness invariant `WArr` and never run out of fuel (C09 extension). -/
namespace Pf.C09ihu
open Pf

/-! ### `new_outlet` -/

theorem newOutletWalk_valid (ds : Array Nat) (streams : Array Int) (hwf : FineWF ds) :
    ∀ fuel p path r, newOutletWalk ds streams fuel p path = some r → ValidPx ds p → ValidPx ds r.2.2 := by
  intro fuel
  induction fuel with
  | zero => intro p path r h; simp [newOutletWalk] at h
  | succ f ih =>
    intro p path r h hp
    simp only [newOutletWalk] at h
    split at h
    · cases h; exact hwf.next hp
    · exact ih _ _ _ h (hwf.next hp)

/-- `new_outlet` never runs out of fuel when every valid pixel reaches a pit and missing pixels carry no upstream area
above `minupa` -/
theorem newOutlet_isSome (ds : Array Nat) (upa : Array Int) (idx0 subidx0 : Nat) (streams : Array Int)
    (cds out : Array Nat) (ncol subncol cs minNum minDen : Nat) (minupa : Int) (target : Option Nat)
    (hr : ∀ p, ValidPx ds p → ∃ k, k ≤ ds.size ∧ PitAt ds k p)
    (hup : ∀ p, p < ds.size → ds[p]! = ds.size → upa[p]! ≤ minupa) :
    (newOutlet ds upa idx0 subidx0 streams cds out ncol subncol cs minNum minDen minupa target).isSome = true := by
  unfold newOutlet
  dsimp only
  generalize hX : List.foldlM (m := Option) _ (minupa, (none : Option (Nat × Nat × List Nat))) _ = X
  have key : ∃ res, X = some res ∧ minupa ≤ res.1 := by
    rw [← hX]
    refine foldlM_tot _ (fun (st : Int × Option (Nat × Nat × List Nat)) => minupa ≤ st.1) _ ?_ _ (Int.le_refl _)
    intro st cand hmem hst
    by_cases hskip : (streams.setIfInBounds subidx0 (-1))[cand]! ≠ -9 ∨ upa[cand]! ≤ st.1
    · rw [if_pos hskip]; exact ⟨st, rfl, hst⟩
    rw [if_neg hskip]
    simp only [not_or, Int.not_le] at hskip
    have hlt := (outletPix_mem ds idx0 ncol subncol cs cand hmem).1
    have hv : ValidPx ds cand := ⟨hlt, fun heq => by have := hup cand hlt heq; omega⟩
    obtain ⟨r, hw⟩ := Option.isSome_iff_exists.mp
      ((newOutletWalk_walk ds (streams.setIfInBounds subidx0 (-1)) ds.size).isSome (hr _ hv) [])
    obtain ⟨path, last, pds⟩ := r
    rw [hw]
    dsimp only
    exact ite_ind (P := fun o => ∃ b' : Int × Option (Nat × Nat × List Nat), o = some b' ∧ minupa ≤ b'.1)
      (fun _ => ⟨_, rfl, Int.le_of_lt (Int.lt_of_le_of_lt hst hskip.2)⟩) fun _ => ⟨_, rfl, hst⟩
  obtain ⟨⟨u, sel⟩, hres, _⟩ := key
  rw [hres]
  cases sel <;> rfl
section stg
variable {e : Env} {n : Nat} {W : Nat → Nat → Nat → Prop} {A B : Nat → Prop}

/-- the hypotheses on the fine network shared by the totality statements -/
structure FineOK (e : Env) (par : Par) : Prop where
  reach : ∀ p, ValidPx e.ds p → ∃ k, k ≤ e.ds.size ∧ PitAt e.ds k p
  /-- missing pixels carry no upstream area above `minupa` (the nodata value of `upstream_area` is -9999) -/
  upa : ∀ p, p < e.ds.size → e.ds[p]! = e.ds.size → e.upa[p]! ≤ par.minupa

theorem cell_eq (e : Env) (p : Nat) (hp : p < e.ds.size) : e.cell p = subidx2idx p e.subncol e.cs e.ncol := by
  simp [Env.cell, hp]

/-- one call of `new_outlet` on a well-formed pair: defined, well formed again -/
theorem newOutletE_tot (hw : WCtx e n W) (par : Par) (hf : FineOK e par) (idx0 subidx0 : Nat) (streams : Array Int)
    (cds out : Array Nat) (target : Option Nat) (h : WArr e n W A B cds out) :
    ∃ s' c' o' f, newOutletE e par idx0 subidx0 streams cds out target = some (s', c', o', f) ∧
      WArr e n W A B c' o' := by
  unfold newOutletE
  obtain ⟨⟨s', c', o', f⟩, hnew⟩ := Option.isSome_iff_exists.mp (newOutlet_isSome e.ds e.upa idx0 subidx0 streams cds out
    e.ncol e.subncol e.cs par.minNum par.minDen par.minupa target hf.reach hf.upa)
  refine ⟨s', c', o', f, hnew, ?_⟩
  rcases newOutlet_cases _ _ _ _ _ _ _ _ _ _ _ _ _ _ _ _ _ _ hnew with
    ⟨_, rfl, rfl⟩ | ⟨p, v, path, ⟨hmem, _, hupa, last, q, hwalk, hv, hd8⟩, _, rfl, rfl⟩
  · exact h
  · dsimp only at hupa hwalk hv hd8
    have hplt := (outletPix_mem e.ds idx0 e.ncol e.subncol e.cs p hmem).1
    have hp : ValidPx e.ds p := ⟨hplt, fun heq => by have := hf.upa p hplt heq; omega⟩
    have hq : ValidPx e.ds q := newOutletWalk_valid e.ds _ hw.wf _ _ _ _ hwalk hp
    refine h.setBoth hw idx0 v p fun _ => ⟨?_, hd8, hp⟩
    rw [show v = subidx2idx q e.subncol e.cs e.ncol from hv, ← cell_eq e q hq.1]; exact hw.cell q hq

/-! ### `ihu_optimize_rivlen` -/

theorem rivlenOne_tot (hw : WCtx e n W) (par : Par) (hf : FineOK e par) (valid : Array Bool) (hvs : valid.size ≤ n)
    (st : Tri) (idx0 : Nat) (h : WArr e n W A B st.2.1 st.2.2) :
    ∃ r, rivlenOne e par valid st idx0 = some r ∧ WArr e n W A B r.1.2.1 r.1.2.2 := by
  obtain ⟨streams, cds, out⟩ := st
  dsimp only at h
  have h' := h.keepAll
  obtain ⟨s1, c1, o1, f, hnew, hw1⟩ := newOutletE_tot hw par hf idx0 out[idx0]! streams cds out none h'
  obtain ⟨r, hr⟩ := Option.isSome_iff_exists.mp
    (rivlenOne_isSome e par valid streams cds out idx0 (by rw [hnew]; rfl))
  refine ⟨r, hr, ?_⟩
  rcases rivlenOne_cases e par valid streams cds out idx0 r hr with h1 | ⟨hv0, hv1, _, _, _, _, hnew', hP⟩
  · rw [h1]; exact h
  · rw [hnew] at hnew'
    cases hnew'
    have hi1 : cds[idx0]! < n := Nat.lt_of_lt_of_le (bool_get_lt valid _ hv1) hvs
    have hi0 : idx0 < n := Nat.lt_of_lt_of_le (bool_get_lt valid _ hv0) hvs
    refine WArr.mono (hP (fun st => WArr e n W (fun c => A c ∨ cds[c]! ≠ n) (fun c => B c ∨ out[c]! ≠ e.ds.size)
      st.2.1 st.2.2) hw1 ?_ ?_) (fun _ ha => Or.inl ha) (fun _ hb => Or.inl hb)
    · intro s c o idx hidx _ hd8 hst
      obtain ⟨hidxlt, hidxds⟩ := upstreamD8_mem _ _ _ _ _ hidx
      rw [hw.ncell] at hidxlt
      refine hst.setDs hw idx _ fun _ => ⟨hi1, hd8, hst.actO idx hidxlt (Or.inr ?_)⟩
      have := (h.valid_of_link hw idx hidxlt (by rw [hidxds]; omega)).1
      show out[idx]! ≠ e.ds.size
      omega
    · intro s c o hst
      exact hst.setPair idx0 _ _ fun _ =>
        ⟨h.ok idx0 hi0, fun _ => by omega, fun hb => hb.elim (h.actO idx0 hi0) id⟩

theorem optimizeRivlen_tot (hw : WCtx e n W) (par : Par) (hf : FineOK e par) (short : List Nat) (valid : Array Bool)
    (hvs : valid.size ≤ n) (st : Tri) (h : WArr e n W A B st.2.1 st.2.2) :
    ∃ st', optimizeRivlen e par short valid st = some st' ∧ WArr e n W A B st'.2.1 st'.2.2 := by
  unfold optimizeRivlen
  refine foldlM_tot _ (fun (st : Tri) => WArr e n W A B st.2.1 st.2.2) short ?_ _ h
  intro b i _ hb
  obtain ⟨⟨st1, b1⟩, h1, hw1⟩ := rivlenOne_tot hw par hf valid hvs b i hb
  dsimp only
  rw [h1]
  cases b1 with
  | true => exact ⟨st1, rfl, hw1⟩
  | false =>
    obtain ⟨⟨st2, b2⟩, h2, hw2⟩ := rivlenOne_tot hw par hf valid hvs st1 b.2.1[i]! hw1
    dsimp only
    rw [h2]
    exact ⟨st2, rfl, hw2⟩

/-! ### `ihu_minimize_error` -/

theorem nbWalk_w (hw : WCtx e n W) (out : Array Nat) (idxs : List Nat) (idx0 idx1 : Nat) (upa : Int)
    (hset : idx0 < n → idx1 < n ∧ inD8 idx0 idx1 e.ncol = true ∧ out[idx0]! ≠ e.ds.size) (k j idx : Nat) (s : Nb)
    (h : WArr e n W A B s.cds out) : WArr e n W A B (nbWalk e out idxs idx0 idx1 upa k j idx s).cds out := by
  rcases nbWalk_res e out idxs idx0 idx1 upa k j idx s with h1 | ⟨_, _, h1⟩ | h1
  · rw [h1]; exact h
  · rw [h1]; exact h.setDs hw _ _ hset
  · rw [h1]; exact h

theorem nbSearch_w (hw : WCtx e n W) (out : Array Nat) (idxs : List Nat) (idx0 : Nat) (d8 : List Nat)
    (cds : Array Nat) (fixed : Bool) (hd8 : ∀ i ∈ d8, i < n ∧ inD8 idx0 i e.ncol = true)
    (hout0 : idx0 < n → out[idx0]! ≠ e.ds.size) (h : WArr e n W A B cds out) :
    WArr e n W A B (nbSearch e out idxs idx0 d8 cds fixed).cds out := by
  unfold nbSearch
  split
  · exact h
  · refine foldl_inv _ (fun (s : Nb) => WArr e n W A B s.cds out) _ ?_ _ h
    intro s idx1 hi hs
    split
    · exact hs
    · exact nbWalk_w hw out idxs idx0 idx1 _ (fun hlt => ⟨(hd8 _ hi).1, (hd8 _ hi).2, hout0 hlt⟩) _ _ _ _ hs

theorem minErrPass_isSome (par : Par) (hf : FineOK e par) (idxs : List Nat) (idx0 : Nat) (d8 : List Nat) :
    ∀ pass fixed st, (minErrPass e par idxs idx0 d8 pass fixed st).isSome = true := by
  intro pass
  induction pass with
  | zero => intro fixed st; rfl
  | succ k ih =>
    intro fixed ⟨streams, cds, out⟩
    rw [minErrPass]
    dsimp only
    refine ite_ind (P := fun x : Option Tri => x.isSome = true) (fun _ => ?_) fun _ => rfl
    generalize hX : List.foldlM (m := Option) _
      (((streams, (nbSearch e out idxs idx0 d8 cds fixed).cds, out), false) : Tri × Bool) _ = X
    obtain ⟨x, hx, _⟩ : ∃ x, X = some x ∧ True := by
      rw [← hX]
      refine foldlM_tot _ (fun _ => True) _ (fun ⟨⟨s2, c2, o2⟩, f2⟩ idx _ _ => ?_) _ trivial
      dsimp only
      refine ite_ind (P := fun x : Option (Tri × Bool) => ∃ b', x = some b' ∧ True) (fun _ => ⟨_, rfl, trivial⟩) fun _ => ?_
      obtain ⟨r, hr⟩ := Option.isSome_iff_exists.mp (newOutlet_isSome e.ds e.upa idx o2[idx]! s2 c2 o2 e.ncol e.subncol
        e.cs par.minNum par.minDen par.minupa (some o2[idxs.head!]!) hf.reach hf.upa)
      unfold newOutletE
      rw [hr]
      exact ⟨_, rfl, trivial⟩
    rw [hx]
    exact ih _ _

theorem minErrOne_tot (hw : WCtx e n W) (par : Par) (hf : FineOK e par) (poc : Nat) (st : Tri) (idx0 : Nat)
    (hlt : idx0 < n) (hb : B idx0) (h : WArr e n W A B st.2.1 st.2.2) :
    ∃ st', minErrOne e par poc st idx0 = some st' ∧ WArr e n W A B st'.2.1 st'.2.2 := by
  have hv0 : ValidPx e.ds st.2.2[idx0]! := h.valid_of_out hw idx0 hlt (h.actO idx0 hlt hb)
  have hd8 : ∀ i ∈ d8Idx idx0 e.nrow e.ncol, i < n ∧ inD8 idx0 i e.ncol = true :=
    fun i hi => hw.ncell ▸ d8Idx_mem _ _ _ _ hi
  have hsome : (minErrOne e par poc st idx0).isSome = true := by
    obtain ⟨x, hpath⟩ := Option.isSome_iff_exists.mp ((errPath_walk e st.1 idx0 e.ds.size).isSome (hf.reach _ hv0) [])
    unfold minErrOne
    dsimp only
    rw [hpath]
    dsimp only
    refine ite_ind (P := fun x : Option Tri => x.isSome = true) (fun _ => rfl) fun _ => ?_
    obtain ⟨r, hr⟩ : ∃ r, (if ((d8Idx idx0 e.nrow e.ncol).all fun i => st.2.1[i]! != idx0) = true then
        newOutletE e par idx0 st.2.2[idx0]! st.1 st.2.1 st.2.2 none else some (st.1, st.2.1, st.2.2, false)) = some r :=
      ite_ind (P := fun x : Option (Array Int × Array Nat × Array Nat × Bool) => ∃ r, x = some r)
        (fun _ => Option.isSome_iff_exists.mp (newOutlet_isSome _ _ _ _ _ _ _ _ _ _ _ _ _ _ hf.reach hf.upa))
        fun _ => ⟨_, rfl⟩
    rw [hr]
    exact minErrPass_isSome par hf _ _ _ _ _ _
  obtain ⟨st', hst'⟩ := Option.isSome_iff_exists.mp hsome
  refine ⟨st', hst', minErrOne_lift (fun st => WArr e n W A B st.2.1 st.2.2) poc idx0 ?_ ?_ ?_ st st' hst' h⟩
  · intro s c o idxs subidx hpath hpit _ _ hst
    have hvs := (errPath_res e _ _ (ValidPx e.ds) (fun _ => hw.wf.next) _ _ _ _ hpath
      (hst.valid_of_out hw idx0 hlt (hst.actO idx0 hlt hb))).2.1
    exact hst.setBoth hw idx0 idx0 subidx fun _ => ⟨hlt, inD8_self _ _, hvs⟩
  · intro s c o idx tgt r _ hst hnew
    obtain ⟨_, _, _, _, hnew', hw'⟩ := newOutletE_tot hw par hf idx o[idx]! s c o tgt hst
    rw [hnew] at hnew'
    cases hnew'
    exact hw'
  · intro s c o idxs fixed hst
    exact nbSearch_w hw o idxs idx0 _ c fixed hd8 (fun hlt => hst.actO idx0 hlt hb) hst

theorem minimizeError_tot (hw : WCtx e n W) (par : Par) (hf : FineOK e par) (poc : Nat) (fix : List Nat) (st : Tri)
    (sorts : Sorts) (hfix : ∀ c ∈ fix, c < n ∧ B c) (h : WArr e n W A B st.2.1 st.2.2) :
    ∃ r, minimizeError e par poc fix st sorts = some r ∧ WArr e n W A B r.1.2.1 r.1.2.2 := by
  unfold minimizeError
  have htake := Sorts.take_ok sorts (fix.map fun c => e.upa[st.2.2[c]!]!).toArray
  generalize sorts.take (fix.map fun c => e.upa[st.2.2[c]!]!).toArray = tk at htake
  obtain ⟨seq, sorts'⟩ := tk
  simp only [List.size_toArray, List.length_map] at htake
  obtain ⟨st', hfold, hst'⟩ := foldlM_tot (fun st i0 => minErrOne e par poc st fix[i0]!)
    (fun (st : Tri) => WArr e n W A B st.2.1 st.2.2) seq.reverse
    (by
      intro b i0 hi0 hb
      have hf' := hfix _ (getElem!_mem fix i0 (htake.2 i0 (List.mem_reverse.mp hi0)))
      exact minErrOne_tot hw par hf poc b _ hf'.1 hf'.2 hb) st h
  dsimp only
  rw [hfold]
  exact ⟨_, rfl, hst'⟩

end stg

/-! ### `upscale_check` -/

/-- `upscale_check` is defined when every linked cell has a valid outlet pixel; `valid` has one entry per coarse cell
and the cells reported as erroneous are linked cells -/
theorem upscaleCheck_tot (ds out cds : Array Nat) (minNum minDen : Nat)
    (hr : ∀ p, ValidPx ds p → ∃ k, k ≤ ds.size ∧ PitAt ds k p)
    (hv : ∀ c, c < cds.size → cds[c]! ≠ cds.size → ValidPx ds out[c]!) :
    ∃ r, upscaleCheck ds out cds minNum minDen = some r ∧ r.1.size = cds.size ∧
      ∀ c ∈ r.2.2.1, c < cds.size ∧ cds[c]! ≠ cds.size := by
  unfold upscaleCheck
  apply foldlM_tot (P := fun (st : Array Bool × Array Int × List Nat × List Nat) =>
    st.1.size = cds.size ∧ ∀ c ∈ st.2.2.1, c < cds.size ∧ cds[c]! ≠ cds.size)
  · intro st idx0 hidx hst
    obtain ⟨valid, streams, fix, short⟩ := st
    have hlt := List.mem_range.mp hidx
    dsimp only at hst ⊢
    by_cases hne : cds[idx0]! = cds.size
    · rw [if_pos hne]; exact ⟨_, rfl, hst⟩
    rw [if_neg hne]
    obtain ⟨⟨q, d, s'⟩, hcw⟩ := Option.isSome_iff_exists.mp
      ((checkWalk_walk ds ds.size).isSome (hr _ (hv idx0 hlt hne)) (0, streams))
    rw [hcw]
    dsimp only
    let P : Option (Array Bool × Array Int × List Nat × List Nat) → Prop := fun o =>
      ∃ b', o = some b' ∧ b'.1.size = cds.size ∧ ∀ c ∈ b'.2.2.1, c < cds.size ∧ cds[c]! ≠ cds.size
    refine ite_ind (P := P) (fun _ => ?_) fun _ => ite_ind (P := P) (fun _ => ⟨_, rfl, hst⟩) fun _ => ⟨_, rfl, hst⟩
    refine ⟨_, rfl, (Array.size_setIfInBounds ..).trans hst.1, fun c hc => ?_⟩
    rcases List.mem_append.mp hc with hc | hc
    · exact hst.2 c hc
    · rw [List.mem_singleton.mp hc]; exact ⟨hlt, hne⟩
  · exact ⟨by simp, fun c hc => by cases hc⟩

/-! ### the `niter` loop -/

section loop
variable {e : Env} {n : Nat} {W : Nat → Nat → Nat → Prop}

/-- the invariant between the stages: no cell singled out -/
abbrev WOK (e : Env) (n : Nat) (W : Nat → Nat → Nat → Prop) (cds out : Array Nat) : Prop :=
  WArr e n W (fun _ => False) (fun _ => False) cds out

theorem ihuLoop_tot (hw : WCtx e n W) (par : Par) (hf : FineOK e par) (o : IhuOpt) :
    ∀ k fix cds out sorts, WOK e n W cds out → (∀ c ∈ fix, c < n ∧ out[c]! ≠ e.ds.size) →
      ∃ r, ihuLoop e par o k fix cds out sorts = some r ∧ WOK e n W r.1 r.2.1 := by
  intro k
  induction k with
  | zero => intro fix cds out sorts h _; exact ⟨_, rfl, h⟩
  | succ k ih =>
    intro fix cds out sorts h hfix
    obtain ⟨r, hrel, hwr⟩ := relocateOutlets_tot hw hf.reach fix cds out sorts
      h.keepOut
      hfix
    obtain ⟨⟨valid, streams, fix1, short⟩, hchk, hvsz, hfix1⟩ := upscaleCheck_tot e.ds r.out r.cds par.minNum par.minDen
      hf.reach (fun c hc hne => hwr.valid_of_link hw c (by rw [← hwr.szc]; exact hc) (by rw [← hwr.szc]; exact hne))
    simp only at hvsz hfix1
    have hwr' : WArr e n W (fun c => r.cds[c]! ≠ n) (fun c => r.out[c]! ≠ e.ds.size) r.cds r.out :=
      hwr.self (fun _ _ hh => hh) (fun _ _ hh => hh)
    have h1 : ∃ st1, (if o.optRivlen = true then optimizeRivlen e par short valid (streams, r.cds, r.out)
        else some (streams, r.cds, r.out)) = some st1 ∧
        WArr e n W (fun c => r.cds[c]! ≠ n) (fun c => r.out[c]! ≠ e.ds.size) st1.2.1 st1.2.2 := by
      split
      · exact optimizeRivlen_tot hw par hf short valid (by rw [hvsz, hwr.szc]; exact Nat.le_refl _) _ hwr'
      · exact ⟨_, rfl, hwr'⟩
    obtain ⟨st1, hst1, hw1⟩ := h1
    have hfixB : ∀ c ∈ fix1, c < n ∧ r.out[c]! ≠ e.ds.size := by
      intro c hc
      have := hfix1 c hc
      rw [hwr.szc] at this
      have hv := (hwr.valid_of_link hw c this.1 this.2).1
      exact ⟨this.1, by omega⟩
    have h2 : ∀ poc, ∃ r2, (if o.minError = true then minimizeError e par poc fix1 st1 r.sorts
        else some (st1, r.sorts)) = some r2 ∧
        WArr e n W (fun c => r.cds[c]! ≠ n) (fun c => r.out[c]! ≠ e.ds.size) r2.1.2.1 r2.1.2.2 := by
      intro poc
      split
      · exact minimizeError_tot hw par hf poc fix1 st1 r.sorts hfixB hw1
      · exact ⟨_, rfl, hw1⟩
    obtain ⟨⟨⟨s2, c2, o2⟩, sorts2⟩, hst2, hw2⟩ := h2
      (if (fix1.isEmpty || fix1.length == fix.length || k == 0) = true then o.poc else 0)
    simp only at hw2
    simp only [ihuLoop, hrel, hchk, hst1, hst2]
    split
    · exact ⟨_, rfl, hw2.self (fun _ _ hh => hh.elim) (fun _ _ hh => hh.elim)⟩
    · refine ih fix1 c2 o2 sorts2 (hw2.self (fun _ _ hh => hh.elim) (fun _ _ hh => hh.elim)) ?_
      intro c hc
      have := hfixB c hc
      exact ⟨this.1, hw2.actO c this.1 this.2⟩

end loop

end Pf.C09ihu
