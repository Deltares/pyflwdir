import PfVerif.Proofs.C19Split
/-! The decidable certificate `StreamsOK` (C19): each clause as a proposition, and what the clauses imply. -/
namespace Pf.C19
open Pf

theorem head!_cons (x : Nat) (r : List Nat) : (x :: r).head! = x := rfl

/-- the start/end clause of the certificate for one stream feature, relative to the list `G` of
stream features it may chain to -/
def EndsP (ds : Array Nat) (mask : Option (Array Bool)) (m : Nat) (G : List (List Nat)) (f : List Nat) : Prop :=
  ∃ s e, f.head? = some s ∧ f.getLast? = some e ∧ inStream ds mask s = true ∧
    (nupM ds mask s ≠ 1 ∨ (0 < m ∧ ∃ g ∈ G, 2 ≤ g.length ∧ g.getLast? = some s)) ∧
    (1 < nupM ds mask e ∨ ds[e]! = e ∨ (0 < m ∧ ∃ g ∈ G, 2 ≤ g.length ∧ g.head? = some e))

variable {ds : Array Nat} {mask : Option (Array Bool)} {maxLen : Nat} {feats : List (List Nat)}

theorem bnot_or_iff (a b : Bool) : (!a || b) = true ↔ (a = true → b = true) := by
  cases a <;> simp

/-! ### the clauses of the certificate as propositions -/

theorem streamsOK_iff : StreamsOK ds mask maxLen feats = true ↔
    okLinked ds mask feats = true ∧ okOnce feats = true ∧ okCover ds mask feats = true ∧
    okInterior ds mask feats = true ∧ okEnds ds mask maxLen feats = true ∧
    okPits ds mask feats = true ∧ okSize maxLen feats = true := by
  simp [StreamsOK, Bool.and_eq_true, and_assoc]

theorem okLinked_iff : okLinked ds mask feats = true ↔
    ∀ p ∈ allPairs feats, inStream ds mask p.1 = true ∧ ds[p.1]! = p.2 ∧ p.1 ≠ p.2 := by
  simp [okLinked, and_assoc]

theorem okOnce_iff : okOnce feats = true ↔ ((allPairs feats).map (·.1)).Nodup := by
  simp [okOnce]

theorem okCover_iff : okCover ds mask feats = true ↔
    ∀ i, i < ds.size → inStream ds mask i = true → ds[i]! ≠ i → i ∈ (allPairs feats).map (·.1) := by
  simp only [okCover, List.all_eq_true, List.mem_range, bnot_or_iff, Bool.and_eq_true, bne_iff_ne, ne_eq,
    List.contains_eq_mem, decide_eq_true_eq, and_imp]

theorem okInterior_iff : okInterior ds mask feats = true ↔
    ∀ f ∈ streamFeats feats, ∀ v ∈ interior f, nupM ds mask v ≤ 1 := by
  simp [okInterior]

theorem okEnds_iff : okEnds ds mask maxLen feats = true ↔
    ∀ f ∈ streamFeats feats, EndsP ds mask maxLen (streamFeats feats) f := by
  unfold okEnds EndsP
  rw [List.all_eq_true]
  refine forall₂_congr fun f _ => ?_
  cases f.head? with
  | none => simp
  | some s =>
    cases f.getLast? with
    | none => simp
    | some e =>
      simp only [Option.some.injEq, exists_and_left, exists_eq_left', Bool.and_eq_true, Bool.or_eq_true,
        bne_iff_ne, ne_eq, decide_eq_true_eq, List.any_eq_true, beq_iff_eq, and_assoc, or_assoc, ge_iff_le]

theorem okPits_iff : okPits ds mask feats = true ↔
    (pitFeats feats).Nodup ∧ (∀ f ∈ pitFeats feats, inStream ds mask f.head! = true ∧ ds[f.head!]! = f.head!) ∧
    ∀ p, p < ds.size → inStream ds mask p = true → ds[p]! = p → [p, p] ∈ pitFeats feats := by
  simp only [okPits, List.all_eq_true, List.mem_range, bnot_or_iff, Bool.and_eq_true, beq_iff_eq,
    List.contains_eq_mem, decide_eq_true_eq, and_imp, and_assoc]

theorem okSize_iff : okSize maxLen feats = true ↔
    (0 < maxLen → ∀ f ∈ streamFeats feats, 2 * f.length ≤ 3 * maxLen + 1) := by
  simp [okSize, Nat.pos_iff_ne_zero, Decidable.or_iff_not_imp_left]

/-! ### what the clauses imply -/

theorem path_of_pairs (ds : Array Nat) : ∀ (f : List Nat), (∀ p ∈ pairsOf f, ds[p.1]! = p.2) →
    ∀ k, k < f.length → f[k]? = some (iterA ds k f.head!) := by
  intro f
  induction f with
  | nil => intro _ k hk; simp at hk
  | cons x r ih =>
    intro hp k hk
    cases k with
    | zero => simp [iterA, head!_cons]
    | succ k =>
      cases r with
      | nil => simp at hk
      | cons y r' =>
        have hxy : ds[x]! = y := hp (x, y) (by rw [pairsOf_cons_cons]; simp)
        have := ih (fun p hpm => hp p (by rw [pairsOf_cons_cons]; simp [hpm])) k (by simpa using hk)
        simp only [List.getElem?_cons_succ, head!_cons, iterA] at this ⊢
        rw [hxy]; exact this

theorem mem_allPairs_of_mem {f : List Nat} (hf : f ∈ streamFeats feats) {p : Nat × Nat}
    (hp : p ∈ pairsOf f) : p ∈ allPairs feats :=
  List.mem_flatMap.mpr ⟨f, hf, hp⟩

theorem inStream_spec {i : Nat} (h : inStream ds mask i = true) :
    i < ds.size ∧ isValid ds i = true ∧ maskAt mask i = true := by
  simp only [inStream, Bool.and_eq_true] at h
  have h1 := h.1
  simp only [isValid, Bool.and_eq_true, decide_eq_true_eq] at h1
  exact ⟨h1.1, h.1, h.2⟩

theorem count_link_eq_one (hl : okLinked ds mask feats = true) (ho : okOnce feats = true)
    (hc : okCover ds mask feats = true) (i : Nat) (hi : inStream ds mask i = true) (hnp : ds[i]! ≠ i) :
    (allPairs feats).count (i, ds[i]!) = 1 := by
  have hnd : (allPairs feats).Nodup :=
    List.Pairwise.of_map (·.1) (fun a b h hab => h (by rw [hab])) (okOnce_iff.mp ho)
  obtain ⟨p, hp, hpi⟩ := List.mem_map.mp (okCover_iff.mp hc i (inStream_spec hi).1 hi hnp)
  have hpe : p = (i, ds[i]!) := by
    rw [← hpi, (okLinked_iff.mp hl p hp).2.1]
  rw [List.Nodup.count hnd, if_pos (hpe ▸ hp)]

theorem isPitFeat_iff (f : List Nat) : isPitFeat f = true ↔ ∃ p, f = [p, p] := by
  constructor
  · intro h
    match f, h with
    | [a, b], h =>
      have : a = b := by simpa [isPitFeat] using h
      exact ⟨a, by rw [this]⟩
  · rintro ⟨p, rfl⟩; simp [isPitFeat]

theorem count_pit_eq_one (hp : okPits ds mask feats = true) (p : Nat) (hi : inStream ds mask p = true)
    (hpit : ds[p]! = p) : feats.count [p, p] = 1 := by
  obtain ⟨hnd, _, hall⟩ := okPits_iff.mp hp
  have hpf : isPitFeat [p, p] = true := (isPitFeat_iff _).mpr ⟨p, rfl⟩
  rw [← List.count_filter hpf, ← pitFeats, List.Nodup.count hnd, if_pos (hall p (inStream_spec hi).1 hi hpit)]

theorem pit_feat_is_pit (hp : okPits ds mask feats = true) (f : List Nat) (hf : f ∈ feats)
    (hz : isPitFeat f = true) : ∃ p, f = [p, p] ∧ inStream ds mask p = true ∧ ds[p]! = p := by
  obtain ⟨p, rfl⟩ := (isPitFeat_iff f).mp hz
  exact ⟨p, rfl, (okPits_iff.mp hp).2.1 [p, p] (List.mem_filter.mpr ⟨hf, hz⟩)⟩

end Pf.C19
