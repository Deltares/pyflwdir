import PfVerif.Proofs.C19Split
import PfVerif.Core.Folds
/-! The model of `streams.streams` (C19): what one inner walk returns and which cells it flags (`WalkFrom`,
`WalkM`), fuel totality on downstream-first orders, and the outer loop - every appended feature satisfies
what the features of one walk satisfy, and the link of every visited cell is emitted. -/
namespace Pf.C19
open Pf

/-- `WalkFrom ds nup i tail pit last`: `tail` are the vertices the inner loop appends after `i` -/
inductive WalkFrom (ds : Array Nat) (nup : Array Int) : Nat → List Nat → Bool → Nat → Prop
  | pit (i : Nat) : ds[i]! = i → WalkFrom ds nup i [] true i
  | conf (i : Nat) : ds[i]! ≠ i → nup[ds[i]!]! > 1 → WalkFrom ds nup i [ds[i]!] false ds[i]!
  | step (i : Nat) (tail : List Nat) (pit : Bool) (last : Nat) : ds[i]! ≠ i → ¬ nup[ds[i]!]! > 1 →
      WalkFrom ds nup ds[i]! tail pit last → WalkFrom ds nup i (ds[i]! :: tail) pit last

/-- `WalkM ds nup c tail marked pit last`: the inner loop started at `c` appends `tail` after `c`
and flags exactly the cells `marked` (in walking order) -/
inductive WalkM (ds : Array Nat) (nup : Array Int) : Nat → List Nat → List Nat → Bool → Nat → Prop
  | pit (c : Nat) : ds[c]! = c → WalkM ds nup c [] [c] true c
  | conf (c : Nat) : ds[c]! ≠ c → nup[ds[c]!]! > 1 → WalkM ds nup c [ds[c]!] [c] false ds[c]!
  | step (c : Nat) (tail marked : List Nat) (pit : Bool) (last : Nat) : ds[c]! ≠ c → ¬ nup[ds[c]!]! > 1 →
      WalkM ds nup ds[c]! tail marked pit last → WalkM ds nup c (ds[c]! :: tail) (c :: marked) pit last

theorem get!_set_true (done : Array Bool) (c a : Nat) :
    (done.setIfInBounds c true)[a]! = true ↔ (done[a]! = true ∨ (a = c ∧ a < done.size)) := by
  rw [get!_setIfInBounds]
  by_cases hc : c = a ∧ c < done.size
  · rw [if_pos hc]; simp [hc.1.symm, hc.2]
  · rw [if_neg hc]
    exact ⟨Or.inl, fun h => h.elim id fun ⟨h1, h2⟩ => absurd ⟨h1.symm, h1 ▸ h2⟩ hc⟩

theorem replicate_false_ne_true (n a : Nat) : (Array.replicate n false)[a]! ≠ true := by
  rw [get!_replicate n (a := false) a (Or.inr rfl)]; exact Bool.false_ne_true

/-- the inner `while True`: the vertices it returns and the flags it sets -/
theorem streamWalk_specM (ds : Array Nat) (nup : Array Int) :
    ∀ (fuel c : Nat) (acc : List Nat) (done : Array Bool) (w : WalkRes),
      streamWalk ds nup fuel c acc done = some w →
      ∃ tail marked, WalkM ds nup c tail marked w.pit w.last ∧ w.idxs = acc.reverse ++ tail ∧
        w.done.size = done.size ∧
        ∀ a : Nat, w.done[a]! = true ↔ (done[a]! = true ∨ (a ∈ marked ∧ a < done.size)) := by
  intro fuel
  induction fuel with
  | zero => intro c acc done w h; simp [streamWalk] at h
  | succ fuel ih =>
    intro c acc done w h
    simp only [streamWalk] at h
    by_cases hp : ds[c]! = c
    · simp only [hp, beq_self_eq_true, if_true, Bool.or_true, Option.some.injEq] at h
      subst h
      refine ⟨[], [c], WalkM.pit c hp, by simp, by simp, ?_⟩
      intro a; rw [get!_set_true]; simp
    · have hb : (ds[c]! == c) = false := by simpa using hp
      simp only [hb, Bool.or_false, Bool.false_eq_true, if_false, decide_eq_true_eq] at h
      by_cases hc : nup[ds[c]!]! > 1
      · simp only [hc, if_true, Option.some.injEq] at h
        subst h
        refine ⟨[ds[c]!], [c], WalkM.conf c hp hc, by simp, by simp, ?_⟩
        intro a; rw [get!_set_true]; simp
      · simp only [hc, if_false] at h
        obtain ⟨tail, marked, hw, hi, hsz, hd⟩ := ih _ _ _ w h
        refine ⟨ds[c]! :: tail, c :: marked, WalkM.step c tail marked _ _ hp hc hw, by simp [hi],
          by simpa using hsz, ?_⟩
        intro a
        rw [hd a, get!_set_true, Array.size_setIfInBounds, List.mem_cons, or_and_right, or_assoc]

variable {ds : Array Nat} {nup : Array Int}

/-! ### the vertices of a walk -/

/-- consecutive vertices of a walk are linked cells -/
theorem WalkFrom.linked {i : Nat} {tail : List Nat} {pit : Bool} {last : Nat}
    (h : WalkFrom ds nup i tail pit last) : ∀ p ∈ pairsOf (i :: tail), ds[p.1]! = p.2 ∧ p.1 ≠ p.2 := by
  induction h with
  | pit i _ => intro p hp; simp at hp
  | conf i hne _ =>
    intro p hp
    rw [pairsOf_cons_cons] at hp
    simp at hp
    subst hp
    exact ⟨rfl, fun h => hne h.symm⟩
  | step i tail pit last hne _ _ ih =>
    intro p hp
    rw [pairsOf_cons_cons] at hp
    rcases List.mem_cons.mp hp with hp | hp
    · subst hp; exact ⟨rfl, fun h => hne h.symm⟩
    · exact ih p hp

/-- a walk ends at a pit (`pit = true`) or at a cell with more than one inflowing stream cell -/
theorem WalkFrom.ends {i : Nat} {tail : List Nat} {pit : Bool} {last : Nat}
    (h : WalkFrom ds nup i tail pit last) :
    (i :: tail).getLast? = some last ∧
      (if pit = true then ds[last]! = last else nup[last]! > 1) := by
  induction h with
  | pit i hp => simp [hp]
  | conf i _ hc => simp [hc]
  | step i tail pit last _ _ _ ih =>
    refine ⟨?_, ih.2⟩
    rw [List.getLast?_cons_cons]
    exact ih.1

/-- no interior vertex of a walk is a confluence -/
theorem WalkFrom.interior {i : Nat} {tail : List Nat} {pit : Bool} {last : Nat}
    (h : WalkFrom ds nup i tail pit last) : ∀ v ∈ interior (i :: tail), ¬ nup[v]! > 1 := by
  induction h with
  | pit i _ => intro v hv; simp [Pf.interior] at hv
  | conf i _ _ => intro v hv; simp [Pf.interior] at hv
  | step i tail pit last _ hc hw ih =>
    intro v hv
    cases tail with
    | nil => simp [Pf.interior] at hv
    | cons y r =>
      simp only [Pf.interior, List.tail_cons] at hv ih
      rw [List.dropLast_cons_cons] at hv
      rcases List.mem_cons.mp hv with hv | hv
      · subst hv; exact hc
      · exact ih v hv

theorem WalkM.toWalkFrom {c : Nat} {tail marked : List Nat} {pit : Bool} {last : Nat}
    (h : WalkM ds nup c tail marked pit last) : WalkFrom ds nup c tail pit last := by
  induction h with
  | pit c hp => exact WalkFrom.pit c hp
  | conf c h1 h2 => exact WalkFrom.conf c h1 h2
  | step c tail marked pit last h1 h2 _ ih => exact WalkFrom.step c tail pit last h1 h2 ih

theorem streamWalk_spec (ds : Array Nat) (nup : Array Int) (fuel idx0 : Nat) (acc : List Nat)
    (done : Array Bool) (w : WalkRes) (h : streamWalk ds nup fuel idx0 acc done = some w) :
    ∃ tail, WalkFrom ds nup idx0 tail w.pit w.last ∧ w.idxs = acc.reverse ++ tail := by
  obtain ⟨tail, _, hw, hi, _⟩ := streamWalk_specM ds nup fuel idx0 acc done w h
  exact ⟨tail, hw.toWalkFrom, hi⟩

theorem WalkM.all_mem (S : Nat → Prop) (hS : ∀ x, S x → ds[x]! ≠ x → S ds[x]!)
    {c : Nat} {tail marked : List Nat} {pit : Bool} {last : Nat}
    (h : WalkM ds nup c tail marked pit last) (hc : S c) : ∀ x ∈ c :: tail, S x := by
  induction h with
  | pit c _ => intro x hx; simp at hx; subst hx; exact hc
  | conf c h1 _ =>
    intro x hx
    simp at hx
    rcases hx with rfl | rfl
    · exact hc
    · exact hS _ hc h1
  | step c tail marked pit last h1 _ _ ih =>
    intro x hx
    rcases List.mem_cons.mp hx with rfl | hx
    · exact hc
    · exact ih (hS _ hc h1) x hx

/-! ### the cells a walk flags -/

/-- the flagged cells are the upstream ends of the emitted pairs, followed by the pit -/
theorem WalkM.sources {c : Nat} {tail marked : List Nat} {pit : Bool} {last : Nat}
    (h : WalkM ds nup c tail marked pit last) :
    (pairsOf (c :: tail)).map (·.1) ++ (if pit = true then [last] else []) = marked := by
  induction h with
  | pit c _ => simp
  | conf c _ _ => simp [pairsOf]
  | step c tail marked pit last _ _ _ ih =>
    rw [pairsOf_cons_cons]
    simp only [List.map_cons, List.cons_append]
    rw [ih]

/-- the link of a flagged cell is among the emitted pairs, or the cell is the pit the walk ended at -/
theorem WalkM.marked_cases {c : Nat} {tail marked : List Nat} {pit : Bool} {last : Nat}
    (h : WalkM ds nup c tail marked pit last) :
    ∀ a ∈ marked, (a, ds[a]!) ∈ pairsOf (c :: tail) ∨ (ds[a]! = a ∧ pit = true ∧ last = a) := by
  induction h with
  | pit c hp => intro a ha; simp at ha; subst ha; exact Or.inr ⟨hp, rfl, rfl⟩
  | conf c _ _ => intro a ha; simp at ha; subst ha; exact Or.inl (by simp [pairsOf])
  | step c tail marked pit last _ _ _ ih =>
    intro a ha
    rw [pairsOf_cons_cons]
    rcases List.mem_cons.mp ha with rfl | ha
    · exact Or.inl (List.mem_cons_self ..)
    · exact (ih a ha).imp_left (List.mem_cons_of_mem _)

theorem WalkM.head_mem {c : Nat} {tail marked : List Nat} {pit : Bool} {last : Nat}
    (h : WalkM ds nup c tail marked pit last) : c ∈ marked := by
  cases h <;> simp

theorem WalkM.propagate (P : Nat → Prop) {c : Nat} {tail marked : List Nat} {pit : Bool} {last : Nat}
    (h : WalkM ds nup c tail marked pit last) (hc : P c)
    (hstep : ∀ u, P u → ds[u]! ≠ u → ¬ nup[ds[u]!]! > 1 → P ds[u]!) : ∀ a ∈ marked, P a := by
  induction h with
  | pit c _ => intro a ha; simp at ha; subst ha; exact hc
  | conf c _ _ => intro a ha; simp at ha; subst ha; exact hc
  | step c tail marked pit last h1 h2 _ ih =>
    intro a ha
    rcases List.mem_cons.mp ha with rfl | ha
    · exact hc
    · exact ih (hstep _ hc h1 h2) a ha

/-- a flagged cell is a pit, drains into a confluence, or its downstream cell is flagged too -/
theorem WalkM.continues {c : Nat} {tail marked : List Nat} {pit : Bool} {last : Nat}
    (h : WalkM ds nup c tail marked pit last) :
    ∀ a ∈ marked, ds[a]! = a ∨ nup[ds[a]!]! > 1 ∨ ds[a]! ∈ marked := by
  induction h with
  | pit c hp => intro a ha; simp at ha; subst ha; exact Or.inl hp
  | conf c _ hc => intro a ha; simp at ha; subst ha; exact Or.inr (Or.inl hc)
  | step c tail marked pit last _ _ hw ih =>
    intro a ha
    rcases List.mem_cons.mp ha with rfl | ha
    · exact Or.inr (Or.inr (List.mem_cons_of_mem _ hw.head_mem))
    · exact (ih a ha).imp_right (Or.imp_right (List.mem_cons_of_mem _))

/-- every flagged cell other than the start was entered from a flagged cell -/
theorem WalkM.entered {c : Nat} {tail marked : List Nat} {pit : Bool} {last : Nat}
    (h : WalkM ds nup c tail marked pit last) :
    ∀ a ∈ marked, a = c ∨ ∃ u ∈ marked, ds[u]! = a ∧ u ≠ a := by
  induction h with
  | pit c _ => intro a ha; simp at ha; exact Or.inl ha
  | conf c _ _ => intro a ha; simp at ha; exact Or.inl ha
  | step c tail marked pit last h1 _ _ ih =>
    intro a ha
    rcases List.mem_cons.mp ha with rfl | ha
    · exact Or.inl rfl
    · rcases ih a ha with rfl | ⟨u, hu, h2, h3⟩
      · exact Or.inr ⟨c, by simp, rfl, fun h => h1 h.symm⟩
      · exact Or.inr ⟨u, List.mem_cons_of_mem _ hu, h2, h3⟩

/-- with a height that strictly increases downstream the flagged cells are pairwise different, and all but the start lie
higher than the start -/
theorem WalkM.nodup (ht : Nat → Nat) (S : Nat → Prop) (hS : ∀ x, S x → ds[x]! ≠ x → S ds[x]! ∧ ht x < ht ds[x]!)
    {c : Nat} {tail marked : List Nat} {pit : Bool} {last : Nat}
    (h : WalkM ds nup c tail marked pit last) (hc : S c) :
    marked.Nodup ∧ ∀ a ∈ marked, a = c ∨ ht c < ht a := by
  induction h with
  | pit c _ => simp
  | conf c _ _ => simp
  | step c tail marked pit last h1 _ _ ih =>
    obtain ⟨hSd, hlt⟩ := hS c hc h1
    obtain ⟨hnd, hall⟩ := ih hSd
    have hgt : ∀ a ∈ marked, ht c < ht a := by
      intro a ha
      rcases hall a ha with rfl | h
      · exact hlt
      · omega
    refine ⟨List.nodup_cons.mpr ⟨fun hm => ?_, hnd⟩, ?_⟩
    · have := hgt c hm; omega
    · intro a ha
      rcases List.mem_cons.mp ha with rfl | ha
      · exact Or.inl rfl
      · exact Or.inr (hgt a ha)

/-! ### fuel -/

/-- if a height bounded by `B` strictly increases along the links of a
downstream-closed set `S`, the walk from a cell of `S` ends within `B - ht c` steps -/
theorem streamWalk_total (ds : Array Nat) (nup : Array Int) (ht : Nat → Nat) (B : Nat) (S : Nat → Prop)
    (hS : ∀ x, S x → ht x < B ∧ (ds[x]! ≠ x → S ds[x]! ∧ ht x < ht ds[x]!)) :
    ∀ (fuel c : Nat) (acc : List Nat) (done : Array Bool), S c → B - ht c ≤ fuel →
      ∃ w, streamWalk ds nup fuel c acc done = some w := by
  intro fuel
  induction fuel with
  | zero =>
    intro c acc done hc hf
    have := (hS c hc).1
    omega
  | succ fuel ih =>
    intro c acc done hc hf
    simp only [streamWalk]
    by_cases hstop : (decide (nup[ds[c]!]! > 1) || ds[c]! == c) = true
    · rw [if_pos hstop]; exact ⟨_, rfl⟩
    · rw [if_neg hstop]
      have hp : ds[c]! ≠ c := fun h => hstop (by simp [h])
      obtain ⟨hSd, hlt⟩ := (hS c hc).2 hp
      have hb : (ds[c]! == c) = false := by simpa using hp
      rw [hb]
      exact ih _ _ _ hSd (by omega)

/-- the walk from any cell of a `Topo` order whose
cells are in range returns within `ds.size + 1` steps (the fuel the model uses) -/
theorem streamWalk_total_topo (ds : Array Nat) (nup : Array Int) (seq : List Nat) (htopo : Topo ds seq)
    (hb : ∀ i ∈ seq, i < ds.size) (c : Nat) (hc : c ∈ seq) (acc : List Nat) (done : Array Bool) :
    ∃ w, streamWalk ds nup (ds.size + 1) c acc done = some w := by
  obtain ⟨ht, h1, h2⟩ := htopo.exists_height
  have hlen := nodup_length_le htopo.nodup hb
  refine streamWalk_total ds nup ht seq.length (· ∈ seq) ?_ _ c acc done hc (by omega)
  intro x hx
  exact ⟨h1 x hx, fun hne => ⟨htopo.ds_mem x hx, h2 x hx hne⟩⟩

/-! ### the outer loop -/

/-- an invariant of an `Option`-valued left fold, indexed by the list of elements already processed -/
theorem foldlM_inv_prefix {σ α : Type} {f : σ → α → Option σ} (I : List α → σ → Prop) {l : List α}
    (hstep : ∀ pre a s s', a ∈ l → I pre s → f s a = some s' → I (pre ++ [a]) s')
    {s s' : σ} (h : l.foldlM f s = some s') (h0 : I [] s) : I l s' := by
  suffices hs : ∀ (suf pre : List α) (s : σ), (∀ a ∈ suf, a ∈ l) → suf.foldlM f s = some s' →
      I pre s → I (pre ++ suf) s' from hs l [] s (fun _ h => h) h h0
  intro suf
  induction suf with
  | nil =>
    intro pre s _ h hI
    simp only [List.foldlM_nil] at h
    cases h
    simpa using hI
  | cons a suf ih =>
    intro pre s hsub h hI
    rw [List.foldlM_cons] at h
    cases hs : f s a with
    | none => rw [hs] at h; cases h
    | some s1 =>
      rw [hs] at h
      have := ih (pre ++ [a]) s1 (fun b hb => hsub b (List.mem_cons_of_mem _ hb)) h
        (hstep pre a s s1 (hsub a (List.mem_cons_self ..)) hI hs)
      simpa using this

/-- one iteration of `for idx0 in seq[::-1]`: the cell is skipped, or a walk is made from it -/
theorem streamsStep_cases {ds : Array Nat} {nup : Array Int} {mask : Option (Array Bool)} {maxLen : Nat}
    {st st' : List (List Nat) × Array Bool} {idx0 : Nat}
    (h : streamsStep ds nup mask maxLen st idx0 = some st') :
    (st' = st ∧ (st.2[idx0]! = true ∨ maskAt mask idx0 = false)) ∨
    ∃ w, streamWalk ds nup (ds.size + 1) idx0 [idx0] st.2 = some w ∧
      st' = (st.1 ++ walkFeatures w maxLen, w.done) := by
  unfold streamsStep at h
  split at h
  · rename_i hc
    cases h
    exact Or.inl ⟨rfl, by simpa using hc⟩
  · split at h
    · cases h
    · rename_i w hw
      cases h
      exact Or.inr ⟨w, hw, rfl⟩

theorem streamsModel_forall (ds : Array Nat) (seq : List Nat) (mask : Option (Array Bool))
    (maxLen : Nat) (P : List Nat → Prop)
    (hstep : ∀ (idx0 : Nat) (done : Array Bool) (w : WalkRes),
      streamWalk ds (upstreamCount ds mask) (ds.size + 1) idx0 [idx0] done = some w →
      ∀ f ∈ walkFeatures w maxLen, P f)
    (feats : List (List Nat)) (h : streamsModel ds seq mask maxLen = some feats) :
    ∀ f ∈ feats, P f := by
  unfold streamsModel at h
  rw [Option.map_eq_some_iff] at h
  obtain ⟨st', hst', rfl⟩ := h
  refine foldlM_inv _ (fun st => ∀ f ∈ st.1, P f) _ ?_ _ st' (by simp) hst'
  intro st a st1 _ hI hs
  rcases streamsStep_cases hs with ⟨rfl, _⟩ | ⟨w, hw, rfl⟩
  · exact hI
  · intro f hf
    rcases List.mem_append.mp hf with hf | hf
    · exact hI f hf
    · exact hstep a st.2 w hw f hf

theorem model_linked (ds : Array Nat) (seq : List Nat) (mask : Option (Array Bool)) (m : Nat)
    (feats : List (List Nat)) (h : streamsModel ds seq mask m = some feats) :
    ∀ f ∈ feats, (∃ p, f = [p, p] ∧ ds[p]! = p) ∨ (∀ q ∈ pairsOf f, ds[q.1]! = q.2 ∧ q.1 ≠ q.2) := by
  refine streamsModel_forall ds seq mask m _ ?_ feats h
  intro idx0 done w hw f hf
  obtain ⟨tail, hwf, hi⟩ := streamWalk_spec ds _ _ idx0 [idx0] done w hw
  have hi' : w.idxs = idx0 :: tail := by simpa using hi
  unfold walkFeatures at hf
  rcases List.mem_append.mp hf with hf | hf
  · exact Or.inr fun q hq => hwf.linked q (hi' ▸ pairs_of_piece hf q hq)
  · by_cases hp : w.pit = true
    · have hend := hwf.ends.2
      simp only [hp, if_true, List.mem_singleton] at hf hend
      exact Or.inl ⟨w.last, hf, hend⟩
    · simp [hp] at hf

theorem model_size (ds : Array Nat) (seq : List Nat) (mask : Option (Array Bool)) (m : Nat)
    (hm : 0 < m) (feats : List (List Nat)) (h : streamsModel ds seq mask m = some feats) :
    ∀ f ∈ feats, 2 * f.length ≤ 3 * m + 1 := by
  refine streamsModel_forall ds seq mask m _ ?_ feats h
  intro idx0 done w _ f hf
  unfold walkFeatures at hf
  rcases List.mem_append.mp hf with hf | hf
  · exact splitPieces_size w.idxs m hm f hf
  · by_cases hp : w.pit = true
    · simp only [hp, if_true, List.mem_singleton] at hf
      subst hf
      simp
      omega
    · simp [hp] at hf

/-- invariant of the outer loop for any order and any mask: a flagged cell is a pit with its zero-length
feature, or its link is in a feature appended so far -/
def CoverInv (ds : Array Nat) (st : List (List Nat) × Array Bool) : Prop :=
  ∀ a : Nat, st.2[a]! = true → (ds[a]! = a ∧ [a, a] ∈ st.1) ∨ ∃ f ∈ st.1, (a, ds[a]!) ∈ pairsOf f

theorem streamsStep_cover (ds : Array Nat) (nup : Array Int) (mask : Option (Array Bool)) (maxLen : Nat)
    (st st' : List (List Nat) × Array Bool) (idx0 : Nat)
    (h : streamsStep ds nup mask maxLen st idx0 = some st') (hsz : st.2.size = ds.size)
    (hlt : idx0 < ds.size) (hinv : CoverInv ds st) :
    CoverInv ds st' ∧ st'.2.size = ds.size ∧ (∀ a : Nat, st.2[a]! = true → st'.2[a]! = true) ∧
      (maskAt mask idx0 = true → st'.2[idx0]! = true) := by
  rcases streamsStep_cases h with ⟨rfl, hc⟩ | ⟨w, hw, rfl⟩
  · exact ⟨hinv, hsz, fun _ h => h, fun hm => hc.resolve_right (by simp [hm])⟩
  · obtain ⟨tail, marked, hW, hi, hwsz, hd⟩ := streamWalk_specM ds nup _ idx0 [idx0] st.2 w hw
    have hi' : w.idxs = idx0 :: tail := by simpa using hi
    refine ⟨?_, hwsz.trans hsz, fun a ha => (hd a).mpr (Or.inl ha),
      fun _ => (hd idx0).mpr (Or.inr ⟨hW.head_mem, hsz ▸ hlt⟩)⟩
    intro a ha
    rcases (hd a).mp ha with h1 | ⟨h1, _⟩
    · rcases hinv a h1 with h2 | ⟨f, hf, h2⟩
      · exact Or.inl ⟨h2.1, List.mem_append_left _ h2.2⟩
      · exact Or.inr ⟨f, List.mem_append_left _ hf, h2⟩
    · rcases hW.marked_cases a h1 with h2 | ⟨h2, hp, hl⟩
      · rw [← hi', ← splitPieces_pairs w.idxs maxLen, List.mem_flatMap] at h2
        obtain ⟨f, hf, h2⟩ := h2
        exact Or.inr ⟨f, List.mem_append_right _ (List.mem_append_left _ hf), h2⟩
      · exact Or.inl ⟨h2, List.mem_append_right _ (List.mem_append_right _ (by simp [hp, hl]))⟩

/-- emitted at least once, for any mask and any order: every selected cell of the sequence is a pit
with its zero-length feature among the features of the model, or its link occurs in one of them -/
theorem streamsModel_cover (ds : Array Nat) (seq : List Nat) (mask : Option (Array Bool)) (m : Nat)
    (feats : List (List Nat)) (h : streamsModel ds seq mask m = some feats) (hb : ∀ i ∈ seq, i < ds.size)
    (i : Nat) (hi : i ∈ seq) (hm : maskAt mask i = true) :
    (ds[i]! = i ∧ [i, i] ∈ feats) ∨ ∃ f ∈ feats, (i, ds[i]!) ∈ pairsOf f := by
  unfold streamsModel at h
  rw [Option.map_eq_some_iff] at h
  obtain ⟨st', hst', rfl⟩ := h
  have hinv := foldlM_inv_prefix (fun pre st => CoverInv ds st ∧ st.2.size = ds.size ∧
      ∀ i ∈ pre, maskAt mask i = true → st.2[i]! = true) ?_ hst' ⟨?_, by simp, by simp⟩
  · exact hinv.1 i (hinv.2.2 i (List.mem_reverse.mpr hi) hm)
  · intro pre a st st1 ha ⟨hI, hsz, hall⟩ hs
    obtain ⟨hI1, hsz1, hmono, hself⟩ :=
      streamsStep_cover ds _ mask m st st1 a hs hsz (hb a (List.mem_reverse.mp ha)) hI
    refine ⟨hI1, hsz1, fun i hi hm => ?_⟩
    rcases List.mem_append.mp hi with hi | hi
    · exact hmono i (hall i hi hm)
    · rw [List.mem_singleton.mp hi] at hm ⊢; exact hself hm
  · exact fun a ha => absurd ha (replicate_false_ne_true _ a)

end Pf.C19
