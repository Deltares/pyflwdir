import PfVerif.Proofs.C06OnceGeo
/-! `max_depth >= 0`: a cell has at most one too-deep event per run (`too_deep_once_loop`), hence the
depth-limited loop ends with an empty heap within `fuelD = 12 n + 1` pops (`fillLoopD_empty`).

A cell is *touched* once it is queued (`queued` is set by every visit and by the seeds and is never
cleared across a visit). The invariant (`OnceBase`, and `OnceMid` inside the neighbour loop of a pop)
says, besides sortedness of the heap and the level bounds of heap entries:

* `popped`: a touched cell either has all valid cells of its window touched, or still has a heap
  entry, or is the cell being popped and its untouched window cells are still to be visited;
* `cover`: a touched cell that is not done (a re-opened cell) lies in the window of a heap entry whose
  level is not too deep for it, or is still to be visited by the current pop;
* `now`: a re-opened cell still to be visited by the current pop is not too deep for its level.

`now` makes every too-deep event hit an untouched cell; the event touches it. `popped` is what
re-establishes `cover` when an event re-opens done cells: such a cell is next to the untouched event cell,
so it still has its own heap entry, or is the popped cell itself. Between two pops no cell is being
popped: the invariant is `OnceBase … 0 []`, where the index `0` stands for nothing. -/
namespace Pf.C06
open Pf

variable {G : Grid} {conn : Nat} {elev : Array Int} {nod : Array Bool} {md : Int}

theorem unq_mono {n : Nat} {a b : Array Bool} (h : ∀ c, c < n → a[c]! = true → b[c]! = true) :
    unq n b ≤ unq n a := by
  unfold unq
  apply List.countP_mono_left
  intro c hc hb
  have hc' : c < n := List.mem_range.1 hc
  cases ha : a[c]! with
  | false => rfl
  | true => rw [h c hc' ha] at hb; exact hb

theorem unq_le (n : Nat) (a : Array Bool) : unq n a ≤ n := by
  unfold unq
  have := List.countP_le_length (p := fun c => !a[c]!) (l := List.range n)
  simpa using this

/-- the invariant while the offsets `os` of the pop of `i0` are still to be visited (between pops: `os = []`);
`entry`: heap entries are cells at a level at or above their elevation that is not too deep for them; `doneT`:
done valid cells are touched; `evn`: every event has used up a cell that was untouched -/
structure OnceBase (G : Grid) (conn : Nat) (elev : Array Int) (nod : Array Bool) (md : Int)
    (i0 : Nat) (os : List (Int × Int)) (s : StD) : Prop where
  sorted : HSorted s.q
  nodDone : ∀ c, c < G.n → nod[c]! = true → s.done[c]! = true
  doneT : ∀ c, c < G.n → s.done[c]! = true → nod[c]! = false → s.queued[c]! = true
  entry : ∀ e, e ∈ s.q → e.idx < G.n ∧ elev[e.idx]! ≤ e.z ∧ tooDeep md (e.z - elev[e.idx]!) = false
  popped : ∀ w, w < G.n → s.queued[w]! = true →
    (∀ x, Win G conn w x → nod[x]! = false → s.queued[x]! = true) ∨ (∃ e, e ∈ s.q ∧ e.idx = w) ∨
    (w = i0 ∧ ∀ x, Win G conn w x → nod[x]! = false → s.queued[x]! = false → AtO G i0 os x)
  cover : ∀ c, c < G.n → s.queued[c]! = true → s.done[c]! = false →
    (∃ e, e ∈ s.q ∧ Win G conn e.idx c ∧ tooDeep md (e.z - elev[c]!) = false) ∨ AtO G i0 os c
  esz : s.evc.size = G.n
  evc0 : ∀ c, c < G.n → s.queued[c]! = false → s.evc[c]! = 0
  evc1 : ∀ c, c < G.n → s.evc[c]! ≤ 1
  evn : s.ev + unq G.n s.queued ≤ G.n

/-- `OnceBase` plus what is known of the popped level `z0`: `lvl`: heap entries lie at or above it, except those
of cells re-opened and already passed by this pop; `pop`: it is a level of `i0` that is not too deep for `i0` -/
structure OnceMid (G : Grid) (conn : Nat) (elev : Array Int) (nod : Array Bool) (md : Int)
    (z0 : Int) (i0 : Nat) (os : List (Int × Int)) (s : StD) : Prop where
  base : OnceBase G conn elev nod md i0 os s
  lvl : ∀ e, e ∈ s.q → z0 ≤ e.z ∨ (s.done[e.idx]! = false ∧ ¬ AtO G i0 os e.idx)
  now : ∀ c, c < G.n → s.queued[c]! = true → s.done[c]! = false → AtO G i0 os c →
    tooDeep md (z0 - elev[c]!) = false
  pop : i0 < G.n ∧ elev[i0]! ≤ z0 ∧ tooDeep md (z0 - elev[i0]!) = false

/-! ### a visit that changes nothing -/

theorem onceMid_skip {z0 : Int} {i0 : Nat} {o : Int × Int} {os : List (Int × Int)} {s : StD}
    (I : OnceMid G conn elev nod md z0 i0 (o :: os) s)
    (h : shift G i0 o.1 o.2 = none ∨ ∃ j, shift G i0 o.1 o.2 = some j ∧ s.done[j]! = true) :
    OnceMid G conn elev nod md z0 i0 os s := by
  have drop1 : ∀ c : Nat, s.done[c]! = false → AtO G i0 (o :: os) c → AtO G i0 os c :=
    fun c => atO_skip h
  have drop2 : ∀ c : Nat, c < G.n → nod[c]! = false → s.queued[c]! = false → AtO G i0 (o :: os) c →
      AtO G i0 os c := by
    intro c hc hn hq hat
    apply drop1 c _ hat
    cases hd : s.done[c]! with
    | false => rfl
    | true => have := I.base.doneT c hc hd hn; rw [hq] at this; cases this
  have B := I.base
  exact
    { base :=
        { sorted := B.sorted, nodDone := B.nodDone, doneT := B.doneT, entry := B.entry
          esz := B.esz, evc0 := B.evc0, evc1 := B.evc1, evn := B.evn
          popped := fun w hw hq => by
            rcases B.popped w hw hq with h1 | h2 | ⟨h3, h4⟩
            · exact Or.inl h1
            · exact Or.inr (Or.inl h2)
            · exact Or.inr (Or.inr ⟨h3, fun x hx hn hqx => drop2 x (win_lt hx) hn hqx (h4 x hx hn hqx)⟩)
          cover := fun c hc hq hd => by
            rcases B.cover c hc hq hd with h1 | h2
            · exact Or.inl h1
            · exact Or.inr (drop1 c hd h2) }
      lvl := fun e he => by
        rcases I.lvl e he with h1 | ⟨h2, h3⟩
        · exact Or.inl h1
        · exact Or.inr ⟨h2, fun hat => h3 (atO_tail hat)⟩
      now := fun c hc hq hd hat => I.now c hc hq hd (atO_tail hat)
      pop := I.pop }

/-! ### the too-deep branch -/

/-- a touched, done cell that the too-deep event at the untouched cell `j` re-opens lies in the window of
`j` and still has a heap entry, or is the cell being popped -/
theorem reopened {i0 : Nat} {os : List (Int × Int)} {s : StD} {j c : Nat}
    (B : OnceBase G conn elev nod md i0 os s) (hs : SizedD G s) (hj : j < G.n) (hnj : nod[j]! = false)
    (hTj : s.queued[j]! = false) (hc : c < G.n) (hqc : s.queued[c]! = true) (hdc : s.done[c]! = true)
    (hdc' : (deepStep G conn elev nod s j).done[c]! = false) :
    Win G conn j c ∧ ((∃ e, e ∈ s.q ∧ e.idx = c) ∨ c = i0) := by
  rcases ((deep_facts (conn := conn) (elev := elev) (nod := nod) s j hs hj).2.2.1 c).1 hdc' with h | ⟨hwin, _⟩
  · rw [hdc] at h; cases h
  · refine ⟨hwin, ?_⟩
    rcases B.popped c hc hqc with h1 | h2 | ⟨h3, _⟩
    · have := h1 j (win_symm hj hwin) hnj
      rw [hTj] at this; cases this
    · exact Or.inl h2
    · exact Or.inr h3

/-- the cell of a too-deep event is valid and untouched -/
theorem deep_target {z0 : Int} {i0 : Nat} {o : Int × Int} {os : List (Int × Int)} {s : StD} {j : Nat}
    (I : OnceMid G conn elev nod md z0 i0 (o :: os) s) (hsh : shift G i0 o.1 o.2 = some j)
    (hd : s.done[j]! = false) (ht : tooDeep md (z0 - elev[j]!) = true) :
    j < G.n ∧ nod[j]! = false ∧ s.queued[j]! = false := by
  have hj : j < G.n := (shift_spec.1 hsh).1
  refine ⟨hj, ?_, ?_⟩
  · cases hn : nod[j]! with
    | false => rfl
    | true => have := I.base.nodDone j hj hn; rw [hd] at this; cases this
  · cases hq : s.queued[j]! with
    | false => rfl
    | true => have := I.now j hj hq hd ⟨o, List.mem_cons_self, hsh⟩; rw [ht] at this; cases this

/-- the too-deep branch keeps the clauses that do not speak of the popped level -/
theorem onceBase_deep {z0 : Int} {i0 : Nat} {o : Int × Int} {os : List (Int × Int)} {s : StD} {j : Nat}
    (hs : SizedD G s) (I : OnceMid G conn elev nod md z0 i0 (o :: os) s)
    (hsh : shift G i0 o.1 o.2 = some j) (hd : s.done[j]! = false)
    (ht : tooDeep md (z0 - elev[j]!) = true) :
    OnceBase G conn elev nod md i0 os (deepStep G conn elev nod s j) := by
  have B := I.base
  obtain ⟨hj, hnj, hTj⟩ := deep_target I hsh hd ht
  have reop : ∀ c : Nat, c < G.n → c ≠ j → s.queued[c]! = true → s.done[c]! = true →
      (deepStep G conn elev nod s j).done[c]! = false →
      Win G conn j c ∧ ((∃ e, e ∈ s.q ∧ e.idx = c) ∨ c = i0) :=
    fun c hc _ hqc hdc hdc' => reopened B hs hj hnj hTj hc hqc hdc hdc'
  obtain ⟨fq, ⟨qold, qj⟩, fdn, fev, fevc, fsort, fsz, fset⟩ :=
    deep_facts (conn := conn) (elev := elev) (nod := nod) s j hs hj
  generalize deepStep G conn elev nod s j = s' at *
  have qmono := queued_mono qold qj
  have newE : (⟨elev[j]!, 0, j⟩ : HE) ∈ s'.q := (fq _).2 (Or.inl rfl)
  have oldE : ∀ e, e ∈ s.q → e ∈ s'.q := fun e he => (fq e).2 (Or.inr he)
  have dropj : ∀ x : Nat, x ≠ j → AtO G i0 (o :: os) x → AtO G i0 os x := fun x hx => atO_drop hsh hx
  exact
    { sorted := fsort B.sorted
      nodDone := fun c hc hn => by
        cases hx : s'.done[c]! with
        | true => rfl
        | false =>
          rcases (fdn c).1 hx with h | ⟨_, h⟩
          · have := B.nodDone c hc hn; rw [h] at this; cases this
          · rw [hn] at h; cases h
      doneT := fun c hc hdc hn => by
        apply qmono
        apply B.doneT c hc _ hn
        cases hx : s.done[c]! with
        | true => rfl
        | false => have := (fdn c).2 (Or.inl hx); rw [hdc] at this; cases this
      entry := fun e he => by
        rcases (fq e).1 he with rfl | he
        · refine ⟨hj, Int.le_refl _, ?_⟩
          exact tooDeep_self md elev[j]!
        · exact B.entry e he
      popped := fun w hw hq => by
        by_cases hwj : w = j
        · exact Or.inr (Or.inl ⟨_, newE, hwj.symm⟩)
        · rw [qold w hwj] at hq
          exact popped_step hsh qold qj oldE (B.popped w hw hq)
      cover := fun c hc hq hdc' => by
        by_cases hcj : c = j
        · subst hcj
          refine Or.inl ⟨_, newE, win_self hc, ?_⟩
          exact tooDeep_self md elev[c]!
        · rw [qold c hcj] at hq
          cases hdc : s.done[c]! with
          | false =>
            rcases B.cover c hc hq hdc with ⟨e, he, h1, h2⟩ | h
            · exact Or.inl ⟨e, oldE e he, h1, h2⟩
            · exact Or.inr (dropj c hcj h)
          | true =>
            obtain ⟨hwin, hcase⟩ := reop c hc hcj hq hdc hdc'
            rcases hcase with ⟨e, he, hi⟩ | hi0
            · refine Or.inl ⟨e, oldE e he, by rw [hi]; exact win_self hc, ?_⟩
              have := (B.entry e he).2.2
              rw [hi] at this; exact this
            · by_cases hat : AtO G i0 os c
              · exact Or.inr hat
              · -- the re-opened cell is the popped one: the new entry of `j` covers it, because a drop that is
                -- too deep from `z0` to `j` and again from `j` to `c` would be too deep from `z0` to `c = i0`
                refine Or.inl ⟨_, newE, hwin, ?_⟩
                show tooDeep md (elev[j]! - elev[c]!) = false
                cases hx : tooDeep md (elev[j]! - elev[c]!) with
                | false => rfl
                | true =>
                  have h2 := tooDeep_add ht hx
                  have e : z0 - elev[j]! + (elev[j]! - elev[c]!) = z0 - elev[c]! := by omega
                  rw [e, hi0, I.pop.2.2] at h2; cases h2
      esz := by rw [fsz]; exact B.esz
      evc0 := fun c hc hq => by
        have hcj : c ≠ j := fun h => by rw [h, qj] at hq; cases hq
        rw [qold c hcj] at hq
        rw [fevc, if_neg (fun h => hcj h.1)]
        exact B.evc0 c hc hq
      evc1 := fun c hc => by
        rw [fevc]
        split
        · rw [B.evc0 j hj hTj]; exact Nat.le_refl _
        · exact B.evc1 c hc
      evn := by
        have := unq_set s.queued j hs.2.1 hj hTj
        rw [fev, fset]
        have := B.evn
        omega }

theorem onceMid_deep {z0 : Int} {i0 : Nat} {o : Int × Int} {os : List (Int × Int)} {s : StD} {j : Nat}
    (hs : SizedD G s) (hnd : o ∉ os) (I : OnceMid G conn elev nod md z0 i0 (o :: os) s)
    (hsh : shift G i0 o.1 o.2 = some j) (hd : s.done[j]! = false)
    (ht : tooDeep md (z0 - elev[j]!) = true) :
    s.queued[j]! = false ∧ OnceMid G conn elev nod md z0 i0 os (deepStep G conn elev nod s j) := by
  have B := I.base
  obtain ⟨hj, hnj, hTj⟩ := deep_target I hsh hd ht
  have hnat : ¬ AtO G i0 os j := not_atO_head hnd hsh
  refine ⟨hTj, ?_⟩
  have base := onceBase_deep hs I hsh hd ht
  have reop : ∀ c : Nat, c < G.n → c ≠ j → s.queued[c]! = true → s.done[c]! = true →
      (deepStep G conn elev nod s j).done[c]! = false →
      Win G conn j c ∧ ((∃ e, e ∈ s.q ∧ e.idx = c) ∨ c = i0) :=
    fun c hc _ hqc hdc hdc' => reopened B hs hj hnj hTj hc hqc hdc hdc'
  obtain ⟨fq, ⟨qold, _⟩, fdn, _⟩ := deep_facts (conn := conn) (elev := elev) (nod := nod) s j hs hj
  generalize deepStep G conn elev nod s j = s' at *
  exact
    { base := base
      lvl := fun e he => by
        rcases (fq e).1 he with rfl | he
        · exact Or.inr ⟨(fdn j).2 (Or.inl hd), hnat⟩
        · rcases I.lvl e he with h1 | ⟨h2, h3⟩
          · exact Or.inl h1
          · exact Or.inr ⟨(fdn _).2 (Or.inl h2), fun hat => h3 (atO_tail hat)⟩
      now := fun c hc hq hdc' hat => by
        have hcj : c ≠ j := fun h => hnat (h ▸ hat)
        rw [qold c hcj] at hq
        cases hdc : s.done[c]! with
        | false => exact I.now c hc hq hdc (atO_tail hat)
        | true =>
          obtain ⟨_, hcase⟩ := reop c hc hcj hq hdc hdc'
          rcases hcase with ⟨e, he, hi⟩ | hi0
          · rcases I.lvl e he with h1 | ⟨h2, _⟩
            · have := (B.entry e he).2.2
              rw [hi] at this
              exact tooDeep_mono (by omega) this
            · rw [hi, hdc] at h2; cases h2
          · rw [hi0]; exact I.pop.2.2
      pop := I.pop }

/-! ### the normal branch (reset + fill) -/

/-- the normal branch keeps the clauses that do not speak of the popped level -/
theorem onceBase_fill {z0 : Int} {i0 : Nat} {o : Int × Int} {os : List (Int × Int)} {s : StD} {j : Nat}
    (code : Nat) (hs : SizedD G s) (B : OnceBase G conn elev nod md i0 (o :: os) s)
    (hsh : shift G i0 o.1 o.2 = some j) (ht : tooDeep md (z0 - elev[j]!) = false) :
    OnceBase G conn elev nod md i0 os (fillStep elev z0 (resetStep elev s j) j code) := by
  have hj : j < G.n := (shift_spec.1 hsh).1
  obtain ⟨hne, dj, qj, _, _, fev, fevc, hq, hq3⟩ := fill_get (elev := elev) z0 s j code hs hj
  generalize fillStep elev z0 (resetStep elev s j) j code = s' at *
  obtain ⟨fq1, fq2, fsort⟩ := hpush_or_facts hq
  have qold : ∀ x : Nat, x ≠ j → s'.queued[x]! = s.queued[x]! := fun x hx => (hne x hx).2.1
  have dold : ∀ x : Nat, x ≠ j → s'.done[x]! = s.done[x]! := fun x hx => (hne x hx).1
  have qmono := queued_mono qold qj
  have dropj : ∀ x : Nat, x ≠ j → AtO G i0 (o :: os) x → AtO G i0 os x := fun x hx => atO_drop hsh hx
  have hlev1 := (lvl_ge z0 elev[j]!).2
  have hlev3 : tooDeep md (lvl z0 elev[j]! - elev[j]!) = false := by
    unfold lvl
    by_cases hz : z0 - elev[j]! > 0
    · rw [if_pos hz]; exact ht
    · rw [if_neg hz]; exact tooDeep_self md _
  exact
    { sorted := fsort B.sorted
      nodDone := fun c hc hn => by
        by_cases hcj : c = j
        · rw [hcj]; exact dj
        · rw [dold c hcj]; exact B.nodDone c hc hn
      doneT := fun c hc hdc hn => by
        by_cases hcj : c = j
        · rw [hcj]; exact qj
        · rw [dold c hcj] at hdc
          exact qmono c (B.doneT c hc hdc hn)
      entry := fun e he => by
        rcases fq1 e he with rfl | he
        · exact ⟨hj, hlev1, hlev3⟩
        · exact B.entry e he
      popped := fun w hw hq => by
        by_cases hwj : w = j
        · cases hqj : s.queued[j]! with
          | false => exact Or.inr (Or.inl ⟨_, hq3 hqj ▸ (mem_hpush _ _ _).2 (Or.inl rfl), hwj.symm⟩)
          | true => exact popped_step hsh qold qj fq2 (B.popped w hw (by rw [hwj]; exact hqj))
        · rw [qold w hwj] at hq
          exact popped_step hsh qold qj fq2 (B.popped w hw hq)
      cover := fun c hc hq hdc' => by
        have hcj : c ≠ j := fun h => by rw [h, dj] at hdc'; cases hdc'
        rw [qold c hcj] at hq
        rw [dold c hcj] at hdc'
        rcases B.cover c hc hq hdc' with ⟨e, he, h1, h2⟩ | h
        · exact Or.inl ⟨e, fq2 e he, h1, h2⟩
        · exact Or.inr (dropj c hcj h)
      esz := by rw [fevc]; exact B.esz
      evc0 := fun c hc hq => by
        have hcj : c ≠ j := fun h => by rw [h, qj] at hq; cases hq
        rw [qold c hcj] at hq
        rw [fevc]; exact B.evc0 c hc hq
      evc1 := fun c hc => by rw [fevc]; exact B.evc1 c hc
      evn := by
        have := unq_mono (n := G.n) (fun c _ => qmono c)
        have := B.evn
        rw [fev]; omega }

theorem onceMid_fill {z0 : Int} {i0 : Nat} {o : Int × Int} {os : List (Int × Int)} {s : StD} {j : Nat}
    (code : Nat) (hs : SizedD G s) (I : OnceMid G conn elev nod md z0 i0 (o :: os) s)
    (hsh : shift G i0 o.1 o.2 = some j)
    (ht : tooDeep md (z0 - elev[j]!) = false) :
    OnceMid G conn elev nod md z0 i0 os (fillStep elev z0 (resetStep elev s j) j code) := by
  have hj : j < G.n := (shift_spec.1 hsh).1
  have hhead : AtO G i0 (o :: os) j := ⟨o, List.mem_cons_self, hsh⟩
  have base := onceBase_fill code hs I.base hsh ht
  obtain ⟨hne, dj, qj, _, _, _, _, hq, _⟩ := fill_get (elev := elev) z0 s j code hs hj
  generalize fillStep elev z0 (resetStep elev s j) j code = s' at *
  have fq1 := (hpush_or_facts hq).1
  have qold : ∀ x : Nat, x ≠ j → s'.queued[x]! = s.queued[x]! := fun x hx => (hne x hx).2.1
  have dold : ∀ x : Nat, x ≠ j → s'.done[x]! = s.done[x]! := fun x hx => (hne x hx).1
  have hlev2 := (lvl_ge z0 elev[j]!).1
  exact
    { base := base
      lvl := fun e he => by
        rcases fq1 e he with rfl | he
        · exact Or.inl hlev2
        · rcases I.lvl e he with h1 | ⟨h2, h3⟩
          · exact Or.inl h1
          · have hne : e.idx ≠ j := fun h => h3 (h ▸ hhead)
            exact Or.inr ⟨by rw [dold _ hne]; exact h2, fun hat => h3 (atO_tail hat)⟩
      now := fun c hc hq hdc' hat => by
        have hcj : c ≠ j := fun h => by rw [h, dj] at hdc'; cases hdc'
        rw [qold c hcj] at hq
        rw [dold c hcj] at hdc'
        exact I.now c hc hq hdc' (atO_tail hat)
      pop := I.pop }

/-! ### one visit, the neighbour loop, one pop, the whole loop -/

/-- one visit keeps the invariant; a too-deep event only hits an untouched cell -/
theorem onceMid_visit {z0 : Int} {i0 : Nat} {o : Int × Int} {os : List (Int × Int)} {s : StD}
    (hs : SizedD G s) (hnd : o ∉ os) (I : OnceMid G conn elev nod md z0 i0 (o :: os) s) :
    OnceMid G conn elev nod md z0 i0 os (visitD G conn elev nod md z0 i0 s o) := by
  rcases visitD_cases (G := G) (conn := conn) (elev := elev) (nod := nod) (md := md) z0 i0 s o with
    ⟨heq, h⟩ | ⟨j, hsh, hd, ht, heq⟩ | ⟨j, hsh, hd, ht, heq⟩
  · rw [heq]; exact onceMid_skip I h
  · rw [heq]; exact (onceMid_deep hs hnd I hsh hd ht).2
  · rw [heq]; exact onceMid_fill _ hs I hsh ht

theorem onceMid_fold {z0 : Int} {i0 : Nat} (os : List (Int × Int)) (hnd : os.Nodup) (s : StD)
    (hs : SizedD G s) (I : OnceMid G conn elev nod md z0 i0 os s) :
    OnceMid G conn elev nod md z0 i0 [] (os.foldl (visitD G conn elev nod md z0 i0) s) := by
  induction os generalizing s with
  | nil => exact I
  | cons o os ih =>
    have h := List.nodup_cons.1 hnd
    exact ih h.2 _ (sizedD_visit s o hs) (onceMid_visit hs h.1 I)

/-- popping the head of the heap starts the neighbour loop with the invariant -/
theorem onceMid_pop {i : Nat} {s : StD} {h : HE} {rest : List HE}
    (B : OnceBase G conn elev nod md i [] s) (hq : s.q = h :: rest) :
    OnceMid G conn elev nod md h.z h.idx (offsets conn) { s with q := rest } := by
  have hsort : HSorted (h :: rest) := hq ▸ B.sorted
  have hmem : ∀ e, e ∈ rest → e ∈ s.q := fun e he => by rw [hq]; exact List.mem_cons_of_mem _ he
  have hge := hsorted_head_le hsort
  exact
    { base :=
        { sorted := (List.pairwise_cons.1 hsort).2
          nodDone := B.nodDone, doneT := B.doneT
          entry := fun e he => B.entry e (hmem e he)
          popped := fun w hw hqw => by
            rcases B.popped w hw hqw with h1 | ⟨e, he, hi⟩ | ⟨_, h4⟩
            · exact Or.inl h1
            · rw [hq] at he
              rcases List.mem_cons.1 he with rfl | he
              · exact Or.inr (Or.inr ⟨hi.symm, fun x hx _ _ => hi ▸ hx⟩)
              · exact Or.inr (Or.inl ⟨e, he, hi⟩)
            · refine Or.inl fun x hx hn => ?_
              cases hqx : s.queued[x]! with
              | true => rfl
              | false => exact absurd (h4 x hx hn hqx) atO_nil
          cover := fun c hc hqc hdc => by
            rcases B.cover c hc hqc hdc with ⟨e, he, h1, h2⟩ | h
            · rw [hq] at he
              rcases List.mem_cons.1 he with rfl | he
              · exact Or.inr h1
              · exact Or.inl ⟨e, he, h1, h2⟩
            · exact absurd h atO_nil
          esz := B.esz, evc0 := B.evc0, evc1 := B.evc1, evn := B.evn }
      lvl := fun e he => Or.inl (hge e (List.mem_cons_of_mem _ he))
      now := fun c hc hqc hdc _ => by
        rcases B.cover c hc hqc hdc with ⟨e, he, _, h2⟩ | h
        · rw [hq] at he
          exact tooDeep_mono (by have := hge e he; omega) h2
        · exact absurd h atO_nil
      pop := B.entry h (by rw [hq]; exact List.mem_cons_self) }

/-- at the end of the neighbour loop the invariant between pops holds again -/
theorem onceBase_of_mid {z0 : Int} {i0 i : Nat} {s : StD} (I : OnceMid G conn elev nod md z0 i0 [] s) :
    OnceBase G conn elev nod md i [] s :=
  have B := I.base
  { sorted := B.sorted, nodDone := B.nodDone, doneT := B.doneT, entry := B.entry
    esz := B.esz, evc0 := B.evc0, evc1 := B.evc1, evn := B.evn
    popped := fun w hw hqw => by
      rcases B.popped w hw hqw with h1 | h2 | ⟨_, h4⟩
      · exact Or.inl h1
      · exact Or.inr (Or.inl h2)
      · refine Or.inl fun x hx hn => ?_
        cases hqx : s.queued[x]! with
        | true => rfl
        | false => exact absurd (h4 x hx hn hqx) atO_nil
    cover := fun c hc hqc hdc => by
      rcases B.cover c hc hqc hdc with h1 | h
      · exact Or.inl h1
      · exact absurd h atO_nil }

/-- one pop keeps the invariant between pops -/
theorem onceBase_pop {i : Nat} {s : StD} {h : HE} {rest : List HE} (hs : SizedD G s)
    (B : OnceBase G conn elev nod md i [] s) (hq : s.q = h :: rest) :
    OnceBase G conn elev nod md 0 [] (popStepD G conn elev nod md h { s with q := rest }) :=
  onceBase_of_mid (onceMid_fold _ (offsets_nodup conn) _ hs (onceMid_pop B hq))

theorem onceBase_loop (fuel : Nat) (s : StD) (hs : SizedD G s) (B : OnceBase G conn elev nod md 0 [] s) :
    OnceBase G conn elev nod md 0 [] (fillLoopD G conn elev nod md fuel s) :=
  (fillLoopD_induct (fun s => SizedD G s ∧ OnceBase G conn elev nod md 0 [] s)
    (fun _ _ _ ⟨hs, B⟩ hq => ⟨sizedD_fold _ _ hs, onceBase_pop hs B hq⟩) fuel s ⟨hs, B⟩).2

theorem onceBase_init {seed : Array Bool} :
    OnceBase G conn elev nod md 0 [] (initStateD G elev nod seed) :=
  { sorted := hsorted_initHeap G elev seed
    nodDone := fun c _ hn => hn
    doneT := fun c _ hd hn => by
      have : nod[c]! = true := hd
      rw [hn] at this; cases this
    entry := fun e he => by
      obtain ⟨i, hi, _, rfl⟩ := (mem_initHeap G elev seed e).1 he
      refine ⟨hi, Int.le_refl _, ?_⟩
      exact tooDeep_self md elev[i]!
    popped := fun w hw hq =>
      Or.inr (Or.inl ⟨⟨elev[w]!, 1, w⟩, (mem_initHeap G elev seed _).2 ⟨w, hw, hq, rfl⟩, rfl⟩)
    cover := fun c hc hq _ => by
      refine Or.inl ⟨⟨elev[c]!, 1, c⟩, (mem_initHeap G elev seed _).2 ⟨c, hc, hq, rfl⟩, win_self hc, ?_⟩
      exact tooDeep_self md elev[c]!
    esz := by simp [initStateD]
    evc0 := fun c hc _ => by simp [initStateD, hc]
    evc1 := fun c hc => by simp [initStateD, hc]
    evn := by
      have := unq_le G.n seed
      show 0 + unq G.n seed ≤ G.n
      omega }

/-! ### the result -/

/-- every state of every run (any fuel, any seed set, any `max_depth`): every cell
has had at most one too-deep event, and the number of events plus the number of cells never queued is
at most `n` -/
theorem too_deep_once_loop {seed : Array Bool} (fuel : Nat) (hN : nod.size = G.n) (hE : elev.size = G.n)
    (hS : seed.size = G.n) :
    let s := fillLoopD G conn elev nod md fuel (initStateD G elev nod seed)
    (∀ c : Nat, s.evc[c]! ≤ 1) ∧ s.ev + unq G.n s.queued ≤ G.n := by
  intro s
  have B : OnceBase G conn elev nod md 0 [] s :=
    onceBase_loop fuel _ (sizedD_init hN hE hS) onceBase_init
  refine ⟨fun c => ?_, B.evn⟩
  by_cases hc : c < G.n
  · exact B.evc1 c hc
  · have : s.evc[c]! = 0 := by
      rw [getElem!_def, Array.getElem?_eq_none (by rw [B.esz]; omega)]
      rfl
    omega

/-- once the heap is empty, more fuel changes nothing -/
theorem fillLoopD_stable (fuel : Nat) (s : StD)
    (h : (fillLoopD G conn elev nod md fuel s).q = []) (k : Nat) :
    fillLoopD G conn elev nod md (fuel + k) s = fillLoopD G conn elev nod md fuel s := by
  induction fuel generalizing s with
  | zero =>
    unfold fillLoopD at h
    cases k with
    | zero => rfl
    | succ k => simp only [Nat.zero_add]; unfold fillLoopD; rw [h]
  | succ n ih =>
    rw [Nat.add_right_comm]
    unfold fillLoopD at h ⊢
    split
    · rfl
    · rename_i _ rest hq
      rw [hq] at h
      exact ih _ h

theorem fillLoopD_empty {seed : Array Bool} (hN : nod.size = G.n) (hE : elev.size = G.n)
    (hS : seed.size = G.n) (fuel : Nat) (hf : fuelD G ≤ fuel) :
    (fillLoopD G conn elev nod md fuel (initStateD G elev nod seed)).q = [] :=
  loopD_empty_of_events hN hE hS fuel hf (by
    have := (too_deep_once_loop (conn := conn) (md := md) (seed := seed) fuel hN hE hS).2
    omega)

theorem fillModelDepth_once {pits : Option (List Nat)} {minMode : Bool} {elvMax : Option Int}
    {f : Array Int} {d8 : Array Nat} {fin : Bool} {ev : Nat} {evc : Array Nat}
    (hN : nod.size = G.n) (hE : elev.size = G.n)
    (h : fillModelDepth G conn elev nod pits minMode elvMax md = .ok (f, d8, fin, ev, evc)) :
    (∀ c : Nat, evc[c]! ≤ 1) ∧ ev ≤ G.n := by
  obtain ⟨seed, hseed, _, _, _, rfl, rfl⟩ := fillModelDepth_run h
  obtain ⟨a, b⟩ := too_deep_once_loop (conn := conn) (md := md) (fuelD G) hN hE (seedsOfE_size hseed)
  exact ⟨a, by omega⟩

end Pf.C06
