import PfVerif.Model.C08
import PfVerif.Proofs.C19Nup
/-! The declarative inflow count `nupSpec` of C08 is the count `C19.nup_fold` speaks of, so that
`core.upstream_count` needs no second loop invariant. -/
namespace Pf

theorem nupSpec_eq_inflow_count (ds : Array Nat) (mask : Option (Array Bool)) (d : Nat) :
    nupSpec ds mask d = ((List.range ds.size).filter (C19.inflow ds mask d)).length := by
  unfold nupSpec inflowsM upsOf
  rw [List.filter_filter]
  congr 1
  apply List.filter_congr
  intro i _
  rw [Bool.eq_iff_iff]
  simp only [C19.inflow_iff, Bool.and_eq_true, beq_iff_eq, bne_iff_ne, ne_eq]
  constructor
  · rintro ⟨hm, ⟨hd, hne⟩, hmv⟩; exact ⟨hmv, hd ▸ hne, hm, hd⟩
  · rintro ⟨hmv, hne, hm, hd⟩; exact ⟨hm, ⟨hd, hd ▸ hne⟩, hmv⟩

end Pf
