import PfVerif.Model.C10
import PfVerif.Core.Folds
/-! C10, the segment statistics: the sort behind `median2`, the weighted sums of `_average`, the normal
equations of the least-squares slope and its denominator `n·Σx² − (Σx)² = Σ_{i<j} (x_i − x_j)²` (Lagrange's
identity, the case `y = 1` of Cauchy-Schwarz). -/
namespace Pf.C10
open Pf

/-! ### insertion sort = THE non-decreasing rearrangement -/

theorem insSorted_perm (x : Int) : ∀ l : List Int, (insSorted x l).Perm (x :: l)
  | [] => by simp [insSorted]
  | y :: t => by
    simp only [insSorted]
    split
    · exact List.Perm.refl _
    · exact ((insSorted_perm x t).cons y).trans (List.Perm.swap x y t)

theorem insSort_perm : ∀ l : List Int, (insSort l).Perm l
  | [] => by simp [insSort]
  | x :: t => by
    simp only [insSort]
    exact (insSorted_perm x (insSort t)).trans ((insSort_perm t).cons x)

theorem insSorted_sorted (x : Int) : ∀ l : List Int, l.Pairwise (fun a b => a ≤ b) →
    (insSorted x l).Pairwise (fun a b => a ≤ b)
  | [], _ => by simp [insSorted]
  | y :: t, h => by
    rw [insSorted]
    obtain ⟨hy, ht⟩ := List.pairwise_cons.mp h
    split
    · rename_i hxy
      refine List.pairwise_cons.mpr ⟨fun z hz => ?_, h⟩
      rcases List.mem_cons.mp hz with rfl | hz
      · exact hxy
      · exact Int.le_trans hxy (hy z hz)
    · rename_i hxy
      refine List.pairwise_cons.mpr ⟨fun z hz => ?_, insSorted_sorted x t ht⟩
      rcases List.mem_cons.mp ((insSorted_perm x t).mem_iff.mp hz) with rfl | hz
      · omega
      · exact hy z hz

theorem insSort_sorted : ∀ l : List Int, (insSort l).Pairwise (fun a b => a ≤ b)
  | [] => by simp [insSort]
  | x :: t => by
    simp only [insSort]
    exact insSorted_sorted x _ (insSort_sorted t)

/-- the list sorted by the model is THE non-decreasing rearrangement of the values -/
theorem insSort_unique (vals s : List Int) (hperm : s.Perm vals) (hs : s.Pairwise (fun a b => a ≤ b)) :
    insSort vals = s :=
  List.Perm.eq_of_pairwise (le := fun a b => a ≤ b) (fun a b _ _ hab hba => by omega)
    (insSort_sorted vals) hs ((insSort_perm vals).trans hperm.symm)

/-! ### sums over a list of cells -/

theorem sum_map_add {α : Type} (l : List α) (f g : α → Int) :
    (l.map fun c => f c + g c).sum = (l.map f).sum + (l.map g).sum :=
  Pf.sum_map_add l f g

/-- a loop that adds a pair of terms per cell and skips some cells computes the two sums over the
cells it does not skip -/
theorem foldl_skip_pair (skip : Nat → Prop) [DecidablePred skip] (f g : Nat → Int) : ∀ (cells : List Nat) (a b : Int),
    cells.foldl (fun (vw : Int × Int) c => if skip c then vw else (vw.1 + f c, vw.2 + g c)) (a, b) =
      (a + ((cells.filter fun c => !decide (skip c)).map f).sum,
       b + ((cells.filter fun c => !decide (skip c)).map g).sum)
  | [], a, b => by simp
  | c :: t, a, b => by
    rw [List.foldl_cons, List.filter_cons]
    by_cases hc : skip c
    · rw [if_pos hc, foldl_skip_pair skip f g t, if_neg (by rw [decide_eq_true hc]; exact Bool.false_ne_true)]
    · rw [if_neg hc, foldl_skip_pair skip f g t, if_pos (by rw [decide_eq_false hc]; rfl), List.map_cons, List.map_cons,
        List.sum_cons, List.sum_cons, Int.add_assoc, Int.add_assoc]

/-! ### least squares: the normal equations -/

/-- normal equations: with `(N, D) = lstsqNumDen x y`, `n` points and `B = Σy·D − N·Σx`, the line
`y = (N/D)·x + B/(n·D)` has residuals `r_c` with `Σ r_c = 0` and `Σ x_c·r_c = 0` (both scaled by `n·D`);
for `D ≠ 0` this is the unique ordinary-least-squares line, so `N/D` is its slope -/
theorem lstsq_normal_eq (cells : List Nat) (x y : Nat → Int) (N D : Int)
    (h : lstsqNumDen (cells.map x) (cells.map y) = (N, D)) :
    (cells.map fun c => (cells.length : Int) * D * y c - (cells.length : Int) * N * x c -
        ((cells.map y).sum * D - N * (cells.map x).sum)).sum = 0 ∧
    (cells.map fun c => x c * ((cells.length : Int) * D * y c - (cells.length : Int) * N * x c -
        ((cells.map y).sum * D - N * (cells.map x).sum))).sum = 0 := by
  simp only [lstsqNumDen, List.map_map, List.zip_map', List.length_map, Function.comp_def, Prod.mk.injEq] at h
  obtain ⟨hN, hD⟩ := h
  -- pull the sums out: the first equation holds for any `N`, `D` (it defines the intercept), the second
  -- is `D·N − N·D = 0`
  constructor
  · rw [sum_map_sub, sum_map_sub, sum_map_mul_left, sum_map_mul_left, sum_map_const _ (fun _ => _) _ (fun _ _ => rfl)]
    rw [Int.mul_sub, Int.mul_assoc, Int.mul_assoc, Int.mul_comm D]
    omega
  · have hd : ∀ (a b s : Int) (c : Nat), x c * (a * y c - b * x c - s) = a * (x c * y c) - b * (x c * x c) - s * x c := by
      intro a b s c
      rw [Int.mul_sub, Int.mul_sub, Int.mul_left_comm, Int.mul_left_comm (x c) b, Int.mul_comm (x c) s]
    simp only [hd]
    rw [sum_map_sub, sum_map_sub, sum_map_mul_left, sum_map_mul_left, sum_map_mul_left]
    generalize (cells.map x).sum = Sx at hN hD ⊢
    generalize (cells.map y).sum = Sy at hN ⊢
    generalize (cells.map fun c => x c * y c).sum = Sxy at hN ⊢
    generalize (cells.map fun c => x c * x c).sum = Sxx at hD ⊢
    generalize (cells.length : Int) = n at hN hD ⊢
    have : n * D * Sxy - n * N * Sxx - (Sy * D - N * Sx) * Sx =
        D * (n * Sxy - Sx * Sy) - N * (n * Sxx - Sx * Sx) := by
      rw [Int.mul_sub, Int.mul_sub, Int.sub_mul, Int.mul_comm n D, Int.mul_assoc D n, Int.mul_comm n N,
        Int.mul_assoc N n, Int.mul_comm Sy D, Int.mul_assoc D Sy, Int.mul_comm Sy Sx, Int.mul_assoc N Sx]
      omega
    rw [this, hN, hD, Int.mul_comm, Int.sub_self]

/-! ### least squares: the denominator -/

/-- `Σ_{i<j} (x_i − x_j)²` over a list -/
def pairSqSum : List Int → Int
  | [] => 0
  | x :: t => (t.map fun y => (x - y) * (x - y)).sum + pairSqSum t

/-- `Σ_y (x − y)² = n·x² − 2·x·Σy + Σy²` -/
theorem sum_sq_diff (x : Int) (t : List Int) :
    (t.map fun y => (x - y) * (x - y)).sum =
      (t.length : Int) * (x * x) - 2 * x * t.sum + (t.map fun y => y * y).sum := by
  induction t with
  | nil => simp
  | cons a t ih =>
    simp only [List.map_cons, List.sum_cons, List.length_cons, ih]
    rw [Int.natCast_succ]
    grind

/-- Lagrange's identity: the denominator `n·Σx² − (Σx)²` of `arithmetics.lstsq` is `Σ_{i<j} (x_i − x_j)²` -/
theorem lstsqNumDen_snd (xs ys : List Int) : (lstsqNumDen xs ys).2 = pairSqSum xs := by
  show (xs.length : Int) * (xs.map fun x => x * x).sum - xs.sum * xs.sum = pairSqSum xs
  induction xs with
  | nil => rfl
  | cons x t ih =>
    simp only [pairSqSum, List.map_cons, List.sum_cons, List.length_cons, sum_sq_diff, ← ih]
    rw [Int.natCast_succ]
    grind

theorem sqdiffs_nonneg (x : Int) (t : List Int) : ∀ a ∈ t.map (fun y => (x - y) * (x - y)), 0 ≤ a := by
  intro a ha
  obtain ⟨y, _, rfl⟩ := List.mem_map.mp ha
  exact Int.natAbs_mul_self (a := x - y) ▸ Int.natCast_nonneg _

theorem pairSqSum_nonneg : ∀ xs : List Int, 0 ≤ pairSqSum xs
  | [] => Int.le_refl 0
  | x :: t => by
    have := sum_nonneg_of_forall (sqdiffs_nonneg x t)
    have := pairSqSum_nonneg t
    rw [pairSqSum]
    omega

/-- the sum of squared differences vanishes exactly when all entries are equal -/
theorem pairSqSum_eq_zero_iff (xs : List Int) : pairSqSum xs = 0 ↔ ∀ a ∈ xs, ∀ b ∈ xs, a = b := by
  -- by the recursion of `pairSqSum`: zero iff the entries are pairwise equal
  have hpw : pairSqSum xs = 0 ↔ xs.Pairwise (· = ·) := by
    induction xs with
    | nil => exact ⟨fun _ => List.Pairwise.nil, fun _ => rfl⟩
    | cons x t ih =>
      have h1 := sum_nonneg_of_forall (sqdiffs_nonneg x t)
      have h2 := pairSqSum_nonneg t
      have hhead : (t.map fun y => (x - y) * (x - y)).sum = 0 ↔ ∀ y ∈ t, x = y := by
        rw [sum_eq_zero_iff_of_nonneg (sqdiffs_nonneg x t), List.forall_mem_map]
        refine forall_congr' fun y => imp_congr_right fun _ => ?_
        rw [Int.mul_eq_zero, or_self]
        omega
      rw [List.pairwise_cons, ← hhead, ← ih, pairSqSum]
      omega
  exact hpw.trans ⟨fun h a ha b hb => h.forall_of_forall_of_flip (fun _ _ => rfl) (h.imp Eq.symm) ha hb,
    List.pairwise_of_forall_mem_list⟩

/-- along strictly monotone values (either direction) the first and the last of at least two cells differ;
in particular two of the values differ -/
theorem strictMono_ends_ne (f : Nat → Int) : ∀ (cells : List Nat), 1 < cells.length →
    ((cells.map f).Pairwise (· < ·) ∨ (cells.map f).Pairwise (· > ·)) →
    f cells.head! ≠ f cells.getLast! ∧ ∃ a ∈ cells.map f, ∃ b ∈ cells.map f, a ≠ b
  | a :: b :: t, _, hmono => by
    have hl : (a :: b :: t).getLast! ∈ b :: t := List.getLast_mem (List.cons_ne_nil b t)
    have hm : f (a :: b :: t).getLast! ∈ (b :: t).map f := List.mem_map_of_mem hl
    have hne : f a ≠ f (a :: b :: t).getLast! := by
      rcases hmono with h | h
      · exact Int.ne_of_lt ((List.pairwise_cons.mp h).1 _ hm)
      · exact Int.ne_of_gt ((List.pairwise_cons.mp h).1 _ hm)
    exact ⟨hne, f a, List.mem_cons_self, _, List.mem_cons_of_mem _ hm, hne⟩

end Pf.C10
