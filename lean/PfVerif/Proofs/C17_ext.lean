import PfVerif.Model.C17_ext
import PfVerif.Proofs.C17
/-! Lemmas for `Props/C17_ext.lean`: `np.diff` / `np.mean` of a coordinate vector, and the loop body of
`get_edge` against the declarative edge. -/
namespace Pf.C17x
open Pf.C17

/-! ### `np.diff` / `np.mean` -/

theorem diffL_length : ∀ (v : List Rat), (diffL v).length = v.length - 1
  | [] => rfl
  | [_] => rfl
  | a :: b :: r => by rw [diffL, List.length_cons, diffL_length (b :: r)]; rfl

theorem diffL_eq_nil_iff (v : List Rat) : diffL v = [] ↔ v.length ≤ 1 := by
  rw [← List.length_eq_zero_iff, diffL_length]; omega

/-- the differences telescope: their sum is `last - first` -/
theorem diffL_sum : ∀ (a : Rat) (l : List Rat), (diffL (a :: l)).sum = (a :: l).getLast (by simp) - a
  | a, [] => Rat.sub_self.symm
  | a, b :: r => by
    rw [diffL, List.sum_cons, diffL_sum b r, List.getLast_cons (List.cons_ne_nil b r), Rat.add_comm,
      sub_add_sub_cancel]

theorem diffL_map_range' (f : Nat → Rat) : ∀ (n s : Nat),
    diffL ((List.range' s (n + 1)).map f) = (List.range' s n).map fun i => f (i + 1) - f i
  | 0, s => by simp [List.range', diffL]
  | n + 1, s => by
    have ih := diffL_map_range' f n (s + 1)
    rw [List.range'_succ, List.range'_succ] at *
    simp only [List.map_cons, diffL] at *
    rw [ih, List.range'_succ (s := s)]
    simp

theorem sum_replicate (k : Rat) : ∀ (n : Nat), (List.replicate n k).sum = (n : Rat) * k
  | 0 => (Rat.zero_mul k).symm
  | n + 1 => by
    rw [List.replicate_succ, List.sum_cons, sum_replicate k n, Rat.natCast_add, Rat.add_mul, Rat.add_comm]
    exact congrArg ((n : Rat) * k + ·) (Rat.one_mul k).symm

theorem resOf_const_step (f : Nat → Rat) (res : Rat) (hf : ∀ i, f (i + 1) - f i = res) {m : Nat} (h : 2 ≤ m) :
    resOf ((List.range m).map f) = some (absQ res) := by
  obtain ⟨n, rfl⟩ : ∃ n, m = n + 2 := ⟨m - 2, by omega⟩
  have hd : diffL ((List.range (n + 2)).map f) = List.replicate (n + 1) res := by
    rw [List.range_eq_range', diffL_map_range' f (n + 1) 0, List.map_congr_left fun i _ => hf i, List.map_const',
      List.length_range']
  simp only [resOf, meanL, hd, sum_replicate, List.length_replicate, List.isEmpty_iff, List.replicate_eq_nil_iff,
    Nat.succ_ne_zero, if_false, Option.map_some]
  rw [Rat.mul_comm, Rat.mul_div_cancel (natCast_ne_zero (Nat.succ_pos n))]

/-! ### `get_edge` with an arbitrary structuring element -/

theorem selected_all (st : Array Bool) (p : Int × Int → Bool) :
    (selected st).all p = true ↔ ∀ k, k < 9 → st[k]! = true → p (win[k]!) = true := by
  simp only [selected, List.all_eq_true, List.mem_map, List.mem_filter, List.mem_range]
  exact ⟨fun h k hk hs => h _ ⟨k, ⟨hk, hs⟩, rfl⟩, fun h _ ⟨k, ⟨hk, hs⟩, e⟩ => e ▸ h k hk hs⟩

/-- the loop body as one Boolean formula: a valid cell stays set iff it is on the border or not all selected
neighbours are valid -/
theorem ite_edge (A B1 B2 B3 B4 N : Bool) :
    (if (!A || B1 || B2 || B3 || B4) = true then A else if N = true then false else A) =
      (A && ((B1 || B2 || B3 || B4) || !N)) := by
  revert A B1 B2 B3 B4 N; decide

theorem eq_pred_iff {k n : Nat} (h : k < n) : k = n - 1 ↔ k + 1 = n := by
  rw [eq_comm, Nat.sub_eq_iff_eq_add (Nat.lt_of_le_of_lt (Nat.zero_le k) h), eq_comm]

theorem edgeCell_spec (nrow ncol : Nat) (a st : Array Bool) (r c : Nat) (hr : r < nrow) (hc : c < ncol) :
    edgeCell nrow ncol a st r c = true ↔ IsEdgeS nrow ncol a st r c := by
  have hnbr : (!(selected st).all fun o => at2 ncol a ((r : Int) + o.1).toNat ((c : Int) + o.2).toNat) = true ↔
      ∃ k, k < 9 ∧ st[k]! = true ∧
        at2 ncol a ((r : Int) + (win[k]!).1).toNat ((c : Int) + (win[k]!).2).toNat = false := by
    rw [Bool.not_eq_true', ← Bool.not_eq_true, selected_all]
    simp only [Classical.not_forall, exists_prop, Bool.not_eq_true]
  rw [edgeCell, ite_edge, Bool.and_eq_true, Bool.or_eq_true, hnbr, IsEdgeS]
  simp only [Bool.or_eq_true, beq_iff_eq, eq_pred_iff hr, eq_pred_iff hc, or_assoc]

end Pf.C17x
