import PfVerif.Model.C06Depth
import PfVerif.Proofs.C06Fuel
import PfVerif.Proofs.C06Min
/-! `elv_max`: the restricted initial outlets, and the certificate theorem for the priority flood
started from ANY valid seed array (used for `elv_max` and for every outlet mode). -/
namespace Pf.C06
open Pf

variable {G : Grid} {conn : Nat} {elev : Array Int} {nod : Array Bool}

theorem edgeBelow_get (m : Int) (c : Nat) (hc : c < G.n) :
    (edgeBelow G conn elev nod m)[c]! = ((getEdge G conn nod)[c]! && decide (elev[c]! ≤ m)) := by
  unfold edgeBelow
  rw [getElem!_map_range _ _ _ hc]

/-- **`elv_max`**: the initial outlets are the edge cells at or below `elv_max` -/
theorem edgeBelow_spec (m : Int) (c : Nat) (hc : c < G.n) :
    (edgeBelow G conn elev nod m)[c]! = true ↔ (IsEdge G conn nod c ∧ elev[c]! ≤ m) := by
  rw [edgeBelow_get m c hc, Bool.and_eq_true, getEdge_spec G conn nod c hc, decide_eq_true_eq]

theorem seeds0E_some {pits : Option (List Nat)} {elvMax : Option Int} {q : Array Bool}
    (h : seeds0E G conn elev nod pits elvMax = some q) :
    (∃ m, pits = none ∧ elvMax = some m ∧ q = edgeBelow G conn elev nod m ∧
        ∃ c, c < G.n ∧ q[c]! = true) ∨
    ((pits ≠ none ∨ elvMax = none) ∧ q = seeds0 G conn nod pits) := by
  unfold seeds0E at h
  split at h
  · rename_i m
    simp only at h
    split at h
    · rename_i hany
      injection h with h
      left
      refine ⟨m, rfl, rfl, h.symm, ?_⟩
      obtain ⟨c, hc, hq⟩ := List.any_eq_true.1 hany
      exact ⟨c, List.mem_range.1 hc, by rw [← h]; exact hq⟩
    · cases h
  · rename_i hne
    injection h with h
    right
    refine ⟨?_, h.symm⟩
    cases pits with
    | some l => exact Or.inl (by simp)
    | none =>
      cases elvMax with
      | none => exact Or.inr rfl
      | some m => exact absurd rfl (fun h => hne m rfl h)

theorem seeds0E_size {pits : Option (List Nat)} {elvMax : Option Int} {q : Array Bool}
    (h : seeds0E G conn elev nod pits elvMax = some q) : q.size = G.n := by
  rcases seeds0E_some h with ⟨m, _, _, hq, _⟩ | ⟨_, hq⟩
  · rw [hq]; simp [edgeBelow]
  · rw [hq]; exact seeds0_size pits

theorem seeds0E_valid {pits : Option (List Nat)} {elvMax : Option Int} {q : Array Bool}
    (hpits : ∀ l, pits = some l → ∀ p, p ∈ l → p < G.n → nod[p]! = false)
    (h : seeds0E G conn elev nod pits elvMax = some q) (c : Nat) (hc : c < G.n) (hq : q[c]! = true) :
    nod[c]! = false := by
  rcases seeds0E_some h with ⟨m, _, _, hqe, _⟩ | ⟨_, hqe⟩
  · rw [hqe] at hq
    exact ((edgeBelow_spec m c hc).1 hq).1.1.2
  · rw [hqe] at hq
    exact seeds0_valid pits hpits c hc hq

theorem seedsOfE_ok {pits : Option (List Nat)} {minMode : Bool} {elvMax : Option Int} {s : Array Bool}
    (h : seedsOfE G conn elev nod pits minMode elvMax = .ok s) :
    ∃ q, seeds0E G conn elev nod pits elvMax = some q ∧
      ((minMode = false ∧ s = q) ∨
       (minMode = true ∧ ∃ hd tl, initHeap G elev q = hd :: tl ∧
          s = (Array.replicate G.n false).setIfInBounds hd.idx true)) := by
  unfold seedsOfE at h
  split at h
  · cases h
  · rename_i q hq
    refine ⟨q, hq, ?_⟩
    cases minMode with
    | false =>
      simp only [Bool.false_eq_true, if_false] at h
      injection h with h
      exact Or.inl ⟨rfl, h.symm⟩
    | true =>
      simp only [if_true] at h
      split at h
      · cases h
      · rename_i hd tl heq
        injection h with h
        exact Or.inr ⟨rfl, hd, tl, heq, h.symm⟩

theorem seedsOfE_size {pits : Option (List Nat)} {minMode : Bool} {elvMax : Option Int} {s : Array Bool}
    (h : seedsOfE G conn elev nod pits minMode elvMax = .ok s) : s.size = G.n := by
  obtain ⟨q, hq, h | h⟩ := seedsOfE_ok h
  · rw [h.2]; exact seeds0E_size hq
  · obtain ⟨_, hd, tl, _, hs⟩ := h
    rw [hs]; simp

theorem seedsOfE_valid {pits : Option (List Nat)} {minMode : Bool} {elvMax : Option Int} {s : Array Bool}
    (hpits : ∀ l, pits = some l → ∀ p, p ∈ l → p < G.n → nod[p]! = false)
    (h : seedsOfE G conn elev nod pits minMode elvMax = .ok s) (c : Nat) (hc : c < G.n)
    (hs : s[c]! = true) : nod[c]! = false := by
  obtain ⟨q, hq, h | h⟩ := seedsOfE_ok h
  · rw [h.2] at hs; exact seeds0E_valid hpits hq c hc hs
  · obtain ⟨_, hd, tl, heq, hse⟩ := h
    obtain ⟨a1, a2, _, _⟩ := initHeap_head heq
    rw [hse, get!_setIfInBounds] at hs
    by_cases hcm : hd.idx = c
    · subst hcm; exact seeds0E_valid hpits hq _ a1 a2
    · have : ¬ (hd.idx = c ∧ hd.idx < (Array.replicate G.n false).size) := fun h => hcm h.1
      rw [if_neg this] at hs
      simp [hc] at hs

/-- without `elv_max`, `seedsOfE` is `seedsOf` -/
theorem seedsOfE_none (pits : Option (List Nat)) (minMode : Bool) :
    seedsOfE G conn elev nod pits minMode none =
      match seedsOf G conn elev nod pits minMode with
      | none => .error .indexError
      | some s => .ok s := by
  have h0 : seeds0E G conn elev nod pits none = some (seeds0 G conn nod pits) := by
    unfold seeds0E; cases pits <;> rfl
  unfold seedsOfE seedsOf
  rw [h0]
  cases minMode with
  | false => simp
  | true =>
    simp only [if_true]
    cases initHeap G elev (seeds0 G conn nod pits) <;> rfl


/-- the priority flood from an arbitrary array of valid seed cells empties its heap within `n + 1`
pops and its output is accepted by the certificate -/
theorem fillFrom_cert {seed : Array Bool} (hN : nod.size = G.n) (hE : elev.size = G.n)
    (hS : seed.size = G.n) (hSV : ∀ c : Nat, c < G.n → seed[c]! = true → nod[c]! = false) :
    (fillLoop G conn elev (G.n + 1) (initState G elev nod seed)).q = [] ∧
    ∃ rk, FillCert G conn elev nod seed (fillLoop G conn elev (G.n + 1) (initState G elev nod seed)).f
      (fillLoop G conn elev (G.n + 1) (initState G elev nod seed)).d8 rk := by
  have hq := loop_empties (conn := conn) (elev := elev) (G.n + 1) _
    (sized_init hN hE hS) (by rw [pot_init]; omega)
  obtain ⟨rk, I⟩ := inv_loop (conn := conn) (G.n + 1) _ _ (inv_init (conn := conn) hN hE hS hSV)
  exact ⟨hq, _, inv_final I hq hSV⟩

theorem fillModelE_run {pits : Option (List Nat)} {minMode : Bool} {elvMax : Option Int}
    {f : Array Int} {d8 : Array Nat} {fin : Bool}
    (h : fillModelE G conn elev nod pits minMode elvMax = .ok (f, d8, fin)) :
    ∃ seed, seedsOfE G conn elev nod pits minMode elvMax = .ok seed ∧
      f = (fillLoop G conn elev (G.n + 1) (initState G elev nod seed)).f ∧
      d8 = (fillLoop G conn elev (G.n + 1) (initState G elev nod seed)).d8 ∧
      fin = (fillLoop G conn elev (G.n + 1) (initState G elev nod seed)).q.isEmpty := by
  unfold fillModelE at h
  split at h
  · cases h
  · rename_i seed hseed
    injection h with h
    simp only [Prod.mk.injEq] at h
    exact ⟨seed, hseed, h.1.symm, h.2.1.symm, h.2.2.symm⟩

end Pf.C06
