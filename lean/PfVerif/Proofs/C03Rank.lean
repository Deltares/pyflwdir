import PfVerif.Proofs.C03Topo
/-! Rank certificate on arrays: the local condition `DoneAt`, `checkRankCert` ↔ `RankCertA`, soundness
(unbounded on both sides): rank `k ≥ 0` = least number of steps to a pit, rank `-1` = never a pit. -/
namespace Pf

/-- cell `i` is locally certified -/
def DoneAt (ds : Array Nat) (rk : Array Int) (i : Nat) : Prop :=
  (ds[i]! = i ∧ rk[i]! = 0) ∨
  (ds[i]! ≠ i ∧ ((rk[i]! = -1 ∧ rk[ds[i]!]! = -1) ∨ (0 ≤ rk[ds[i]!]! ∧ rk[i]! = rk[ds[i]!]! + 1)))

theorem DoneAt.range {ds : Array Nat} {rk : Array Int} {i : Nat} (h : DoneAt ds rk i) :
    rk[i]! = -1 ∨ 0 ≤ rk[i]! := by
  rcases h with ⟨_, h0⟩ | ⟨_, ⟨h1, _⟩ | ⟨h1, h2⟩⟩
  · exact Or.inr (by omega)
  · exact Or.inl h1
  · exact Or.inr (by omega)

theorem DoneAt.ds_ne {ds : Array Nat} {rk : Array Int} {i : Nat} (h : DoneAt ds rk i) :
    rk[ds[i]!]! ≠ -9999 := by
  rcases h with ⟨hp, h0⟩ | ⟨_, ⟨_, h2⟩ | ⟨h2, _⟩⟩
  · rw [hp]; omega
  · omega
  · omega

theorem DoneAt.ne {ds : Array Nat} {rk : Array Int} {i : Nat} (h : DoneAt ds rk i) : rk[i]! ≠ -9999 := by
  rcases h.range with h | h <;> omega

/-- the Boolean check at a cell: missing and marked `-9999`, or linked into the range and locally certified -/
theorem rankCertAt_iff (ds : Array Nat) (rk : Array Int) (i : Nat) :
    rankCertAt ds rk i = true ↔
      (ds[i]! = ds.size ∧ rk[i]! = -9999) ∨ (ds[i]! < ds.size ∧ DoneAt ds rk i) := by
  unfold rankCertAt
  by_cases hd : ds[i]! = ds.size
  · rw [if_pos hd, beq_iff_eq]
    exact ⟨fun h => Or.inl ⟨hd, h⟩, fun h => h.elim (·.2) fun h => absurd hd (Nat.ne_of_lt h.1)⟩
  · rw [if_neg hd, Bool.and_eq_true, decide_eq_true_eq, or_iff_right fun h => hd h.1]
    refine and_congr_right fun _ => ?_
    unfold DoneAt
    by_cases hp : ds[i]! = i
    · rw [if_pos hp, beq_iff_eq]
      exact ⟨fun h => Or.inl ⟨hp, h⟩, fun h => h.elim (·.2) fun h => absurd hp h.1⟩
    · rw [if_neg hp, or_iff_right fun h => hp h.1]
      simp only [hp, ne_eq, not_false_eq_true, true_and, Bool.or_eq_true, Bool.and_eq_true, beq_iff_eq,
        decide_eq_true_eq]

theorem rankCertA_iff (ds : Array Nat) (rk : Array Int) :
    RankCertA ds rk ↔ rk.size = ds.size ∧ ∀ i, i < ds.size →
      (ds[i]! = ds.size ∧ rk[i]! = -9999) ∨ (ds[i]! < ds.size ∧ DoneAt ds rk i) := by
  constructor
  · intro h
    refine ⟨h.size, fun i hi => ?_⟩
    by_cases hd : ds[i]! = ds.size
    · exact Or.inl ⟨hd, h.nodata i hi hd⟩
    · refine Or.inr ⟨h.lt i hi hd, ?_⟩
      by_cases hp : ds[i]! = i
      · exact Or.inl ⟨hp, h.pit i hi hp⟩
      · exact Or.inr ⟨hp, h.step i hi hd hp⟩
  · rintro ⟨hsz, h⟩
    have key : ∀ i, i < ds.size → (ds[i]! = ds.size → rk[i]! = -9999) ∧
        (ds[i]! ≠ ds.size → ds[i]! < ds.size ∧ DoneAt ds rk i) := by
      intro i hi
      rcases h i hi with h1 | h1
      · exact ⟨fun _ => h1.2, fun hd => absurd h1.1 hd⟩
      · exact ⟨fun hd => absurd hd (Nat.ne_of_lt h1.1), fun _ => h1⟩
    exact ⟨hsz, fun i hi => (key i hi).1, fun i hi hd => ((key i hi).2 hd).1,
      fun i hi hp => (((key i hi).2 (Nat.ne_of_lt (hp.symm ▸ hi))).2.resolve_right fun h => h.1 hp).2,
      fun i hi hd hp => (((key i hi).2 hd).2.resolve_left fun h => hp h.1).2⟩

theorem checkRankCert_iff (ds : Array Nat) (rk : Array Int) :
    checkRankCert ds rk = true ↔ RankCertA ds rk := by
  simp only [checkRankCert, Bool.and_eq_true, beq_iff_eq, List.all_eq_true, List.mem_range,
    rankCertAt_iff, rankCertA_iff]

namespace RankCertA
variable {ds : Array Nat} {rk : Array Int}

theorem done (h : RankCertA ds rk) {i : Nat} (hv : Valid ds i) : DoneAt ds rk i := by
  by_cases hp : ds[i]! = i
  · exact Or.inl ⟨hp, h.pit i hv.1 hp⟩
  · exact Or.inr ⟨hp, h.step i hv.1 (Nat.ne_of_lt hv.2) hp⟩

theorem valid_of_ne (h : RankCertA ds rk) {i : Nat} (hi : i < ds.size) (hne : rk[i]! ≠ -9999) :
    Valid ds i :=
  ⟨hi, h.lt i hi fun hd => hne (h.nodata i hi hd)⟩

/-- a valid cell never points to a missing cell -/
theorem valid_ds (h : RankCertA ds rk) {i : Nat} (hv : Valid ds i) : Valid ds ds[i]! :=
  h.valid_of_ne hv.2 (h.done hv).ds_ne

theorem wf (h : RankCertA ds rk) : WF ds := by
  intro i hi
  by_cases hd : ds[i]! = ds.size
  · exact ⟨Nat.le_of_eq hd, fun hlt => absurd hd (Nat.ne_of_lt hlt)⟩
  · have hlt := h.lt i hi hd
    exact ⟨Nat.le_of_lt hlt, fun _ => (h.valid_ds ⟨hi, hlt⟩).2⟩

theorem valid_iter (h : RankCertA ds rk) : ∀ (k : Nat) {i : Nat}, Valid ds i → Valid ds (iterA ds k i) := by
  intro k
  induction k with
  | zero => intro i hv; exact hv
  | succ k ih => intro i hv; exact ih (h.valid_ds hv)

/-- on the network the rank is `-1` or a natural number -/
theorem range (h : RankCertA ds rk) {i : Nat} (hv : Valid ds i) : rk[i]! = -1 ∨ 0 ≤ rk[i]! :=
  (h.done hv).range

/-- rank `k ≥ 0`: the `k`-th downstream cell is the first pit -/
theorem reaches (h : RankCertA ds rk) :
    ∀ (k i : Nat), Valid ds i → rk[i]! = (k : Int) → StepsToPit ds i k := by
  intro k
  induction k with
  | zero =>
    intro i hv hi
    rcases h.done hv with ⟨hp, _⟩ | ⟨_, ⟨h1, _⟩ | ⟨h1, h2⟩⟩
    · exact stepsToPit_zero_iff.2 hp
    · omega
    · omega
  | succ k ih =>
    intro i hv hi
    rcases h.done hv with ⟨_, h0⟩ | ⟨hp, ⟨h1, _⟩ | ⟨_, h2⟩⟩
    · omega
    · omega
    · exact (stepsToPit_succ_iff hp).2 (ih _ (h.valid_ds hv) (by omega))

/-- rank `-1`: no downstream cell is ever a pit -/
theorem never (h : RankCertA ds rk) :
    ∀ (k i : Nat), Valid ds i → rk[i]! = -1 → ds[iterA ds k i]! ≠ iterA ds k i := by
  intro k
  induction k with
  | zero =>
    intro i hv hi hp
    have := h.pit i hv.1 hp
    omega
  | succ k ih =>
    intro i hv hi
    rcases h.done hv with ⟨_, h0⟩ | ⟨_, ⟨_, h2⟩ | ⟨h1, h2⟩⟩
    · omega
    · exact ih _ (h.valid_ds hv) h2
    · omega

theorem steps_of_nonneg (h : RankCertA ds rk) {i : Nat} (hv : Valid ds i) (h0 : 0 ≤ rk[i]!) :
    ∃ k : Nat, rk[i]! = (k : Int) ∧ StepsToPit ds i k := by
  obtain ⟨k, hk⟩ := Int.eq_ofNat_of_zero_le h0
  exact ⟨k, hk, h.reaches k i hv hk⟩

theorem rank_eq_iff (h : RankCertA ds rk) {i : Nat} (hv : Valid ds i) (k : Nat) :
    rk[i]! = (k : Int) ↔ StepsToPit ds i k := by
  refine ⟨h.reaches k i hv, fun hs => ?_⟩
  rcases h.range hv with h1 | h1
  · exact absurd hs.1 (h.never k i hv h1)
  · obtain ⟨k', hk', hs'⟩ := h.steps_of_nonneg hv h1
    rw [hk', hs'.unique hs]

theorem rank_neg_iff (h : RankCertA ds rk) {i : Nat} (hv : Valid ds i) :
    rk[i]! = -1 ↔ ¬ ReachesPit ds i := by
  constructor
  · rintro h1 ⟨k, hk⟩
    exact h.never k i hv h1 hk
  · intro hn
    rcases h.range hv with h1 | h1
    · exact h1
    · obtain ⟨k', _, hs'⟩ := h.steps_of_nonneg hv h1
      exact absurd ⟨k', hs'.1⟩ hn

theorem rank_nonneg_iff (h : RankCertA ds rk) {i : Nat} (hv : Valid ds i) :
    0 ≤ rk[i]! ↔ ReachesPit ds i := by
  constructor
  · intro h0
    obtain ⟨k', _, hs'⟩ := h.steps_of_nonneg hv h0
    exact ⟨k', hs'.1⟩
  · intro hr
    rcases h.range hv with h1 | h1
    · exact absurd hr ((h.rank_neg_iff hv).1 h1)
    · exact h1

end RankCertA
end Pf
