import PfVerif.Model.C03
import PfVerif.Proofs.Paths
import PfVerif.Core.Folds
/-! Lemmas for C03: flow paths (`ReachesPit`, `StepsToPit`), soundness and completeness of the executable
order check `isTopo`, members of a downstream-first order drain to a pit, the closure certificate `isCompleteTopo`. -/
namespace Pf

/-! ### flow paths -/

theorem stepsToPit_zero_iff {ds : Array Nat} {i : Nat} : StepsToPit ds i 0 ↔ ds[i]! = i :=
  ⟨fun h => h.1, fun h => ⟨h, fun m hm => absurd hm (Nat.not_lt_zero m)⟩⟩

theorem stepsToPit_succ_iff {ds : Array Nat} {i k : Nat} (hp : ds[i]! ≠ i) :
    StepsToPit ds i (k + 1) ↔ StepsToPit ds ds[i]! k := by
  constructor
  · exact fun h => ⟨h.1, fun m hm => h.2 (m + 1) (Nat.succ_lt_succ hm)⟩
  · intro h
    refine ⟨h.1, fun m hm => ?_⟩
    cases m with
    | zero => exact hp
    | succ m => exact h.2 m (Nat.lt_of_succ_lt_succ hm)

/-- the least number of steps to a pit is unique -/
theorem StepsToPit.unique {ds : Array Nat} {i k k' : Nat} (h : StepsToPit ds i k) (h' : StepsToPit ds i k') :
    k = k' := by
  rcases Nat.lt_trichotomy k k' with hlt | heq | hgt
  · exact absurd h.1 (h'.2 k hlt)
  · exact heq
  · exact absurd h'.1 (h.2 k' hgt)

/-- if a pit is reached there is a least number of steps (well-ordering of ℕ, constructive) -/
theorem reaches_least {ds : Array Nat} {i : Nat} (h : ReachesPit ds i) : ∃ k, StepsToPit ds i k := by
  obtain ⟨k, hk⟩ := h
  induction k using Nat.strongRecOn with
  | _ k ih =>
    by_cases hex : ∃ m, m < k ∧ ds[iterA ds m i]! = iterA ds m i
    · obtain ⟨m, hm, hp⟩ := hex
      exact ih m hm hp
    · exact ⟨k, hk, fun m hm hp => hex ⟨m, hm, hp⟩⟩

/-! ### lists of cells -/

theorem mem_pitIndices (ds : Array Nat) (p : Nat) : p ∈ pitIndices ds ↔ (p < ds.size ∧ ds[p]! = p) := by
  simp [pitIndices]

theorem length_eq_countP {n : Nat} {p : Nat → Bool} {seq : List Nat} (hn : seq.Nodup)
    (hmem : ∀ i, i ∈ seq ↔ (i < n ∧ p i = true)) : seq.length = (List.range n).countP p := by
  rw [List.countP_eq_length_filter]
  apply List.Perm.length_eq
  rw [List.perm_ext_iff_of_nodup hn (List.Nodup.sublist List.filter_sublist List.nodup_range)]
  intro a
  rw [hmem a, List.mem_filter, List.mem_range]

/-! ### `isTopo` is sound and complete for `Topo` + range -/

/-- the `seen` array of `isTopoAux` once the cells of `pre` have been accepted -/
def seenAfter (n : Nat) (pre : List Nat) : Array Bool :=
  pre.foldl (fun s i => s.setIfInBounds i true) (Array.replicate n false)

theorem seenAfter_get (n : Nat) (pre : List Nat) (j : Nat) :
    (seenAfter n pre)[j]! = true ↔ j ∈ pre ∧ j < n := by
  unfold seenAfter
  rw [get!_foldl_set (fun _ => true), Array.size_replicate]
  by_cases h : j ∈ pre ∧ j < n
  · simp [h]
  · have : (Array.replicate n false)[j]! = false := by by_cases hj : j < n <;> simp [hj]
    simp [h, this]

theorem seenAfter_snoc (n : Nat) (pre : List Nat) (i : Nat) :
    (seenAfter n pre).setIfInBounds i true = seenAfter n (pre ++ [i]) := by
  simp [seenAfter]

theorem isTopoAux_sound (ds : Array Nat) :
    ∀ (rest pre : List Nat), Topo ds pre → (∀ i ∈ pre, i < ds.size) →
      isTopoAux ds rest (seenAfter ds.size pre) = true →
      Topo ds (pre ++ rest) ∧ ∀ i ∈ pre ++ rest, i < ds.size := by
  intro rest
  induction rest with
  | nil => intro pre ht hb _; simpa using ⟨ht, hb⟩
  | cons i rest ih =>
    intro pre ht hb h
    simp only [isTopoAux, Bool.and_eq_true, decide_eq_true_eq, Bool.not_eq_true', Bool.or_eq_true,
      beq_iff_eq, seenAfter_snoc] at h
    obtain ⟨⟨⟨hi, hns⟩, hd⟩, hrest⟩ := h
    have hnotin : i ∉ pre := fun hm =>
      Bool.false_ne_true (hns.symm.trans ((seenAfter_get _ _ _).2 ⟨hm, hi⟩))
    have hdd : ds[i]! = i ∨ ds[i]! ∈ pre := hd.imp_right fun h => ((seenAfter_get _ _ _).1 h.2).1
    have hb' : ∀ j ∈ pre ++ [i], j < ds.size := by
      intro j hj
      rcases List.mem_append.1 hj with hj | hj
      · exact hb j hj
      · exact List.mem_singleton.1 hj ▸ hi
    rw [List.append_cons]
    exact ih (pre ++ [i]) (ht.snoc hnotin hdd) hb' hrest

theorem isTopo_sound' (ds : Array Nat) (seq : List Nat) (h : isTopo ds seq = true) :
    Topo ds seq ∧ ∀ i ∈ seq, i < ds.size :=
  isTopoAux_sound ds seq [] Topo.nil (fun _ hi => nomatch hi) h

theorem isTopoAux_complete (ds : Array Nat) :
    ∀ (rest pre : List Nat), Topo ds (pre ++ rest) → (∀ i ∈ pre ++ rest, i < ds.size) →
      isTopoAux ds rest (seenAfter ds.size pre) = true := by
  intro rest
  induction rest with
  | nil => intro _ _ _; rfl
  | cons i rest ih =>
    intro pre ht hb
    rw [List.append_cons] at ht hb
    obtain ⟨_, hni, hd⟩ := (Topo.prefix rest (pre ++ [i]) ht).snoc_inv
    have hi : i < ds.size := hb i (by simp)
    simp only [isTopoAux, Bool.and_eq_true, decide_eq_true_eq, Bool.not_eq_true', Bool.or_eq_true,
      beq_iff_eq, seenAfter_snoc]
    refine ⟨⟨⟨hi, ?_⟩, ?_⟩, ih (pre ++ [i]) ht hb⟩
    · exact Bool.eq_false_iff.2 fun hs => hni ((seenAfter_get _ _ _).1 hs).1
    · refine hd.imp_right fun h => ?_
      have hlt : ds[i]! < ds.size := hb _ (by simp [h])
      exact ⟨hlt, (seenAfter_get _ _ _).2 ⟨h, hlt⟩⟩

/-! ### members of a downstream-first order drain to a pit -/

theorem Topo.reaches {ds : Array Nat} {seq : List Nat} (ht : Topo ds seq) :
    ∀ i ∈ seq, ReachesPit ds i :=
  fun i hi => (ht.reaches_pit i hi).imp fun _ h => h.2

/-! ### the closure certificate -/

/-- closure under "is a pit" and "drains into a listed cell" captures every cell that drains to a pit -/
theorem closed_contains_reaching (ds : Array Nat) (hwf : WF ds) (S : Nat → Prop)
    (hcl : ∀ j, j < ds.size → (ds[j]! = j ∨ (ds[j]! < ds.size ∧ S ds[j]!)) → S j) :
    ∀ (k i : Nat), Valid ds i → ds[iterA ds k i]! = iterA ds k i → S i := by
  intro k
  induction k with
  | zero => intro i hv hp; exact hcl i hv.1 (Or.inl hp)
  | succ k ih =>
    intro i hv hp
    exact hcl i hv.1 (Or.inr ⟨hv.2, ih ds[i]! ⟨hv.2, (hwf i hv.1).2 hv.2⟩ hp⟩)

theorem isCompleteTopo_closure {ds : Array Nat} {seq : List Nat} (h : isCompleteTopo ds seq = true) :
    ∀ j, j < ds.size → (ds[j]! = j ∨ (ds[j]! < ds.size ∧ ds[j]! ∈ seq)) → j ∈ seq := by
  simp only [isCompleteTopo, Bool.and_eq_true, List.all_eq_true, List.mem_range, Bool.or_eq_true,
    Bool.not_eq_true', Bool.or_eq_false_iff, Bool.and_eq_false_imp, List.contains_eq_mem,
    decide_eq_true_eq, decide_eq_false_iff_not, beq_eq_false_iff_ne] at h
  intro j hj hd
  rcases h.2 j hj with ⟨h1, h2⟩ | h1
  · rcases hd with hd | ⟨hd1, hd2⟩
    · exact absurd hd h1
    · exact absurd hd2 (h2 hd1)
  · exact h1

end Pf
