import PfVerif.Proofs.C18Part
/-! Pfafstetter link rule, arithmetic part: codes whose digits below level `e` are all 1
(`c % 10^(e+1) = 11…1`), the digit of `c + m·10^e`, the relation `LinkE e A B` ("`A` and `B` agree above
level `e`, the digit of `B` at level `e` is odd and smaller than that of `A`"), its stability under
changes of `B` below level `e`, and its consequence for the codes reduced modulo `10^depth`. -/
namespace Pf.C18
open Pf

/-- `11…1` (`k` ones) -/
def R1 : Nat → Int
  | 0 => 0
  | k+1 => (10 : Int) ^ k + R1 k

theorem R1_bound : ∀ k, 0 ≤ R1 k ∧ R1 k < (10 : Int) ^ k := by
  intro k
  induction k with
  | zero => simp [R1]
  | succ k ih =>
    simp only [R1, Int.pow_succ]
    have := pow10_pos k
    omega

theorem R1_eq_ofDigits : ∀ d, R1 d = ofDigits (List.replicate d 1) := by
  intro d
  induction d with
  | zero => rfl
  | succ d ih =>
    rw [List.replicate_succ' (n := d), ofDigits_snoc, ← ih]
    simp [R1, Int.add_comm]

theorem pfBase_R1 (d : Nat) (hd : 1 ≤ d) : pfBase d = R1 d :=
  (pfBase_eq d hd).trans (R1_eq_ofDigits d).symm

theorem ofDigits_append (a b : List Int) :
    ofDigits (a ++ b) = ofDigits a + (10 : Int) ^ a.length * ofDigits b := by
  induction a with
  | nil => simp [ofDigits]
  | cons d a ih =>
    simp only [List.cons_append, ofDigits, ih, List.length_cons, Int.pow_succ]
    grind

/-- the two ways of saying that the digits `0..e` of a code are 1: `GoodLow` (digit list) and the remainder `R1` -/
theorem GoodLow.mod_R1 {depth e : Nat} {c : Int} (h : GoodLow depth e c) (he : e < depth) :
    c % (10 : Int) ^ (e + 1) = R1 (e + 1) := by
  obtain ⟨l, q, hlen, _, hc, hlow⟩ := h
  have htake : l.take (e + 1) = List.replicate (e + 1) 1 := List.ext_getElem? fun k => by
    rw [List.getElem?_take, List.getElem?_replicate]
    split
    · exact hlow k (by omega) (by omega)
    · rfl
  have hsplit := ofDigits_append (l.take (e + 1)) (l.drop (e + 1))
  rw [List.take_append_drop, htake, ← R1_eq_ofDigits, List.length_replicate] at hsplit
  have hd : (10 : Int) ^ depth = (10 : Int) ^ (e + 1) * (10 : Int) ^ (depth - (e + 1)) := by
    rw [← Int.pow_add]; congr 1; omega
  have hb := R1_bound (e + 1)
  rw [hc, hsplit, hd, Int.mul_assoc, Int.add_assoc, ← Int.mul_add, Int.add_mul_emod_self_left]
  exact Int.emod_eq_of_lt hb.1 hb.2

/-- a code whose digits `0..e` are 1, split at level `e` -/
theorem code_split {c : Int} {e : Nat} (hc : c % (10 : Int) ^ (e + 1) = R1 (e + 1)) :
    c = (10 : Int) ^ e * (10 * (c / (10 : Int) ^ (e + 1)) + 1) + R1 e := by
  have h := Int.mul_ediv_add_emod c ((10 : Int) ^ (e + 1))
  rw [hc] at h
  simp only [R1, Int.pow_succ] at h ⊢
  grind

theorem code_divmod {c : Int} {e : Nat} (hc : c % (10 : Int) ^ (e + 1) = R1 (e + 1)) (m : Int) :
    (c + m * (10 : Int) ^ e) / (10 : Int) ^ e = 10 * (c / (10 : Int) ^ (e + 1)) + 1 + m ∧
    (c + m * (10 : Int) ^ e) % (10 : Int) ^ e = R1 e := by
  refine (Int.ediv_emod_unique (pow10_pos e)).2 ⟨?_, (R1_bound e).1, (R1_bound e).2⟩
  have := code_split hc
  grind

/-- adding at most `8·10^e` to a code whose digits `0..e` are 1 does not change the digits above `e` -/
theorem base_div {c : Int} {e : Nat} (hc : c % (10 : Int) ^ (e + 1) = R1 (e + 1)) {x : Int}
    (h0 : 0 ≤ x) (h8 : x ≤ 8 * (10 : Int) ^ e) :
    (c + x) / (10 : Int) ^ (e + 1) = c / (10 : Int) ^ (e + 1) := by
  have hp := pow10_pos e
  have hb := R1_bound e
  have := code_split hc
  refine ((Int.ediv_emod_unique (pow10_pos (e + 1))).2
    ⟨?_, ?_, ?_⟩ : _ ∧ (c + x) % (10 : Int) ^ (e + 1) = (10 : Int) ^ e + R1 e + x).1
  · rw [Int.pow_succ]; grind
  · omega
  · rw [Int.pow_succ]; omega

/-- `A` and `B` agree above level `e`; at level `e` the digit of `B` is odd and smaller than that of `A` -/
def LinkE (e : Nat) (A B : Int) : Prop :=
  A / (10 : Int) ^ e / 10 = B / (10 : Int) ^ e / 10 ∧ dig e B % 2 = 1 ∧ dig e B < dig e A

theorem LinkE.congr {e : Nat} {A B B' : Int} (h : LinkE e A B)
    (hq : B / (10 : Int) ^ e = B' / (10 : Int) ^ e) : LinkE e A B' := by
  unfold LinkE dig at *
  rw [← hq]; exact h

/-- the codes written by `pfInner` for the `i`-th tributary / inter-basin against the code `c + 2k·10^e`
of the confluence cell -/
theorem LinkE.new {c : Int} {e : Nat} (hc : c % (10 : Int) ^ (e + 1) = R1 (e + 1)) {a k : Int}
    (hk : 0 ≤ k) (hka : 2 * k < a) (ha : a ≤ 8) :
    LinkE e (c + a * (10 : Int) ^ e) (c + 2 * k * (10 : Int) ^ e) := by
  unfold LinkE dig
  rw [(code_divmod hc a).1, (code_divmod hc (2 * k)).1]
  omega

/-- two codes `c + x`, `c + x'` (`x, x' ≤ 8·10^e'`, digits `0..e'` of `c` equal to 1) have the same digits
above every level `e > e'` -/
theorem quot_refine {c : Int} {e' e : Nat} (hc : c % (10 : Int) ^ (e' + 1) = R1 (e' + 1)) {x x' : Int}
    (h0 : 0 ≤ x) (h8 : x ≤ 8 * (10 : Int) ^ e') (h0' : 0 ≤ x') (h8' : x' ≤ 8 * (10 : Int) ^ e')
    (he : e' < e) : (c + x) / (10 : Int) ^ e = (c + x') / (10 : Int) ^ e := by
  have hsplit : (10 : Int) ^ e = (10 : Int) ^ (e' + 1) * (10 : Int) ^ (e - e' - 1) := by
    rw [← Int.pow_add]; congr 1; omega
  rw [hsplit, ← Int.ediv_ediv_of_nonneg (Int.le_of_lt (pow10_pos _)),
    ← Int.ediv_ediv_of_nonneg (Int.le_of_lt (pow10_pos _)), base_div hc h0 h8, base_div hc h0' h8']

/-! ### reduction modulo `10^depth` -/

theorem quot_mod {A : Int} {D k : Nat} (hk : k ≤ D) :
    (A % (10 : Int) ^ D) / (10 : Int) ^ k = (A / (10 : Int) ^ k) % (10 : Int) ^ (D - k) := by
  have hsplit : (10 : Int) ^ D = (10 : Int) ^ k * (10 : Int) ^ (D - k) := by
    rw [← Int.pow_add]; congr 1; omega
  have hD := pow10_pos D
  have hK := pow10_pos k
  have hDK := pow10_pos (D - k)
  have h1 := Int.mul_ediv_add_emod A ((10 : Int) ^ D)
  have hr0 := Int.emod_nonneg A (Int.ne_of_gt hD)
  have hr1 := Int.emod_lt_of_pos A hD
  generalize A % (10 : Int) ^ D = r at *
  generalize A / (10 : Int) ^ D = q at *
  -- r = 10^k * s + t
  have h2 := Int.mul_ediv_add_emod r ((10 : Int) ^ k)
  have ht0 := Int.emod_nonneg r (Int.ne_of_gt hK)
  have ht1 := Int.emod_lt_of_pos r hK
  have hs0 : 0 ≤ r / (10 : Int) ^ k := Int.ediv_nonneg hr0 (Int.le_of_lt hK)
  generalize r % (10 : Int) ^ k = t at *
  generalize hs : r / (10 : Int) ^ k = s at *
  have hs1 : s < (10 : Int) ^ (D - k) := by
    apply Classical.byContradiction
    intro hn
    have : (10 : Int) ^ k * (10 : Int) ^ (D - k) ≤ (10 : Int) ^ k * s :=
      Int.mul_le_mul_of_nonneg_left (by omega) (Int.le_of_lt hK)
    rw [← hsplit] at this
    omega
  have hA : A / (10 : Int) ^ k = (10 : Int) ^ (D - k) * q + s := by
    refine ((Int.ediv_emod_unique hK).2 ⟨?_, ht0, ht1⟩).1
    rw [← h1, ← h2, hsplit]
    grind
  rw [hA]
  exact ((Int.ediv_emod_unique (q := q) hDK).2 ⟨by omega, hs0, hs1⟩).2.symm

theorem dig_mod {A : Int} {D k : Nat} (hk : k < D) : dig k (A % (10 : Int) ^ D) = dig k A := by
  unfold dig
  rw [quot_mod (Nat.le_of_lt hk)]
  apply Int.emod_emod_of_dvd
  have : D - k = (D - k - 1) + 1 := by omega
  rw [this, Int.pow_succ]
  exact Int.dvd_mul_left _ _

theorem quot_quot {A : Int} {j k : Nat} (h : j ≤ k) :
    A / (10 : Int) ^ k = A / (10 : Int) ^ j / (10 : Int) ^ (k - j) := by
  rw [Int.ediv_ediv_of_nonneg (Int.le_of_lt (pow10_pos _)), ← Int.pow_add]
  congr 2; omega

/-- the link rule for the reduced codes: from `LinkE e A B` with `e < depth`, at every level `k < depth`
the prefixes above `k` differ, or the digits at `k` agree, or the digit of `B` is odd and smaller -/
theorem LinkE.final {e D : Nat} {A B : Int} (h : LinkE e A B) (he : e < D) (k : Nat) (hk : k < D) :
    pre k (A % (10 : Int) ^ D) ≠ pre k (B % (10 : Int) ^ D) ∨
    dig k (B % (10 : Int) ^ D) = dig k (A % (10 : Int) ^ D) ∨
    (dig k (B % (10 : Int) ^ D) % 2 = 1 ∧ dig k (B % (10 : Int) ^ D) < dig k (A % (10 : Int) ^ D)) := by
  obtain ⟨h1, h2, h3⟩ := h
  rw [dig_mod hk, dig_mod hk]
  by_cases hke : k = e
  · subst hke; exact Or.inr (Or.inr ⟨h2, h3⟩)
  · by_cases hlt : e < k
    · right; left
      unfold dig
      have hA := quot_quot (A := A) (j := e + 1) (k := k) (by omega)
      have hB := quot_quot (A := B) (j := e + 1) (k := k) (by omega)
      have hA1 : A / (10 : Int) ^ (e + 1) = A / (10 : Int) ^ e / 10 := by
        rw [Int.pow_succ, Int.ediv_ediv_of_nonneg (Int.le_of_lt (pow10_pos _))]
      have hB1 : B / (10 : Int) ^ (e + 1) = B / (10 : Int) ^ e / 10 := by
        rw [Int.pow_succ, Int.ediv_ediv_of_nonneg (Int.le_of_lt (pow10_pos _))]
      rw [hA, hB, hA1, hB1, h1]
    · left
      intro hpre
      unfold pre at hpre
      have hA := quot_quot (A := A % (10 : Int) ^ D) (j := k + 1) (k := e) (by omega)
      have hB := quot_quot (A := B % (10 : Int) ^ D) (j := k + 1) (k := e) (by omega)
      have heq : (A % (10 : Int) ^ D) / (10 : Int) ^ e = (B % (10 : Int) ^ D) / (10 : Int) ^ e := by
        rw [hA, hB, hpre]
      have hdA := dig_mod (A := A) (D := D) (k := e) he
      have hdB := dig_mod (A := B) (D := D) (k := e) he
      unfold dig at hdA hdB h3
      rw [heq] at hdA
      omega

end Pf.C18
