import PfVerif.Model.C01_ext
import PfVerif.Model.C03
import PfVerif.Proofs.C19Nup
import PfVerif.Proofs.C01
/-! Lemmas for the C01 extension: `core.headwater_indices` / `core.confluence_indices` on top of
`core.upstream_count`, by the fold lemma `nup_fold` of C19, which holds for every cell (also cells outside the
network and networks that are not well formed). -/
namespace Pf.Fd.Ext
open Pf Pf.C19 Spec

theorem upstreamCount_size (ds : Array Nat) (mask : Option (Array Bool)) : (upstreamCount ds mask).size = ds.size := by
  rw [upstreamCount_eq]
  have : ∀ (l : List Nat) (a : Array Int), (l.foldl (nupStep ds mask) a).size = a.size := by
    intro l
    induction l with
    | nil => intro a; rfl
    | cons j l ih => intro a; rw [List.foldl_cons, ih, nupStep_size]
  rw [this]; simp

/-- the filter predicate of C19 is the one of `Spec.inflowCount` on cells of the raster -/
theorem inflow_eq (ds : Array Nat) (mask : Option (Array Bool)) (v : Nat) (hv : v < ds.size) (j : Nat) :
    inflow ds mask v j = (j != v && ds[j]! == v && maskAt mask j) := by
  rw [Bool.eq_iff_iff]
  simp only [inflow, Bool.and_eq_true, bne_iff_ne, ne_eq, beq_iff_eq]
  constructor
  · rintro ⟨⟨⟨_, h2⟩, h3⟩, h4⟩
    exact ⟨⟨fun h => h2 (by rw [h4, h]), h4⟩, h3⟩
  · rintro ⟨⟨h1, h2⟩, h3⟩
    exact ⟨⟨⟨by rw [h2]; omega, fun h => h1 (by rw [h, h2])⟩, h3⟩, h2⟩

/-- `upstream_count`, every cell: the number of admitted inflowing cells if the cell is part of the
network or something flows into it, `-9` otherwise -/
theorem upstreamCount_get (ds : Array Nat) (mask : Option (Array Bool)) (v : Nat) (hv : v < ds.size) :
    (upstreamCount ds mask)[v]! =
      if ds[v]! ≠ ds.size ∨ 0 < inflowCount ds mask v then (inflowCount ds mask v : Int) else -9 := by
  have hc : inflowCount ds mask v = ((List.range ds.size).filter (inflow ds mask v)).length := by
    unfold inflowCount
    congr 1
    apply List.filter_congr
    intro j _
    exact (inflow_eq ds mask v hv j).symm
  rw [upstreamCount_eq, nup_fold ds mask v hv _ _ (by simp) (fun j hj => List.mem_range.mp hj), ← hc]
  have hmem : v ∈ List.range ds.size := List.mem_range.mpr hv
  have h9 : (Array.replicate ds.size (-9 : Int))[v]! = -9 := by simp [hv]
  simp only [hmem, true_and, h9]
  split
  · omega
  · rfl

/-! ### counting in a filtered range -/

theorem one_le_count_iff (p : Nat → Bool) (n : Nat) :
    1 ≤ ((List.range n).filter p).length ↔ ∃ j, j < n ∧ p j = true := by
  induction n with
  | zero => simp
  | succ n ih =>
    rw [filter_range_succ, List.length_append]
    constructor
    · intro h
      by_cases hp : p n = true
      · exact ⟨n, by omega, hp⟩
      · have : 1 ≤ ((List.range n).filter p).length := by simpa [hp] using h
        obtain ⟨j, hj, hpj⟩ := ih.1 this
        exact ⟨j, by omega, hpj⟩
    · rintro ⟨j, hj, hpj⟩
      by_cases hjn : j = n
      · subst hjn; simp [hpj]
      · have := ih.2 ⟨j, by omega, hpj⟩
        omega

theorem two_le_count_iff (p : Nat → Bool) (n : Nat) :
    2 ≤ ((List.range n).filter p).length ↔ ∃ j k, j < k ∧ k < n ∧ p j = true ∧ p k = true := by
  induction n with
  | zero => simp
  | succ n ih =>
    rw [filter_range_succ, List.length_append]
    constructor
    · intro h
      by_cases h2 : 2 ≤ ((List.range n).filter p).length
      · obtain ⟨j, k, h1, h2, h3, h4⟩ := ih.1 h2
        exact ⟨j, k, h1, by omega, h3, h4⟩
      · by_cases hp : p n = true
        · have h1 : 1 ≤ ((List.range n).filter p).length := by
            simp only [hp, if_true, List.length_cons, List.length_nil] at h; omega
          obtain ⟨j, hj, hpj⟩ := (one_le_count_iff p n).1 h1
          exact ⟨j, n, hj, by omega, hpj, hp⟩
        · exfalso
          simp only [hp, Bool.false_eq_true, if_false, List.length_nil] at h
          omega
    · rintro ⟨j, k, h1, h2, h3, h4⟩
      by_cases hkn : k = n
      · subst hkn
        have := (one_le_count_iff p k).2 ⟨j, h1, h3⟩
        simp only [h4, if_true, List.length_cons, List.length_nil]
        omega
      · have := ih.2 ⟨j, k, h1, by omega, h3, h4⟩
        omega

theorem count_zero_iff (p : Nat → Bool) (n : Nat) :
    ((List.range n).filter p).length = 0 ↔ ∀ j, j < n → p j = false := by
  constructor
  · intro h j hj
    cases hp : p j with
    | false => rfl
    | true =>
      have := (one_le_count_iff p n).2 ⟨j, hj, hp⟩
      omega
  · intro h
    cases hc : ((List.range n).filter p).length with
    | zero => rfl
    | succ m =>
      obtain ⟨j, hj, hp⟩ := (one_le_count_iff p n).1 (by omega)
      rw [h j hj] at hp; cases hp

/-! ### the two index lists -/

theorem mem_headwaterIndices (ds : Array Nat) (mask : Option (Array Bool)) (i : Nat) :
    i ∈ headwaterIndices ds mask ↔ i < ds.size ∧ ds[i]! ≠ ds.size ∧ inflowCount ds mask i = 0 := by
  unfold headwaterIndices
  simp only [List.mem_filter, List.mem_range, upstreamCount_size, beq_iff_eq]
  constructor
  · rintro ⟨hi, h⟩
    rw [upstreamCount_get ds mask i hi] at h
    split at h
    · rename_i hc
      refine ⟨hi, ?_, by omega⟩
      rcases hc with hc | hc
      · exact hc
      · omega
    · omega
  · rintro ⟨hi, h1, h2⟩
    refine ⟨hi, ?_⟩
    rw [upstreamCount_get ds mask i hi, if_pos (Or.inl h1), h2]
    rfl

theorem mem_confluenceIndices (ds : Array Nat) (mask : Option (Array Bool)) (i : Nat) :
    i ∈ confluenceIndices ds mask ↔ i < ds.size ∧ 2 ≤ inflowCount ds mask i := by
  unfold confluenceIndices
  simp only [List.mem_filter, List.mem_range, upstreamCount_size, decide_eq_true_eq]
  constructor
  · rintro ⟨hi, h⟩
    rw [upstreamCount_get ds mask i hi] at h
    split at h
    · exact ⟨hi, by omega⟩
    · omega
  · rintro ⟨hi, h2⟩
    refine ⟨hi, ?_⟩
    rw [upstreamCount_get ds mask i hi, if_pos (Or.inr (by omega))]
    omega

/-- in a well-formed network (no link into a missing cell) only cells of the network have inflow -/
theorem inflow_valid (ds : Array Nat) (hwf : WF ds) (mask : Option (Array Bool)) (i : Nat) (hi : i < ds.size)
    (h : 1 ≤ inflowCount ds mask i) : ds[i]! ≠ ds.size := by
  obtain ⟨j, hj, hp⟩ := (one_le_count_iff _ _).1 h
  simp only [Bool.and_eq_true, bne_iff_ne, ne_eq, beq_iff_eq] at hp
  obtain ⟨⟨_, h2⟩, _⟩ := hp
  have := (hwf j hj).2 (by rw [h2]; exact hi)
  rw [h2] at this
  omega

end Pf.Fd.Ext
