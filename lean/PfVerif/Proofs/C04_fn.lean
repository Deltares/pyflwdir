import PfVerif.Proofs.C04
import PfVerif.Model.C14
import PfVerif.Generated.Sweeps
/-! Bridging lemmas between the mechanically translated sweep kernels (`Pf.Generated.Sw`) and the hand-written
models (`sweepUp` / `sweepDown` / explicit folds). -/
namespace Pf.SwBridge
open Pf

/-- `for idx0 in seq[::-1]` as a `foldl` over the reversed list is the `foldr` the models use -/
theorem foldl_reverse_eq_foldr {α β : Type} (f : β → α → β) (g : α → β → β) (h : ∀ b a, f b a = g a b)
    (l : List α) (b : β) : List.foldl f b l.reverse = List.foldr g b l := by
  have : f = fun b a => g a b := by funext b a; exact h b a
  subst this
  simp [List.foldl_reverse]

theorem foldl_congr_step {α β : Type} (f g : β → α → β) (h : ∀ b a, f b a = g b a) (l : List α) (b : β) :
    List.foldl f b l = List.foldl g b l := by
  have : f = g := by funext b a; exact h b a
  rw [this]

/-- `mask is None or mask[idx0]` is the model's `maskAt` -/
theorem mask_valid (mask : Option (Array Bool)) (i : Nat) :
    (mask.isNone || Generated.Sw.optGetB mask i) = maskAt mask i := by
  cases mask <;> simp [Generated.Sw.optGetB, maskAt]

end Pf.SwBridge
