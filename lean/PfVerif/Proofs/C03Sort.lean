import PfVerif.Proofs.C03Order
import PfVerif.Proofs.C03RankAlg
/-! `order_cells('sort')`: `argsort(rank)[-n:]` with `n = #{rank ≥ 0}` is the rank-sorted list of the
cells of rank ≥ 0. -/
namespace Pf

theorem drop_eq_filter_of_upward (p : Nat → Bool) :
    ∀ (l : List Nat), l.Pairwise (fun a b => p a = true → p b = true) →
      l.drop (l.length - l.countP p) = l.filter p := by
  intro l
  induction l with
  | nil => intro _; rfl
  | cons a l ih =>
    intro hs
    rw [List.pairwise_cons] at hs
    by_cases ha : p a = true
    · have hall : ∀ b ∈ a :: l, p b = true := fun b hb =>
        (List.mem_cons.1 hb).elim (fun h => h ▸ ha) (fun h => hs.1 b h ha)
      rw [List.countP_eq_length.2 hall, List.filter_eq_self.2 hall, Nat.sub_self, List.drop_zero]
    · rw [List.countP_cons_of_neg ha, List.filter_cons_of_neg ha, List.length_cons,
        Nat.succ_sub List.countP_le_length, List.drop_succ_cons]
      exact ih hs.2

theorem orderSort_spec (ds : Array Nat) (hwf : WF ds) (seq : List Nat) (h : orderSort ds = some seq)
    (hpit : ∃ p, p < ds.size ∧ ds[p]! = p) :
    ∃ r c, rank ds = some (r, c) ∧ RankCertA ds r ∧
      seq.Pairwise (fun a b => r[a]! ≤ r[b]!) ∧ seq.Nodup ∧
      (∀ i, i ∈ seq ↔ (i < ds.size ∧ 0 ≤ r[i]!)) ∧ seq.length = c := by
  obtain ⟨r, c, h1, h2, h3⟩ := rank_certified ds hwf
  refine ⟨r, c, h1, h2, ?_⟩
  obtain ⟨s, hs⟩ : ∃ s, s = (List.range ds.size).mergeSort (rankLe r) := ⟨_, rfl⟩
  have hperm : s.Perm (List.range ds.size) := hs ▸ List.mergeSort_perm _ _
  have hsorted : s.Pairwise (fun a b => r[a]! ≤ r[b]!) := by
    have := List.pairwise_mergeSort (le := rankLe r)
      (fun a b c hab hbc => decide_eq_true (Int.le_trans (of_decide_eq_true hab) (of_decide_eq_true hbc)))
      (fun a b => by
        rw [Bool.or_eq_true]
        exact (Int.le_total r[a]! r[b]!).imp decide_eq_true decide_eq_true) (List.range ds.size)
    rw [← hs] at this
    exact this.imp fun hab => of_decide_eq_true hab
  have hcnt : s.countP (fun i => decide ((0:Int) ≤ r[i]!)) = c := by
    rw [hperm.countP_eq, h3]; rfl
  -- a pit has rank 0, so `n ≠ 0` and the slice `[-n:]` is not the whole array by accident
  have hc0 : c ≠ 0 := by
    obtain ⟨p, hp, hpp⟩ := hpit
    intro hc
    have := List.countP_eq_zero.1 (hc ▸ hcnt) p ((hperm.mem_iff).2 (List.mem_range.2 hp))
    rw [h2.pit p hp hpp] at this
    exact this (by decide)
  have hseq : seq = s.filter (fun i => decide ((0:Int) ≤ r[i]!)) := by
    simp only [orderSort, h1, Option.map_some, Option.some.injEq, ← hs, if_neg hc0] at h
    rw [← h, ← hperm.length_eq.trans List.length_range, ← hcnt]
    exact drop_eq_filter_of_upward _ s (hsorted.imp fun hab ha => by
      simp only [decide_eq_true_eq] at ha ⊢; omega)
  subst hseq
  refine ⟨hsorted.filter _, (hperm.nodup_iff.2 List.nodup_range).sublist List.filter_sublist, fun i => ?_,
    by rw [← List.countP_eq_length_filter, hcnt]⟩
  rw [List.mem_filter, hperm.mem_iff, List.mem_range, decide_eq_true_eq]

end Pf
