import PfVerif.Model.C05_ext
import PfVerif.Proofs.Paths
/-! `core.outflow_idxs`: the mask of the loop is a downstream sweep that decides `NoExit`, and the loop
returns the cells of the order that pass its test against the final mask. -/
namespace Pf.C05x
open Pf

theorem NoExit_iff (ds : Array Nat) (region : Array Bool) (j : Nat) :
    NoExit ds region j ↔ exitCell ds region j = false ∧ (ds[j]! = j ∨ NoExit ds region ds[j]!) := by
  constructor
  · exact fun h => ⟨h 0, Or.inr fun k => h (k+1)⟩
  · rintro ⟨h0, hp | h1⟩ k
    · rw [iterA_pit hp]; exact h0
    · cases k with
      | zero => exact h0
      | succ k => exact h1 k

/-! ### the loop of `outflow_idxs` -/

/-- mask update of the loop as a sweep step: `mask[i] := mask[ds i] ∧ ¬ exitCell i` -/
def gOut (ds : Array Nat) (region : Array Bool) (i : Nat) (_own dsv : Bool) : Bool :=
  dsv && !exitCell ds region i

/-- body of the loop of `core.outflow_idxs` -/
def outStep (ds : Array Nat) (region : Array Bool) (st : Array Bool × List Nat) (idx0 : Nat) :
    Array Bool × List Nat :=
  let (mask, acc) := st
  let d := ds[idx0]!
  if mask[d]! && region[idx0]! && (d == idx0 || !region[d]!) then
    (mask.setIfInBounds idx0 false, idx0 :: acc)
  else (mask.setIfInBounds idx0 mask[d]!, acc)

theorem outflowIdxs_eq (ds : Array Nat) (seq : List Nat) (region : Array Bool) :
    outflowIdxs ds seq region =
      ((seq.foldl (outStep ds region) (Array.replicate ds.size true, [])).2).reverse := rfl

theorem outStep_eq (ds : Array Nat) (region : Array Bool) (m : Array Bool) (a : List Nat) (i : Nat) :
    outStep ds region (m, a) i =
      (stepDown ds (gOut ds region) m i,
        if (exitCell ds region i && m[ds[i]!]!) = true then i :: a else a) := by
  have hb : (m[ds[i]!]! && region[i]! && (ds[i]! == i || !region[ds[i]!]!)) =
      (m[ds[i]!]! && exitCell ds region i) := by
    simp only [exitCell, Bool.and_assoc]
  simp only [outStep, hb, stepDown, gOut]
  cases m[ds[i]!]! <;> cases exitCell ds region i <;> rfl

/-- the test of the loop read against the final mask `M`: at a pit the loop reads the start value -/
def outTest (ds : Array Nat) (region M : Array Bool) (i : Nat) : Bool :=
  exitCell ds region i && (ds[i]! == i || M[ds[i]!]!)

/-- the list can be read off the final mask because what the test reads is never written again -/
theorem outflow_fold (ds : Array Nat) (region : Array Bool) (seq : List Nat) (htopo : Topo ds seq)
    (m0 : Array Bool) (hb : ∀ i ∈ seq, i < m0.size) (h0 : ∀ i ∈ seq, m0[i]! = true) :
    seq.foldl (outStep ds region) (m0, []) =
      (sweepDown ds (gOut ds region) seq m0,
        (seq.filter (outTest ds region (sweepDown ds (gOut ds region) seq m0))).reverse) := by
  induction htopo with
  | nil => rfl
  | @snoc pre i hpre hi hds ih =>
    have hpre' : ∀ {P : Nat → Prop}, (∀ j ∈ pre ++ [i], P j) → ∀ j ∈ pre, P j :=
      fun h j hj => h j (List.mem_append_left _ hj)
    have hMi : (sweepDown ds (gOut ds region) pre m0)[i]! = true := by
      rw [(sweepDown_rec ds _ _ pre hpre (hpre' hb)).2 i hi]
      exact h0 i (List.mem_append_right _ (List.mem_singleton_self i))
    rw [List.foldl_append, ih (hpre' hb) (hpre' h0), sweepDown_snoc]
    generalize sweepDown ds (gOut ds region) pre m0 = M at hMi ⊢
    have hne : ∀ j ∈ pre, ds[j]! ≠ i := fun j hj h => hi (h ▸ hpre.ds_mem j hj)
    have hold : ∀ j ∈ pre, outTest ds region (stepDown ds (gOut ds region) M i) j = outTest ds region M j :=
      fun j hj => by rw [outTest, stepDown_get_ne ds _ M (hne j hj)]; rfl
    have hnew : outTest ds region (stepDown ds (gOut ds region) M i) i =
        (exitCell ds region i && M[ds[i]!]!) := by
      rcases hds with hp | hd
      · rw [outTest, hp, hMi, beq_self_eq_true, Bool.true_or]
      · have hp : ds[i]! ≠ i := fun h => hi (h ▸ hd)
        rw [outTest, stepDown_get_ne ds _ M hp, beq_false_of_ne hp, Bool.false_or]
    rw [List.foldl_cons, List.foldl_nil, outStep_eq, List.filter_append, List.filter_congr hold,
      List.filter_cons, List.filter_nil, hnew, List.reverse_append]
    split <;> rfl

theorem outflow_mask_iff (ds : Array Nat) (region : Array Bool) (seq : List Nat) (htopo : Topo ds seq)
    (m0 : Array Bool) (hb : ∀ i ∈ seq, i < m0.size) (h0 : ∀ i ∈ seq, m0[i]! = true) :
    ∀ j ∈ seq, (sweepDown ds (gOut ds region) seq m0)[j]! = true ↔ NoExit ds region j := by
  refine htopo.induction _ fun j hj hd => ?_
  rw [(sweepDown_rec ds _ _ seq htopo hb).1 j hj, NoExit_iff, gOut, Bool.and_eq_true,
    Bool.not_eq_true', and_comm]
  refine and_congr_right fun _ => ?_
  by_cases hp : ds[j]! = j
  · rw [if_pos hp, h0 j hj]
    exact iff_of_true rfl (Or.inl hp)
  · rw [if_neg hp, (hd hp).2, or_iff_right hp]

/-- the start mask of both loops is in range and `true` on the cells of the order -/
theorem allTrue_start {ds : Array Nat} {seq : List Nat} (hb : ∀ i ∈ seq, i < ds.size) :
    (∀ i ∈ seq, i < (Array.replicate ds.size true).size) ∧
    ∀ i ∈ seq, (Array.replicate ds.size true)[i]! = true :=
  ⟨fun i hi => Array.size_replicate ▸ hb i hi, fun i hi => get!_replicate _ _ (.inl (hb i hi))⟩

theorem outflowIdxs_eq_filter (ds : Array Nat) (region : Array Bool) (seq : List Nat) (htopo : Topo ds seq)
    (hb : ∀ i ∈ seq, i < ds.size) :
    outflowIdxs ds seq region = seq.filter (outTest ds region
      (sweepDown ds (gOut ds region) seq (Array.replicate ds.size true))) := by
  rw [outflowIdxs_eq, outflow_fold ds region seq htopo _ (allTrue_start hb).1 (allTrue_start hb).2,
    List.reverse_reverse]

end Pf.C05x
