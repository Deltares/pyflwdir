import PfVerif.Proofs.C09_ihuInv
import PfVerif.Proofs.C09Adj
/-! `outlet_pix`, `new_outlet` and the outlet-pixel invariants of `ihu_optimize_rivlen` / `ihu_minimize_error`
(C09 extension). -/
namespace Pf.C09ihu
open Pf

/-! ### `outlet_pix` -/

theorem div_block (a cs r : Nat) (hr : r < cs) : (a * cs + r) / cs = a := by
  have hcs : 0 < cs := by omega
  rw [Nat.mul_comm, Nat.mul_add_div hcs, Nat.div_eq_of_lt hr, Nat.add_zero]

theorem mod_block (a w x : Nat) (hx : x < w) : (a * w + x) % w = x := by
  rw [Nat.mul_comm, Nat.mul_add_mod, Nat.mod_eq_of_lt hx]

/-- what `outlet_pix(idx, …, all=False)` returns: pixels of coarse cell `idx` inside the raster that are pits, drain to a
missing pixel or drain into another coarse cell -/
def PixOf (ds : Array Nat) (idx ncol subncol cs p : Nat) : Prop :=
  p < ds.size ∧ subidx2idx p subncol cs ncol = idx ∧
    (ds[p]! = p ∨ ds[p]! = ds.size ∨ subidx2idx ds[p]! subncol cs ncol ≠ idx)

theorem outletPix_mem (ds : Array Nat) (idx ncol subncol cs : Nat) :
    ∀ p ∈ outletPix ds idx ncol subncol cs false, PixOf ds idx ncol subncol cs p := by
  unfold outletPix
  dsimp only
  refine foldl_inv _ (fun acc => ∀ p ∈ acc, PixOf ds idx ncol subncol cs p) _ ?_ _ (fun _ h => nomatch h)
  intro acc ci hci hacc
  have hci' : ci < cs := List.mem_range.mp hci
  refine ite_ind (P := fun l => ∀ p ∈ l, PixOf ds idx ncol subncol cs p) (fun _ => hacc) fun hc => ?_
  refine foldl_inv _ (fun acc => ∀ p ∈ acc, PixOf ds idx ncol subncol cs p) _ ?_ _ hacc
  intro acc ri hri hacc
  have hri' : ri < cs := List.mem_range.mp hri
  refine ite_ind (P := fun l => ∀ p ∈ l, PixOf ds idx ncol subncol cs p) (fun _ => hacc) fun hr => ?_
  -- the pixel `q` at (r_ul + ri, c_ul + ci) lies in the raster and in coarse cell `idx`
  generalize hq : (idx / ncol * cs + ri) * subncol + idx % ncol * cs + ci = q
  have hx : idx % ncol * cs + ci < subncol := by omega
  have hp : q < ds.size := by
    have h1 : (idx / ncol * cs + ri + 1) * subncol ≤ ds.size / subncol * subncol :=
      Nat.mul_le_mul_right _ (by omega)
    have h2 : ds.size / subncol * subncol ≤ ds.size := Nat.div_mul_le_self _ _
    have h3 : (idx / ncol * cs + ri + 1) * subncol = (idx / ncol * cs + ri) * subncol + subncol := by
      rw [Nat.add_mul, Nat.one_mul]
    omega
  have hcell : subidx2idx q subncol cs ncol = idx := by
    unfold subidx2idx
    rw [← hq, Nat.add_assoc, div_block _ _ _ hx, mod_block _ _ _ hx, div_block _ _ _ hri', div_block _ _ _ hci']
    exact Nat.div_add_mod' idx ncol
  have hgood : (ds[q]! = q ∨ ds[q]! = ds.size ∨ subidx2idx ds[q]! subncol cs ncol ≠ idx) →
      ∀ p ∈ acc ++ [q], PixOf ds idx ncol subncol cs p := by
    intro hd p hp'
    rcases List.mem_append.mp hp' with hp' | hp'
    · exact hacc p hp'
    · rw [List.mem_singleton.mp hp']; exact ⟨hp, hcell, hd⟩
  refine ite_ind (P := fun l => ∀ p ∈ l, PixOf ds idx ncol subncol cs p) (fun hpit => hgood (.inl hpit.symm)) fun _ => ?_
  refine ite_ind (P := fun l => ∀ p ∈ l, PixOf ds idx ncol subncol cs p) (fun hedge => hgood ?_) fun _ => hacc
  simp only [Bool.false_or, Bool.and_eq_true, Bool.or_eq_true, beq_iff_eq, bne_iff_ne] at hedge
  exact .inr hedge.2

/-! ### `new_outlet` -/

/-- what `new_outlet` has checked of the candidate `a = (pixel, cell downstream, path)` it selects: a pixel of
`outlet_pix` that `streams` does not mark, with more upstream area than `minupa`, whose walk ends in the 8-neighbour
(or the cell itself) `a.2.1` -/
def Picked (ds : Array Nat) (upa : Array Int) (idx0 : Nat) (streams : Array Int) (ncol subncol cs : Nat) (minupa : Int)
    (a : Nat × Nat × List Nat) : Prop :=
  a.1 ∈ outletPix ds idx0 ncol subncol cs false ∧ streams[a.1]! = -9 ∧ minupa < upa[a.1]! ∧
    ∃ last pds, newOutletWalk ds streams (ds.size + 1) a.1 [] = some (a.2.2, last, pds) ∧
      a.2.1 = subidx2idx pds subncol cs ncol ∧ inD8 idx0 a.2.1 ncol = true

/-- `new_outlet` leaves the coarse arrays alone, or gives cell `idx0` the outlet pixel and the link of a candidate with
the properties `Picked`, marks that pixel in `streams` and the path below it as stream -/
theorem newOutlet_cases (ds : Array Nat) (upa : Array Int) (idx0 subidx0 : Nat) (streams : Array Int)
    (cds out : Array Nat) (ncol subncol cs minNum minDen : Nat) (minupa : Int) (target : Option Nat)
    (s' : Array Int) (c' o' : Array Nat) (f : Bool)
    (h : newOutlet ds upa idx0 subidx0 streams cds out ncol subncol cs minNum minDen minupa target = some (s', c', o', f)) :
    (s' = (streams.setIfInBounds subidx0 (-1)).setIfInBounds subidx0 (Int.ofNat idx0) ∧ c' = cds ∧ o' = out) ∨
      ∃ pout idxds path0, Picked ds upa idx0 (streams.setIfInBounds subidx0 (-1)) ncol subncol cs minupa (pout, idxds, path0) ∧
        s' = path0.foldl (fun s p => s.setIfInBounds p (max s[p]! (-1)))
          ((streams.setIfInBounds subidx0 (-1)).setIfInBounds pout (Int.ofNat idx0)) ∧
        c' = cds.setIfInBounds idx0 idxds ∧ o' = out.setIfInBounds idx0 pout := by
  unfold newOutlet at h
  dsimp only at h
  generalize hX : List.foldlM (m := Option) _ (minupa, (none : Option (Nat × Nat × List Nat))) _ = X at h
  cases X with
  | none => cases h
  | some res =>
    have key := foldlM_inv _ (fun (st : Int × Option (Nat × Nat × List Nat)) => minupa ≤ st.1 ∧
      ∀ a, st.2 = some a → Picked ds upa idx0 (streams.setIfInBounds subidx0 (-1)) ncol subncol cs minupa a) _ ?_ _ _
      ?_ hX
    · obtain ⟨u, sel⟩ := res
      cases sel with
      | none => cases h; exact .inl ⟨rfl, rfl, rfl⟩
      | some a => cases h; exact .inr ⟨_, _, _, key.2 _ rfl, rfl, rfl, rfl⟩
    · intro st cand st' hmem hst hstep
      by_cases hskip : (streams.setIfInBounds subidx0 (-1))[cand]! ≠ -9 ∨ upa[cand]! ≤ st.1
      · rw [if_pos hskip] at hstep; cases hstep; exact hst
      rw [if_neg hskip] at hstep
      simp only [not_or, Decidable.not_not, Int.not_le] at hskip
      cases hw : newOutletWalk ds (streams.setIfInBounds subidx0 (-1)) (ds.size + 1) cand [] with
      | none => rw [hw] at hstep; cases hstep
      | some r =>
        obtain ⟨path, last, pds⟩ := r
        rw [hw] at hstep
        dsimp only at hstep
        revert hstep
        refine ite_ind (P := fun o => o = some st' → _) (fun hc hstep => ?_) (fun _ hstep => by cases hstep; exact hst)
        cases hstep
        refine ⟨Int.le_of_lt (Int.lt_of_le_of_lt hst.1 hskip.2), fun a ha => ?_⟩
        cases ha
        refine ⟨hmem, hskip.1, Int.lt_of_le_of_lt hst.1 hskip.2, last, pds, hw, rfl, ?_⟩
        have hc2 := ((Bool.and_eq_true _ _).mp hc).2
        simp only [Bool.and_eq_true, Bool.or_eq_true, decide_eq_true_eq, bne_iff_ne, beq_iff_eq] at hc2
        rcases hc2 with h | h
        · exact h.1.2
        · dsimp only; rw [← h.2]; exact inD8_self _ _
    · exact ⟨Int.le_refl _, fun a ha => nomatch ha⟩

/-- the pixels of `outlet_pix` are acceptable outlets of their cell in the sense of `Exit` -/
theorem pixOf_exit (e : Env) (idx p : Nat) (hidx : idx < e.ncell) (h : PixOf e.ds idx e.ncol e.subncol e.cs p) :
    e.cell p = idx ∧ Exit e p := by
  obtain ⟨hp, hcell, hd⟩ := h
  have hc : e.cell p = idx := by simp [Env.cell, hp, hcell]
  refine ⟨hc, ?_⟩
  rcases hd with hd | hd | hd
  · exact Or.inl hd
  · right
    rw [hc, hd]
    simp only [Env.cell, Nat.lt_irrefl, if_false]
    omega
  · right
    rw [hc]
    unfold Env.cell
    split
    · exact hd
    · omega

/-- a coarse cell index has a column, unless the coarse raster has none -/
theorem col_ok (e : Env) (idx : Nat) : idx % e.ncol < e.ncol ∨ e.ncol = 0 := by
  by_cases h : e.ncol = 0
  · exact Or.inr h
  · exact Or.inl (Nat.mod_lt _ (by omega))

/-- one call of `new_outlet` keeps every entry of the outlet array acceptable -/
theorem newOutletE_inv (e : Env) (par : Par) (R : Nat → Nat → Prop) (idx0 subidx0 : Nat) (streams : Array Int)
    (cds out : Array Nat) (target : Option Nat) (s' : Array Int) (c' o' : Array Nat) (f : Bool)
    (hR : ∀ p, Exit e p → e.cell p < out.size → R (e.cell p) p) (hn : out.size ≤ e.ncell)
    (h : newOutletE e par idx0 subidx0 streams cds out target = some (s', c', o', f)) (ho : OutOK R out) :
    c'.size = cds.size ∧ o'.size = out.size ∧ OutOK R o' := by
  unfold newOutletE at h
  rcases newOutlet_cases _ _ _ _ _ _ _ _ _ _ _ _ _ _ _ _ _ _ h with ⟨_, rfl, rfl⟩ | ⟨p, v, path, hpk, _, rfl, rfl⟩
  · exact ⟨rfl, rfl, ho⟩
  · refine ⟨Array.size_setIfInBounds .., Array.size_setIfInBounds .., ho.set idx0 p fun hlt => ?_⟩
    obtain ⟨hcell, hex⟩ := pixOf_exit e idx0 p (by omega) (outletPix_mem e.ds idx0 e.ncol e.subncol e.cs p hpk.1)
    have := hR p hex (by rw [hcell]; exact hlt)
    rwa [hcell] at this

/-! ### `ihu_optimize_rivlen` -/

def TriInv (R : Nat → Nat → Prop) (n m : Nat) (st : Tri) : Prop := st.2.1.size = m ∧ st.2.2.size = n ∧ OutOK R st.2.2

/-- what one pass of the body of `ihu_optimize_rivlen` does: nothing, or one call of `new_outlet` for `idx0` followed,
when it succeeds, by writes of two kinds only: an upstream 8-neighbour `idx` of `idx0` is re-pointed to the old
downstream cell of `idx0`, or the move is undone (old link, old outlet pixel, `streams` in step) -/
theorem rivlenOne_cases (e : Env) (par : Par) (valid : Array Bool) (streams : Array Int) (cds out : Array Nat)
    (idx0 : Nat) (r : Tri × Bool) (h : rivlenOne e par valid (streams, cds, out) idx0 = some r) :
    r.1 = (streams, cds, out) ∨
      (valid[idx0]! = true ∧ valid[cds[idx0]!]! = true ∧
        ∃ s1 c1 o1 f, newOutletE e par idx0 out[idx0]! streams cds out none = some (s1, c1, o1, f) ∧
          ∀ P : Tri → Prop, P (s1, c1, o1) →
            (∀ s c o idx, idx ∈ upstreamD8 cds idx0 e.nrow e.ncol → valid[idx]! = true →
              inD8 idx cds[idx0]! e.ncol = true → P (s, c, o) → P (s, c.setIfInBounds idx cds[idx0]!, o)) →
            (∀ s c o, P (s, c, o) → P ((s.setIfInBounds o[idx0]! (-1)).setIfInBounds out[idx0]! (Int.ofNat idx0),
              c.setIfInBounds idx0 cds[idx0]!, o.setIfInBounds idx0 out[idx0]!)) → P r.1) := by
  unfold rivlenOne at h
  dsimp only at h
  by_cases h1 : (cds[idx0]! == idx0 || valid[cds[idx0]!]! == false || valid[idx0]! == false) = true
  · rw [if_pos h1] at h; cases h; exact .inl rfl
  rw [if_neg h1] at h
  simp only [Bool.or_eq_true, beq_iff_eq, not_or, Bool.not_eq_false] at h1
  by_cases h2 : ((upstreamD8 cds idx0 e.nrow e.ncol).isEmpty ||
      ((upstreamD8 cds idx0 e.nrow e.ncol).filter fun i => valid[i]!).all fun i => inD8 i cds[idx0]! e.ncol) = true
  · rw [if_pos h2] at h
    cases hnew : newOutletE e par idx0 out[idx0]! streams cds out none with
    | none => rw [hnew] at h; cases h
    | some x =>
      obtain ⟨s1, c1, o1, f⟩ := x
      rw [hnew] at h
      dsimp only at h
      refine .inr ⟨h1.2, h1.1.2, s1, c1, o1, f, rfl, fun P h0 hlink hundo => ?_⟩
      cases f
      · cases h; exact h0
      · cases h
        refine foldl_inv _ P _ ?_ _ h0
        intro ⟨s, c, o⟩ idx hidx hP
        dsimp only
        by_cases hv : valid[idx]! = true
        · rw [if_pos hv]
          refine hlink s c o idx hidx hv ?_ hP
          simp only [Bool.or_eq_true, List.isEmpty_iff, List.all_eq_true, List.mem_filter, and_imp] at h2
          rcases h2 with h2 | h2
          · rw [h2] at hidx; cases hidx
          · exact h2 idx hidx hv
        · rw [if_neg hv]
          by_cases hu : (c[idx0]! == idx) = true
          · rw [if_pos hu]; exact hundo s c o hP
          · rw [if_neg hu]; exact hP
  · rw [if_neg h2] at h; cases h; exact .inl rfl

/-- `rivlenOne` fails only when its call of `new_outlet` does -/
theorem rivlenOne_isSome (e : Env) (par : Par) (valid : Array Bool) (streams : Array Int) (cds out : Array Nat)
    (idx0 : Nat) (h : (newOutletE e par idx0 out[idx0]! streams cds out none).isSome = true) :
    (rivlenOne e par valid (streams, cds, out) idx0).isSome = true := by
  unfold rivlenOne
  dsimp only
  obtain ⟨⟨s1, c1, o1, f⟩, hnew⟩ := Option.isSome_iff_exists.mp h
  rw [hnew]
  simp only [apply_ite Option.isSome, Option.isSome_some, ite_self]

section
variable {e : Env} {par : Par} {valid : Array Bool}

/-- a predicate kept by the body is kept by `ihu_optimize_rivlen` -/
theorem optimizeRivlen_lift (P : Tri → Prop) (hP : ∀ st idx r, P st → rivlenOne e par valid st idx = some r → P r.1)
    (short : List Nat) (st st' : Tri) (h : optimizeRivlen e par short valid st = some st') (h0 : P st) : P st' := by
  unfold optimizeRivlen at h
  refine foldlM_inv _ P _ ?_ _ _ h0 h
  intro b i b' _ hb hstep
  dsimp only at hstep
  cases h1 : rivlenOne e par valid b i with
  | none => rw [h1] at hstep; cases hstep
  | some r1 =>
    obtain ⟨st1, b1⟩ := r1
    have hb1 := hP b i _ hb h1
    rw [h1] at hstep
    cases b1
    · dsimp only at hstep
      cases h2 : rivlenOne e par valid st1 b.2.1[i]! with
      | none => rw [h2] at hstep; cases hstep
      | some r2 =>
        rw [h2] at hstep
        cases hstep
        exact hP st1 _ _ hb1 h2
    · cases hstep; exact hb1
end
theorem bool_get_lt (valid : Array Bool) (i : Nat) (h : valid[i]! = true) : i < valid.size := by
  apply Classical.byContradiction
  intro hn
  rw [getElem!_neg valid i hn] at h
  cases h

theorem rivlenOne_inv (e : Env) (par : Par) (R : Nat → Nat → Prop) (n m : Nat) (valid : Array Bool) (st : Tri)
    (idx0 : Nat) (r : Tri × Bool) (hR : ∀ p, Exit e p → e.cell p < n → R (e.cell p) p) (hn : n ≤ e.ncell)
    (hinv : TriInv R n m st) (h : rivlenOne e par valid st idx0 = some r) : TriInv R n m r.1 := by
  obtain ⟨streams, cds, out⟩ := st
  obtain ⟨hm, hs, hok⟩ := hinv
  rcases rivlenOne_cases e par valid streams cds out idx0 r h with h1 | ⟨_, _, s1, c1, o1, f, hnew, hP⟩
  · rw [h1]; exact ⟨hm, hs, hok⟩
  · have h1 := newOutletE_inv e par R idx0 out[idx0]! streams cds out none s1 c1 o1 f
      (fun p hp hlt => hR p hp (hs ▸ hlt)) (hs ▸ hn) hnew hok
    refine hP (TriInv R n m) ⟨h1.1.trans hm, h1.2.1.trans hs, h1.2.2⟩ ?_ ?_
    · intro s c o idx _ _ _ hst
      exact ⟨(Array.size_setIfInBounds ..).trans hst.1, hst.2⟩
    · intro s c o hst
      exact ⟨(Array.size_setIfInBounds ..).trans hst.1, (Array.size_setIfInBounds ..).trans hst.2.1,
        hst.2.2.set idx0 _ fun hlt => hok idx0 (hs ▸ hst.2.1 ▸ hlt)⟩

theorem optimizeRivlen_inv (e : Env) (par : Par) (R : Nat → Nat → Prop) (n m : Nat) (short : List Nat)
    (valid : Array Bool) (st st' : Tri) (hR : ∀ p, Exit e p → e.cell p < n → R (e.cell p) p) (hn : n ≤ e.ncell)
    (h : optimizeRivlen e par short valid st = some st') (hinv : TriInv R n m st) : TriInv R n m st' :=
  optimizeRivlen_lift (TriInv R n m) (fun st idx r => rivlenOne_inv e par R n m valid st idx r hR hn) short st st' h hinv

/-! ### `ihu_minimize_error` -/

/-- the first `while True` of `ihu_minimize_error` returns a pixel on the flow path from `subidx` together with its
downstream pixel; if it collects no cell, that pixel is the start pixel or one that `streams` does not mark as an outlet
pixel -/
theorem errPath_res (e : Env) (streams : Array Int) (idx0 : Nat) (Q : Nat → Prop) (hQ : ∀ p, Q p → Q e.ds[p]!) :
    ∀ fuel subidx idxs r, errPath e streams idx0 fuel subidx idxs = some r → Q subidx →
      r.2.2 = e.ds[r.2.1]! ∧ Q r.2.1 ∧ (idxs ≠ [] → r.1 ≠ []) ∧
        (r.1 = [] → r.2.1 = subidx ∨ ¬ streams[r.2.1]! ≥ 0) := by
  intro fuel
  induction fuel with
  | zero => intro subidx idxs r h; simp [errPath] at h
  | succ f ih =>
    intro subidx idxs r h hq
    rw [errPath] at h
    extract_lets idx1 idxs' at h
    by_cases h1 : (e.ds[subidx]! == subidx) = true
    · rw [if_pos h1] at h; cases h; exact ⟨rfl, hq, id, fun _ => .inl rfl⟩
    rw [if_neg h1] at h
    by_cases h2 : streams[e.ds[subidx]!]! ≥ 0
    · rw [if_pos h2] at h
      have hne : idxs' ≠ [] := List.append_ne_nil_of_right_ne_nil _ (List.cons_ne_nil _ _)
      by_cases h3 : (idxs'.length == 100 || idxs'.length == 1 && inD8 idx0 idx1 e.ncol) = true
      · rw [if_pos h3] at h; cases h; exact ⟨rfl, hq, fun _ => hne, fun h0 => absurd h0 hne⟩
      · rw [if_neg h3] at h
        obtain ⟨a, b, c, _⟩ := ih _ _ _ h (hQ _ hq)
        exact ⟨a, b, fun _ => c hne, fun h0 => absurd h0 (c hne)⟩
    · rw [if_neg h2] at h
      obtain ⟨a, b, c, d⟩ := ih _ _ _ h (hQ _ hq)
      exact ⟨a, b, c, fun h0 => (d h0).elim (fun heq => .inr (heq ▸ h2)) .inr⟩

/-- what the walk down the coarse network from neighbour `idx1` does to the search state: nothing, `idx0` is re-pointed
to `idx1`, or `idx1` is recorded as a headwater cell -/
def NbRes (idx0 idx1 : Nat) (s s' : Nb) : Prop :=
  s' = s ∨ (∃ d u, s' = { s with cds := s.cds.setIfInBounds idx0 idx1, maxDist := d, maxUpa := u, fixed := true }) ∨
    s' = { s with hw := s.hw ++ [idx1] }

theorem nbWalk_res (e : Env) (out : Array Nat) (idxs : List Nat) (idx0 idx1 : Nat) (upa : Int) :
    ∀ k j idx s, NbRes idx0 idx1 s (nbWalk e out idxs idx0 idx1 upa k j idx s) := by
  intro k
  induction k with
  | zero => intro j idx s; exact .inl rfl
  | succ k ih =>
    intro j idx s
    rw [nbWalk]
    cases idxs.idxOf? idx with
    | some pos =>
      exact ite_ind (fun _ => ite_ind (fun _ => .inr (.inl ⟨_, _, rfl⟩)) fun _ => .inl rfl) fun _ => .inl rfl
    | none => exact ite_ind (fun _ => ite_ind (fun _ => .inr (.inr rfl)) fun _ => .inl rfl) fun _ => ih _ _ _

theorem nbWalk_size (e : Env) (out : Array Nat) (idxs : List Nat) (idx0 idx1 : Nat) (upa : Int) (k j idx : Nat)
    (s : Nb) : (nbWalk e out idxs idx0 idx1 upa k j idx s).cds.size = s.cds.size := by
  rcases nbWalk_res e out idxs idx0 idx1 upa k j idx s with h | ⟨_, _, h⟩ | h
  · rw [h]
  · rw [h]; exact Array.size_setIfInBounds ..
  · rw [h]

theorem nbSearch_size (e : Env) (out : Array Nat) (idxs : List Nat) (idx0 : Nat) (d8 : List Nat) (cds : Array Nat)
    (fixed : Bool) : (nbSearch e out idxs idx0 d8 cds fixed).cds.size = cds.size := by
  unfold nbSearch
  split
  · rfl
  · refine foldl_inv _ (fun (s : Nb) => s.cds.size = cds.size) _ ?_ _ rfl
    intro s idx1 _ hsz
    split
    · exact hsz
    · rw [nbWalk_size]; exact hsz

theorem nbWalk_hw (e : Env) (out : Array Nat) (idxs : List Nat) (idx0 idx1 : Nat) (upa : Int) (k j idx : Nat) (s : Nb) :
    ∀ i ∈ (nbWalk e out idxs idx0 idx1 upa k j idx s).hw, i ∈ s.hw ∨ i = idx1 := by
  intro i hi
  rcases nbWalk_res e out idxs idx0 idx1 upa k j idx s with h | ⟨_, _, h⟩ | h
  · rw [h] at hi; exact .inl hi
  · rw [h] at hi; exact .inl hi
  · rw [h] at hi
    rcases List.mem_append.mp hi with hi | hi
    · exact .inl hi
    · exact .inr (List.mem_singleton.mp hi)

theorem nbSearch_hw (e : Env) (out : Array Nat) (idxs : List Nat) (idx0 : Nat) (d8 : List Nat) (cds : Array Nat)
    (fixed : Bool) : ∀ i ∈ (nbSearch e out idxs idx0 d8 cds fixed).hw, i ∈ d8 := by
  unfold nbSearch
  split
  · intro i hi; cases hi
  · refine foldl_inv _ (fun (s : Nb) => ∀ i ∈ s.hw, i ∈ d8) _ ?_ _ (fun i hi => by cases hi)
    intro s idx1 hmem hs
    split
    · exact hs
    · intro i hi
      rcases nbWalk_hw e out idxs idx0 idx1 _ _ _ _ _ i hi with h | h
      · exact hs i h
      · rw [h]; exact hmem

section minerr
variable {e : Env} {par : Par}

/-- a predicate kept by `new_outlet` for the cells of `d8` and by the neighbour search is kept by the `for _ in range(2)` -/
theorem minErrPass_lift (P : Tri → Prop) (idxs : List Nat) (idx0 : Nat) (d8 : List Nat)
    (hnew : ∀ s c o idx tgt r, idx ∈ d8 → P (s, c, o) → newOutletE e par idx o[idx]! s c o tgt = some r →
      P (r.1, r.2.1, r.2.2.1))
    (hnb : ∀ s c o fixed, P (s, c, o) → P (s, (nbSearch e o idxs idx0 d8 c fixed).cds, o)) :
    ∀ pass fixed st st', minErrPass e par idxs idx0 d8 pass fixed st = some st' → P st → P st' := by
  intro pass
  induction pass with
  | zero => intro fixed st st' h hp; rw [minErrPass] at h; cases h; exact hp
  | succ k ih =>
    intro fixed ⟨streams, cds, out⟩ st' h hp
    rw [minErrPass] at h
    have hhw := nbSearch_hw e out idxs idx0 d8 cds fixed
    have hnb' := hnb streams cds out fixed hp
    generalize nbSearch e out idxs idx0 d8 cds fixed = nb at h hhw hnb'
    dsimp only at h
    by_cases hc : (!nb.fixed && !nb.hw.isEmpty && !idxs.isEmpty) = true
    · rw [if_pos hc] at h
      generalize hX : List.foldlM (m := Option) _ (((streams, nb.cds, out), false) : Tri × Bool) nb.hw = X at h
      cases X with
      | none => cases h
      | some x =>
        refine ih _ _ _ h (foldlM_inv _ (fun (x : Tri × Bool) => P x.1) _ ?_ _ _ hnb' hX)
        intro ⟨⟨s2, c2, o2⟩, f2⟩ idx b' hidx hb hstep
        dsimp only at hstep
        by_cases hf2 : f2 = true
        · rw [if_pos hf2] at hstep; cases hstep; exact hb
        · rw [if_neg hf2] at hstep
          cases hn : newOutletE e par idx o2[idx]! s2 c2 o2 (some o2[idxs.head!]!) with
          | none => rw [hn] at hstep; cases hstep
          | some r => rw [hn] at hstep; cases hstep; exact hnew _ _ _ _ _ r (hhw _ hidx) hb hn
    · rw [if_neg hc] at h; cases h; exact hnb'

/-- a predicate kept by the four kinds of writes of `ihu_minimize_error` for the erroneous cell `idx0` - outlet moved to
the pit its stream ends in, `new_outlet` for `idx0` or one of its neighbours, links changed by the neighbour search - is
kept by the body of its loop -/
theorem minErrOne_lift (P : Tri → Prop) (poc idx0 : Nat)
    (hpit : ∀ s c o idxs subidx, errPath e s idx0 (e.ds.size + 1) o[idx0]! [] = some (idxs, subidx, subidx) →
      e.ds[subidx]! = subidx → 0 < poc → (subidx = o[idx0]! ∨ idxs = []) → P (s, c, o) →
      P ((s.setIfInBounds o[idx0]! (-1)).setIfInBounds subidx (Int.ofNat idx0), c.setIfInBounds idx0 idx0,
        o.setIfInBounds idx0 subidx))
    (hnew : ∀ s c o idx tgt r, idx = idx0 ∨ idx ∈ d8Idx idx0 e.nrow e.ncol → P (s, c, o) →
      newOutletE e par idx o[idx]! s c o tgt = some r → P (r.1, r.2.1, r.2.2.1))
    (hnb : ∀ s c o idxs fixed, P (s, c, o) →
      P (s, (nbSearch e o idxs idx0 (d8Idx idx0 e.nrow e.ncol) c fixed).cds, o))
    (st st' : Tri) (h : minErrOne e par poc st idx0 = some st') (hp : P st) : P st' := by
  obtain ⟨streams, cds, out⟩ := st
  unfold minErrOne at h
  dsimp only at h
  cases hpath : errPath e streams idx0 (e.ds.size + 1) out[idx0]! [] with
  | none => rw [hpath] at h; cases h
  | some x =>
    obtain ⟨idxs, subidx, sds⟩ := x
    rw [hpath] at h
    dsimp only at h
    by_cases hc : ((decide (poc > 0) && sds == subidx &&
        decide (absDiff (e.cell sds % e.ncol) (idx0 % e.ncol) ≤ poc) &&
        decide (absDiff (e.cell sds / e.ncol) (idx0 / e.ncol) ≤ poc)) && (sds == out[idx0]! || idxs.isEmpty)) = true
    · rw [if_pos hc] at h
      cases h
      simp only [Bool.and_eq_true, decide_eq_true_eq, beq_iff_eq, Bool.or_eq_true, List.isEmpty_iff] at hc
      obtain rfl : sds = subidx := hc.1.1.1.2
      exact hpit _ _ _ idxs sds hpath
        (errPath_res e _ _ (fun _ => True) (fun _ _ => trivial) _ _ _ _ hpath trivial).1.symm hc.1.1.1.1 hc.2 hp
    · rw [if_neg hc] at h
      generalize hr : (if ((d8Idx idx0 e.nrow e.ncol).all fun i => cds[i]! != idx0) = true then
        newOutletE e par idx0 out[idx0]! streams cds out none else some (streams, cds, out, false)) = r at h
      cases r with
      | none => cases h
      | some r =>
        obtain ⟨s1, c1, o1, f1⟩ := r
        refine minErrPass_lift P idxs idx0 _ (fun s c o idx tgt r hi => hnew s c o idx tgt r (.inr hi))
          (fun s c o fixed => hnb s c o idxs fixed) _ _ _ _ h ?_
        revert hr
        exact ite_ind (P := fun x => x = some (s1, c1, o1, f1) → P (s1, c1, o1))
          (fun _ hr => hnew _ _ _ idx0 none _ (.inl rfl) hp hr) fun _ hr => by cases hr; exact hp

/-- a predicate kept by the body for every cell of the list is kept by `ihu_minimize_error` -/
theorem minimizeError_lift (P : Tri → Prop) (poc : Nat) (fix : List Nat) (st st' : Tri) (sorts sorts' : Sorts)
    (hone : ∀ b i0 b', i0 ∈ (sorts.take (fix.map fun c => e.upa[st.2.2[c]!]!).toArray).1 → P b →
      minErrOne e par poc b fix[i0]! = some b' → P b')
    (h : minimizeError e par poc fix st sorts = some (st', sorts')) (hp : P st) : P st' := by
  unfold minimizeError at h
  dsimp only at h
  cases hf : List.foldlM (fun st i0 => minErrOne e par poc st fix[i0]!)
      st (sorts.take (fix.map fun c => e.upa[st.2.2[c]!]!).toArray).1.reverse with
  | none => rw [hf] at h; cases h
  | some r =>
    rw [hf] at h
    cases h
    exact foldlM_inv _ P _ (fun b a b' ha hb hstep => hone b a b' (List.mem_reverse.mp ha) hb hstep) _ _ hp hf

end minerr

theorem minimizeError_inv (e : Env) (par : Par) (R : Nat → Nat → Prop) (n m poc : Nat) (fix : List Nat)
    (st st' : Tri) (sorts sorts' : Sorts)
    (hR : ∀ p, Exit e p → e.cell p < n → R (e.cell p) p) (hn : n ≤ e.ncell)
    (hPit : 0 < poc → ∀ c p, e.ds[p]! = p → R c p)
    (h : minimizeError e par poc fix st sorts = some (st', sorts')) (hinv : TriInv R n m st) : TriInv R n m st' :=
  minimizeError_lift (TriInv R n m) poc fix st st' sorts sorts' (fun b i0 b' _ hb hstep =>
    minErrOne_lift (TriInv R n m) poc fix[i0]!
      (fun s c o idxs subidx _ hpit hpoc _ hst => ⟨(Array.size_setIfInBounds ..).trans hst.1,
        (Array.size_setIfInBounds ..).trans hst.2.1, hst.2.2.set _ _ fun _ => hPit hpoc _ _ hpit⟩)
      (fun s c o idx tgt r _ hst hnew =>
        have := newOutletE_inv e par R idx o[idx]! s c o tgt r.1 r.2.1 r.2.2.1 r.2.2.2
          (fun p hp hlt => hR p hp (hst.2.1 ▸ hlt)) (hst.2.1 ▸ hn) hnew hst.2.2
        ⟨this.1.trans hst.1, this.2.1.trans hst.2.1, this.2.2⟩)
      (fun s c o idxs fixed hst => ⟨(nbSearch_size ..).trans hst.1, hst.2⟩) b b' hstep hb) h hinv

/-! ### the `niter` loop of `ihu` -/

/-- a round of the `niter` loop of a run that returns: relocation, the check, the two optional stages with the
`pit_out_of_cell` of the round (`0` unless it is the last), then the result or the remaining rounds -/
theorem ihuLoop_succ (e : Env) (par : Par) (o : IhuOpt) (k : Nat) (fix : List Nat) (cds out : Array Nat) (sorts : Sorts)
    (res : Array Nat × Array Nat × Sorts) (h : ihuLoop e par o (k + 1) fix cds out sorts = some res) :
    ∃ r valid streams fix1 short st1 s2 c2 o2 sorts2 poc,
      relocateOutlets e fix cds out sorts = some r ∧
      upscaleCheck e.ds r.out r.cds par.minNum par.minDen = some (valid, streams, fix1, short) ∧
      (if o.optRivlen = true then optimizeRivlen e par short valid (streams, r.cds, r.out)
        else some (streams, r.cds, r.out)) = some st1 ∧
      (if o.minError = true then minimizeError e par poc fix1 st1 r.sorts else some (st1, r.sorts)) =
        some ((s2, c2, o2), sorts2) ∧
      ((poc = o.poc ∧ res = (c2, o2, sorts2)) ∨ (poc = 0 ∧ ihuLoop e par o k fix1 c2 o2 sorts2 = some res)) := by
  rw [ihuLoop] at h
  cases hrel : relocateOutlets e fix cds out sorts with
  | none => rw [hrel] at h; cases h
  | some r =>
    rw [hrel] at h
    dsimp only at h
    cases hchk : upscaleCheck e.ds r.out r.cds par.minNum par.minDen with
    | none => rw [hchk] at h; cases h
    | some x =>
      obtain ⟨valid, streams, fix1, short⟩ := x
      rw [hchk] at h
      dsimp only at h
      cases hst1 : (if o.optRivlen = true then optimizeRivlen e par short valid (streams, r.cds, r.out)
          else some (streams, r.cds, r.out)) with
      | none => rw [hst1] at h; cases h
      | some st1 =>
        rw [hst1] at h
        dsimp only at h
        by_cases hlast : (fix1.isEmpty || fix1.length == fix.length || k == 0) = true
        · simp only [if_pos hlast] at h
          cases hst2 : (if o.minError = true then minimizeError e par o.poc fix1 st1 r.sorts
              else some (st1, r.sorts)) with
          | none => rw [hst2] at h; cases h
          | some x =>
            obtain ⟨⟨s2, c2, o2⟩, sorts2⟩ := x
            rw [hst2] at h
            cases h
            exact ⟨r, valid, streams, fix1, short, st1, s2, c2, o2, sorts2, o.poc, rfl, hchk, hst1, hst2, .inl ⟨rfl, rfl⟩⟩
        · simp only [if_neg hlast] at h
          cases hst2 : (if o.minError = true then minimizeError e par 0 fix1 st1 r.sorts
              else some (st1, r.sorts)) with
          | none => rw [hst2] at h; cases h
          | some x =>
            obtain ⟨⟨s2, c2, o2⟩, sorts2⟩ := x
            rw [hst2] at h
            exact ⟨r, valid, streams, fix1, short, st1, s2, c2, o2, sorts2, 0, rfl, hchk, hst1, hst2, .inr ⟨rfl, h⟩⟩
/-- a property of the state that holds before an optional stage and is kept by the stage holds after it -/
theorem of_ite_some {α : Type} {b : Bool} {f : Option α} {a x : α} {P : α → Prop}
    (h : (if b = true then f else some a) = some x) (hf : f = some x → P x) (ha : P a) : P x := by
  cases b
  · cases h; exact ha
  · exact hf h

theorem ihuLoop_inv (e : Env) (par : Par) (o : IhuOpt) (R : Nat → Nat → Prop) (n : Nat)
    (hR : ∀ p, Exit e p → e.cell p < n → R (e.cell p) p) (hn : n ≤ e.ncell)
    (hPit : 0 < o.poc → ∀ c p, e.ds[p]! = p → R c p) :
    ∀ k fix cds out sorts cds' out' sorts', ihuLoop e par o k fix cds out sorts = some (cds', out', sorts') →
      out.size = n → OutOK R out → cds'.size = cds.size ∧ out'.size = n ∧ OutOK R out' := by
  intro k
  induction k with
  | zero =>
    intro fix cds out sorts cds' out' sorts' h hs ho
    rw [ihuLoop] at h
    cases h
    exact ⟨rfl, hs, ho⟩
  | succ k ih =>
    intro fix cds out sorts cds' out' sorts' h hs ho
    obtain ⟨r, valid, streams, fix1, short, st1, s2, c2, o2, sorts2, poc, hrel, _, hst1, hst2, hres⟩ :=
      ihuLoop_succ e par o k fix cds out sorts _ h
    obtain ⟨hrc, hr⟩ := relocateOutlets_inv e R fix cds out sorts r (fun p hp hlt => hR p hp (hs ▸ hlt)) hrel ho
    have h0 : TriInv R n cds.size (streams, r.cds, r.out) := ⟨hrc, hr.1.trans hs, hr.2⟩
    have h1 : TriInv R n cds.size st1 :=
      of_ite_some hst1 (fun hh => optimizeRivlen_inv e par R n cds.size short valid _ st1 hR hn hh h0) h0
    have h2 : TriInv R n cds.size (s2, c2, o2) :=
      of_ite_some (P := fun x : Tri × Sorts => TriInv R n cds.size x.1) hst2
        (fun hh => minimizeError_inv e par R n cds.size poc fix1 st1 _ r.sorts sorts2 hR hn
          (fun hp => hPit (by rcases hres with ⟨hp', _⟩ | ⟨hp', _⟩ <;> omega)) hh h1) h1
    rcases hres with ⟨_, hres⟩ | ⟨_, hres⟩
    · cases hres; exact h2
    · have := ih _ _ _ _ _ _ _ hres h2.2.1 h2.2.2
      exact ⟨this.1.trans h2.1, this.2⟩

end Pf.C09ihu
