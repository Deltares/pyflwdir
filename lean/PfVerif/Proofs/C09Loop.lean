import PfVerif.Proofs.C09Adj
import PfVerif.Proofs.C09Rep
/-! Loop-freeness of the coarse networks of dmm / eam / eam_plus by construction (C09): along every coarse link
that is not a self-link the upstream area of the representative (exit / outlet) pixel strictly increases, provided
the upstream area strictly increases along the fine network (`UpaMono`). `loopfree_of_links` is the argument; the
`*_meas` lemmas say what each trace contributes to it. -/
namespace Pf

/-- the upstream area strictly increases downstream (true of every accumulation of positive cell areas) -/
def UpaMono (ds : Array Nat) (upa : Array Int) : Prop :=
  ∀ p, ValidPx ds p → ds[p]! ≠ p → upa[p]! < upa[ds[p]!]!

theorem UpaMono.lt_next {ds : Array Nat} {upa : Array Int} (hm : UpaMono ds upa) {p0 p : Nat} (hp : ValidPx ds p)
    (hne : ds[p]! ≠ p) (hl : p = p0 ∨ upa[p0]! < upa[p]!) : upa[p0]! < upa[ds[p]!]! := by
  rcases hl with rfl | hl
  · exact hm p hp hne
  · exact Int.lt_trans hl (hm p hp hne)

theorem upa_iter_le (ds : Array Nat) (upa : Array Int) (hwf : FineWF ds) (hm : UpaMono ds upa) :
    ∀ k p, ValidPx ds p → ValidPx ds (iterA ds k p) ∧ upa[p]! ≤ upa[iterA ds k p]! := by
  intro k
  induction k with
  | zero => intro p hp; exact ⟨hp, Int.le_refl _⟩
  | succ k ih =>
    intro p hp
    obtain ⟨h1, h2⟩ := ih ds[p]! (hwf.next hp)
    refine ⟨h1, Int.le_trans ?_ h2⟩
    by_cases hpit : ds[p]! = p
    · rw [hpit]; exact Int.le_refl _
    · exact Int.le_of_lt (hm p hp hpit)

theorem exists_bound (f : Nat → Int) : ∀ n, ∃ B, ∀ i, i < n → f i ≤ B := by
  intro n
  induction n with
  | zero => exact ⟨0, fun i hi => absurd hi (Nat.not_lt_zero i)⟩
  | succ n ih =>
    obtain ⟨B, hB⟩ := ih
    refine ⟨max B (f n), fun i hi => ?_⟩
    rcases Nat.lt_succ_iff_lt_or_eq.mp hi with h | rfl
    · exact Int.le_trans (hB i h) (Int.le_max_left _ _)
    · exact Int.le_max_right _ _

/-- a measure that strictly increases along every link that is not a self-link excludes loops: every valid cell
reaches a pit (`n` is both the number of cells and the missing value) -/
theorem loopfree_of_measure (cds : Array Nat) (n : Nat) (μ : Nat → Int)
    (hlink : ∀ c, c < n → cds[c]! ≠ n → cds[c]! < n ∧ cds[cds[c]!]! ≠ n ∧ (cds[c]! ≠ c → μ c < μ cds[c]!)) :
    ∀ c, c < n → cds[c]! ≠ n → EndsInPit cds n c := by
  obtain ⟨B, hB⟩ := exists_bound μ n
  -- induction on a bound `m` of the distance of `μ c` to the maximum
  have key : ∀ (m : Nat) (c : Nat), c < n → cds[c]! ≠ n → B - μ c < m → EndsInPit cds n c := by
    intro m
    induction m with
    | zero => intro c hc _ hm; have := hB c hc; omega
    | succ m ih =>
      intro c hc hv hm
      obtain ⟨h1, h2, h3⟩ := hlink c hc hv
      by_cases hp : cds[c]! = c
      · exact ⟨0, hc, hp⟩
      · obtain ⟨k, hk⟩ := ih cds[c]! h1 h2 (by have := h3 hp; omega)
        exact ⟨k + 1, hk⟩
  exact fun c hc hv => key ((B - μ c).toNat + 1) c hc hv (by omega)

/-! ### `eam_nextidx` -/

/-- the coarse link of `eam` points to the cell of a candidate pixel (pit or effective area) that is the start
pixel itself or has larger upstream area -/
theorem eamTrace_meas (ds : Array Nat) (ea : Array Bool) (cell : Nat → Nat) (idx0 : Nat) (upa : Array Int)
    (hwf : FineWF ds) (hm : UpaMono ds upa) {fuel p0 r : Nat} (h : eamTrace ds ea cell idx0 fuel p0 = some r)
    (hp : ValidPx ds p0) :
    ∃ q, ValidPx ds q ∧ cell q = r ∧ IsCand ds (fun p => ea[p]!) q ∧ (q = p0 ∨ upa[p0]! < upa[q]!) := by
  obtain ⟨p', ⟨hv, hl⟩, rfl, hstop⟩ := eamTrace_rule ds ea cell idx0
    (fun p => ValidPx ds p ∧ (p = p0 ∨ upa[p0]! < upa[p]!))
    (fun p ⟨hv, hl⟩ hne _ => ⟨hwf.next hv, Or.inr (hm.lt_next hv hne hl)⟩) _ _ _ h ⟨hp, Or.inl rfl⟩
  refine ⟨_, hwf.next hv, rfl, ⟨(hwf.next hv).2, ?_⟩, ?_⟩
  · exact hstop.imp (fun hpit => by rw [hpit, hpit]) And.right
  · by_cases hpit : ds[p']! = p'
    · rw [hpit]; exact hl
    · exact Or.inr (hm.lt_next hv hpit hl)

/-! ### `ihu_nextidx` -/

/-- the pixel the coarse link of the first pass of `ihu` is derived from is the outlet pixel itself (then it is
a pit) or has larger upstream area, and it is an outlet pixel, a pit or an effective-area pixel -/
theorem ihuNextTrace_meas (ds out : Array Nat) (ea : Array Bool) (cell : Nat → Nat) (ncol idx0 : Nat)
    (upa : Array Int) (hwf : FineWF ds) (hm : UpaMono ds upa) {fuel p0 : Nat} {r : Option Nat × Bool}
    (h : ihuNextTrace ds out ea cell ncol idx0 fuel p0 none = some r) (hp : ValidPx ds p0) {q : Nat}
    (hq : r.1 = some q) :
    ValidPx ds q ∧ (out[cell q]! = q ∨ IsCand ds (fun p => ea[p]!) q) ∧
      ((q = p0 ∧ ds[q]! = q) ∨ upa[p0]! < upa[q]!) := by
  obtain ⟨p', ⟨hv, hl⟩, hstop, hr⟩ := ihuNextTrace_rule ds out ea cell ncol idx0
    (fun p => ValidPx ds p ∧ (p = p0 ∨ upa[p0]! < upa[p]!)) (fun _ => True)
    (fun q => ValidPx ds q ∧ ea[q]! = true ∧ upa[p0]! < upa[q]!)
    (fun p ⟨hv, hl⟩ hne => ⟨hwf.next hv, Or.inr (hm.lt_next hv hne hl)⟩) (fun _ _ _ _ _ => trivial)
    (fun p ⟨hv, hl⟩ _ hne he => ⟨hwf.next hv, he, hm.lt_next hv hne hl⟩) _ _ _ _ h ⟨hp, Or.inl rfl⟩
    (fun _ => trivial) (fun q hq => nomatch hq)
  rcases hr with ⟨_, rfl⟩ | ⟨_, _, _, hs⟩
  · cases hq
    refine ⟨hwf.next hv, hstop.imp_right fun hpit => ⟨(hwf.next hv).2, Or.inl (by rw [hpit, hpit])⟩, ?_⟩
    by_cases hpit : ds[p']! = p'
    · rw [hpit]; exact hl.imp_left fun e => ⟨e, e ▸ hpit⟩
    · exact Or.inr (hm.lt_next hv hpit hl)
  · obtain ⟨a, b, c⟩ := hs q hq
    exact ⟨a, Or.inr ⟨a.2, Or.inr b⟩, Or.inr c⟩

/-! ### `dmm_nextidx` -/

/-- a D8 step that changes the coarse row / column lands on the first or last row / column of a coarse cell -/
theorem edge_axis (cs x x' : Nat) (hcs : 0 < cs) (hs : StepAx x x') (hne : x / cs ≠ x' / cs) :
    x' % cs = 0 ∨ x' % cs + 1 = cs := by
  apply Classical.byContradiction
  intro hn
  have h1 := Nat.mod_add_div x' cs
  have h2 := Nat.mod_lt x' hcs
  -- off the first and last row of its cell, `x'` and both its neighbours lie in one cell
  have hb : x' / cs * cs ≤ x ∧ x < x' / cs * cs + cs := by
    unfold StepAx at hs
    rw [Nat.mul_comm] at h1
    clear hne
    generalize x' % cs = m at *
    generalize x' / cs * cs = t at *
    omega
  exact hne (div_mod_of_bounds x cs (x' / cs) hb.1 hb.2).1

theorem edge_of_crossing (g : Geo) (ds : Array Nat) (hg : g.OK ds) (p p1 : Nat) (hp : p < ds.size)
    (hp1 : p1 < ds.size) (hd8 : inD8 p p1 g.subncol = true) (hne : g.cell p ≠ g.cell p1) :
    cellEdge p1 g.subncol g.cs = true := by
  obtain ⟨s1, s2⟩ := (inD8_iff _ _ _).mp hd8
  unfold cellEdge
  simp only [Bool.or_eq_true, beq_iff_eq]
  by_cases hrow : (p / g.subncol) / g.cs = (p1 / g.subncol) / g.cs
  · have hcol : (p % g.subncol) / g.cs ≠ (p1 % g.subncol) / g.cs := fun e => hne (div_mod_inj (n := g.ncol)
      (by rw [g.cell_row ds hg p hp, g.cell_row ds hg p1 hp1, hrow])
      (by rw [g.cell_col ds hg p hp, g.cell_col ds hg p1 hp1, e]))
    rcases edge_axis g.cs _ _ hg.cs s1 hcol with e | e
    · exact Or.inl (Or.inl (Or.inr e))
    · exact Or.inr e
  · rcases edge_axis g.cs _ _ hg.cs s2 hrow with e | e
    · exact Or.inl (Or.inl (Or.inl e))
    · exact Or.inl (Or.inr e)

/-- the pixel at which the trace of `dmm_nextidx` ends lies in the start cell, or its coarse cell contains a
candidate pixel (on the cell edge) with larger upstream area than the exit pixel the trace started from: the pixel
through which the path entered that cell -/
theorem dmmTrace_meas (ds : Array Nat) (g : Geo) (outside : Nat → Bool) (idx0 : Nat) (upa : Array Int)
    (hg : g.OK ds) (hwf : FineWF ds) (hd8 : FineD8 ds g.subncol) (hm : UpaMono ds upa) {fuel p0 r : Nat}
    (h : dmmTrace ds g.cell outside idx0 fuel p0 idx0 = some r) (hp : ValidPx ds p0) (hc : g.cell p0 = idx0) :
    r = idx0 ∨ ∃ e, ValidPx ds e ∧ g.cell e = r ∧ IsCand ds (fun p => cellEdge p g.subncol g.cs) e ∧
      (e = p0 ∨ upa[p0]! < upa[e]!) := by
  obtain ⟨q, ⟨_, _, hq⟩, rfl⟩ := dmmTrace_rule ds g.cell outside idx0
    (fun p => ValidPx ds p ∧ (p = p0 ∨ upa[p0]! < upa[p]!) ∧ (g.cell p = idx0 ∨
      ∃ e, ValidPx ds e ∧ g.cell e = g.cell p ∧ IsCand ds (fun p => cellEdge p g.subncol g.cs) e ∧
        (e = p0 ∨ upa[p0]! < upa[e]!)))
    (fun p ⟨hv, hl, hE⟩ hne _ => by
      have hv1 := hwf.next hv
      have hl1 := hm.lt_next hv hne hl
      refine ⟨hv1, Or.inr hl1, ?_⟩
      by_cases hsame : g.cell p = g.cell ds[p]!
      · rw [← hsame]; exact hE
      · exact Or.inr ⟨_, hv1, rfl,
          ⟨hv1.2, Or.inr (edge_of_crossing g ds hg p _ hv.1 hv1.1 (hd8 p hv.1 hv.2) hsame)⟩, Or.inr hl1⟩)
    _ _ _ _ h ⟨hp, Or.inl rfl, Or.inl hc⟩ hc.symm
  exact hq

/-! ### the measure argument shared by the three methods -/

/-- **loop-free by the measure "upstream area of the outlet pixel"**: every link is a self-link or goes to the cell of a
valid pixel `q` that is the outlet pixel of the linking cell or has larger upstream area, and that is the outlet pixel
of its own cell or a candidate pixel; `hmax`: a cell with a candidate pixel of positive upstream area has an outlet
pixel of at least that upstream area -/
theorem loopfree_of_links {ds : Array Nat} {upa : Array Int} {cand : Nat → Bool} {g : Geo} {cds out : Array Nat}
    (hg : g.OK ds) (hvi : ∀ c, c < g.ncell → (cds[c]! ≠ g.ncell ↔ out[c]! ≠ ds.size))
    (hown : ∀ c, c < g.ncell → out[c]! ≠ ds.size → g.cell out[c]! = c ∧ 0 < upa[out[c]!]!)
    (hmax : ∀ q, ValidPx ds q → IsCand ds cand q → 0 < upa[q]! →
      out[g.cell q]! ≠ ds.size ∧ upa[q]! ≤ upa[out[g.cell q]!]!)
    (hlink : ∀ c, c < g.ncell → out[c]! ≠ ds.size → cds[c]! = c ∨ ∃ q, ValidPx ds q ∧ g.cell q = cds[c]! ∧
      (out[g.cell q]! = q ∨ IsCand ds cand q) ∧ (q = out[c]! ∨ upa[out[c]!]! < upa[q]!)) :
    ∀ c, c < g.ncell → cds[c]! ≠ g.ncell → EndsInPit cds g.ncell c := by
  refine loopfree_of_measure cds g.ncell (fun c => upa[out[c]!]!) fun c hc hv => ?_
  have ho := (hvi c hc).mp hv
  obtain ⟨hcell, hpos⟩ := hown c hc ho
  rcases hlink c hc ho with hself | ⟨q, hq, hcq, hkind, hl⟩
  · rw [hself]; exact ⟨hc, hself ▸ hv, fun hne => absurd rfl hne⟩
  · have hc1 := g.cell_lt ds hg q hq.1
    -- the outlet pixel of the target cell has at least the upstream area of `q`
    have htarget : out[g.cell q]! ≠ ds.size ∧ upa[q]! ≤ upa[out[g.cell q]!]! := by
      rcases hkind with hoq | hcand
      · rw [hoq]; exact ⟨Nat.ne_of_lt hq.1, Int.le_refl _⟩
      · exact hmax q hq hcand (hl.elim (fun e => e ▸ hpos) (Int.lt_trans hpos))
    rw [← hcq]
    refine ⟨hc1, (hvi _ hc1).mpr htarget.1, fun hne => ?_⟩
    rcases hl with rfl | hl
    · exact absurd hcell hne
    · exact Int.lt_of_lt_of_le hl htarget.2

/-- `dmm` and `eam`: a trace that ends in its start cell or in the cell of a candidate pixel which is the start pixel
or has larger upstream area -/
theorem RepLinks.loopfree {ds : Array Nat} {upa : Array Int} {g : Geo} {cand : Nat → Bool}
    {tr : Nat → Nat → Option Nat} {cds out : Array Nat} (h : RepLinks ds upa g cand tr cds out) (hg : g.OK ds)
    (hmeas : ∀ c p r, c < g.ncell → ValidPx ds p → g.cell p = c → tr c p = some r →
      r = c ∨ ∃ q, ValidPx ds q ∧ g.cell q = r ∧ IsCand ds cand q ∧ (q = p ∨ upa[p]! < upa[q]!)) :
    ∀ c, c < g.ncell → cds[c]! ≠ g.ncell → EndsInPit cds g.ncell c := by
  refine loopfree_of_links (cand := cand) hg (fun c hc => (h.valid_iff (fun c p r hc hp hcp htr => ?_) c hc).1)
    (fun c hc hv => (h.rep hc hv).2)
    (fun q hq hcand hpos => h.out_eq ▸ repCells_max ds upa cand g.cell (g.cell_lt ds hg q hq.1) hq.1 hcand hpos)
    fun c hc hv => (h.of_trace _ hmeas hc hv).imp_right fun ⟨q, hq, hcq, hcand, hl⟩ => ⟨q, hq, hcq, Or.inr hcand, hl⟩
  rcases hmeas c p r hc hp hcp htr with rfl | ⟨q, hq, rfl, _⟩
  · exact hc
  · exact g.cell_lt ds hg q hq.1

end Pf
