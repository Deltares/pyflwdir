import PfVerif.Model.C14_riv
import PfVerif.Proofs.C14Fuel
import PfVerif.Proofs.Paths
/-! `rivers.classify_estuary`: the start array, what one iteration does to a cell, the loop invariant
of the down-to-upstream sweep, and the pieces of the declarative oracle `estSpec` (walk with fuel,
brute-force search for a failing inflowing link). -/
namespace Pf.C14x
open Pf

theorem estInit_size (n : Nat) (pits : List Nat) (elevtn : Array Int) (maxElev : Int) :
    (estInit n pits elevtn maxElev).size = n := by
  unfold estInit
  rw [size_foldl_set (fun _ => (1 : Int))]; simp

theorem estInit_get (n : Nat) (pits : List Nat) (elevtn : Array Int) (maxElev : Int) (j : Nat) :
    (estInit n pits elevtn maxElev)[j]! = if j ∈ pits ∧ elevtn[j]! ≤ maxElev ∧ j < n then 1 else 0 := by
  unfold estInit
  rw [get!_foldl_set (fun _ => (1 : Int))]
  by_cases hj : j < n
  · simp [List.mem_filter, hj]
  · have : (Array.replicate n (0 : Int))[j]! = 0 := by simp [hj]
    simp [List.mem_filter, hj]

theorem estInit_01 (n : Nat) (pits : List Nat) (elevtn : Array Int) (maxElev : Int) (j : Nat) :
    (estInit n pits elevtn maxElev)[j]! = 0 ∨ (estInit n pits elevtn maxElev)[j]! = 1 := by
  rw [estInit_get]; split
  · exact Or.inr rfl
  · exact Or.inl rfl

/-- the outlet test of the driver's oracle is "the start array is non-zero" -/
theorem estInit_outlet (ds : Array Nat) (elevtn : Array Int) (maxElev : Int) (k : Nat) :
    (isPit ds k && decide (elevtn[k]! ≤ maxElev)) = true ↔
      (estInit ds.size (pitIndices ds) elevtn maxElev)[k]! ≠ 0 := by
  rw [estInit_get]
  simp only [isPit, pitIndices, List.mem_filter, List.mem_range, Bool.and_eq_true, decide_eq_true_eq,
    beq_iff_eq]
  constructor
  · rintro ⟨⟨h1, h2⟩, h3⟩
    rw [if_pos ⟨⟨h1, h2⟩, h3, h1⟩]; decide
  · intro h
    split at h
    · rename_i hc; exact ⟨hc.1, hc.2.1⟩
    · exact absurd rfl h

theorem estStep_size (ds : Array Nat) (cond : Nat → Bool) (est : Array Int) (i : Nat) :
    (estStep ds cond est i).size = est.size := by
  unfold estStep
  by_cases h : est[ds[i]!]! = 0 ∨ i = ds[i]!
  · rw [if_pos h]
  · rw [if_neg h]
    by_cases hc : cond i = true
    · rw [if_pos hc, Array.size_setIfInBounds]
    · rw [if_neg hc, Array.size_setIfInBounds]

/-- nothing happens if the downstream cell is unclassified or the cell is a pit; otherwise the cell
becomes 1 if its link passes the test, else its downstream cell becomes 2 -/
theorem estStep_get (ds : Array Nat) (cond : Nat → Bool) (out : Array Int) (i j : Nat) (hi : i < out.size)
    (hd : ds[i]! < out.size) :
    (estStep ds cond out i)[j]! =
      if out[ds[i]!]! = 0 ∨ i = ds[i]! then out[j]!
      else if cond i = true then (if i = j then 1 else out[j]!) else (if ds[i]! = j then 2 else out[j]!) := by
  unfold estStep
  by_cases hA : out[ds[i]!]! = 0 ∨ i = ds[i]!
  · rw [if_pos hA, if_pos hA]
  · rw [if_neg hA, if_neg hA]
    by_cases hc : cond i = true
    · rw [if_pos hc, if_pos hc, get!_setIfInBounds]; simp only [hi, and_true]
    · rw [if_neg hc, if_neg hc, get!_setIfInBounds]; simp only [hd, and_true]

theorem estStep_nz (ds : Array Nat) (cond : Nat → Bool) (out : Array Int) (i j : Nat) (hi : i < out.size)
    (hd : ds[i]! < out.size) :
    (estStep ds cond out i)[j]! ≠ 0 ↔
      out[j]! ≠ 0 ∨ (j = i ∧ out[ds[i]!]! ≠ 0 ∧ i ≠ ds[i]! ∧ cond i = true) := by
  rw [estStep_get ds cond out i j hi hd]
  by_cases hA : out[ds[i]!]! = 0 ∨ i = ds[i]!
  · rw [if_pos hA]
    exact ⟨Or.inl, fun h => h.elim id fun h => absurd hA (not_or.2 ⟨h.2.1, h.2.2.1⟩)⟩
  · rw [if_neg hA]
    have hA' := not_or.1 hA
    by_cases hc : cond i = true
    · rw [if_pos hc]
      by_cases hij : i = j
      · rw [if_pos hij]
        exact ⟨fun _ => Or.inr ⟨hij.symm, hA'.1, hA'.2, hc⟩, fun _ => by decide⟩
      · rw [if_neg hij]
        exact ⟨Or.inl, fun h => h.elim id fun h => absurd h.1.symm hij⟩
    · rw [if_neg hc]
      by_cases hdj : ds[i]! = j
      · rw [if_pos hdj]
        exact ⟨fun _ => Or.inl (hdj ▸ hA'.1), fun _ => by decide⟩
      · rw [if_neg hdj]
        exact ⟨Or.inl, fun h => h.elim id fun h => absurd h.2.2.2 hc⟩

theorem estStep_two (ds : Array Nat) (cond : Nat → Bool) (out : Array Int) (i j : Nat) (hi : i < out.size)
    (hd : ds[i]! < out.size) :
    (estStep ds cond out i)[j]! = 2 ↔
      (out[j]! = 2 ∧ ¬ (j = i ∧ out[ds[i]!]! ≠ 0 ∧ i ≠ ds[i]! ∧ cond i = true)) ∨
      (j = ds[i]! ∧ out[ds[i]!]! ≠ 0 ∧ i ≠ ds[i]! ∧ cond i = false) := by
  rw [estStep_get ds cond out i j hi hd]
  by_cases hA : out[ds[i]!]! = 0 ∨ i = ds[i]!
  · rw [if_pos hA]
    have hn : ∀ {p : Prop}, ¬ (out[ds[i]!]! ≠ 0 ∧ i ≠ ds[i]! ∧ p) := fun h => hA.elim h.1 h.2.1
    exact ⟨fun h => Or.inl ⟨h, fun h' => hn h'.2⟩, fun h => h.elim (·.1) fun h => absurd h.2 hn⟩
  · rw [if_neg hA]
    have hA' := not_or.1 hA
    by_cases hc : cond i = true
    · rw [if_pos hc]
      by_cases hij : i = j
      · rw [if_pos hij]
        exact ⟨fun h => absurd h (by decide), fun h => h.elim
          (fun h => absurd ⟨hij.symm, hA'.1, hA'.2, hc⟩ h.2) fun h => by simp [hc] at h⟩
      · rw [if_neg hij]
        exact ⟨fun h => Or.inl ⟨h, fun h' => hij h'.1.symm⟩, fun h => h.elim (·.1) fun h => by simp [hc] at h⟩
    · rw [if_neg hc]
      have hc' : cond i = false := by simpa using hc
      by_cases hdj : ds[i]! = j
      · rw [if_pos hdj]
        exact ⟨fun _ => Or.inr ⟨hdj.symm, hA'.1, hA'.2, hc'⟩, fun _ => rfl⟩
      · rw [if_neg hdj]
        exact ⟨fun h => Or.inl ⟨h, fun h' => hc h'.2.2.2⟩, fun h => h.elim (·.1) fun h => absurd h.1.symm hdj⟩

/-- state of the loop after the cells `pre` have been processed -/
structure EstInv (ds : Array Nat) (cond : Nat → Bool) (init : Array Int) (pre : List Nat)
    (out : Array Int) : Prop where
  size : out.size = init.size
  nz : ∀ j : Nat, out[j]! ≠ 0 ↔ init[j]! ≠ 0 ∨ (j ∈ pre ∧ ds[j]! ≠ j ∧ out[ds[j]!]! ≠ 0 ∧ cond j = true)
  two : ∀ j : Nat, out[j]! = 2 ↔ out[j]! ≠ 0 ∧ ∃ c ∈ pre, ds[c]! = j ∧ c ≠ j ∧ cond c = false
  rng : ∀ j : Nat, out[j]! = 0 ∨ out[j]! = 1 ∨ out[j]! = 2

theorem estInv_init (ds : Array Nat) (cond : Nat → Bool) (init : Array Int)
    (h01 : ∀ j : Nat, init[j]! = 0 ∨ init[j]! = 1) : EstInv ds cond init [] init := by
  refine ⟨rfl, ?_, ?_, ?_⟩
  · intro j; simp
  · intro j
    rcases h01 j with h | h <;> simp [h]
  · intro j; rcases h01 j with h | h <;> simp [h]

theorem estInv_step (ds : Array Nat) (cond : Nat → Bool) (init : Array Int) (pre : List Nat)
    (out : Array Int) (i : Nat) (hpre : Topo ds pre) (hi : i ∉ pre)
    (hisz : i < init.size) (hdsz : ds[i]! < init.size)
    (inv : EstInv ds cond init pre out) :
    EstInv ds cond init (pre ++ [i]) (estStep ds cond out i) := by
  obtain ⟨hsz, hnz, htwo, hrng⟩ := inv
  -- no processed cell drains to `i`
  have hno : ∀ c ∈ pre, ds[c]! ≠ i := fun c hc h => hi (h ▸ Topo.ds_mem hpre c hc)
  have hN := fun j => estStep_nz ds cond out i j (hsz ▸ hisz) (hsz ▸ hdsz)
  have hmem : ∀ c, c ∈ pre ++ [i] ↔ c ∈ pre ∨ c = i := fun c => by
    rw [List.mem_append, List.mem_singleton]
  refine ⟨by rw [estStep_size, hsz], fun j => ?_, fun j => ?_, fun j => ?_⟩
  · rw [hN j, hN ds[j]!, hnz j, hmem]
    constructor
    · rintro ((h | ⟨h1, h2, h3, h4⟩) | ⟨rfl, h1, h2, h3⟩)
      · exact Or.inl h
      · exact Or.inr ⟨Or.inl h1, h2, Or.inl h3, h4⟩
      · exact Or.inr ⟨Or.inr rfl, Ne.symm h2, Or.inl h1, h3⟩
    · rintro (h | ⟨h1 | rfl, h2, h3 | ⟨h3, _⟩, h4⟩)
      · exact Or.inl (Or.inl h)
      · exact Or.inl (Or.inr ⟨h1, h2, h3, h4⟩)
      · exact absurd h3 (hno j h1)
      · exact Or.inr ⟨rfl, h3, Ne.symm h2, h4⟩
      · exact absurd h3 h2
  · rw [estStep_two ds cond out i j (hsz ▸ hisz) (hsz ▸ hdsz), hN j, htwo j]
    constructor
    · rintro (⟨⟨h0, c, hc, h⟩, _⟩ | ⟨rfl, h1, h2, h3⟩)
      · exact ⟨Or.inl h0, c, (hmem c).2 (Or.inl hc), h⟩
      · exact ⟨Or.inl h1, i, (hmem i).2 (Or.inr rfl), rfl, h2, h3⟩
    · rintro ⟨h0, c, hc, h1, h2, h3⟩
      rcases (hmem c).1 hc with hc | rfl
      · have hj : j ≠ i := fun e => hno c hc (h1.trans e)
        have h0' : out[j]! ≠ 0 := h0.elim id fun h => absurd h.1 hj
        exact Or.inl ⟨⟨h0', c, hc, h1, h2, h3⟩, fun h => hj h.1⟩
      · have h0' : out[j]! ≠ 0 := h0.elim id fun h => absurd (h1.trans h.1) h.2.2.1.symm
        exact Or.inr ⟨h1.symm, h1 ▸ h0', h1 ▸ h2, h3⟩
  · rw [estStep_get ds cond out i j (hsz ▸ hisz) (hsz ▸ hdsz)]
    by_cases hA : out[ds[i]!]! = 0 ∨ i = ds[i]!
    · rw [if_pos hA]; exact hrng j
    · rw [if_neg hA]
      by_cases hc : cond i = true
      · rw [if_pos hc]
        by_cases hij : i = j
        · rw [if_pos hij]; exact Or.inr (Or.inl rfl)
        · rw [if_neg hij]; exact hrng j
      · rw [if_neg hc]
        by_cases hdj : ds[i]! = j
        · rw [if_pos hdj]; exact Or.inr (Or.inr rfl)
        · rw [if_neg hdj]; exact hrng j

theorem estInv_sweep (ds : Array Nat) (cond : Nat → Bool) (init : Array Int) (seq : List Nat)
    (htopo : Topo ds seq) (hb : ∀ i ∈ seq, i < init.size) (h01 : ∀ j : Nat, init[j]! = 0 ∨ init[j]! = 1) :
    EstInv ds cond init seq (estSweep ds cond seq init) := by
  induction htopo with
  | nil => exact estInv_init ds cond init h01
  | @snoc pre i hpre hi hds ih =>
    have hb' : ∀ j ∈ pre, j < init.size := fun j hj => hb j (by simp [hj])
    have hstep : estSweep ds cond (pre ++ [i]) init = estStep ds cond (estSweep ds cond pre init) i := by
      simp [estSweep, List.foldl_append]
    rw [hstep]
    have hisz : i < init.size := hb i (by simp)
    have hdsz : ds[i]! < init.size := by
      rcases hds with h | h
      · rw [h]; exact hisz
      · exact hb' _ h
    exact estInv_step ds cond init pre _ i hpre hi hisz hdsz (ih hb')

/-- the walk oracle decides "classified" as long as the fuel reaches the pit -/
theorem estWalk_iff_nz (ds : Array Nat) (cond : Nat → Bool) (init : Array Int) (seq : List Nat)
    (isOutlet : Nat → Bool) (htopo : Topo ds seq) (hb : ∀ i ∈ seq, i < init.size)
    (h01 : ∀ j : Nat, init[j]! = 0 ∨ init[j]! = 1) (hout : ∀ k, isOutlet k = true ↔ init[k]! ≠ 0) :
    ∀ fuel i, i ∈ seq → pitWithin_c14 ds fuel i = true →
      (estWalk ds cond isOutlet fuel i = true ↔ (estSweep ds cond seq init)[i]! ≠ 0) := by
  obtain ⟨_, hnz, _, _⟩ := estInv_sweep ds cond init seq htopo hb h01
  intro fuel
  induction fuel with
  | zero => intro i _ h; simp [pitWithin_c14] at h
  | succ f ih =>
    intro i hi hp
    simp only [pitWithin_c14, Bool.or_eq_true, beq_iff_eq] at hp
    simp only [estWalk, Bool.or_eq_true, Bool.and_eq_true, bne_iff_ne]
    rw [hnz i, hout i]
    by_cases hpit : ds[i]! = i
    · exact ⟨fun h => h.elim Or.inl fun h => absurd hpit h.1.1, fun h => h.elim Or.inl fun h => absurd hpit h.2.1⟩
    · have ihd := ih ds[i]! (Topo.ds_mem htopo i hi) (hp.resolve_left hpit)
      constructor
      · rintro (h | ⟨⟨_, hc⟩, hw⟩)
        · exact Or.inl h
        · exact Or.inr ⟨hi, hpit, ihd.1 hw, hc⟩
      · rintro (h | ⟨_, _, hd, hc⟩)
        · exact Or.inl h
        · exact Or.inr ⟨⟨hpit, hc⟩, ihd.2 hd⟩

theorem estAny_iff (ds : Array Nat) (cond : Nat → Bool) (seq : List Nat) (htopo : Topo ds seq)
    (hb : ∀ i ∈ seq, i < ds.size) (hcov : ∀ c, isValid ds c = true → c ∈ seq) (i : Nat) :
    ((List.range ds.size).any fun c => isValid ds c && ds[c]! == i && c != i && !cond c) = true ↔
      ∃ c ∈ seq, ds[c]! = i ∧ c ≠ i ∧ cond c = false := by
  simp only [List.any_eq_true, List.mem_range, Bool.and_eq_true, beq_iff_eq, bne_iff_ne,
    Bool.not_eq_true']
  constructor
  · rintro ⟨c, _, ⟨⟨hv, hd⟩, hne⟩, hc⟩
    exact ⟨c, hcov c hv, hd, hne, hc⟩
  · rintro ⟨c, hcs, hd, hne, hc⟩
    exact ⟨c, hb c hcs, ⟨⟨Topo.isValid htopo hb c hcs, hd⟩, hne⟩, hc⟩

end Pf.C14x
