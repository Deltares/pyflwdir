import PfVerif.Proofs.C05_extIn
/-! `basins.interbasin_mask`: the first loop is an upstream sweep with `or` (flags everything downstream
of a stream cell), the second a downstream sweep that decides `InterOK`. -/
namespace Pf.C05x
open Pf

theorem InterOK_iff (ds : Array Nat) (region mask0 : Array Bool) (i : Nat) :
    InterOK ds region mask0 i ↔
      if ds[i]! = i then mask0[i]! = true
      else enterCell ds region i = false ∧ InterOK ds region mask0 ds[i]! := by
  constructor
  · rintro (⟨_, hp, hm⟩ | ⟨_, hp, he, hd⟩)
    · rwa [if_pos hp]
    · rw [if_neg hp]; exact ⟨he, hd⟩
  · intro h
    split at h
    · next hp => exact .pit i hp h
    · next hp => exact .down i hp h.1 h.2

theorem gInter_eq (ds : Array Nat) (region : Array Bool) (i : Nat) (own dsv : Bool) :
    gInter ds region i own dsv = if ds[i]! = i then dsv else (dsv && !enterCell ds region i) := by
  by_cases hp : ds[i]! = i
  · rw [if_pos hp, gInter, hp]; cases region[i]! <;> rfl
  · rw [if_neg hp, gInter, enterCell, bne_iff_ne.2 hp]
    cases dsv <;> cases region[i]! <;> cases region[ds[i]!]! <;> rfl

theorem interSweep_gen (ds : Array Nat) (region mask0 : Array Bool) (seq : List Nat) (htopo : Topo ds seq)
    (hb : ∀ i ∈ seq, i < mask0.size) :
    ∀ i ∈ seq, ((sweepDown ds (gInter ds region) seq mask0)[i]! = true ↔ InterOK ds region mask0 i) := by
  refine htopo.induction _ fun j hj hd => ?_
  rw [(sweepDown_rec ds _ mask0 seq htopo hb).1 j hj, gInter_eq, InterOK_iff]
  split
  · rfl
  · next hp => rw [Bool.and_eq_true, Bool.not_eq_true', (hd hp).2, and_comm]

/-! ### first loop: the stream mask extended downstream -/

def updOr (_ : Nat) (acc own : Bool) : Bool := acc || own

theorem streamStep_eq (ds : Array Nat) (i : Nat) (m : Array Bool) :
    streamStep ds i m = stepUp ds updOr i m := by
  unfold streamStep stepUp updOr
  cases hm : m[i]!
  · rw [Bool.or_false, setIfInBounds_self, ite_self]; rfl
  · rw [Bool.or_true, if_pos rfl]
    split
    · next hp => rw [hp, ← hm, setIfInBounds_self]
    · rfl

/-- the first loop is the upstream sweep that or-s every cell into its downstream cell -/
theorem streamDown_eq (ds : Array Nat) (seq : List Nat) (s : Array Bool) :
    streamDown ds seq s = sweepUp ds updOr seq s := by
  rw [streamDown, sweepUp, funext fun i => funext (streamStep_eq ds i)]

theorem foldl_or (f : Nat → Bool) : ∀ (l : List Nat) (b : Bool),
    l.foldl (fun acc c => acc || f c) b = (b || l.any f)
  | [], b => (Bool.or_false b).symm
  | c :: cs, b => by rw [List.foldl_cons, foldl_or f cs, List.any_cons, Bool.or_assoc]

theorem streamDown_rec (ds : Array Nat) (seq : List Nat) (htopo : Topo ds seq) (s : Array Bool)
    (hb : ∀ i ∈ seq, i < s.size) (j : Nat) :
    (streamDown ds seq s)[j]! = true ↔
      s[j]! = true ∨ ∃ c ∈ seq, ds[c]! = j ∧ c ≠ j ∧ (streamDown ds seq s)[c]! = true := by
  rw [streamDown_eq, sweepUp_spec ds updOr seq htopo s hb j]
  simp only [updOr, foldl_or, Bool.or_eq_true, List.any_eq_true, kids, List.mem_filter, List.mem_reverse,
    Bool.and_eq_true, beq_iff_eq, bne_iff_ne, and_assoc]

theorem streamDown_sound (ds : Array Nat) (seq : List Nat) (htopo : Topo ds seq) (s : Array Bool)
    (hb : ∀ i ∈ seq, i < s.size) (j : Nat) (h : (streamDown ds seq s)[j]! = true) :
    s[j]! = true ∨ ∃ y ∈ seq, ∃ k, iterA ds k y = j ∧ s[y]! = true := by
  revert h
  refine induction_up_all htopo (fun j => (streamDown ds seq s)[j]! = true →
    s[j]! = true ∨ ∃ y ∈ seq, ∃ k, iterA ds k y = j ∧ s[y]! = true) (fun j ih h => ?_) j
  refine ((streamDown_rec ds seq htopo s hb j).1 h).imp_right fun ⟨c, hc1, hc2, hc3, hfc⟩ => ?_
  rcases ih c hc1 hc2 hc3 hfc with hs | ⟨y, hy, k, hk, hs⟩
  · exact ⟨c, hc1, 1, hc2, hs⟩
  · exact ⟨y, hy, k + 1, by rw [iterA_succ', hk, hc2], hs⟩

end Pf.C05x
