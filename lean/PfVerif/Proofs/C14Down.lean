import PfVerif.Proofs.C14Fuel
import PfVerif.Proofs.C14Sum
/-! `fillnodata(direction='down')`: the sweep model equals the order-free oracle `fillDownSpec` the
driver evaluates (every cell holding a value walks downstream and is merged into each empty cell it
meets before the next cell holding a value). -/
namespace Pf

/-- is `j` written by the oracle's walk that starts at `c`? -/
def hitsW_c14 (ds : Array Nat) (data : Array Int) (nd : Int) (j : Nat) : Nat → Nat → Bool
  | 0, _ => false
  | fuel+1, c =>
    let d := ds[c]!
    if d = c ∨ d ≥ ds.size then false
    else if data[d]! ≠ nd then false
    else d == j || hitsW_c14 ds data nd j fuel d

/-! ### walking downstream until a test fires

The oracle of fill 'down' (and `feedsWalk` of the river slope, with `stop d = (locFrac ds P d).isSome`) walks from a
cell into its downstream cell as long as that is another cell of the array at which a test `stop` does not fire. -/

/-- the walk steps on from `c` -/
def walksOn_c14 (ds : Array Nat) (stop : Nat → Bool) (c : Nat) : Bool :=
  ds[c]! != c && decide (ds[c]! < ds.size) && !stop ds[c]!

/-- does the walk from `c` arrive at `j` within `fuel` steps? -/
def walkHits_c14 (ds : Array Nat) (stop : Nat → Bool) (j : Nat) : Nat → Nat → Bool
  | 0, _ => false
  | f+1, c => walksOn_c14 ds stop c && (ds[c]! == j || walkHits_c14 ds stop j f ds[c]!)

theorem walksOn_iff_c14 {ds : Array Nat} {stop : Nat → Bool} {c : Nat} :
    walksOn_c14 ds stop c = true ↔ ds[c]! ≠ c ∧ ds[c]! < ds.size ∧ stop ds[c]! = false := by
  simp only [walksOn_c14, Bool.and_eq_true, bne_iff_ne, ne_eq, decide_eq_true_eq, Bool.not_eq_true', and_assoc]

theorem walkHits_true_iff_c14 {ds : Array Nat} {stop : Nat → Bool} {j f c : Nat} :
    walkHits_c14 ds stop j (f+1) c = true ↔
      (ds[c]! ≠ c ∧ ds[c]! < ds.size ∧ stop ds[c]! = false) ∧
      (ds[c]! = j ∨ walkHits_c14 ds stop j f ds[c]! = true) := by
  rw [walkHits_c14, Bool.and_eq_true, walksOn_iff_c14, Bool.or_eq_true, beq_iff_eq]

theorem walkHits_lt_c14 (ds : Array Nat) (stop : Nat → Bool) (j : Nat) :
    ∀ fuel c, walkHits_c14 ds stop j fuel c = true → j < ds.size := by
  intro fuel
  induction fuel with
  | zero => intro c h; cases h
  | succ f ih =>
    intro c h
    obtain ⟨⟨_, h2, _⟩, h | h⟩ := walkHits_true_iff_c14.1 h
    · exact h ▸ h2
    · exact ih _ h

/-- when `stop` is "the cell holds a value" for a field `data`, the cells the walk from `c` arrives at are the cells
`c` feeds -/
theorem walkHits_sound_c14 {ds : Array Nat} {stop : Nat → Bool} {data : Array Int} {nd : Int}
    (hstop : ∀ d, stop d = false ↔ data[d]! = nd) (j : Nat) :
    ∀ fuel c, walkHits_c14 ds stop j fuel c = true → Feeds ds data nd c j := by
  intro fuel
  induction fuel with
  | zero => intro c h; cases h
  | succ f ih =>
    intro c h
    obtain ⟨⟨hp, _, hs⟩, h | h⟩ := walkHits_true_iff_c14.1 h
    · exact h ▸ Feeds.step hp ((hstop _).1 hs)
    · exact Feeds.cons_c14 hp ((hstop _).1 hs) (ih _ h)

theorem walkHits_complete_c14 {ds : Array Nat} {stop : Nat → Bool} {data : Array Int} {nd : Int}
    (hstop : ∀ d, stop d = false ↔ data[d]! = nd) (seq : List Nat)
    (htopo : Topo ds seq) (hb : ∀ i ∈ seq, i < ds.size) (j : Nat) :
    ∀ fuel c, c ∈ seq → pitWithin_c14 ds fuel c = true → Feeds ds data nd c j →
      walkHits_c14 ds stop j fuel c = true := by
  intro fuel
  induction fuel with
  | zero => intro c _ h; cases h
  | succ f ih =>
    intro c hc hp hf
    obtain ⟨h1, h2, h3⟩ := Feeds.inv_c14 hf
    have hdm := Topo.ds_mem htopo c hc
    simp only [pitWithin_c14, Bool.or_eq_true, beq_iff_eq] at hp
    exact walkHits_true_iff_c14.2 ⟨⟨h1, hb _ hdm, (hstop _).2 h2⟩,
      h3.imp Eq.symm (ih _ hdm (hp.resolve_left h1))⟩

/-- no walk returns to its start (the order covers the network, so every cell a walk can leave is a
cell of the order) -/
theorem walkHits_irrefl_c14 {ds : Array Nat} {stop : Nat → Bool} {data : Array Int} {nd : Int}
    (hstop : ∀ d, stop d = false ↔ data[d]! = nd) (seq : List Nat)
    (htopo : Topo ds seq) (hcov : ∀ c, isValid ds c = true → c ∈ seq) :
    ∀ fuel c, walkHits_c14 ds stop c fuel c = false := by
  intro fuel c
  cases h : walkHits_c14 ds stop c fuel c with
  | false => rfl
  | true =>
    exfalso
    have hlt := walkHits_lt_c14 ds stop c fuel c h
    -- `c` is a cell of the network: the first step of the walk passed the range test
    have hv : isValid ds c = true := by
      cases fuel with
      | zero => cases h
      | succ f =>
        have := (walkHits_true_iff_c14.1 h).1.2.1
        simp only [isValid, hlt, decide_true, Bool.true_and, bne_iff_ne]
        omega
    exact Feeds.irrefl_c14 htopo c (hcov c hv) (walkHits_sound_c14 hstop c fuel c h)

/-! ### the oracle of fill 'down' is such a walk -/

theorem holdsValue_iff_c14 (data : Array Int) (nd : Int) (d : Nat) : (data[d]! != nd) = false ↔ data[d]! = nd :=
  bne_eq_false_iff_eq

theorem hitsW_eq_walkHits_c14 (ds : Array Nat) (data : Array Int) (nd : Int) (j : Nat) :
    ∀ f c, hitsW_c14 ds data nd j f c = walkHits_c14 ds (fun d => data[d]! != nd) j f c := by
  intro f
  induction f with
  | zero => intro c; rfl
  | succ f ih =>
    intro c
    rw [walkHits_c14, ← ih]
    cases hw : walksOn_c14 ds (fun d => data[d]! != nd) c
    · have hn := mt walksOn_iff_c14.2 (by rw [hw]; exact Bool.false_ne_true)
      simp only [hitsW_c14, Bool.false_and]
      by_cases h1 : ds[c]! = c ∨ ds[c]! ≥ ds.size
      · rw [if_pos h1]
      · rw [if_neg h1, if_pos fun h2 => hn ⟨fun e => h1 (Or.inl e), Nat.lt_of_not_le fun e => h1 (Or.inr e),
          bne_eq_false_iff_eq.2 h2⟩]
    · obtain ⟨h1, h2, h3⟩ := walksOn_iff_c14.1 hw
      simp only [hitsW_c14, Bool.true_and]
      rw [if_neg (fun h => h.elim h1 (Nat.not_le_of_gt h2)), if_neg (fun h => h (bne_eq_false_iff_eq.1 h3))]

theorem hitsW_succ_c14 (ds : Array Nat) (data : Array Int) (nd : Int) (j f c : Nat) :
    hitsW_c14 ds data nd j (f+1) c =
      (walksOn_c14 ds (fun d => data[d]! != nd) c && (ds[c]! == j || hitsW_c14 ds data nd j f ds[c]!)) := by
  rw [hitsW_eq_walkHits_c14, hitsW_eq_walkHits_c14]; rfl

theorem hitsW_sound_c14 (ds : Array Nat) (data : Array Int) (nd : Int) (j fuel c : Nat)
    (h : hitsW_c14 ds data nd j fuel c = true) : Feeds ds data nd c j :=
  walkHits_sound_c14 (holdsValue_iff_c14 data nd) j fuel c (hitsW_eq_walkHits_c14 ds data nd j fuel c ▸ h)

theorem hitsW_complete_c14 (ds : Array Nat) (data : Array Int) (nd : Int) (seq : List Nat)
    (htopo : Topo ds seq) (hb : ∀ i ∈ seq, i < ds.size) (j fuel c : Nat) (hc : c ∈ seq)
    (hp : pitWithin_c14 ds fuel c = true) (hf : Feeds ds data nd c j) : hitsW_c14 ds data nd j fuel c = true := by
  rw [hitsW_eq_walkHits_c14]
  exact walkHits_complete_c14 (holdsValue_iff_c14 data nd) seq htopo hb j fuel c hc hp hf

theorem hitsW_irrefl_c14 (ds : Array Nat) (data : Array Int) (nd : Int) (seq : List Nat)
    (htopo : Topo ds seq) (hcov : ∀ c, isValid ds c = true → c ∈ seq) (fuel c : Nat) :
    hitsW_c14 ds data nd c fuel c = false := by
  rw [hitsW_eq_walkHits_c14]
  exact walkHits_irrefl_c14 (holdsValue_iff_c14 data nd) seq htopo hcov fuel c

theorem fillDownWalk_succ_c14 (ds : Array Nat) (data : Array Int) (nd : Int) (how : Nat) (v : Int)
    (f cur : Nat) (acc : Array (Option Int)) :
    fillDownWalk ds data nd how v (f+1) cur acc =
      if walksOn_c14 ds (fun d => data[d]! != nd) cur then
        fillDownWalk ds data nd how v f ds[cur]!
          (acc.setIfInBounds ds[cur]! (mergeOpt how acc[ds[cur]!]! (some v)))
      else acc := by
  cases hw : walksOn_c14 ds (fun d => data[d]! != nd) cur
  · have hn := mt walksOn_iff_c14.2 (by rw [hw]; exact Bool.false_ne_true)
    simp only [fillDownWalk, Bool.false_eq_true, if_false]
    by_cases h1 : ds[cur]! = cur ∨ ds[cur]! ≥ ds.size
    · rw [if_pos h1]
    · rw [if_neg h1, if_pos fun h2 => hn ⟨fun e => h1 (Or.inl e), Nat.lt_of_not_le fun e => h1 (Or.inr e),
        bne_eq_false_iff_eq.2 h2⟩]
  · obtain ⟨h1, h2, h3⟩ := walksOn_iff_c14.1 hw
    simp only [fillDownWalk, if_true]
    rw [if_neg (fun h => h.elim h1 (Nat.not_le_of_gt h2)), if_neg (fun h => h (bne_eq_false_iff_eq.1 h3))]

/-! ### one walk, then all walks -/

theorem fillDownWalk_get_c14 (ds : Array Nat) (data : Array Int) (nd : Int) (how : Nat) (v : Int)
    (hnr : ∀ f c, hitsW_c14 ds data nd c f c = false) :
    ∀ (fuel cur : Nat) (acc : Array (Option Int)), acc.size = ds.size →
      (fillDownWalk ds data nd how v fuel cur acc).size = ds.size ∧
      ∀ j, (fillDownWalk ds data nd how v fuel cur acc)[j]! =
        if hitsW_c14 ds data nd j fuel cur then mergeOpt how acc[j]! (some v) else acc[j]! := by
  intro fuel
  induction fuel with
  | zero => intro cur acc hs; exact ⟨hs, fun j => rfl⟩
  | succ f ih =>
    intro cur acc hs
    rw [fillDownWalk_succ_c14]
    simp only [hitsW_succ_c14]
    cases hw : walksOn_c14 ds (fun d => data[d]! != nd) cur
    · exact ⟨hs, fun j => rfl⟩
    · obtain ⟨i1, i2⟩ := ih ds[cur]! (acc.setIfInBounds ds[cur]! (mergeOpt how acc[ds[cur]!]! (some v)))
        (by rw [Array.size_setIfInBounds, hs])
      have hd : ds[cur]! < acc.size := hs ▸ (walksOn_iff_c14.1 hw).2.1
      refine ⟨i1, fun j => ?_⟩
      rw [if_pos rfl, i2 j, get!_setIfInBounds, Bool.true_and]
      by_cases hj : ds[cur]! = j
      · -- the cell just written is not reached again
        subst hj
        rw [hnr f ds[cur]!, if_neg Bool.false_ne_true, if_pos ⟨rfl, hd⟩, beq_self_eq_true, Bool.true_or, if_pos rfl]
      · simp only [hj, false_and, if_false, beq_false_of_ne hj, Bool.false_or]

/-- the accumulator of the oracle after the source cells `l` -/
def specAcc_c14 (ds : Array Nat) (data : Array Int) (nd : Int) (how : Nat) (l : List Nat)
    (acc0 : Array (Option Int)) : Array (Option Int) :=
  l.foldl (fun acc k =>
    if isValid ds k && data[k]! != nd then fillDownWalk ds data nd how data[k]! (ds.size + 1) k acc
    else acc) acc0

/-- the sources that reach `j` -/
def feeders_c14 (ds : Array Nat) (data : Array Int) (nd : Int) (j : Nat) (l : List Nat) : List Nat :=
  l.filter fun k => isValid ds k && data[k]! != nd && hitsW_c14 ds data nd j (ds.size + 1) k

theorem specAcc_get_c14 (ds : Array Nat) (data : Array Int) (nd : Int) (how : Nat)
    (hnr : ∀ f c, hitsW_c14 ds data nd c f c = false) :
    ∀ (l : List Nat) (acc0 : Array (Option Int)), acc0.size = ds.size →
      (specAcc_c14 ds data nd how l acc0).size = ds.size ∧
      ∀ j, (specAcc_c14 ds data nd how l acc0)[j]! =
        ((feeders_c14 ds data nd j l).map fun k => some data[k]!).foldl (mergeOpt how) acc0[j]! := by
  intro l
  induction l with
  | nil => intro acc0 hs; exact ⟨hs, fun j => rfl⟩
  | cons k l ih =>
    intro acc0 hs
    simp only [specAcc_c14, List.foldl_cons, feeders_c14, List.filter_cons]
    cases hsrc : (isValid ds k && data[k]! != nd)
    · exact ih acc0 hs
    · obtain ⟨w1, w2⟩ := fillDownWalk_get_c14 ds data nd how data[k]! hnr (ds.size + 1) k acc0 hs
      obtain ⟨i1, i2⟩ := ih _ w1
      refine ⟨i1, fun j => ?_⟩
      rw [if_pos rfl, Bool.true_and]
      refine (i2 j).trans ?_
      rw [w2 j]
      cases hitsW_c14 ds data nd j (ds.size + 1) k <;> rfl

/-- entry `j` of the oracle -/
theorem fillDownSpec_get_c14 (ds : Array Nat) (data : Array Int) (nd : Int) (how : Nat)
    (hnr : ∀ f c, hitsW_c14 ds data nd c f c = false) (j : Nat) (hj : j < ds.size) :
    (fillDownSpec ds data nd how)[j]! =
      if data[j]! ≠ nd then data[j]!
      else (mergeBranches how ((feeders_c14 ds data nd j (List.range ds.size)).map fun k => some data[k]!)).getD nd := by
  obtain ⟨_, h2⟩ := specAcc_get_c14 ds data nd how hnr (List.range ds.size) (Array.replicate ds.size none)
    (by simp)
  have h := h2 j
  simp only [specAcc_c14] at h
  have h0 : (Array.replicate ds.size (none : Option Int))[j]! = none := by simp [hj]
  rw [h0] at h
  simp only [fillDownSpec]
  rw [getElem!_pos _ _ (by simpa using hj)]
  simp only [List.getElem_toArray, List.getElem_map, List.getElem_range, h, mergeBranches]
  by_cases hd : data[j]! = nd
  · simp [hd]
  · simp [hd]

/-! ### feeders = the nearest cells upstream that hold a value -/

theorem mem_feeders_c14 (ds : Array Nat) (data : Array Int) (nd : Int) (seq : List Nat)
    (htopo : Topo ds seq) (hb : ∀ i ∈ seq, i < ds.size) (hcov : ∀ c, isValid ds c = true → c ∈ seq)
    (j k : Nat) :
    k ∈ feeders_c14 ds data nd j (List.range ds.size) ↔ k ∈ seq ∧ data[k]! ≠ nd ∧ Feeds ds data nd k j := by
  simp only [feeders_c14, List.mem_filter, List.mem_range, Bool.and_eq_true, bne_iff_ne]
  constructor
  · rintro ⟨_, ⟨hv, hd⟩, hh⟩
    exact ⟨hcov k hv, hd, hitsW_sound_c14 ds data nd j _ k hh⟩
  · rintro ⟨hk, hd, hf⟩
    have hkn := hb k hk
    have hdn := hb _ (Topo.ds_mem htopo k hk)
    refine ⟨hkn, ⟨?_, hd⟩, hitsW_complete_c14 ds data nd seq htopo hb j _ k hk (htopo.reach_size_c14 hb k hk) hf⟩
    simp only [isValid, hkn, decide_true, Bool.true_and, bne_iff_ne]
    omega

theorem filter_range_sum_c14 (p : Nat → Bool) (f : Nat → Int) :
    ∀ n, (((List.range n).filter p).map f).sum = sumRange n fun k => if p k then f k else 0 := by
  intro n
  induction n with
  | zero => rfl
  | succ n ih => rw [sum_filter_range_succ, ih]; rfl

theorem somes_map_some_c14 (f : Nat → Int) (l : List Nat) : somes (l.map fun k => some (f k)) = l.map f := by
  induction l with
  | nil => rfl
  | cons k l ih => simp only [somes, List.map_cons, List.filterMap_cons, id] at ih ⊢; rw [ih]

/-! ### model = oracle, per merge rule -/

/-- selecting rules (min, max): the filled value is the merge over the feeders in index order -/
theorem fillOpt_eq_feeders_sel_c14 (how : Nat) (R : Int → Int → Prop) (hrefl : ∀ a, R a a)
    (htrans : ∀ a b c, R a b → R b c → R a c)
    (hsel : ∀ x a, mergeHow how x a = x ∨ mergeHow how x a = a)
    (hR : ∀ x a, R (mergeHow how x a) x ∧ R (mergeHow how x a) a)
    (hanti : ∀ a b, R a b → R b a → a = b)
    (ds : Array Nat) (seq : List Nat) (data : Array Int) (nd : Int)
    (htopo : Topo ds seq) (hb : ∀ i ∈ seq, i < ds.size) (hbd : ∀ i ∈ seq, i < data.size)
    (hcov : ∀ c, isValid ds c = true → c ∈ seq) (j : Nat) (hj : j ∈ seq) (hd : data[j]! = nd) :
    fillOpt ds seq data nd how j =
      mergeBranches how ((feeders_c14 ds data nd j (List.range ds.size)).map fun k => some data[k]!) := by
  -- Both sides are `R`-below the value of every feeder and equal to the value of one (`F1`, `F2` for the sweep by
  -- the frontier form, `m1`, `m3` for the flat merge): each is `R`-below the other, and `R` is antisymmetric.
  obtain ⟨F1, F2⟩ := fillDown_frontier_sel how R hrefl htrans hsel hR ds seq data nd htopo hbd
  obtain ⟨m1, m2, m3⟩ := mergeBranches_sel how R hrefl htrans hsel hR
    ((feeders_c14 ds data nd j (List.range ds.size)).map fun k => some data[k]!)
  have hmem := mem_feeders_c14 ds data nd seq htopo hb hcov j
  show optOf (fillDownState ds seq data nd how)[j]! = _
  cases hO : optOf (fillDownState ds seq data nd how)[j]! with
  | none =>
    symm; rw [m2]
    intro x hx
    obtain ⟨k, hk, rfl⟩ := List.mem_map.1 hx
    obtain ⟨hks, hkd, hkf⟩ := (hmem k).1 hk
    obtain ⟨r, hr, _⟩ := F1 k hks hkd j hkf
    rw [hO] at hr; cases hr
  | some r =>
    rcases F2 j hj r hO with ⟨h, _⟩ | ⟨k0, hk0, hd0, hf0, hr0⟩
    · exact absurd hd h
    · have hin0 : some data[k0]! ∈ (feeders_c14 ds data nd j (List.range ds.size)).map fun k => some data[k]! :=
        List.mem_map.2 ⟨k0, (hmem k0).2 ⟨hk0, hd0, hf0⟩, rfl⟩
      obtain ⟨r', hr', hR0⟩ := m1 _ hin0
      obtain ⟨k1, hk1, he1⟩ := List.mem_map.1 (m3 r' hr')
      obtain ⟨hks, hkd, hkf⟩ := (hmem k1).1 hk1
      obtain ⟨r'', hr'', hR1⟩ := F1 k1 hks hkd j hkf
      rw [hO] at hr''; cases hr''
      have e1 : data[k1]! = r' := by cases he1; rfl
      rw [e1] at hR1
      rw [← hr0] at hR0
      rw [hr', hanti r r' hR1 hR0]

/-- sum: the filled value is the sum over the feeders -/
theorem fillOpt_eq_feeders_sum_c14 (ds : Array Nat) (seq : List Nat) (data : Array Int) (nd : Int)
    (htopo : Topo ds seq) (hb : ∀ i ∈ seq, i < ds.size) (hsz : data.size = ds.size)
    (hcov : ∀ c, isValid ds c = true → c ∈ seq) (j : Nat) (hj : j ∈ seq) (hd : data[j]! = nd) :
    fillOpt ds seq data nd 2 j =
      mergeBranches 2 ((feeders_c14 ds data nd j (List.range ds.size)).map fun k => some data[k]!) := by
  have hbd : ∀ i ∈ seq, i < data.size := fun i hi => by rw [hsz]; exact hb i hi
  obtain ⟨s1, s2⟩ := fillDown_sum_frontier ds seq data nd htopo hbd j hj hd
  have hmem := mem_feeders_c14 ds data nd seq htopo hb hcov j
  rw [mergeBranches_sum]
  by_cases hex : ∃ k ∈ seq, data[k]! ≠ nd ∧ Feeds ds data nd k j
  · rw [s2 hex]
    obtain ⟨k0, hk0, hd0, hf0⟩ := hex
    have hne : ¬ ∀ x ∈ (feeders_c14 ds data nd j (List.range ds.size)).map fun k => some data[k]!, x = none := by
      intro h
      have := h (some data[k0]!) (List.mem_map.2 ⟨k0, (hmem k0).2 ⟨hk0, hd0, hf0⟩, rfl⟩)
      cases this
    rw [if_neg hne, somes_map_some_c14]
    congr 1
    unfold feeders_c14
    rw [filter_range_sum_c14, sumOver, hsz]
    apply sumRange_congr
    intro k hk
    apply ite0_bool
    rw [← hmem k]
    simp only [feeders_c14, List.mem_filter, List.mem_range, hk, true_and]
  · rw [s1 hex]
    have hall : ∀ x ∈ (feeders_c14 ds data nd j (List.range ds.size)).map fun k => some data[k]!, x = none := by
      intro x hx
      obtain ⟨k, hk, _⟩ := List.mem_map.1 hx
      obtain ⟨a, b, c⟩ := (hmem k).1 hk
      exact absurd ⟨k, a, b, c⟩ hex
    rw [if_pos hall]

/-- **model = oracle, cell by cell**, for the three merge rules (0 = max, 1 = min, 2 = sum) -/
theorem fillDown_eq_spec_get_c14 (ds : Array Nat) (seq : List Nat) (data : Array Int) (nd : Int) (how : Nat)
    (hhow : how ≤ 2) (htopo : Topo ds seq) (hb : ∀ i ∈ seq, i < ds.size) (hsz : data.size = ds.size)
    (hcov : ∀ c, isValid ds c = true → c ∈ seq) (j : Nat) (hj : j < ds.size) :
    (fillDownModel ds seq data nd how)[j]! = (fillDownSpec ds data nd how)[j]! := by
  have hbd : ∀ i ∈ seq, i < data.size := fun i hi => by rw [hsz]; exact hb i hi
  have hnr := hitsW_irrefl_c14 ds data nd seq htopo hcov
  obtain ⟨hrec, hget⟩ := fillDown_rec ds seq data nd how htopo hbd j (by rw [hsz]; exact hj)
  rw [fillDownSpec_get_c14 ds data nd how hnr j hj, hget]
  by_cases hd : data[j]! ≠ nd
  · rw [hrec, if_pos hd, if_pos hd]; rfl
  · have hd' : data[j]! = nd := Classical.byContradiction hd
    rw [if_neg hd]
    congr 1
    by_cases hjs : j ∈ seq
    · have h012 : how = 0 ∨ how = 1 ∨ how = 2 := by omega
      rcases h012 with h | h | h <;> subst h
      · exact fillOpt_eq_feeders_sel_c14 0 (fun a b => b ≤ a) (fun a => Int.le_refl a)
          (fun _ _ _ h1 h2 => Int.le_trans h2 h1) (fun x a => (mergeHow_max x a).1) (fun x a => (mergeHow_max x a).2)
          (fun a b h1 h2 => Int.le_antisymm h2 h1) ds seq data nd htopo hb hbd hcov j hjs hd'
      · exact fillOpt_eq_feeders_sel_c14 1 (fun a b => a ≤ b) (fun a => Int.le_refl a)
          (fun _ _ _ => Int.le_trans) (fun x a => (mergeHow_min x a).1) (fun x a => (mergeHow_min x a).2)
          (fun a b h1 h2 => Int.le_antisymm h1 h2) ds seq data nd htopo hb hbd hcov j hjs hd'
      · exact fillOpt_eq_feeders_sum_c14 ds seq data nd htopo hb hsz hcov j hjs hd'
    · -- outside the order: no inflowing cell, no feeder
      have hkids := kids_outside_c14 htopo j hjs
      have hfe : feeders_c14 ds data nd j (List.range ds.size) = [] := by
        apply List.eq_nil_iff_forall_not_mem.2
        intro k hk
        obtain ⟨a, _, c⟩ := (mem_feeders_c14 ds data nd seq htopo hb hcov j k).1 hk
        exact hjs (Feeds.mem_c14 htopo a c)
      rw [hrec, if_neg hd, hkids, hfe]
      rfl

end Pf
