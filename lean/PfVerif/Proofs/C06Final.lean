import PfVerif.Proofs.C06Inv
/-! The invariant `Inv` holds initially, is kept by the loop, and is the certificate when the heap is
empty; sizes and validity of the seed sets. -/
namespace Pf.C06
open Pf

section
variable {G : Grid} {conn : Nat} {elev : Array Int} {nod seed : Array Bool}

theorem inv_init (hN : nod.size = G.n) (hE : elev.size = G.n) (hS : seed.size = G.n)
    (hSV : ∀ c : Nat, c < G.n → seed[c]! = true → nod[c]! = false) :
    Inv G conn elev nod seed (fun _ => 0) (initState G elev nod seed) := by
  have hd8 : ∀ c : Nat, c < G.n →
      (initState G elev nod seed).d8[c]! = if nod[c]! = true then 247 else 0 :=
    fun c hc => init_d8 nod (by omega)
  have hnotpop : ∀ c : Nat, c < G.n → ¬ Popped (initState G elev nod seed) c := by
    intro c hc ⟨hq, hni⟩
    apply hni
    exact ⟨⟨elev[c]!, 1, c⟩, (mem_initHeap G elev seed _).2 ⟨c, hc, hq, rfl⟩, rfl⟩
  refine
    { sized := sized_init hN hE hS,
      nodc := ?_, hp := ?_, nodup := initHeap_nodup G elev seed, sorted := hsorted_initHeap G elev seed,
      mono := fun p hp hpp => absurd hpp (hnotpop p hp), seedq := ?_, dq := ?_, und := ?_,
      pd := fun p hp hpp => absurd hpp (hnotpop p hp), dn := ?_,
      l1 := fun b hb hpb => absurd hpb (hnotpop b hb) }
  · intro c hc hn
    refine ⟨hn, rfl, by rw [hd8 c hc, if_pos hn], ?_⟩
    show seed[c]! = false
    cases hs : seed[c]! with
    | false => rfl
    | true => have := hSV c hc hs; rw [hn] at this; cases this
  · intro e he
    obtain ⟨i, hi, hsi, rfl⟩ := (mem_initHeap G elev seed e).1 he
    exact ⟨hi, hSV i hi hsi, hsi, rfl⟩
  · intro c _ hs
    exact ⟨hs, rfl⟩
  · intro c _ hd hn
    have : (initState G elev nod seed).done[c]! = nod[c]! := rfl
    rw [this, hn] at hd; cases hd
  · intro c hc hn _
    refine ⟨rfl, by rw [hd8 c hc, if_neg (by rw [hn]; simp)], fun hq => ⟨hq, ?_⟩⟩
    exact ⟨⟨elev[c]!, 1, c⟩, (mem_initHeap G elev seed _).2 ⟨c, hc, hq, rfl⟩, rfl⟩
  · intro c _ hn hd
    have : (initState G elev nod seed).done[c]! = nod[c]! := rfl
    rw [this, hn] at hd; cases hd

theorem inv_loop (fuel : Nat) (s : St) (rk : Nat → Nat) (I : Inv G conn elev nod seed rk s) :
    ∃ rk', Inv G conn elev nod seed rk' (fillLoop G conn elev fuel s) :=
  fillLoop_induct (fun s => ∃ rk, Inv G conn elev nod seed rk s)
    (fun _ _ _ ⟨_, I⟩ hq => inv_pop I hq) fuel s ⟨rk, I⟩

theorem dsOf_eq {d8 : Array Nat} {c d : Nat} {dr dc : Int} (hcode : d8[c]! = usCode dr dc)
    (ho : (dr, dc) ∈ offsets conn) (ho0 : (dr, dc) ≠ (0, 0)) (hs : shift G d dr dc = some c)
    (hd : d < G.n) (h247 : d8[d]! ≠ 247) : dsOf G d8 c = d := by
  have f3 : drdc (usCode dr dc) = (-dr, -dc) := drdc_usCode_mem ho
  have hne : (-dr, -dc) ≠ ((0 : Int), (0 : Int)) := by
    intro h
    injection h with a b
    apply ho0
    have : dr = 0 := by omega
    have : dc = 0 := by omega
    simp [*]
  have hinv := shift_inv (o := (dr, dc)) hd hs
  simp only at hinv
  unfold dsOf
  simp only [hcode, f3, if_neg hne, hinv, if_neg h247]

/-- **exit**: with an empty heap the invariant is the certificate -/
theorem inv_final {rk : Nat → Nat} {s : St} (I : Inv G conn elev nod seed rk s) (hq : s.q = [])
    (hSV : ∀ c : Nat, c < G.n → seed[c]! = true → nod[c]! = false) :
    FillCert G conn elev nod seed s.f s.d8 ((List.range G.n).map rk).toArray := by
  have hpop : ∀ c : Nat, s.queued[c]! = true → Popped s c := by
    intro c hqc
    refine ⟨hqc, ?_⟩
    rintro ⟨e, he, _⟩
    rw [hq] at he
    cases he
  have hnq : ∀ c : Nat, c < G.n → s.queued[c]! = true → nod[c]! = false := by
    intro c hc hqc
    cases hn : nod[c]! with
    | false => rfl
    | true => have := (I.nodc c hc hn).2.2.2; rw [hqc] at this; cases this
  -- valid cells never carry 247
  have h247 : ∀ c : Nat, c < G.n → nod[c]! = false → s.d8[c]! ≠ 247 := by
    intro c hc hn
    cases hd : s.done[c]! with
    | false => rw [(I.und c hc hn hd).2.1]; decide
    | true =>
      by_cases h0 : s.d8[c]! = 0
      · rw [h0]; decide
      · obtain ⟨_, o, _, _, _, _, hcode, _⟩ := (I.dn c hc hn hd).2 h0
        rw [hcode]
        exact usCode_ne_247 _ _
  -- reached cells are queued (hence popped and done)
  have hreach : ∀ c : Nat, Reached G nod seed s.d8 c → s.queued[c]! = true := by
    intro c ⟨⟨hc, hn⟩, h⟩
    rcases h with h | h
    · exact (I.seedq c hc h).1
    · cases hd : s.done[c]! with
      | false => exact absurd (I.und c hc hn hd).2.1 h
      | true => exact I.dq c hc hd hn
  have hdone_reached : ∀ c : Nat, c < G.n → nod[c]! = false → s.done[c]! = true →
      Reached G nod seed s.d8 c := by
    intro c hc hn hd
    refine ⟨⟨hc, hn⟩, ?_⟩
    by_cases h0 : s.d8[c]! = 0
    · exact Or.inl ((I.dn c hc hn hd).1 h0)
    · exact Or.inr h0
  intro c hc
  unfold CellOk
  by_cases hn : nod[c]! = true
  · rw [if_pos hn]
    obtain ⟨_, n2, n3, _⟩ := I.nodc c hc hn
    refine ⟨n2, n3, ?_⟩
    cases hs : seed[c]! with
    | false => rfl
    | true => have := hSV c hc hs; rw [hn] at this; cases this
  · rw [if_neg hn]
    have hn' : nod[c]! = false := by simpa using hn
    by_cases hr : Reached G nod seed s.d8 c
    · rw [if_pos hr]
      have hqc := hreach c hr
      have hpc := hpop c hqc
      have hdc := I.pd c hc hpc
      refine ⟨h247 c hc hn', fun hs => (I.seedq c hc hs).2, fun h0 => ?_, fun b hb hnbr => ?_⟩
      · obtain ⟨d, ⟨dr, dc⟩, ho, ho0, hso, hdn, hcode, hpd, hf, hrk⟩ := (I.dn c hc hn' hdc).2 h0
        have hdv := hnq d hdn hpd.1
        have hds : dsOf G s.d8 c = d := dsOf_eq hcode ho ho0 hso hdn (h247 d hdn hdv)
        rw [hds]
        refine ⟨⟨?_, ⟨hc, hn'⟩, ⟨hdn, hdv⟩⟩, hf, ?_⟩
        · exact ((adj_iff_shift hdn).2 ⟨(dr, dc), ho, ho0, hso⟩).symm
        · rw [getElem!_map_range _ _ _ hdn, getElem!_map_range _ _ _ hc]
          exact hrk
      · have hbd := (I.l1 c hc hpc b hnbr.symm).1
        have hbr := hdone_reached b hb hnbr.2.2.2 hbd
        refine ⟨hbr, ?_⟩
        exact (I.l1 b hb (hpop b (hreach b hbr)) c hnbr).2
    · rw [if_neg hr]
      cases hd : s.done[c]! with
      | false => exact (I.und c hc hn' hd).1
      | true => exact absurd (hdone_reached c hc hn' hd) hr


theorem userSeeds_size (pits : List Nat) (a : Array Bool) :
    (pits.foldl (fun a p => a.setIfInBounds p true) a).size = a.size := by
  induction pits generalizing a with
  | nil => rfl
  | cons p r ih => simp only [List.foldl_cons]; rw [ih]; simp

theorem seeds0_size (pits : Option (List Nat)) : (seeds0 G conn nod pits).size = G.n := by
  unfold seeds0
  cases pits with
  | none => simp [getEdge]
  | some l => simp [userSeeds, userSeeds_size]

theorem seeds0_valid (pits : Option (List Nat))
    (hpits : ∀ l, pits = some l → ∀ p, p ∈ l → p < G.n → nod[p]! = false) (c : Nat) (hc : c < G.n)
    (h : (seeds0 G conn nod pits)[c]! = true) : nod[c]! = false := by
  unfold seeds0 at h
  cases pits with
  | none => exact ((getEdge_spec G conn nod c hc).1 h).1.2
  | some l =>
    simp only [userSeeds] at h
    rw [userSeeds_fold] at h
    rcases h with h | ⟨h, _⟩
    · simp [hc] at h
    · exact hpits l rfl c h hc

theorem seedsOf_size {pits : Option (List Nat)} {minMode : Bool} {s : Array Bool}
    (h : seedsOf G conn elev nod pits minMode = some s) : s.size = G.n := by
  unfold seedsOf at h
  cases minMode with
  | false =>
    simp only [Bool.false_eq_true, if_false, Option.some.injEq] at h
    rw [← h]; exact seeds0_size pits
  | true =>
    simp only [if_true] at h
    split at h
    · cases h
    · injection h with h
      rw [← h]; simp

theorem seedsOf_valid {pits : Option (List Nat)} {minMode : Bool} {s : Array Bool}
    (hpits : ∀ l, pits = some l → ∀ p, p ∈ l → p < G.n → nod[p]! = false)
    (h : seedsOf G conn elev nod pits minMode = some s) (c : Nat) (hc : c < G.n)
    (hs : s[c]! = true) : nod[c]! = false := by
  cases minMode with
  | false =>
    simp only [seedsOf, Bool.false_eq_true, if_false, Option.some.injEq] at h
    subst h
    exact seeds0_valid pits hpits c hc hs
  | true =>
    obtain ⟨m, hm, hq, _, hiff⟩ := seedsOf_min G conn elev nod pits s h
    have := (hiff c hc).1 hs
    subst this
    exact seeds0_valid pits hpits c hc hq

end
end Pf.C06
