import PfVerif.Model.C04
import PfVerif.Proofs.Paths
/-! Lemmas for C04: sums over `k < n` (`sumRange`, `sumOver`), guarded reachability `UpG` and its Boolean walk,
the invariant of the guarded up-sweep `accu[ds c] += accu[c] if ok c`, the recurrence of the down-sweep. -/
namespace Pf

/-! ### array writes -/

/-- writing a value chosen by a test is choosing between two writes (the models write `g i own dsv` unconditionally,
the code writes inside its `if`) -/
theorem setIfInBounds_ite {α : Type} (xs : Array α) (i : Nat) (c : Prop) [Decidable c] (a b : α) :
    xs.setIfInBounds i (if c then a else b) = if c then xs.setIfInBounds i a else xs.setIfInBounds i b := by
  split <;> rfl

/-! ### finite sums -/

theorem sumRange_congr {n : Nat} {f g : Nat → Int} (h : ∀ k, k < n → f k = g k) :
    sumRange n f = sumRange n g := by
  induction n with
  | zero => rfl
  | succ n ih =>
    simp only [sumRange]
    rw [ih (fun k hk => h k (Nat.lt_succ_of_lt hk)), h n (Nat.lt_succ_self n)]

theorem sumRange_zero (n : Nat) : sumRange n (fun _ => 0) = 0 := by
  induction n with
  | zero => rfl
  | succ n ih => simp [sumRange, ih]

theorem sumRange_add (n : Nat) (f g : Nat → Int) :
    sumRange n (fun k => f k + g k) = sumRange n f + sumRange n g := by
  induction n with
  | zero => rfl
  | succ n ih => simp only [sumRange, ih]; omega

theorem sumRange_mul (n : Nat) (c : Int) (f : Nat → Int) :
    sumRange n (fun k => c * f k) = c * sumRange n f := by
  induction n with
  | zero => simp [sumRange]
  | succ n ih => simp only [sumRange, ih, Int.mul_add]

theorem sumRange_le {n : Nat} {f g : Nat → Int} (h : ∀ k, k < n → f k ≤ g k) :
    sumRange n f ≤ sumRange n g := by
  induction n with
  | zero => exact Int.le_refl _
  | succ n ih =>
    simp only [sumRange]
    have := ih (fun k hk => h k (Nat.lt_succ_of_lt hk))
    have := h n (Nat.lt_succ_self n)
    omega

theorem sumRange_update {n : Nat} {f g : Nat → Int} {d : Nat} (hd : d < n)
    (h : ∀ k, k < n → k ≠ d → g k = f k) : sumRange n g = sumRange n f + (g d - f d) := by
  induction n with
  | zero => omega
  | succ n ih =>
    simp only [sumRange]
    by_cases hdn : d = n
    · subst hdn
      rw [sumRange_congr (f := g) (g := f) (fun k hk => h k (Nat.lt_succ_of_lt hk) (Nat.ne_of_lt hk))]
      omega
    · have hd' : d < n := by omega
      rw [ih hd' (fun k hk hne => h k (Nat.lt_succ_of_lt hk) hne), h n (Nat.lt_succ_self n) (Ne.symm hdn)]
      omega

/-- `v` if `p` holds, else `0` (classical indicator; sums over sets described by a proposition) -/
noncomputable def ite0 (p : Prop) (v : Int) : Int := @ite _ p (Classical.propDecidable p) v 0

theorem ite0_pos {p : Prop} {v : Int} (h : p) : ite0 p v = v := by
  unfold ite0; exact @if_pos _ (Classical.propDecidable p) h _ _ _
theorem ite0_neg {p : Prop} {v : Int} (h : ¬ p) : ite0 p v = 0 := by
  unfold ite0; exact @if_neg _ (Classical.propDecidable p) h _ _ _
theorem ite0_congr {p q : Prop} {v w : Int} (h : p ↔ q) (hv : q → v = w) : ite0 p v = ite0 q w := by
  by_cases hq : q
  · rw [ite0_pos (h.mpr hq), ite0_pos hq, hv hq]
  · rw [ite0_neg (fun hp => hq (h.mp hp)), ite0_neg hq]
theorem ite0_bool {p : Prop} {b : Bool} {v : Int} (h : p ↔ b = true) :
    ite0 p v = if b then v else 0 := by
  cases b
  · rw [ite0_neg (by simpa using h)]; rfl
  · rw [ite0_pos (by simpa using h)]; rfl

/-- `Σ_{k < n, P k} f k` -/
noncomputable def sumOver (n : Nat) (P : Nat → Prop) (f : Nat → Int) : Int :=
  sumRange n fun k => ite0 (P k) (f k)

theorem sumOver_congr {n : Nat} {P Q : Nat → Prop} {f g : Nat → Int}
    (h : ∀ k, k < n → (P k ↔ Q k)) (hf : ∀ k, k < n → Q k → f k = g k) :
    sumOver n P f = sumOver n Q g :=
  sumRange_congr fun k hk => ite0_congr (h k hk) (hf k hk)

theorem sumOver_false {n : Nat} {P : Nat → Prop} {f : Nat → Int} (h : ∀ k, k < n → ¬ P k) :
    sumOver n P f = 0 := by
  unfold sumOver
  rw [sumRange_congr (g := fun _ => 0) (fun k hk => ite0_neg (h k hk)), sumRange_zero]

theorem sumOver_mul (n : Nat) (P : Nat → Prop) (c : Int) (f : Nat → Int) :
    sumOver n P (fun k => c * f k) = c * sumOver n P f := by
  unfold sumOver
  rw [← sumRange_mul]
  refine sumRange_congr fun k _ => ?_
  by_cases hp : P k
  · rw [ite0_pos hp, ite0_pos hp]
  · rw [ite0_neg hp, ite0_neg hp]; simp

theorem sumOver_mono {n : Nat} {P Q : Nat → Prop} {f : Nat → Int}
    (h : ∀ k, k < n → P k → Q k) (h0 : ∀ k, k < n → Q k → 0 ≤ f k) :
    sumOver n P f ≤ sumOver n Q f := by
  refine sumRange_le fun k hk => ?_
  by_cases hq : Q k
  · rw [ite0_pos hq]
    by_cases hp : P k
    · rw [ite0_pos hp]; exact Int.le_refl _
    · rw [ite0_neg hp]; exact h0 k hk hq
  · rw [ite0_neg hq, ite0_neg (fun hp => hq (h k hk hp))]; exact Int.le_refl _

theorem sumOver_insert {n : Nat} {P Q : Nat → Prop} {f : Nat → Int} {d : Nat} (hd : d < n)
    (h : ∀ k, k < n → k ≠ d → (Q k ↔ P k)) (hP : ¬ P d) :
    sumOver n Q f = sumOver n P f + ite0 (Q d) (f d) := by
  unfold sumOver
  rw [sumRange_update hd (f := fun k => ite0 (P k) (f k)) (g := fun k => ite0 (Q k) (f k))
    (fun k hk hne => ite0_congr (h k hk hne) (fun _ => rfl))]
  simp only [ite0_neg hP]; omega

theorem sumOver_update {n : Nat} {P : Nat → Prop} {f g : Nat → Int} {d : Nat} (hd : d < n)
    (h : ∀ k, k < n → k ≠ d → g k = f k) :
    sumOver n P g = sumOver n P f + ite0 (P d) (g d - f d) := by
  unfold sumOver
  rw [sumRange_update hd (f := fun k => ite0 (P k) (f k)) (g := fun k => ite0 (P k) (g k))
    (fun k hk hne => by rw [h k hk hne])]
  by_cases hp : P d
  · simp only [ite0_pos hp]
  · simp only [ite0_neg hp]; omega

theorem sumOver_bool {n : Nat} {P : Nat → Prop} {b : Nat → Bool} {f : Nat → Int}
    (h : ∀ k, k < n → (P k ↔ b k = true)) :
    sumOver n P f = sumRange n fun k => if b k then f k else 0 :=
  sumRange_congr fun k hk => ite0_bool (h k hk)

/-! ### flow paths -/

theorem mem_snoc_of_ne {pre : List Nat} {i k : Nat} (h : k ≠ i) : k ∈ pre ++ [i] ↔ k ∈ pre := by simp [h]

/-- `j` lies on the flow path of `k` (the property's "`k`'s flow path passes through `j`") -/
def Up (ds : Array Nat) (j k : Nat) : Prop := ∃ m, iterA ds m k = j

/-- `j` lies on the flow path of `k` and every link walked from `k` to `j` passes flow (`ok`) -/
def UpG (ds : Array Nat) (ok : Nat → Bool) (j k : Nat) : Prop :=
  ∃ m, iterA ds m k = j ∧ ∀ t, t < m → ok (iterA ds t k) = true

theorem UpG.refl (ds : Array Nat) (ok : Nat → Bool) (j : Nat) : UpG ds ok j j :=
  ⟨0, rfl, fun _ h => absurd h (Nat.not_lt_zero _)⟩

theorem UpG.up {ds : Array Nat} {ok : Nat → Bool} {j k : Nat} (h : UpG ds ok j k) : Up ds j k :=
  let ⟨m, hm, _⟩ := h; ⟨m, hm⟩

/-- a cell whose link passes nothing on (pit, or guard false) is in no other cell's catchment -/
theorem UpG.of_inactive {ds : Array Nat} {ok : Nat → Bool} {i j : Nat}
    (hin : ¬ (ds[i]! ≠ i ∧ ok i = true)) (h : UpG ds ok j i) : j = i := by
  obtain ⟨m, hm, hok⟩ := h
  cases m with
  | zero => exact hm.symm
  | succ m =>
    have h0 : ok i = true := hok 0 (Nat.succ_pos m)
    have hp : ds[i]! = i := Classical.byContradiction fun hne => hin ⟨hne, h0⟩
    rw [iterA_pit hp] at hm; exact hm.symm

theorem UpG.step_iff {ds : Array Nat} {ok : Nat → Bool} {i j : Nat} (hok : ok i = true) (hne : i ≠ j) :
    UpG ds ok j i ↔ UpG ds ok j ds[i]! := by
  constructor
  · rintro ⟨m, hm, ht⟩
    cases m with
    | zero => exact absurd hm hne
    | succ m => exact ⟨m, hm, fun t h => ht (t+1) (Nat.succ_lt_succ h)⟩
  · rintro ⟨m, hm, ht⟩
    refine ⟨m+1, hm, fun t h => ?_⟩
    cases t with
    | zero => exact hok
    | succ t => exact ht t (Nat.lt_of_succ_lt_succ h)

theorem UpG.snoc {ds : Array Nat} {ok : Nat → Bool} {i k : Nat} (hok : ok i = true)
    (h : UpG ds ok i k) : UpG ds ok ds[i]! k := by
  obtain ⟨m, hm, ht⟩ := h
  refine ⟨m+1, by rw [iterA_succ', hm], fun t h => ?_⟩
  by_cases htm : t < m
  · exact ht t htm
  · have : t = m := by omega
    subst this; rw [hm]; exact hok

theorem UpG.mem {ds : Array Nat} {ok : Nat → Bool} {seq : List Nat} (htopo : Topo ds seq) {j k : Nat}
    (hk : k ∈ seq) (h : UpG ds ok j k) : j ∈ seq := by
  obtain ⟨m, hm, _⟩ := h
  exact hm ▸ iterA_mem htopo hk m

/-- when every link passes flow, `UpG` is plain reachability -/
theorem UpG_iff_Up {ds : Array Nat} {ok : Nat → Bool} {seq : List Nat} (htopo : Topo ds seq)
    (hall : ∀ c ∈ seq, ok c = true) {j k : Nat} (hk : k ∈ seq) : UpG ds ok j k ↔ Up ds j k :=
  ⟨UpG.up, fun ⟨m, hm⟩ => ⟨m, hm, fun t _ => hall _ (iterA_mem htopo hk t)⟩⟩

/-! ### the guarded up-sweep -/

theorem stepUp_add_active {ds : Array Nat} {ok : Nat → Bool} {i : Nat} {init : Array Int}
    (hne : ds[i]! ≠ i) (hok : ok i = true) (hsz : ds[i]! < init.size) (x : Nat) :
    (stepUp ds (updAdd ok) i init)[x]! = if ds[i]! = x then init[x]! + init[i]! else init[x]! := by
  rw [stepUp_get]
  by_cases hx : ds[i]! = x
  · subst hx; simp [hne, hsz, updAdd, hok]
  · simp [hx]

theorem stepUp_add_inactive {ds : Array Nat} {ok : Nat → Bool} {i : Nat} {init : Array Int}
    (hact : ¬ (ds[i]! ≠ i ∧ ok i = true)) (x : Nat) :
    (stepUp ds (updAdd ok) i init)[x]! = init[x]! := by
  rw [stepUp_get]
  split
  · rename_i h
    have : ok i = false := by
      cases hb : ok i
      · rfl
      · exact absurd ⟨h.1, hb⟩ hact
    simp [updAdd, this]
  · rfl

/-- Invariant of the guarded up-sweep, for every initial array: each cell ends with its initial
value plus the initial values of all *other* cells of `seq` whose flow path reaches it over links
that pass flow. `n` is any bound of `seq`; it only delimits the range `k < n` of the sum. -/
theorem sweepUp_add_inv (ds : Array Nat) (ok : Nat → Bool) (seq : List Nat) (htopo : Topo ds seq)
    (n : Nat) (hn : ∀ i ∈ seq, i < n) :
    ∀ (init : Array Int), (∀ i ∈ seq, i < init.size) → ∀ j,
      (sweepUp ds (updAdd ok) seq init)[j]! =
        init[j]! + sumOver n (fun k => k ∈ seq ∧ k ≠ j ∧ UpG ds ok j k) (fun k => init[k]!) := by
  induction htopo with
  | nil =>
    intro init _ j
    rw [sumOver_false (fun k _ h => by cases h.1)]
    simp [sweepUp]
  | @snoc pre i hpre hi hds ih =>
    intro init hb j
    have hn' : ∀ k ∈ pre, k < n := fun k hk => hn k (List.mem_append_left _ hk)
    have hin : i < n := hn i (by simp)
    rw [sweepUp_snoc]
    have hb' : ∀ k ∈ pre, k < (stepUp ds (updAdd ok) i init).size := fun k hk => by
      rw [size_stepUp]; exact hb k (List.mem_append_left _ hk)
    rw [ih hn' _ hb' j]
    -- nothing in `pre` has `i` on its path
    have hnotup : ∀ k ∈ pre, ∀ x, UpG ds ok x k → x ≠ i := fun k hk x hx hxi =>
      hi (hxi ▸ UpG.mem hpre hk hx)
    by_cases hact : ds[i]! ≠ i ∧ ok i = true
    · -- active link i → d
      obtain ⟨hne, hoki⟩ := hact
      have hdpre : ds[i]! ∈ pre := by
        rcases hds with h | h
        · exact absurd h hne
        · exact h
      have hdn : ds[i]! < n := hn' _ hdpre
      have hdsz : ds[i]! < init.size := hb _ (by simp [hdpre])
      have hget := stepUp_add_active (init := init) hne hoki hdsz
      -- left sum: point update at d
      have hL : sumOver n (fun k => k ∈ pre ∧ k ≠ j ∧ UpG ds ok j k)
            (fun k => (stepUp ds (updAdd ok) i init)[k]!) =
          sumOver n (fun k => k ∈ pre ∧ k ≠ j ∧ UpG ds ok j k) (fun k => init[k]!) +
            ite0 (ds[i]! ≠ j ∧ UpG ds ok j ds[i]!) init[i]! := by
        rw [sumOver_update hdn (f := fun k => init[k]!) (fun k _ hkd => by rw [hget]; simp [Ne.symm hkd])]
        congr 1
        refine ite0_congr (and_iff_right hdpre) (fun _ => ?_)
        rw [hget, if_pos rfl]; omega
      -- right sum: the new point i
      have hR : sumOver n (fun k => k ∈ pre ++ [i] ∧ k ≠ j ∧ UpG ds ok j k) (fun k => init[k]!) =
          sumOver n (fun k => k ∈ pre ∧ k ≠ j ∧ UpG ds ok j k) (fun k => init[k]!) +
            ite0 (i ≠ j ∧ UpG ds ok j i) init[i]! := by
        rw [sumOver_insert hin (P := fun k => k ∈ pre ∧ k ≠ j ∧ UpG ds ok j k)
          (fun k _ hki => and_congr_left' (mem_snoc_of_ne hki)) (fun h => hi h.1)]
        congr 1
        exact ite0_congr (by simp) (fun _ => rfl)
      rw [hL, hR, hget]
      by_cases hjd : ds[i]! = j
      · -- j = d
        have h1 : ¬ (ds[i]! ≠ j ∧ UpG ds ok j ds[i]!) := fun h => h.1 hjd
        have hij : i ≠ j := fun h => hne (by rw [hjd]; exact h.symm)
        have h2 : i ≠ j ∧ UpG ds ok j i := ⟨hij, (UpG.step_iff hoki hij).mpr (hjd ▸ UpG.refl ds ok _)⟩
        rw [ite0_neg h1, ite0_pos h2, if_pos hjd]; omega
      · rw [if_neg hjd]
        have : ite0 (ds[i]! ≠ j ∧ UpG ds ok j ds[i]!) init[i]! = ite0 (i ≠ j ∧ UpG ds ok j i) init[i]! := by
          refine ite0_congr ?_ (fun _ => rfl)
          constructor
          · rintro ⟨_, hup⟩
            have hij : i ≠ j := fun h => hnotup _ hdpre j hup h.symm
            exact ⟨hij, (UpG.step_iff hoki hij).mpr hup⟩
          · rintro ⟨hij, hup⟩
            exact ⟨hjd, (UpG.step_iff hoki hij).mp hup⟩
        rw [this]
    · -- inactive: the array is unchanged (as far as reads go) and i is in no other catchment
      have hget := stepUp_add_inactive (init := init) hact
      rw [hget]
      congr 1
      refine sumOver_congr (fun k _ => ?_) (fun k _ _ => hget k)
      constructor
      · rintro ⟨h1, h2, h3⟩; exact ⟨by simp [h1], h2, h3⟩
      · rintro ⟨h1, h2, h3⟩
        refine ⟨?_, h2, h3⟩
        simp only [List.mem_append, List.mem_singleton] at h1
        rcases h1 with h1 | h1
        · exact h1
        · subst h1
          exact absurd (UpG.of_inactive hact h3).symm h2

/-! ### corollaries of the invariant -/

theorem sweepUp_add_sum (ds : Array Nat) (ok : Nat → Bool) (seq : List Nat) (htopo : Topo ds seq)
    (n : Nat) (hn : ∀ i ∈ seq, i < n) (init : Array Int) (hb : ∀ i ∈ seq, i < init.size)
    (j : Nat) (hj : j ∈ seq) :
    (sweepUp ds (updAdd ok) seq init)[j]! =
      sumOver n (fun k => k ∈ seq ∧ UpG ds ok j k) (fun k => init[k]!) := by
  rw [sweepUp_add_inv ds ok seq htopo n hn init hb j,
    sumOver_insert (hn j hj) (P := fun k => k ∈ seq ∧ k ≠ j ∧ UpG ds ok j k)
      (Q := fun k => k ∈ seq ∧ UpG ds ok j k) (fun k _ hk => by simp [hk]) (fun h => h.2.1 rfl),
    ite0_pos ⟨hj, UpG.refl ds ok j⟩]
  omega

theorem sweepUp_add_untouched (ds : Array Nat) (ok : Nat → Bool) (seq : List Nat) (htopo : Topo ds seq)
    (init : Array Int) (hb : ∀ i ∈ seq, i < init.size) (j : Nat) (hj : j ∉ seq) :
    (sweepUp ds (updAdd ok) seq init)[j]! = init[j]! := by
  rw [sweepUp_add_inv ds ok seq htopo init.size hb init hb j,
    sumOver_false (fun k _ h => hj (UpG.mem htopo h.1 h.2.2))]
  omega

/-- mass conservation of the guarded up-sweep: the totals at the cells that pass nothing on
(pits and cut links) add up to the total of the initial values over `seq`. -/
theorem sweepUp_add_mass (ds : Array Nat) (ok : Nat → Bool) (seq : List Nat) (htopo : Topo ds seq)
    (n : Nat) (hn : ∀ i ∈ seq, i < n) :
    ∀ (init : Array Int), (∀ i ∈ seq, i < init.size) →
      sumOver n (fun p => p ∈ seq ∧ ¬ (ds[p]! ≠ p ∧ ok p = true))
          (fun p => (sweepUp ds (updAdd ok) seq init)[p]!) =
        sumOver n (fun k => k ∈ seq) (fun k => init[k]!) := by
  induction htopo with
  | nil =>
    intro init _
    rw [sumOver_false (fun k _ h => by cases h.1), sumOver_false (fun k _ h => by cases h)]
  | @snoc pre i hpre hi hds ih =>
    intro init hb
    have hn' : ∀ k ∈ pre, k < n := fun k hk => hn k (List.mem_append_left _ hk)
    have hin : i < n := hn i (by simp)
    have hb' : ∀ k ∈ pre, k < (stepUp ds (updAdd ok) i init).size := fun k hk => by
      rw [size_stepUp]; exact hb k (List.mem_append_left _ hk)
    have hR : sumOver n (fun k => k ∈ pre ++ [i]) (fun k => init[k]!) =
        sumOver n (fun k => k ∈ pre) (fun k => init[k]!) + init[i]! := by
      rw [sumOver_insert hin (P := fun k => k ∈ pre) (fun k _ hki => mem_snoc_of_ne hki) hi,
        ite0_pos (by simp)]
    -- the new cell `i` counts on the left only if it passes nothing on
    rw [sweepUp_snoc, hR, sumOver_insert hin (P := fun p => p ∈ pre ∧ ¬ (ds[p]! ≠ p ∧ ok p = true))
      (fun k _ hki => and_congr_left' (mem_snoc_of_ne hki)) (fun h => hi h.1), ih hn' _ hb']
    by_cases hact : ds[i]! ≠ i ∧ ok i = true
    · -- active: its value has moved to `ds i ∈ pre`
      obtain ⟨hne, hoki⟩ := hact
      have hdpre : ds[i]! ∈ pre := hds.resolve_left hne
      have hdsz : ds[i]! < init.size := hb _ (by simp [hdpre])
      rw [ite0_neg (fun h => h.2 ⟨hne, hoki⟩), sumOver_update (hn' _ hdpre) (f := fun k => init[k]!)
        (fun k _ hkd => by rw [stepUp_add_active hne hoki hdsz]; simp [Ne.symm hkd]),
        ite0_pos hdpre, stepUp_add_active hne hoki hdsz, if_pos rfl]
      omega
    · -- inactive: the step changes no read and `i` keeps its value to the end
      rw [ite0_pos ⟨by simp, hact⟩, sweepUp_add_untouched ds ok pre hpre _ hb' i hi, stepUp_add_inactive hact]
      congr 1
      exact sumOver_congr (fun _ _ => Iff.rfl) (fun k _ _ => stepUp_add_inactive hact k)

/-! ### the Boolean walk decides `UpG` on a downstream-first order -/

theorem reachesG_sound (ds : Array Nat) (ok : Nat → Bool) :
    ∀ (fuel j k : Nat), reachesG ds ok fuel j k = true → UpG ds ok j k
  | 0, j, k, h => by
    have : k = j := by simpa [reachesG] using h
    exact this ▸ UpG.refl ds ok k
  | fuel+1, j, k, h => by
    simp only [reachesG, Bool.or_eq_true, beq_iff_eq, Bool.and_eq_true, bne_iff_ne, ne_eq] at h
    rcases h with h | ⟨⟨_, hok⟩, hr⟩
    · exact h ▸ UpG.refl ds ok k
    · by_cases hkj : k = j
      · exact hkj ▸ UpG.refl ds ok k
      · exact (UpG.step_iff hok hkj).mpr (reachesG_sound ds ok fuel j _ hr)

theorem reachesG_mono (ds : Array Nat) (ok : Nat → Bool) :
    ∀ (fuel j k : Nat), reachesG ds ok fuel j k = true → reachesG ds ok (fuel+1) j k = true
  | 0, j, k, h => by
    have : k = j := by simpa [reachesG] using h
    simp [reachesG, this]
  | fuel+1, j, k, h => by
    simp only [reachesG, Bool.or_eq_true, beq_iff_eq, Bool.and_eq_true, bne_iff_ne, ne_eq] at h
    rcases h with h | ⟨⟨hne, hok⟩, hr⟩
    · simp [reachesG, h]
    · have := reachesG_mono ds ok fuel j _ hr
      rw [reachesG]
      simp only [Bool.or_eq_true, beq_iff_eq, Bool.and_eq_true, bne_iff_ne, ne_eq]
      exact Or.inr ⟨⟨hne, hok⟩, this⟩

theorem reachesG_mono_le (ds : Array Nat) (ok : Nat → Bool) {f g : Nat} (hfg : f ≤ g) (j k : Nat)
    (h : reachesG ds ok f j k = true) : reachesG ds ok g j k = true := by
  induction hfg with
  | refl => exact h
  | step _ ih => exact reachesG_mono ds ok _ j k ih

theorem reachesG_complete (ds : Array Nat) (ok : Nat → Bool) (seq : List Nat) (htopo : Topo ds seq) :
    ∀ k ∈ seq, ∀ j, UpG ds ok j k → reachesG ds ok seq.length j k = true := by
  induction htopo with
  | nil => intro k hk; cases hk
  | @snoc pre i hpre hi hds ih =>
    intro k hk j hup
    simp only [List.mem_append, List.mem_singleton] at hk
    have hlen : (pre ++ [i]).length = pre.length + 1 := by simp
    rw [hlen]
    rcases hk with hk | hk
    · exact reachesG_mono ds ok _ j k (ih k hk j hup)
    · subst hk
      by_cases hkj : k = j
      · simp [reachesG, hkj]
      · by_cases hact : ds[k]! ≠ k ∧ ok k = true
        · have hd : ds[k]! ∈ pre := by
            rcases hds with h | h
            · exact absurd h hact.1
            · exact h
          have := ih _ hd j ((UpG.step_iff hact.2 hkj).mp hup)
          rw [reachesG]
          simp only [Bool.or_eq_true, beq_iff_eq, Bool.and_eq_true, bne_iff_ne, ne_eq]
          exact Or.inr ⟨hact, this⟩
        · exact absurd (UpG.of_inactive hact hup).symm hkj

theorem reachesG_iff (ds : Array Nat) (ok : Nat → Bool) (seq : List Nat) (htopo : Topo ds seq)
    {fuel : Nat} (hf : seq.length ≤ fuel) {j k : Nat} (hk : k ∈ seq) :
    UpG ds ok j k ↔ reachesG ds ok fuel j k = true :=
  ⟨fun h => reachesG_mono_le ds ok hf j k (reachesG_complete ds ok seq htopo k hk j h),
   reachesG_sound ds ok fuel j k⟩

/-! ### paths that meet no nodata cell -/

/-- `j` lies on the flow path of `k` and, unless `j = k`, no cell from `k` to `j` (both included)
holds the nodata value -/
def UpNd (ds : Array Nat) (data : Array Int) (nodata : Int) (j k : Nat) : Prop :=
  ∃ m, iterA ds m k = j ∧ (m = 0 ∨ ∀ t, t ≤ m → data[iterA ds t k]! ≠ nodata)

theorem linkOk_iff (ds : Array Nat) (data : Array Int) (nodata : Int) (c : Nat) :
    linkOk ds data nodata c = true ↔ data[ds[c]!]! ≠ nodata ∧ data[c]! ≠ nodata := by
  simp [linkOk]

theorem UpG_linkOk_iff (ds : Array Nat) (data : Array Int) (nodata : Int) (j k : Nat) :
    UpG ds (linkOk ds data nodata) j k ↔ UpNd ds data nodata j k := by
  have hok := linkOk_iff ds data nodata
  constructor
  · rintro ⟨m, hm, ht⟩
    refine ⟨m, hm, ?_⟩
    cases m with
    | zero => exact Or.inl rfl
    | succ m =>
      refine Or.inr fun t htm => ?_
      by_cases h : t < m + 1
      · exact ((hok _).mp (ht t h)).2
      · have : t = m + 1 := by omega
        subst this
        rw [iterA_succ']
        exact ((hok _).mp (ht m (Nat.lt_succ_self m))).1
  · rintro ⟨m, hm, h⟩
    refine ⟨m, hm, fun t htm => ?_⟩
    rcases h with h | h
    · omega
    · rw [hok, ← iterA_succ']
      exact ⟨h (t+1) htm, h t (Nat.le_of_lt htm)⟩

/-! ### the guarded down-sweep -/

theorem sumRange_succ_front (n : Nat) (f : Nat → Int) :
    sumRange (n+1) f = f 0 + sumRange n (fun t => f (t+1)) := by
  induction n with
  | zero => simp [sumRange]
  | succ n ih =>
    rw [sumRange, ih]
    simp only [sumRange]
    omega

/-- recurrence of `accuflux_ds` -/
theorem sweepDown_add_rec (ds : Array Nat) (ok : Nat → Bool) (seq : List Nat) (htopo : Topo ds seq)
    (init : Array Int) (hb : ∀ i ∈ seq, i < init.size) (i : Nat) (hi : i ∈ seq) :
    (sweepDown ds (gAddDown ds ok) seq init)[i]! =
      if ds[i]! ≠ i ∧ ok i = true then init[i]! + (sweepDown ds (gAddDown ds ok) seq init)[ds[i]!]!
      else init[i]! := by
  rw [(sweepDown_rec ds (gAddDown ds ok) init seq htopo hb).1 i hi]
  unfold gAddDown
  by_cases hp : ds[i]! = i
  · simp [hp]
  · simp [hp]

/-! ### the C04 models -/

/-- without nodata cells every link of `seq` passes flow -/
theorem linkOk_of_no_nodata {ds : Array Nat} {seq : List Nat} (htopo : Topo ds seq) {data : Array Int}
    {nodata : Int} (hnd : ∀ k ∈ seq, data[k]! ≠ nodata) : ∀ c ∈ seq, linkOk ds data nodata c = true := by
  intro c hc
  simp [linkOk, hnd c hc, hnd _ (Topo.ds_mem htopo c hc)]

theorem coversValid_spec {ds : Array Nat} {seq : List Nat} (h : coversValid ds seq = true) :
    (∀ k, k < ds.size → (isValid ds k = true ↔ k ∈ seq)) ∧ (∀ k ∈ seq, k < ds.size) := by
  simp only [coversValid, Bool.and_eq_true, List.all_eq_true, List.mem_range, beq_iff_eq,
    decide_eq_true_eq] at h
  refine ⟨fun k hk => ?_, h.2⟩
  rw [h.1 k hk]; simp

theorem get!_maskInvalid (ds : Array Nat) (nodata : Int) (a : Array Int) (i : Nat) (hi : i < a.size) :
    (maskInvalid ds nodata a)[i]! = if ds[i]! = ds.size then nodata else a[i]! := by
  simp [maskInvalid, getElem!_def, hi]

theorem size_accuflux (ds : Array Nat) (seq : List Nat) (data : Array Int) (nodata : Int) :
    (accuflux ds seq data nodata).size = data.size := size_sweepUp ..

/-- on a downstream-first order every cell reaches a pit after finitely many non-pit steps -/
theorem reaches_pit {ds : Array Nat} {seq : List Nat} (htopo : Topo ds seq) :
    ∀ i ∈ seq, ∃ m, ds[iterA ds m i]! = iterA ds m i ∧ ∀ t, t < m → ds[iterA ds t i]! ≠ iterA ds t i := by
  refine htopo.induction _ (fun i _ hd => ?_)
  by_cases hp : ds[i]! = i
  · exact ⟨0, hp, fun t ht => absurd ht (Nat.not_lt_zero t)⟩
  · obtain ⟨m, hm, hlt⟩ := (hd hp).2
    refine ⟨m+1, hm, fun t ht => ?_⟩
    cases t with
    | zero => exact hp
    | succ t => exact hlt t (Nat.lt_of_succ_lt_succ ht)

end Pf
