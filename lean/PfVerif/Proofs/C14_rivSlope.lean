import PfVerif.Model.C14_riv
import PfVerif.Proofs.C14Fuel
import PfVerif.Proofs.C14Mono
import PfVerif.Proofs.C14_rivEst
/-! The Manning branch of `Flwdir.river_depth`: fractions ordered by cross-multiplication, the slope a
cell uses (scaled integers filled by `fillnodata`) against the oracle `rivslpSpec` (fractions, walk,
brute-force maximum), its monotonicity in the water-surface drop, and the order lemmas over `Rat` for
the power law. -/
namespace Pf.C14x
open Pf

theorem fracLe_iff (a b : Int × Int) : fracLe a b = true ↔ a.1 * b.2 ≤ b.1 * a.2 := by
  simp [fracLe]

theorem frac_trans {a b c : Int × Int} (ha : 0 < a.2) (hb : 0 < b.2) (hc : 0 < c.2)
    (h1 : a.1 * b.2 ≤ b.1 * a.2) (h2 : b.1 * c.2 ≤ c.1 * b.2) : a.1 * c.2 ≤ c.1 * a.2 := by
  have e1 := Int.mul_le_mul_of_nonneg_right h1 (Int.le_of_lt hc)
  have e2 := Int.mul_le_mul_of_nonneg_right h2 (Int.le_of_lt ha)
  have e3 : a.1 * c.2 * b.2 ≤ c.1 * a.2 * b.2 := by
    have x1 : a.1 * c.2 * b.2 = a.1 * b.2 * c.2 := by ac_rfl
    have x2 : b.1 * a.2 * c.2 = b.1 * c.2 * a.2 := by ac_rfl
    have x3 : c.1 * b.2 * a.2 = c.1 * a.2 * b.2 := by ac_rfl
    omega
  exact Int.le_of_mul_le_mul_right e3 hb

theorem fracMax_cases (a q : Int × Int) :
    (fracMax a q = a ∨ fracMax a q = q) ∧ a.1 * (fracMax a q).2 ≤ (fracMax a q).1 * a.2 ∧
      q.1 * (fracMax a q).2 ≤ (fracMax a q).1 * q.2 := by
  by_cases h : fracLe a q = true
  · rw [show fracMax a q = q by simp [fracMax, h]]
    exact ⟨Or.inr rfl, (fracLe_iff a q).1 h, Int.le_refl _⟩
  · rw [show fracMax a q = a by simp [fracMax, h]]
    rw [fracLe_iff] at h
    exact ⟨Or.inl rfl, Int.le_refl _, by omega⟩

theorem fracMax_den_pos {a q : Int × Int} (ha : 0 < a.2) (hq : 0 < q.2) : 0 < (fracMax a q).2 := by
  rcases (fracMax_cases a q).1 with e | e <;> rw [e]
  · exact ha
  · exact hq

theorem fracMax_mono {a q q' : Int × Int} (ha : 0 < a.2) (hq : 0 < q.2) (hq' : 0 < q'.2)
    (h : q.1 * q'.2 ≤ q'.1 * q.2) :
    (fracMax a q).1 * (fracMax a q').2 ≤ (fracMax a q').1 * (fracMax a q).2 := by
  obtain ⟨_, ha', hq''⟩ := fracMax_cases a q'
  rcases (fracMax_cases a q).1 with e | e <;> rw [e]
  · exact ha'
  · exact frac_trans hq hq' (fracMax_den_pos ha hq') h hq''

/-- the same fraction, both denominators positive -/
def FracSame (a b : Int × Int) : Prop := a.1 * b.2 = b.1 * a.2 ∧ 0 < a.2 ∧ 0 < b.2

theorem fracMax_congr {a q q' : Int × Int} (ha : 0 < a.2) (hq : 0 < q.2) (hq' : 0 < q'.2)
    (h : q.1 * q'.2 = q'.1 * q.2) : FracSame (fracMax a q) (fracMax a q') :=
  ⟨Int.le_antisymm (fracMax_mono ha hq hq' (Int.le_of_eq h)) (fracMax_mono ha hq' hq (Int.le_of_eq h.symm)),
    fracMax_den_pos ha hq, fracMax_den_pos ha hq'⟩

theorem foldl_fracMax : ∀ (qs : List (Int × Int)) (a : Int × Int), 0 < a.2 → (∀ q ∈ qs, 0 < q.2) →
    0 < (qs.foldl fracMax a).2 ∧ qs.foldl fracMax a ∈ a :: qs ∧
      ∀ q ∈ a :: qs, q.1 * (qs.foldl fracMax a).2 ≤ (qs.foldl fracMax a).1 * q.2 := by
  intro qs
  induction qs with
  | nil => intro a ha _; simpa using ha
  | cons q qs ih =>
    intro a ha hqs
    have hq := hqs q (by simp)
    obtain ⟨hsel, hla, hlq⟩ := fracMax_cases a q
    obtain ⟨m1, m2, m3⟩ := ih (fracMax a q) (fracMax_den_pos ha hq) (fun x hx => hqs x (by simp [hx]))
    have hm := m3 (fracMax a q) (by simp)
    rw [List.foldl_cons]
    refine ⟨m1, ?_, ?_⟩
    · rcases List.mem_cons.1 m2 with e | e
      · rw [e]; rcases hsel with e' | e' <;> simp [e']
      · simp [e]
    · intro x hx
      rcases List.mem_cons.1 hx with e | hx
      · rw [e]; exact frac_trans ha (fracMax_den_pos ha hq) m1 hla hm
      · rcases List.mem_cons.1 hx with e | hx
        · rw [e]; exact frac_trans hq (fracMax_den_pos ha hq) m1 hlq hm
        · exact m3 x (by simp [hx])

theorem maxSlope_eq_fracMax (P : RdParams) (v : Int) :
    maxSlope P v = fracMax (P.minNum, P.minDen) (v, P.S) := by
  simp [maxSlope, fracMax, fracLe]

theorem maxSlope_den_pos (P : RdParams) (hS : 0 < P.S) (hD : 0 < P.minDen) (v : Int) :
    0 < (maxSlope P v).2 := by
  rw [maxSlope_eq_fracMax]; exact fracMax_den_pos hD hS

/-- `max(min_rivslp, v/S)` is monotone in `v` (as fractions with positive denominators) -/
theorem maxSlope_mono (P : RdParams) (hS : 0 < P.S) (hD : 0 < P.minDen) {v v' : Int} (h : v ≤ v') :
    (maxSlope P v).1 * (maxSlope P v').2 ≤ (maxSlope P v').1 * (maxSlope P v).2 := by
  rw [maxSlope_eq_fracMax, maxSlope_eq_fracMax]
  exact fracMax_mono hD hS hS (Int.mul_le_mul_of_nonneg_right h (Int.le_of_lt hS))

/-- `max(min_rivslp, v/S)` (model) and `max(min_rivslp, dz/dx)` (oracle) are the same fraction when
`v/S = dz/dx` -/
theorem maxSlope_fracSame (P : RdParams) (hS : 0 < P.S) (hD : 0 < P.minDen) (v : Int) (q : Int × Int)
    (hq : 0 < q.2) (hv : v * q.2 = P.S * q.1) :
    FracSame (maxSlope P v) (fracMax (P.minNum, P.minDen) q) := by
  rw [maxSlope_eq_fracMax]
  exact fracMax_congr hD hS hq (by rw [hv]; exact Int.mul_comm _ _)

/-- nodata (`−9999`) lies below `min_rivslp` -/
theorem maxSlope_nd (P : RdParams) (hS : 0 < P.S) (hmin : -9999 * P.minDen < P.minNum) :
    maxSlope P P.nd = (P.minNum, P.minDen) := by
  have h : ¬ (P.minNum * P.S ≤ P.nd * P.minDen) := by
    intro hle
    have h1 : P.nd * P.minDen = (-9999 * P.minDen) * P.S := by
      unfold RdParams.nd
      rw [Int.mul_assoc, Int.mul_comm P.S, ← Int.mul_assoc]
    rw [h1] at hle
    have := Int.mul_lt_mul_of_pos_right hmin hS
    omega
  simp [maxSlope, h]

theorem rivslpLocal_size (ds : Array Nat) (P : RdParams) : (rivslpLocal ds P).size = ds.size := by
  simp [rivslpLocal]

theorem rivslpLocal_get (ds : Array Nat) (P : RdParams) (i : Nat) (hi : i < ds.size) :
    (rivslpLocal ds P)[i]! =
      if rdDx ds P i ≥ P.K then P.S * rdDz ds P i / rdDx ds P i else P.nd := by
  simp [rivslpLocal, hi]

theorem rivslpFilled_size (ds : Array Nat) (seq : List Nat) (P : RdParams) :
    (rivslpFilled ds seq P).size = ds.size := by
  simp [rivslpFilled, fillDownModel, fillDownState_size, rivslpLocal_size]

theorem rivslpFinal_get (ds : Array Nat) (seq : List Nat) (P : RdParams) (j : Nat) (hj : j < ds.size) :
    (rivslpFinal ds seq P)[j]! = maxSlope P (rivslpFilled ds seq P)[j]! := by
  have := rivslpFilled_size ds seq P
  simp [rivslpFinal, this, hj]

theorem riverDepth_get (ds : Array Nat) (seq : List Nat) (P : RdParams) (pw : Nat → Int × Int → Int)
    (minDph ndOut : Int) (i : Nat) (hi : i < ds.size) :
    (riverDepth ds seq P pw minDph ndOut)[i]! =
      if ds[i]! = ds.size then ndOut else max minDph (pw i (rivslpFinal ds seq P)[i]!) := by
  simp [riverDepth, hi]

/-- the depth is monotone in the value of the power law at the cell: after the power law come only
the maximum with `min_rivdph` and the nodata mask -/
theorem riverDepth_le (ds : Array Nat) (seq : List Nat) (P P' : RdParams) (pw pw' : Nat → Int × Int → Int)
    (minDph ndOut : Int) (i : Nat) (hi : i < ds.size)
    (h : pw i (rivslpFinal ds seq P)[i]! ≤ pw' i (rivslpFinal ds seq P')[i]!) :
    (riverDepth ds seq P pw minDph ndOut)[i]! ≤ (riverDepth ds seq P' pw' minDph ndOut)[i]! := by
  rw [riverDepth_get ds seq P pw minDph ndOut i hi, riverDepth_get ds seq P' pw' minDph ndOut i hi]
  split
  · exact Int.le_refl _
  · omega

theorem slopeOpt_rec (ds : Array Nat) (seq : List Nat) (P : RdParams) (htopo : Topo ds seq)
    (hb : ∀ i ∈ seq, i < ds.size) (j : Nat) (hj : j < ds.size) :
    fillOpt ds seq (rivslpLocal ds P) P.nd 0 j =
      (if (rivslpLocal ds P)[j]! ≠ P.nd then some (rivslpLocal ds P)[j]!
       else mergeBranches 0 ((kids ds seq j).map fun c => fillOpt ds seq (rivslpLocal ds P) P.nd 0 c)) ∧
    (rivslpFinal ds seq P)[j]! = maxSlope P ((fillOpt ds seq (rivslpLocal ds P) P.nd 0 j).getD P.nd) := by
  obtain ⟨h1, h2⟩ := fillDown_rec ds seq (rivslpLocal ds P) P.nd 0 htopo
    (fun i hi => (rivslpLocal_size ds P).symm ▸ hb i hi) j ((rivslpLocal_size ds P).symm ▸ hj)
  refine ⟨h1, ?_⟩
  rw [rivslpFinal_get ds seq P j hj]
  unfold rivslpFilled fillOpt
  rw [h2]

/-- frontier form of `fillnodata(max)` on the local slope field: the value of a cell is at least the
local slope of every nearest cell upstream that has one, and is its own or one of those -/
theorem slopeOpt_frontier (ds : Array Nat) (seq : List Nat) (P : RdParams) (htopo : Topo ds seq)
    (hb : ∀ i ∈ seq, i < ds.size) :
    (∀ k ∈ seq, (rivslpLocal ds P)[k]! ≠ P.nd → ∀ j, Feeds ds (rivslpLocal ds P) P.nd k j →
      ∃ r, fillOpt ds seq (rivslpLocal ds P) P.nd 0 j = some r ∧ (rivslpLocal ds P)[k]! ≤ r) ∧
    (∀ j ∈ seq, ∀ r, fillOpt ds seq (rivslpLocal ds P) P.nd 0 j = some r →
      ((rivslpLocal ds P)[j]! ≠ P.nd ∧ r = (rivslpLocal ds P)[j]!) ∨
      ∃ k ∈ seq, (rivslpLocal ds P)[k]! ≠ P.nd ∧ Feeds ds (rivslpLocal ds P) P.nd k j ∧
        r = (rivslpLocal ds P)[k]!) := by
  have hmax : ∀ x a, mergeHow 0 x a = max x a := fun x a => by simp [mergeHow]
  exact fillDown_frontier_sel 0 (fun a b => b ≤ a) (fun a => Int.le_refl a)
    (fun a b c h1 h2 => Int.le_trans h2 h1) (fun x a => by rw [hmax]; omega) (fun x a => by rw [hmax]; omega)
    ds seq (rivslpLocal ds P) P.nd htopo (fun i hi => (rivslpLocal_size ds P).symm ▸ hb i hi)

theorem riverExact_get (ds : Array Nat) (P : RdParams) (h : riverExact ds P = true) (i : Nat)
    (hi : i < ds.size) (hx : rdDx ds P i ≥ P.K) : (P.S * rdDz ds P i) % rdDx ds P i = 0 := by
  simp only [riverExact, List.all_eq_true, List.mem_range, Bool.or_eq_true, Bool.not_eq_true',
    decide_eq_false_iff_not, beq_iff_eq] at h
  rcases h i hi with h | h
  · exact absurd hx h
  · exact h

theorem locFrac_eq (ds : Array Nat) (P : RdParams) (k : Nat) (hk : k < ds.size) :
    locFrac ds P k =
      if rdDx ds P k ≥ P.K ∧ rdDz ds P k ≠ -9999 * rdDx ds P k then some (rdDz ds P k, rdDx ds P k)
      else none := by
  simp only [locFrac, rdDz, rdDx, downstream_get ds _ k hk]
  by_cases h : ds[k]'hk = ds.size
  · simp [isValid, hk, h]
  · simp [isValid, hk, h]

/-- a cell has a fraction `dz/dx` in the oracle iff the model's scaled local slope is not nodata, and
then the scaled integer represents that fraction: `local · dx = S · dz`, `dx > 0`. The oracle's test
`dz ≠ -9999 * dx` is needed for this: a true slope of −9999 is the nodata value of the slope field, which
`fillnodata` treats as missing. -/
theorem locFrac_spec (ds : Array Nat) (P : RdParams) (hS : 0 < P.S) (hK : 0 < P.K)
    (hex : riverExact ds P = true) (k : Nat) (hk : k < ds.size) :
    match locFrac ds P k with
    | some q => 0 < q.2 ∧ (rivslpLocal ds P)[k]! ≠ P.nd ∧ (rivslpLocal ds P)[k]! * q.2 = P.S * q.1
    | none => (rivslpLocal ds P)[k]! = P.nd := by
  rw [locFrac_eq ds P k hk, rivslpLocal_get ds P k hk]
  by_cases hx : rdDx ds P k ≥ P.K
  · have hmul : P.S * rdDz ds P k / rdDx ds P k * rdDx ds P k = P.S * rdDz ds P k :=
      Int.ediv_mul_cancel (Int.dvd_of_emod_eq_zero (riverExact_get ds P hex k hk hx))
    have hpos : 0 < rdDx ds P k := by omega
    rw [if_pos hx]
    by_cases hz : rdDz ds P k = -9999 * rdDx ds P k
    · rw [if_neg (fun h => h.2 hz)]
      apply Int.eq_of_mul_eq_mul_right (Int.ne_of_gt hpos)
      rw [hmul, hz]; unfold RdParams.nd
      rw [← Int.mul_assoc, Int.mul_comm P.S]
    · rw [if_pos ⟨hx, hz⟩]
      refine ⟨hpos, fun h => hz ?_, hmul⟩
      apply Int.eq_of_mul_eq_mul_left (Int.ne_of_gt hS)
      rw [← hmul, h]; unfold RdParams.nd
      rw [Int.mul_assoc, Int.mul_comm P.S, ← Int.mul_assoc, Int.mul_comm P.S, Int.mul_assoc]
  · rw [if_neg hx, if_neg (fun h => hx h.1)]

/-- what the lemmas below use of `locFrac_spec` -/
structure LocOK (ds : Array Nat) (P : RdParams) : Prop where
  some : ∀ k, k < ds.size → ∀ q, locFrac ds P k = some q →
    0 < q.2 ∧ (rivslpLocal ds P)[k]! ≠ P.nd ∧ (rivslpLocal ds P)[k]! * q.2 = P.S * q.1
  none : ∀ k, k < ds.size → locFrac ds P k = none → (rivslpLocal ds P)[k]! = P.nd

theorem locOK (ds : Array Nat) (P : RdParams) (hS : 0 < P.S) (hK : 0 < P.K)
    (hex : riverExact ds P = true) : LocOK ds P := by
  refine ⟨fun k hk q h => ?_, fun k hk h => ?_⟩ <;>
    have := locFrac_spec ds P hS hK hex k hk <;> rw [h] at this <;> exact this

theorem LocOK.isSome_iff {ds : Array Nat} {P : RdParams} (h : LocOK ds P) (k : Nat) (hk : k < ds.size) :
    (locFrac ds P k).isSome = true ↔ (rivslpLocal ds P)[k]! ≠ P.nd := by
  cases hl : locFrac ds P k with
  | none => simp [h.none k hk hl]
  | some q => simp [(h.some k hk q hl).2.1]

/-! ### `Feeds` (snoc-shaped) against the oracle's walk (cons-shaped) -/

theorem feedsWalk_sound (ds : Array Nat) (P : RdParams) (hok : LocOK ds P) (j : Nat) :
    ∀ fuel c, feedsWalk ds P j fuel c = true → Feeds ds (rivslpLocal ds P) P.nd c j := by
  intro fuel
  induction fuel with
  | zero => intro c h; simp [feedsWalk] at h
  | succ f ih =>
    intro c h
    simp only [feedsWalk] at h
    by_cases h1 : ds[c]! = c ∨ ds[c]! ≥ ds.size
    · rw [if_pos h1] at h; cases h
    · rw [if_neg h1] at h
      have hp : ds[c]! ≠ c := fun e => h1 (Or.inl e)
      by_cases h2 : (locFrac ds P ds[c]!).isSome = true
      · rw [if_pos h2] at h; cases h
      · rw [if_neg h2] at h
        have hnd : (rivslpLocal ds P)[ds[c]!]! = P.nd :=
          Classical.byContradiction fun hne => h2 ((hok.isSome_iff _ (by omega)).2 hne)
        simp only [Bool.or_eq_true, beq_iff_eq] at h
        rcases h with h | h
        · exact h ▸ Feeds.step hp hnd
        · exact Feeds.cons_c14 hp hnd (ih _ h)

theorem feedsWalk_complete (ds : Array Nat) (P : RdParams) (hok : LocOK ds P) (seq : List Nat)
    (htopo : Topo ds seq) (hb : ∀ i ∈ seq, i < ds.size) (j : Nat) :
    ∀ fuel c, c ∈ seq → pitWithin_c14 ds fuel c = true → Feeds ds (rivslpLocal ds P) P.nd c j →
      feedsWalk ds P j fuel c = true := by
  intro fuel
  induction fuel with
  | zero => intro c _ h; simp [pitWithin_c14] at h
  | succ f ih =>
    intro c hc hp hf
    obtain ⟨h1, h2, h3⟩ := Feeds.inv_c14 hf
    have hdm := Topo.ds_mem htopo c hc
    have hd := hb _ hdm
    simp only [pitWithin_c14, Bool.or_eq_true, beq_iff_eq] at hp
    have hp' : pitWithin_c14 ds f ds[c]! = true := hp.resolve_left h1
    simp only [feedsWalk]
    rw [if_neg (by omega : ¬ (ds[c]! = c ∨ ds[c]! ≥ ds.size)),
      if_neg (fun hs => (hok.isSome_iff _ hd).1 hs h2)]
    simp only [Bool.or_eq_true, beq_iff_eq]
    rcases h3 with e | e
    · exact Or.inl e.symm
    · exact Or.inr (ih _ hdm hp' e)

/-- candidate fraction cell `k` contributes to the oracle's maximum for the target cell `j` -/
def specCand (ds : Array Nat) (P : RdParams) (j k : Nat) : Option (Int × Int) :=
  match locFrac ds P k with
  | none => none
  | some q => if isValid ds k && feedsWalk ds P j (ds.size + 1) k then some q else none

/-- one step of the fold of `rivslpSpec`, through the candidate fraction of cell `k` -/
def candStep (cand : Nat → Option (Int × Int)) (acc : Option (Int × Int)) (k : Nat) : Option (Int × Int) :=
  match cand k with
  | none => acc
  | some q => match acc with
    | none => some q
    | some a => some (fracMax a q)

/-- folding "keep the larger" over optional candidates is `foldl fracMax` over the candidates present -/
theorem foldl_candStep (cand : Nat → Option (Int × Int)) : ∀ (l : List Nat) (acc : Option (Int × Int)),
    l.foldl (candStep cand) acc =
      match acc, l.filterMap cand with
      | none, [] => none
      | none, q :: qs => some (qs.foldl fracMax q)
      | some a, qs => some (qs.foldl fracMax a) := by
  intro l
  induction l with
  | nil => intro acc; cases acc <;> rfl
  | cons k l ih =>
    intro acc
    rw [List.foldl_cons, ih, List.filterMap_cons, candStep]
    cases cand k with
    | none => rfl
    | some q => cases acc <;> rfl

/-- the oracle: own fraction, else the largest candidate fraction, else none; then `max(min_rivslp, ·)` -/
theorem rivslpSpec_eq (ds : Array Nat) (P : RdParams) (j : Nat) :
    rivslpSpec ds P j =
      match locFrac ds P j with
      | some q => fracMax (P.minNum, P.minDen) q
      | none =>
        match (List.range ds.size).filterMap (specCand ds P j) with
        | [] => (P.minNum, P.minDen)
        | q :: qs => fracMax (P.minNum, P.minDen) (qs.foldl fracMax q) := by
  have hfun : (fun (acc : Option (Int × Int)) (k : Nat) =>
        match locFrac ds P k with
        | none => acc
        | some q =>
          if isValid ds k && feedsWalk ds P j (ds.size + 1) k then
            (match acc with | none => some q | some a => some (fracMax a q))
          else acc) = candStep (specCand ds P j) := by
    funext acc k
    simp only [candStep, specCand]
    cases locFrac ds P k with
    | none => rfl
    | some q => by_cases h : (isValid ds k && feedsWalk ds P j (ds.size + 1) k) = true <;> simp [h]
  have h : rivslpSpec ds P j =
      match (match locFrac ds P j with
             | some q => some q
             | none => (List.range ds.size).foldl (candStep (specCand ds P j)) none) with
      | none => (P.minNum, P.minDen)
      | some q => fracMax (P.minNum, P.minDen) q := by rw [← hfun]; rfl
  rw [h, foldl_candStep]
  cases locFrac ds P j with
  | some q => rfl
  | none => cases (List.range ds.size).filterMap (specCand ds P j) <;> rfl

theorem scaled_le {S a b : Int} {p q : Int × Int} (hS : 0 < S) (hp : 0 < p.2) (hq : 0 < q.2)
    (ha : a * p.2 = S * p.1) (hb : b * q.2 = S * q.1) (h : p.1 * q.2 ≤ q.1 * p.2) : a ≤ b := by
  have h1 : a * S ≤ b * S :=
    frac_trans (a := (a, S)) (c := (b, S)) hS hq hS
      (frac_trans (a := (a, S)) hS hp hq (by rw [ha]; exact Int.le_of_eq (Int.mul_comm _ _)) h)
      (by rw [hb]; exact Int.le_of_eq (Int.mul_comm _ _))
  exact Int.le_of_mul_le_mul_right h1 hS

/-- **the slope a cell uses (model, scaled integers, cell order `seq`) is the fraction the oracle
computes**, at cells of the network and outside it (there both are `min_rivslp`) -/
theorem rivslpFinal_eq_spec_all (ds : Array Nat) (seq : List Nat) (P : RdParams) (htopo : Topo ds seq)
    (hb : ∀ i ∈ seq, i < ds.size) (hcov : ∀ c, isValid ds c = true → c ∈ seq)
    (hS : 0 < P.S) (hK : 0 < P.K) (hD : 0 < P.minDen) (hmin : -9999 * P.minDen < P.minNum)
    (hex : riverExact ds P = true)
    (j : Nat) (hjn : j < ds.size) : FracSame (rivslpFinal ds seq P)[j]! (rivslpSpec ds P j) := by
  have hok := locOK ds P hS hK hex
  obtain ⟨hrec, hfin⟩ := slopeOpt_rec ds seq P htopo hb j hjn
  obtain ⟨F1, F2⟩ := slopeOpt_frontier ds seq P htopo hb
  rw [hfin, rivslpSpec_eq]
  cases hlj : locFrac ds P j with
  | some q =>
    obtain ⟨hq2, hown, hqv⟩ := hok.some j hjn q hlj
    rw [hrec, if_pos hown]
    exact maxSlope_fracSame P hS hD _ q hq2 hqv
  | none =>
    simp only []
    have hnd := hok.none j hjn hlj
    -- the oracle's candidates are the nearest upstream cells with a slope
    have hcand : ∀ q, q ∈ (List.range ds.size).filterMap (specCand ds P j) ↔
        ∃ k ∈ seq, locFrac ds P k = some q ∧ Feeds ds (rivslpLocal ds P) P.nd k j := by
      intro q
      simp only [List.mem_filterMap, List.mem_range, specCand]
      constructor
      · rintro ⟨k, _, h⟩
        cases hl : locFrac ds P k with
        | none => rw [hl] at h; cases h
        | some q' =>
          rw [hl] at h
          simp only [] at h
          by_cases hc : (isValid ds k && feedsWalk ds P j (ds.size + 1) k) = true
          · rw [if_pos hc] at h; cases h
            rw [Bool.and_eq_true] at hc
            exact ⟨k, hcov k hc.1, hl, feedsWalk_sound ds P hok j _ k hc.2⟩
          · rw [if_neg hc] at h; cases h
      · rintro ⟨k, hk, hl, hf⟩
        have hv := Topo.isValid htopo hb k hk
        have hw := feedsWalk_complete ds P hok seq htopo hb j _ k hk (htopo.reach_size_c14 hb k hk) hf
        exact ⟨k, hb k hk, by simp [hl, hv, hw]⟩
    -- a value the sweep brought to `j` is the local slope of such a cell
    have hval : ∀ r, fillOpt ds seq (rivslpLocal ds P) P.nd 0 j = some r →
        ∃ k ∈ seq, ∃ q, locFrac ds P k = some q ∧ Feeds ds (rivslpLocal ds P) P.nd k j ∧
          r = (rivslpLocal ds P)[k]! := by
      intro r hr
      by_cases hj : j ∈ seq
      · rcases F2 j hj r hr with ⟨h, _⟩ | ⟨k, hk, hl, hf, hr⟩
        · exact absurd hnd h
        · cases hq : locFrac ds P k with
          | none => exact absurd (hok.none k (hb k hk) hq) hl
          | some q => exact ⟨k, hk, q, hq, hf, hr⟩
      · rw [hrec, if_neg (fun h => h hnd), kids_outside_c14 htopo j hj] at hr
        cases hr
    cases hC : (List.range ds.size).filterMap (specCand ds P j) with
    | nil =>
      cases hO : fillOpt ds seq (rivslpLocal ds P) P.nd 0 j with
      | none => rw [Option.getD_none, maxSlope_nd P hS hmin]; exact ⟨rfl, hD, hD⟩
      | some r =>
        obtain ⟨k, hk, q, hq, hf, _⟩ := hval r hO
        have := (hcand q).2 ⟨k, hk, hq, hf⟩
        rw [hC] at this; cases this
    | cons q qs =>
      simp only []
      have hpos : ∀ x ∈ q :: qs, 0 < x.2 := by
        intro x hx
        obtain ⟨k, hk, hl, _⟩ := (hcand x).1 (hC ▸ hx)
        exact (hok.some k (hb k hk) x hl).1
      obtain ⟨m1, m2, m3⟩ := foldl_fracMax qs q (hpos q (by simp)) (fun x hx => hpos x (by simp [hx]))
      obtain ⟨k1, hk1, hl1, hf1⟩ := (hcand _).1 (hC ▸ m2)
      obtain ⟨_, hne1, hv1⟩ := hok.some k1 (hb k1 hk1) _ hl1
      obtain ⟨r, hr, hle⟩ := F1 k1 hk1 hne1 j hf1
      obtain ⟨k0, hk0, q0, hq0, hf0, hr0⟩ := hval r hr
      obtain ⟨hq02, _, hv0⟩ := hok.some k0 (hb k0 hk0) q0 hq0
      have hge : (rivslpLocal ds P)[k0]! ≤ (rivslpLocal ds P)[k1]! :=
        scaled_le hS hq02 m1 hv0 hv1 (m3 q0 (hC ▸ (hcand q0).2 ⟨k0, hk0, hq0, hf0⟩))
      -- sandwich: the sweep's value is the slope of `k0` ≤ that of the oracle's maximum `k1` ≤ the sweep's value
      have hrk1 : r = (rivslpLocal ds P)[k1]! := Int.le_antisymm (by rw [hr0]; exact hge) hle
      rw [hr, Option.getD_some, hrk1]
      exact maxSlope_fracSame P hS hD _ _ m1 hv1

/-- the driver's table parameter sees the slope only as a fraction -/
theorem pwTable_frac (n : Nat) (cn cd tab : Array Int) (i : Nat) (s s' : Int × Int) (hs : 0 < s.2)
    (hs' : 0 < s'.2) (h : s.1 * s'.2 = s'.1 * s.2) : pwTable n cn cd tab i s = pwTable n cn cd tab i s' := by
  have key : ∀ (a b : Int) (t t' : Int × Int), 0 < t.2 → t.1 * t'.2 = t'.1 * t.2 →
      a * t.2 = t.1 * b → a * t'.2 = t'.1 * b := by
    intro a b t t' ht htt hab
    apply Int.eq_of_mul_eq_mul_right (Int.ne_of_gt ht)
    have x1 : a * t'.2 * t.2 = a * t.2 * t'.2 := by ac_rfl
    have x2 : t'.1 * b * t.2 = t'.1 * t.2 * b := by ac_rfl
    have x3 : t.1 * b * t'.2 = t.1 * t'.2 * b := by ac_rfl
    rw [x1, hab, x2, ← htt, x3]
  have hf : (fun (c : Nat) => cn[c]! * s.2 == s.1 * cd[c]!) = (fun (c : Nat) => cn[c]! * s'.2 == s'.1 * cd[c]!) := by
    funext c
    rw [Bool.eq_iff_iff, beq_iff_eq, beq_iff_eq]
    exact ⟨key _ _ s s' hs h, key _ _ s' s hs' h.symm⟩
  simp only [pwTable, hf]

/-- **the slope used is monotone in the local slope field**: two parameter sets with the same scale and
`min_rivslp` whose local slope fields have the same cells without a slope and satisfy `local ≤ local'`
give `slope ≤ slope'` at every cell (fractions with positive denominators, cross-multiplied) -/
theorem rivslpFinal_mono_local (ds : Array Nat) (seq : List Nat) (P P' : RdParams) (htopo : Topo ds seq)
    (hb : ∀ i ∈ seq, i < ds.size) (hS : 0 < P.S) (hD : 0 < P.minDen)
    (eS : P'.S = P.S) (eN : P'.minNum = P.minNum) (eD : P'.minDen = P.minDen)
    (hpat : ∀ j, j < ds.size → ((rivslpLocal ds P)[j]! = P.nd ↔ (rivslpLocal ds P')[j]! = P.nd))
    (hle : ∀ j, j < ds.size → (rivslpLocal ds P)[j]! ≠ P.nd → (rivslpLocal ds P)[j]! ≤ (rivslpLocal ds P')[j]!)
    (j : Nat) (hj : j < ds.size) :
    ((rivslpFinal ds seq P)[j]!).1 * ((rivslpFinal ds seq P')[j]!).2 ≤
      ((rivslpFinal ds seq P')[j]!).1 * ((rivslpFinal ds seq P)[j]!).2 := by
  have hnd : P'.nd = P.nd := by unfold RdParams.nd; rw [eS]
  have hsz : (rivslpLocal ds P).size = ds.size := rivslpLocal_size ds P
  have hfill : (rivslpFilled ds seq P)[j]! ≤ (rivslpFilled ds seq P')[j]! := by
    unfold rivslpFilled
    rw [hnd]
    exact fillDownModel_mono_c14 ds seq _ _ P.nd 0 htopo (fun i hi => hsz ▸ hb i hi)
      ((rivslpLocal_size ds P').trans hsz.symm)
      (fun k hk => hpat k (hsz ▸ hk)) (fun k hk => hle k (hsz ▸ hk)) j (hsz ▸ hj)
  rw [rivslpFinal_get ds seq P j hj, rivslpFinal_get ds seq P' j hj,
    show maxSlope P' = maxSlope P by unfold maxSlope; rw [eS, eN, eD]]
  exact maxSlope_mono P hS hD hfill

/-- when no drop equals the nodata slope `−9999`, exactly the links of at least 1 m have a local slope -/
theorem rivslpLocal_nd_iff (ds : Array Nat) (P : RdParams) (hS : 0 < P.S) (hK : 0 < P.K)
    (hex : riverExact ds P = true)
    (hne : ∀ i, i < ds.size → rdDx ds P i ≥ P.K → rdDz ds P i ≠ -9999 * rdDx ds P i)
    (k : Nat) (hk : k < ds.size) : (rivslpLocal ds P)[k]! = P.nd ↔ ¬ rdDx ds P k ≥ P.K := by
  have h := locFrac_spec ds P hS hK hex k hk
  rw [locFrac_eq ds P k hk] at h
  by_cases hx : rdDx ds P k ≥ P.K
  · rw [if_pos ⟨hx, hne k hk hx⟩] at h
    exact ⟨fun he => absurd he h.2.1, fun hn => absurd hx hn⟩
  · rw [if_neg (fun hc => hx hc.1)] at h
    exact ⟨fun _ => hx, fun _ => h⟩

/-- **the slope used is monotone in the water-surface drop.** Same network, order, distances, scale and
`min_rivslp`; two water-level fields whose drops to the downstream cell satisfy `dz ≤ dz'` on every link
of at least 1 m (exact divisions, no drop equal to the nodata slope `−9999`): every cell uses a slope
that is at most the slope it uses with `zs'`. -/
theorem rivslpFinal_mono_zs (ds : Array Nat) (seq : List Nat) (P P' : RdParams) (htopo : Topo ds seq)
    (hb : ∀ i ∈ seq, i < ds.size) (hS : 0 < P.S) (hK : 0 < P.K) (hD : 0 < P.minDen)
    (eS : P'.S = P.S) (eK : P'.K = P.K) (eN : P'.minNum = P.minNum) (eD : P'.minDen = P.minDen)
    (eR : P'.rivdst = P.rivdst)
    (hex : riverExact ds P = true) (hex' : riverExact ds P' = true)
    (hne : ∀ i, i < ds.size → rdDx ds P i ≥ P.K → rdDz ds P i ≠ -9999 * rdDx ds P i)
    (hne' : ∀ i, i < ds.size → rdDx ds P i ≥ P.K → rdDz ds P' i ≠ -9999 * rdDx ds P i)
    (hle : ∀ i, i < ds.size → rdDx ds P i ≥ P.K → rdDz ds P i ≤ rdDz ds P' i)
    (j : Nat) (hj : j < ds.size) :
    ((rivslpFinal ds seq P)[j]!).1 * ((rivslpFinal ds seq P')[j]!).2 ≤
      ((rivslpFinal ds seq P')[j]!).1 * ((rivslpFinal ds seq P)[j]!).2 := by
  have hdx : ∀ i, rdDx ds P' i = rdDx ds P i := by intro i; unfold rdDx; rw [eR]
  have hnd : P'.nd = P.nd := by unfold RdParams.nd; rw [eS]
  have hn1 := rivslpLocal_nd_iff ds P hS hK hex hne
  have hn2 := rivslpLocal_nd_iff ds P' (eS ▸ hS) (eK ▸ hK) hex'
    (fun i hi hx => by rw [hdx]; exact hne' i hi (by rw [hdx, eK] at hx; exact hx))
  refine rivslpFinal_mono_local ds seq P P' htopo hb hS hD eS eN eD ?_ ?_ j hj
  · intro k hk
    rw [hn1 k hk, ← hnd, hn2 k hk, hdx, eK]
  · intro k hk hv
    have hx : rdDx ds P k ≥ P.K := Classical.byContradiction fun hx => hv ((hn1 k hk).2 hx)
    have hpos : 0 < rdDx ds P k := by omega
    rw [rivslpLocal_get ds P k hk, rivslpLocal_get ds P' k hk, hdx, eK, eS, if_pos hx, if_pos hx]
    exact Int.ediv_le_ediv hpos (Int.mul_le_mul_of_nonneg_left (hle k hk hx) (Int.le_of_lt hS))

theorem rat_inv_nonneg {a : Rat} (h : 0 ≤ a) : 0 ≤ a⁻¹ := by
  rcases Rat.le_iff_lt_or_eq.1 h with h | h
  · exact Rat.le_of_lt (Rat.inv_pos.2 h)
  · rw [← h]; simp

theorem rat_inv_anti {d d' : Rat} (hd : 0 < d) (hdd : d ≤ d') : d'⁻¹ ≤ d⁻¹ := by
  have hd' : 0 < d' := by grind
  have hne : d ≠ 0 := fun h => by rw [h] at hd; exact Rat.lt_irrefl hd
  have hne' : d' ≠ 0 := fun h => by rw [h] at hd'; exact Rat.lt_irrefl hd'
  have h1 : d'⁻¹ * (d * d⁻¹) ≤ d'⁻¹ * (d' * d⁻¹) :=
    Rat.mul_le_mul_of_nonneg_left
      (Rat.mul_le_mul_of_nonneg_right hdd (Rat.le_of_lt (Rat.inv_pos.2 hd)))
      (Rat.le_of_lt (Rat.inv_pos.2 hd'))
  rw [Rat.mul_inv_cancel d hne, Rat.mul_one, ← Rat.mul_assoc, Rat.inv_mul_cancel d' hne', Rat.one_mul] at h1
  exact h1

/-- the argument of the power law does not decrease with the numerator `manning·Q` -/
theorem manningArg_mono_num (manning manning' q q' sqrtS w : Rat) (hd : 0 ≤ sqrtS * w)
    (h : manning * q ≤ manning' * q') : manningArg manning q sqrtS w ≤ manningArg manning' q' sqrtS w := by
  simp only [manningArg, Rat.div_def]
  exact Rat.mul_le_mul_of_nonneg_right h (rat_inv_nonneg hd)

/-- the argument of the power law does not increase with the width or with (the root of) the slope -/
theorem manningArg_anti_den (manning q sqrtS sqrtS' w w' : Rat) (hnq : 0 ≤ manning * q)
    (hd : 0 < sqrtS * w) (hdd : sqrtS * w ≤ sqrtS' * w') :
    manningArg manning q sqrtS' w' ≤ manningArg manning q sqrtS w := by
  simp only [manningArg, Rat.div_def]
  exact Rat.mul_le_mul_of_nonneg_left (rat_inv_anti hd hdd) hnq

theorem fracVal_mono (a b c d : Int) (hb : 0 < b) (hd : 0 < d) (h : a * d ≤ c * b) :
    (a : Rat) / (b : Rat) ≤ (c : Rat) / (d : Rat) := by
  have hB : (0 : Rat) < (b : Rat) := Rat.intCast_pos.2 hb
  have hD : (0 : Rat) < (d : Rat) := Rat.intCast_pos.2 hd
  have hBn : (b : Rat) ≠ 0 := fun e => by rw [e] at hB; exact Rat.lt_irrefl hB
  have hDn : (d : Rat) ≠ 0 := fun e => by rw [e] at hD; exact Rat.lt_irrefl hD
  have h1 : (a : Rat) * (d : Rat) ≤ (c : Rat) * (b : Rat) := by
    rw [← Rat.intCast_mul, ← Rat.intCast_mul]; exact Rat.intCast_le_intCast.2 h
  -- multiply by `1/(b·d) ≥ 0` and cancel
  have h2 := Rat.mul_le_mul_of_nonneg_right h1
    (Rat.le_of_lt (Rat.mul_pos (Rat.inv_pos.2 hB) (Rat.inv_pos.2 hD)))
  have l : (a : Rat) * d * ((b : Rat)⁻¹ * (d : Rat)⁻¹) = a * (b : Rat)⁻¹ * (d * (d : Rat)⁻¹) := by grind
  have r : (c : Rat) * b * ((b : Rat)⁻¹ * (d : Rat)⁻¹) = c * (d : Rat)⁻¹ * (b * (b : Rat)⁻¹) := by grind
  rw [l, r, Rat.mul_inv_cancel _ hBn, Rat.mul_inv_cancel _ hDn, Rat.mul_one, Rat.mul_one] at h2
  rw [Rat.div_def, Rat.div_def]
  exact h2

end Pf.C14x
