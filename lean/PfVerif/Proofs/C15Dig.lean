import PfVerif.Model.C15
/-! `dig_4connectivity`: what each piece of the loop body, and hence the loop, may do to the elevation array. -/
namespace Pf.C15
open Pf

theorem argminFirst_mem (elv : Array Int) (l : List Nat) (k : Nat) (h : argminFirst elv l = some k) : k ∈ l := by
  have key : ∀ (r : List Nat) (a : Nat), r.foldl (fun b j => if elv[j]! < elv[b]! then j else b) a ∈ a :: r := by
    intro r
    induction r with
    | nil => exact fun a => List.mem_cons_self
    | cons j r ih =>
      intro a
      rw [List.foldl_cons]
      rcases List.mem_cons.1 (ih (if elv[j]! < elv[a]! then j else a)) with h | h
      · rw [h]; split <;> simp
      · simp [h]
  cases l with
  | nil => simp [argminFirst] at h
  | cons a r => exact Option.some.inj h ▸ key r a

theorem forall_mem_ite {p : Prop} [Decidable p] {l1 l2 : List Nat} {P : Nat → Prop}
    (h1 : ∀ c ∈ l1, P c) (h2 : ∀ c ∈ l2, P c) : ∀ c ∈ (if p then l1 else l2), P c := by
  split <;> assumption

/-- every branch of `_local_d4` lists some of the four side neighbours -/
theorem localD4_sub (ncol a b : Nat) : ∀ c ∈ localD4 ncol a b, c ∈ d4nbrs ncol a := by
  have n : a - ncol ∈ d4nbrs ncol a := List.mem_cons_self
  have w : a - 1 ∈ d4nbrs ncol a := List.mem_cons_of_mem _ List.mem_cons_self
  have s : a + ncol ∈ d4nbrs ncol a := List.mem_cons_of_mem _ (List.mem_cons_of_mem _ List.mem_cons_self)
  have e : a + 1 ∈ d4nbrs ncol a :=
    List.mem_cons_of_mem _ (List.mem_cons_of_mem _ (List.mem_cons_of_mem _ List.mem_cons_self))
  have nil : ∀ c ∈ ([] : List Nat), c ∈ d4nbrs ncol a := fun _ h => absurd h List.not_mem_nil
  have two : ∀ {x y : Nat}, x ∈ d4nbrs ncol a → y ∈ d4nbrs ncol a → ∀ c ∈ [x, y], c ∈ d4nbrs ncol a :=
    fun hx hy => List.forall_mem_cons.2 ⟨hx, List.forall_mem_cons.2 ⟨hy, nil⟩⟩
  exact forall_mem_ite
    (forall_mem_ite (two n w) (forall_mem_ite (two w s) (forall_mem_ite (two s e) (forall_mem_ite (two e n) nil))))
    (List.forall_mem_cons.2 ⟨w, List.forall_mem_cons.2 ⟨s, two e n⟩⟩)

/-- `e'` arises from `e` by digging at cells of `T` that hold data: size and nodata cells are kept, only cells of
`T` change, and no cell is raised provided the dig rule `digf` does not raise -/
structure Dug (digf : Int → Int → Int) (nodata : Int) (T : Nat → Prop) (e e' : Array Int) : Prop where
  size : e'.size = e.size
  keep : ∀ c : Nat, e[c]! = nodata → e'[c]! = e[c]!
  within : ∀ c : Nat, e'[c]! ≠ e[c]! → T c
  le : (∀ e z, digf e z ≤ e) → ∀ c : Nat, e'[c]! ≤ e[c]!

section dug
variable {digf : Int → Int → Int} {nodata : Int} {T T' : Nat → Prop} {e e1 e2 : Array Int}

theorem Dug.refl : Dug digf nodata T e e :=
  ⟨rfl, fun _ _ => rfl, fun _ h => absurd rfl h, fun _ _ => Int.le_refl _⟩

theorem Dug.trans (h1 : Dug digf nodata T e e1) (h2 : Dug digf nodata T' e1 e2) :
    Dug digf nodata (fun c => T c ∨ T' c) e e2 := by
  refine ⟨h2.size.trans h1.size, fun c hc => ?_, fun c hc => ?_, fun hd c => Int.le_trans (h2.le hd c) (h1.le hd c)⟩
  · have := h1.keep c hc
    rw [h2.keep c (this.trans hc), this]
  · by_cases h : e1[c]! = e[c]!
    · exact Or.inr (h2.within c (h ▸ hc))
    · exact Or.inl (h1.within c h)

theorem Dug.mono (h : Dug digf nodata T e e1) (hT : ∀ c, T c → T' c) : Dug digf nodata T' e e1 :=
  ⟨h.size, h.keep, fun c hc => hT c (h.within c hc), h.le⟩

end dug

/-- the `if dd > 1 and dd != ncol:` block -/
theorem digDiag_spec (digf : Int → Int → Int) (ncol : Nat) (nodata : Int) (elv : Array Int) (i d : Nat)
    (e1 : Array Int) (h : digDiag digf ncol nodata elv i d = some e1) :
    Dug digf nodata (· ∈ d4nbrs ncol i) elv e1 := by
  unfold digDiag at h
  by_cases hdd : absDiffIdx i d > 1 ∧ absDiffIdx i d ≠ ncol
  · rw [if_pos hdd] at h
    cases hk : argminFirst elv ((localD4 ncol i d).filter fun k => elv[k]! != nodata) with
    | none => rw [hk] at h; exact absurd h (by simp)
    | some k =>
      rw [hk] at h
      obtain rfl := Option.some.inj h
      have hmem := List.mem_filter.1 (argminFirst_mem _ _ _ hk)
      have hdata : elv[k]! ≠ nodata := by simpa using hmem.2
      refine ⟨Array.size_setIfInBounds, fun c hc => ?_, fun c hc => ?_, fun hd c => ?_⟩
      · rw [get!_setIfInBounds, if_neg fun hkc : k = c ∧ k < elv.size => hdata (hkc.1 ▸ hc)]
      · rw [get!_setIfInBounds] at hc
        by_cases hkc : k = c ∧ k < elv.size
        · exact hkc.1 ▸ localD4_sub _ _ _ _ hmem.1
        · rw [if_neg hkc] at hc; exact absurd rfl hc
      · rw [get!_setIfInBounds]
        split
        · rename_i hkc; rw [← hkc.1]; exact hd _ _
        · exact Int.le_refl _
  · rw [if_neg hdd] at h
    obtain rfl := Option.some.inj h
    exact Dug.refl

/-- the write loop of the pit block -/
theorem minFold_spec (zp : Int) (tgt : List Nat) :
    ∀ e : Array Int, let r := tgt.foldl (fun e k => e.setIfInBounds k (min zp e[k]!)) e
      r.size = e.size ∧ (∀ c : Nat, r[c]! ≤ e[c]!) ∧ (∀ c : Nat, c ∉ tgt → r[c]! = e[c]!) := by
  induction tgt with
  | nil => intro e; exact ⟨rfl, fun _ => Int.le_refl _, fun _ _ => rfl⟩
  | cons k t ih =>
    intro e
    simp only [List.foldl_cons]
    obtain ⟨h1, h2, h3⟩ := ih (e.setIfInBounds k (min zp e[k]!))
    refine ⟨by rw [h1]; simp, fun c => ?_, fun c hc => ?_⟩
    · refine Int.le_trans (h2 c) ?_
      rw [get!_setIfInBounds]
      split
      · rename_i hkc; rw [← hkc.1]; exact Int.min_le_right _ _
      · exact Int.le_refl _
    · rw [h3 c (fun h => hc (List.mem_cons_of_mem _ h)), get!_setIfInBounds,
        if_neg fun h : k = c ∧ k < e.size => hc (h.1 ▸ List.mem_cons_self)]

/-- the `if idxs_ds[idx_ds] == idx_ds:` block -/
theorem digPit_spec (digf : Int → Int → Int) (ds : Array Nat) (nrow ncol : Nat) (nodata : Int) (e1 : Array Int)
    (i d : Nat) :
    Dug digf nodata (fun c => ds[d]! = d ∧ c ∈ d4nbrs ncol d) e1 (digPit ds nrow ncol nodata e1 i d) := by
  unfold digPit
  by_cases hp : ds[d]! = d
  · rw [if_pos hp]
    by_cases hedge : d / ncol = 0 ∨ d / ncol + 1 = nrow ∨ d % ncol = 0 ∨ d % ncol + 1 = ncol
    · rw [if_pos hedge]; exact Dug.refl
    rw [if_neg hedge]
    by_cases hany : (localD4 ncol d d).any (fun k => e1[k]! == nodata) = true
    · rw [if_pos hany]; exact Dug.refl
    rw [if_neg hany]
    obtain ⟨h1, h2, h3⟩ := minFold_spec e1[d]! ((localD4 ncol d d).filter (· != i)) e1
    -- the written cells are side neighbours of the pit, and all of these hold data
    have hin : ∀ c : Nat, c ∈ (localD4 ncol d d).filter (· != i) → e1[c]! ≠ nodata ∧ c ∈ d4nbrs ncol d :=
      fun c hm => ⟨fun he => hany (List.any_eq_true.2 ⟨c, (List.mem_filter.1 hm).1, by simpa using he⟩),
        localD4_sub _ _ _ _ (List.mem_filter.1 hm).1⟩
    exact ⟨h1, fun c hc => h3 c fun hm => (hin c hm).1 hc,
      fun c hc => ⟨hp, Classical.byContradiction fun hn => hc (h3 c fun hm => hn (hin c hm).2)⟩, fun _ => h2⟩
  · rw [if_neg hp]; exact Dug.refl

theorem digStep_spec (digf : Int → Int → Int) (ds : Array Nat) (nrow ncol : Nat) (mask : Option (Array Bool))
    (nodata : Int) (elv : Array Int) (i : Nat) :
    Dug digf nodata (fun c => maskAt mask i = true ∧
        (c ∈ d4nbrs ncol i ∨ (ds[ds[i]!]! = ds[i]! ∧ c ∈ d4nbrs ncol ds[i]!)))
      elv (digStep digf ds nrow ncol mask nodata elv i) := by
  unfold digStep
  by_cases hm : maskAt mask i = false
  · rw [if_pos hm]; exact Dug.refl
  rw [if_neg hm]
  cases hd : digDiag digf ncol nodata elv i ds[i]! with
  | none => exact Dug.refl
  | some e1 =>
    exact ((digDiag_spec digf ncol nodata elv i ds[i]! e1 hd).trans
      (digPit_spec digf ds nrow ncol nodata e1 i ds[i]!)).mono fun c h => ⟨by simpa using hm, h⟩

/-- everything the property says about `dig_4connectivity` -/
theorem digD4_spec (digf : Int → Int → Int) (ds : Array Nat) (seq : List Nat) (nrow ncol : Nat)
    (mask : Option (Array Bool)) (nodata : Int) (elv : Array Int) :
    Dug digf nodata (fun c => ∃ i ∈ seq, maskAt mask i = true ∧
        (c ∈ d4nbrs ncol i ∨ (ds[ds[i]!]! = ds[i]! ∧ c ∈ d4nbrs ncol ds[i]!)))
      elv (digD4 digf ds seq nrow ncol mask nodata elv) := by
  unfold digD4
  induction seq with
  | nil => exact Dug.refl
  | cons i l ih =>
    refine (ih.trans (digStep_spec digf ds nrow ncol mask nodata _ i)).mono fun c h => ?_
    rcases h with ⟨j, hj, h⟩ | h
    · exact ⟨j, List.mem_cons_of_mem _ hj, h⟩
    · exact ⟨i, List.mem_cons_self, h⟩

end Pf.C15
