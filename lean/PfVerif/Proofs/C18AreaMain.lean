import PfVerif.Proofs.C18AreaStep
/-! The loop of `subbasins_area` (model `areaSeeds`) keeps the invariant of Proofs/C18AreaInv.lean;
consequence: every non-pit outlet keeps a region larger than `area_min`. -/
namespace Pf.C18
open Pf

/-- reading an array after one write is a function update -/
theorem get!_set_upd {a : Array Int} {i : Nat} (h : i < a.size) (v : Int) :
    (fun j => (a.setIfInBounds i v)[j]!) = upd (fun j => a[j]!) i v := by
  funext j
  by_cases hj : j = i
  · rw [hj, get!_set_self h, upd_same]
  · rw [get!_set_ne hj, upd_ne _ _ hj]

/-- reads after the three writes of the tributary branch: `a[i] = v; a[d] -= v; a[m] = a[d]` -/
theorem get!_trib_writes {a : Array Int} {i d m : Nat} {v : Int} (hi : i < a.size) (hd : d < a.size)
    (hid : i ≠ d) (hmi : m ≠ i) (u1 u2 : Array Int) (hu1 : u1 = a.setIfInBounds i v)
    (hu2 : u2 = u1.setIfInBounds d (u1[d]! - v)) :
    (u2.setIfInBounds m u2[d]!)[i]! = v ∧ (u2.setIfInBounds m u2[d]!)[d]! = a[d]! - v ∧
    (m < a.size → (u2.setIfInBounds m u2[d]!)[m]! = a[d]! - v) ∧
    ∀ j, j ≠ i → j ≠ d → j ≠ m → (u2.setIfInBounds m u2[d]!)[j]! = a[j]! := by
  have s1 : u1.size = a.size := by rw [hu1]; simp
  have s2 : u2.size = a.size := by rw [hu2]; simp [s1]
  have g1 : ∀ j, u1[j]! = if i = j ∧ i < a.size then v else a[j]! := fun j => by rw [hu1, get!_setIfInBounds]
  have g2 : ∀ j, u2[j]! = if d = j ∧ d < u1.size then u1[d]! - v else u1[j]! := fun j => by
    rw [hu2, get!_setIfInBounds]
  have hu2d : u2[d]! = a[d]! - v := by
    rw [g2, if_pos ⟨rfl, s1 ▸ hd⟩, g1, if_neg (fun h => hid h.1)]
  refine ⟨?_, ?_, fun hm => ?_, fun j h1 h2 h3 => ?_⟩
  · rw [get!_setIfInBounds, if_neg (fun h => hmi h.1), g2, if_neg (fun h => hid h.1.symm), g1, if_pos ⟨rfl, hi⟩]
  · rw [get!_setIfInBounds, hu2d]; simp
  · rw [get!_setIfInBounds, if_pos ⟨rfl, s2 ▸ hm⟩, hu2d]
  · rw [get!_setIfInBounds, if_neg (fun h => h3 h.1.symm), g2, if_neg (fun h => h2 h.1.symm), g1,
      if_neg (fun h => h1 h.1.symm)]

section
variable (ds usMain : Array Nat) (uparea area : Array Int) (amin : Int) (seq : List Nat) (rk : Nat → Nat)

/-! the five branches of the loop body of `subbasins_area` -/
section branches
variable {ds usMain uparea amin} (st : Array Int × Seeds) {idx : Nat}

/-- when the loop body appends `idx`: a pit, or a cell above the threshold that is a tributary or leaves no
confluence above the threshold behind -/
theorem areaDec_true {s : Array Int} (h : areaDec ds usMain uparea amin s idx = true) :
    ds[idx]! = idx ∨ (uparea[idx]! > amin ∧
      (usMain[ds[idx]!]! ≠ idx ∨ uparea[ds[idx]!]! - uparea[idx]! ≤ amin)) := by
  unfold areaDec at h
  simp only at h
  by_cases hp : ds[idx]! = idx
  · exact Or.inl hp
  · rw [if_neg hp] at h
    split at h
    · rename_i hc
      simp only [Bool.or_eq_true, Bool.not_eq_true', decide_eq_false_iff_not, bne_iff_ne, ne_eq] at h
      exact Or.inr ⟨hc.2, h.symm.imp id (fun h => by omega)⟩
    · cases h

theorem areaStep_pit (hp : ds[idx]! = idx) :
    pushStep (areaDec ds usMain uparea amin) (areaNext ds usMain uparea amin) st idx =
      (st.1, pushOutlet st.2 idx) := by
  simp [pushStep, areaDec, areaNext, hp]

theorem areaStep_small (hp : ds[idx]! ≠ idx)
    (hq : ¬ (st.1[ds[idx]!]! - uparea[idx]! > amin ∧ uparea[idx]! > amin)) :
    pushStep (areaDec ds usMain uparea amin) (areaNext ds usMain uparea amin) st idx =
      (st.1.setIfInBounds idx st.1[ds[idx]!]!, st.2) := by
  simp only [pushStep, areaDec, areaNext, hp, if_false, hq]
  simp

theorem areaStep_main_conf (hp : ds[idx]! ≠ idx)
    (hq : st.1[ds[idx]!]! - uparea[idx]! > amin ∧ uparea[idx]! > amin) (hm : usMain[ds[idx]!]! = idx)
    (hc : uparea[ds[idx]!]! - uparea[idx]! > amin) :
    pushStep (areaDec ds usMain uparea amin) (areaNext ds usMain uparea amin) st idx = (st.1, st.2) := by
  simp [pushStep, areaDec, areaNext, hp, hq, hm, hc]

theorem areaStep_main_cut (hp : ds[idx]! ≠ idx)
    (hq : st.1[ds[idx]!]! - uparea[idx]! > amin ∧ uparea[idx]! > amin) (hm : usMain[ds[idx]!]! = idx)
    (hc : ¬ uparea[ds[idx]!]! - uparea[idx]! > amin) :
    pushStep (areaDec ds usMain uparea amin) (areaNext ds usMain uparea amin) st idx =
      (st.1.setIfInBounds idx uparea[idx]!, pushOutlet st.2 idx) := by
  simp [pushStep, areaDec, areaNext, hp, hq, hm, hc]

theorem areaStep_trib (hp : ds[idx]! ≠ idx)
    (hq : st.1[ds[idx]!]! - uparea[idx]! > amin ∧ uparea[idx]! > amin) (hm : usMain[ds[idx]!]! ≠ idx) :
    pushStep (areaDec ds usMain uparea amin) (areaNext ds usMain uparea amin) st idx =
      (((st.1.setIfInBounds idx uparea[idx]!).setIfInBounds ds[idx]!
            ((st.1.setIfInBounds idx uparea[idx]!)[ds[idx]!]! - uparea[idx]!)).setIfInBounds usMain[ds[idx]!]!
          ((st.1.setIfInBounds idx uparea[idx]!).setIfInBounds ds[idx]!
            ((st.1.setIfInBounds idx uparea[idx]!)[ds[idx]!]! - uparea[idx]!))[ds[idx]!]!,
        pushOutlet st.2 idx) := by
  simp [pushStep, areaDec, areaNext, hp, hq, hm]

end branches

/-- the invariant on the concrete loop state `(upa_out, (subbas, idxs))` after the cells `pre` -/
def CInv (pre : List Nat) (st : Array Int × Seeds) : Prop :=
  st.1.size = ds.size ∧ ∃ (own : Nat → Nat) (reg : Nat → Int),
    SInv (fun x => ds[x]!) (fun d => usMain[d]!) (fun x => uparea[x]!) amin seq rk pre st.2.2 own ∧
    UInv (fun x => ds[x]!) (fun d => usMain[d]!) (fun x => uparea[x]!) (fun x => area[x]!) amin seq rk
      pre st.2.2 own (fun j => st.1[j]!) reg

variable {ds usMain uparea area amin seq rk}

theorem CInv.init (hsz : uparea.size = ds.size) (sb : Array Int) :
    CInv ds usMain uparea area amin seq rk [] (uparea, (sb, [])) :=
  ⟨hsz, fun x => x, fun _ => 0, SInv.nil _, UInv.nil _ _⟩

theorem CInv.step
    (H : AHyp (fun x => ds[x]!) (fun d => usMain[d]!) (fun x => uparea[x]!) (fun x => area[x]!) seq rk)
    (hb : ∀ i ∈ seq, i < ds.size)
    {pre : List Nat} {st : Array Int × Seeds} (h : CInv ds usMain uparea area amin seq rk pre st)
    {idx : Nat} (hidx : idx ∈ seq) (hnP : idx ∉ pre) (hdd : ds[idx]! = idx ∨ ds[idx]! ∈ pre)
    (hrkP : ∀ y ∈ pre, rk y ≤ rk idx) :
    CInv ds usMain uparea area amin seq rk (pre ++ [idx])
      (pushStep (areaDec ds usMain uparea amin) (areaNext ds usMain uparea amin) st idx) := by
  obtain ⟨hsz, own, reg, hS, hU⟩ := h
  have hilt : idx < st.1.size := by rw [hsz]; exact hb idx hidx
  by_cases hp : ds[idx]! = idx
  · rw [areaStep_pit st hp]
    exact ⟨hsz, _, _, hS.cut hidx hnP hdd (fun h => absurd hp h) (fun h => absurd hp h),
      hU.step_pit H hS hidx hnP hp⟩
  · have hd : ds[idx]! ∈ pre := hdd.resolve_left hp
    have hdlt : ds[idx]! < st.1.size := by rw [hsz]; exact hb _ (hS.inSeq _ hd)
    have hrk := H.rkS idx hidx hp
    by_cases hq : st.1[ds[idx]!]! - uparea[idx]! > amin ∧ uparea[idx]! > amin
    · by_cases htrib : usMain[ds[idx]!]! = idx
      · by_cases hconf : uparea[ds[idx]!]! - uparea[idx]! > amin
        · rw [areaStep_main_conf st hp hq htrib hconf]
          exact ⟨hsz, _, _, hS.nocut hidx hnP hd hp hrk, hU.step_main_conf H hS hidx hnP hrkP hd hp hq.2 htrib⟩
        · rw [areaStep_main_cut st hp hq htrib hconf]
          refine ⟨by simp [hsz], upd own idx idx,
            upd (upd reg (own ds[idx]!) (reg (own ds[idx]!) - uparea[idx]!)) idx (uparea[idx]!),
            hS.cut hidx hnP hdd (fun _ => hq.2) (fun _ _ => Int.not_lt.1 hconf), ?_⟩
          show UInv _ _ _ _ _ _ _ _ _ _ (fun j => (st.1.setIfInBounds idx uparea[idx]!)[j]!) _
          rw [get!_set_upd hilt]
          exact hU.step_main_cut H hS hidx hnP hrkP hd hp hq.1 hq.2 htrib (Int.not_lt.1 hconf)
      · rw [areaStep_trib st hp hq htrib]
        obtain ⟨u1, hu1⟩ : ∃ u, u = st.1.setIfInBounds idx uparea[idx]! := ⟨_, rfl⟩
        obtain ⟨u2, hu2⟩ : ∃ u, u = u1.setIfInBounds ds[idx]! (u1[ds[idx]!]! - uparea[idx]!) := ⟨_, rfl⟩
        rw [← hu1, ← hu2]
        obtain ⟨e1, e2, e3, e4⟩ := get!_trib_writes (m := usMain[ds[idx]!]!) hilt hdlt (Ne.symm hp) htrib
          u1 u2 hu1 hu2
        refine ⟨by simp [hu2, hu1, hsz], upd own idx idx,
          upd (upd reg (own ds[idx]!) (reg (own ds[idx]!) - uparea[idx]!)) idx (uparea[idx]!),
          hS.cut hidx hnP hdd (fun _ => hq.2) (fun _ hm => absurd hm htrib), ?_⟩
        exact hU.step_trib (uo' := fun j => (u2.setIfInBounds usMain[ds[idx]!]! u2[ds[idx]!]!)[j]!)
          H hS hidx hnP hrkP hd hp hq.1 hq.2 htrib e1 e2 (fun hm => e3 (hsz ▸ hb _ hm)) e4
    · rw [areaStep_small st hp hq]
      refine ⟨by simp [hsz], upd own idx (own ds[idx]!), reg, hS.nocut hidx hnP hd hp hrk, ?_⟩
      show UInv _ _ _ _ _ _ _ _ _ _ (fun j => (st.1.setIfInBounds idx st.1[ds[idx]!]!)[j]!) _
      rw [get!_set_upd hilt]
      exact hU.step_small H hS hidx hnP hrkP hd hp hq

theorem CInv.fold
    (H : AHyp (fun x => ds[x]!) (fun d => usMain[d]!) (fun x => uparea[x]!) (fun x => area[x]!) seq rk)
    (hb : ∀ i ∈ seq, i < ds.size) (hsz : uparea.size = ds.size)
    (hsorted : seq.Pairwise (fun x y => rk x ≤ rk y)) (sb : Array Int) :
    ∀ pre, Topo ds pre → (∃ suf, pre ++ suf = seq) →
      CInv ds usMain uparea area amin seq rk pre
        (pushFold (areaDec ds usMain uparea amin) (areaNext ds usMain uparea amin) pre (uparea, (sb, []))) := by
  intro pre htopo
  induction htopo with
  | nil => intro _; exact CInv.init hsz sb
  | @snoc pre i _ hi hds ih =>
    rintro ⟨suf, hsuf⟩
    have ih' := ih ⟨[i] ++ suf, by rw [← hsuf]; simp⟩
    have hfold : pushFold (areaDec ds usMain uparea amin) (areaNext ds usMain uparea amin) (pre ++ [i])
        (uparea, (sb, [])) =
        pushStep (areaDec ds usMain uparea amin) (areaNext ds usMain uparea amin)
          (pushFold (areaDec ds usMain uparea amin) (areaNext ds usMain uparea amin) pre (uparea, (sb, []))) i := by
      simp [pushFold, List.foldl_append]
    rw [hfold]
    have hiseq : i ∈ seq := by rw [← hsuf]; simp
    -- the one place where the rank order of `seq` enters: everything processed so far lies no higher than `i`
    have hrkP : ∀ y ∈ pre, rk y ≤ rk i := by
      rw [← hsuf, List.append_assoc, List.pairwise_append] at hsorted
      intro y hy
      exact hsorted.2.2 y hy i (by simp)
    exact ih'.step H hb hiseq hi hds hrkP

/-- **region bound for the model**: after the loop there are an owner map (`own x` = first outlet on
the downstream path of `x`) and region areas `reg` with `reg o > area_min` for every non-pit outlet and
`reg o = uparea[o] - Σ uparea[o']` over the non-pit outlets `o'` whose downstream cell is owned by `o`. -/
theorem areaSeeds_region
    (H : AHyp (fun x => ds[x]!) (fun d => usMain[d]!) (fun x => uparea[x]!) (fun x => area[x]!) seq rk)
    (htopo : Topo ds seq) (hb : ∀ i ∈ seq, i < ds.size) (hsz : uparea.size = ds.size)
    (hsorted : seq.Pairwise (fun x y => rk x ≤ rk y)) :
    ∃ (own : Nat → Nat) (reg : Nat → Int),
      SInv (fun x => ds[x]!) (fun d => usMain[d]!) (fun x => uparea[x]!) amin seq rk seq
        (areaSeeds ds seq usMain uparea amin).2 own ∧
      (∀ o ∈ (areaSeeds ds seq usMain uparea amin).2, ds[o]! ≠ o → amin < reg o) ∧
      (∀ o ∈ (areaSeeds ds seq usMain uparea amin).2, reg o = uparea[o]! -
        csum (fun c => (areaSeeds ds seq usMain uparea amin).2.contains c && decide (ds[c]! ≠ c) &&
          (own ds[c]! == o)) (fun c => uparea[c]!) seq) := by
  obtain ⟨_, own, reg, hS, hU⟩ := CInv.fold (amin := amin) H hb hsz hsorted (Array.replicate ds.size 0)
    seq htopo ⟨[], by simp⟩
  exact ⟨own, reg, hS, hU.regBig, hU.regE⟩

end
end Pf.C18
