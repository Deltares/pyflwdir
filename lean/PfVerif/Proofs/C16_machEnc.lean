import PfVerif.Model.C16_mach
/-! Encoding of abstract indices as machine values (`Model/C16_mach.lean`): capacity, sentinel, order, array
positions, and one iteration of each machine loop against the `Nat` loops of `Core/Sweep.lean` /
`Model/Core.lean`. Generic in the width (the capacity condition excludes width 0). -/
namespace Pf.C16m
open Pf

theorem toNat_ofNat_lt {w k : Nat} (h : k < 2 ^ w) : (BitVec.ofNat w k).toNat = k := by
  rw [BitVec.toNat_ofNat, Nat.mod_eq_of_lt h]

/-- capacity leaves room for the sentinel above the cells, and excludes width 0 -/
theorem cap_bound {t : IdxTy} {n : Nat} (hc : Cap t n) : n + 2 < 2 ^ t.w ∧ 0 < t.w := by
  obtain ⟨w, sg⟩ := t
  cases w with
  | zero => cases sg <;> exact absurd hc (Nat.not_lt_zero n)
  | succ k =>
    refine ⟨?_, Nat.succ_pos k⟩
    cases sg
    · exact Nat.add_lt_of_lt_sub hc
    · exact Nat.lt_of_le_of_lt (Nat.succ_le_of_lt (Nat.add_lt_of_lt_sub hc))
        (Nat.pow_lt_pow_right (by decide) (Nat.lt_succ_self k))

theorem cap_lt {t : IdxTy} {n k : Nat} (hc : Cap t n) (hk : k ≤ n) : k < 2 ^ t.w :=
  Nat.lt_of_le_of_lt hk (Nat.lt_of_le_of_lt (Nat.le_add_right n 2) (cap_bound hc).1)

/-- for the signed types the cells even lie in the non-negative half of the range -/
theorem cap_lt_signed {t : IdxTy} {n k : Nat} (hc : Cap t n) (hs : t.signed = true) (hk : k ≤ n) :
    2 * k < 2 ^ t.w := by
  obtain ⟨w, sg⟩ := t
  subst hs
  cases w with
  | zero => exact absurd hc (Nat.not_lt_zero n)
  | succ w =>
    rw [Nat.pow_succ']
    exact (Nat.mul_lt_mul_left (by decide)).2 (Nat.lt_of_le_of_lt hk (Nat.lt_of_succ_lt (Nat.add_lt_of_lt_sub hc)))

theorem mv_eq_allOnes (t : IdxTy) : t.mv = BitVec.allOnes t.w := by
  rw [IdxTy.mv, BitVec.ofInt_neg, BitVec.ofInt_ofNat, BitVec.neg_one_eq_allOnes]

theorem mv_toNat (t : IdxTy) : t.mv.toNat = 2 ^ t.w - 1 := by
  rw [mv_eq_allOnes, BitVec.toNat_allOnes]

/-- under capacity the sentinel lies above every position of the network -/
theorem size_lt_mv {t : IdxTy} {n : Nat} (hc : Cap t n) : n < t.mv.toNat := by
  rw [mv_toNat]
  exact Nat.lt_sub_of_add_lt (Nat.lt_of_succ_lt (cap_bound hc).1)

theorem enc_cell {t : IdxTy} {n i : Nat} (hi : i < n) : enc t n i = BitVec.ofNat t.w i :=
  if_pos hi

theorem enc_missing {t : IdxTy} {n i : Nat} (hi : n ≤ i) : enc t n i = t.mv :=
  if_neg (Nat.not_lt.2 hi)

theorem enc_toNat {t : IdxTy} {n i : Nat} (hc : Cap t n) (hi : i < n) : (enc t n i).toNat = i := by
  rw [enc_cell hi, toNat_ofNat_lt (cap_lt hc (Nat.le_of_lt hi))]

/-- the machine missing-value test, for an arbitrary abstract index -/
theorem enc_eq_mv {t : IdxTy} {n : Nat} (hc : Cap t n) (i : Nat) : enc t n i = t.mv ↔ n ≤ i := by
  refine ⟨fun h => Nat.le_of_not_lt fun hi => ?_, enc_missing⟩
  have h1 := enc_toNat hc hi
  rw [h] at h1
  exact Nat.lt_irrefl _ (h1 ▸ Nat.lt_trans hi (size_lt_mv hc))

/-- machine equality with a cell -/
theorem enc_eq_cell {t : IdxTy} {n : Nat} (hc : Cap t n) {i : Nat} (hi : i < n) (j : Nat) :
    enc t n j = enc t n i ↔ j = i := by
  refine ⟨fun h => ?_, fun h => h ▸ rfl⟩
  have hj : j < n := Nat.lt_of_not_le fun hj =>
    Nat.not_le.2 hi ((enc_eq_mv hc i).1 (h ▸ enc_missing hj))
  rw [← enc_toNat hc hj, h, enc_toNat hc hi]

theorem enc_dec_wf {t : IdxTy} {n : Nat} {v : BitVec t.w} (hv : WfM t n v) : enc t n (dec t n v) = v := by
  unfold dec
  split
  · next h => rw [enc_missing (Nat.le_refl _), h]
  · next h => rw [enc_cell (hv.resolve_left h), BitVec.ofNat_toNat, BitVec.setWidth_eq]

theorem dec_cell {t : IdxTy} {n : Nat} (hc : Cap t n) {v : BitVec t.w} (hv : v.toNat < n) :
    dec t n v = v.toNat :=
  if_neg fun (h : v = t.mv) => Nat.lt_asymm (size_lt_mv hc) (h ▸ hv)

theorem dec_le {t : IdxTy} {n : Nat} {v : BitVec t.w} (hv : WfM t n v) : dec t n v ≤ n := by
  unfold dec
  split
  · exact Nat.le_refl _
  · next h => exact Nat.le_of_lt (hv.resolve_left h)

theorem wfM_enc {t : IdxTy} {n : Nat} (hc : Cap t n) (i : Nat) : WfM t n (enc t n i) := by
  by_cases h : i < n
  · right; rw [enc_toNat hc h]; exact h
  · left; exact enc_missing (Nat.le_of_not_lt h)

theorem val_ofNat {t : IdxTy} {n k : Nat} (hc : Cap t n) (hk : k ≤ n) : val t (BitVec.ofNat t.w k) = (k : Int) := by
  unfold val
  split
  · next hs =>
    have h := toNat_ofNat_lt (cap_lt hc hk)
    rw [BitVec.toInt_eq_toNat_of_lt (h.symm ▸ cap_lt_signed hc hs hk), h]
  · rw [toNat_ofNat_lt (cap_lt hc hk)]

theorem val_enc_cell {t : IdxTy} {n i : Nat} (hc : Cap t n) (hi : i < n) : val t (enc t n i) = (i : Int) := by
  rw [enc_cell hi, val_ofNat hc (Nat.le_of_lt hi)]

theorem val_mv {t : IdxTy} (hw : 0 < t.w) :
    val t t.mv = if t.signed then -1 else ((2 ^ t.w - 1 : Nat) : Int) := by
  unfold val
  split
  · rw [mv_eq_allOnes, BitVec.toInt_allOnes, if_pos hw]
  · rw [mv_toNat]

theorem ltM_iff_val (t : IdxTy) (a b : BitVec t.w) : ltM t a b = true ↔ val t a < val t b := by
  unfold ltM val
  split
  · exact BitVec.slt_iff_toInt_lt
  · rw [BitVec.ult_iff_toNat_lt, Int.ofNat_lt]

section
variable {α : Type} [Inhabited α]

/-- the machine position of an abstract index `j` in an array that is not followed beyond the network:
`j` itself, or both `j` and its machine position (that of the sentinel) lie outside the array -/
theorem enc_pos {t : IdxTy} {n : Nat} (hc : Cap t n) {sz j : Nat} (h : j < n ∨ sz ≤ n) :
    (enc t n j).toNat = j ∨ (¬ (enc t n j).toNat < sz ∧ ¬ j < sz) := by
  by_cases hj : j < n
  · exact Or.inl (enc_toNat hc hj)
  · have hsz := h.resolve_left hj
    rw [enc_missing (Nat.le_of_not_lt hj)]
    exact Or.inr ⟨Nat.not_lt.2 (Nat.le_trans hsz (Nat.le_of_lt (size_lt_mv hc))),
      Nat.not_lt.2 (Nat.le_trans hsz (Nat.le_of_not_lt hj))⟩

theorem read_enc {t : IdxTy} {n : Nat} (hc : Cap t n) (out : Array α) (j : Nat)
    (h : j < n ∨ out.size ≤ n) : out[(enc t n j).toNat]! = out[j]! := by
  rcases enc_pos hc h with e | ⟨h1, h2⟩
  · rw [e]
  · rw [getElem!_neg out _ h1, getElem!_neg out _ h2]

omit [Inhabited α] in
theorem write_enc {t : IdxTy} {n : Nat} (hc : Cap t n) (out : Array α) (j : Nat) (a : α)
    (h : j < n ∨ out.size ≤ n) : out.setIfInBounds (enc t n j).toNat a = out.setIfInBounds j a := by
  rcases enc_pos hc h with e | ⟨h1, h2⟩
  · rw [e]
  · rw [Array.setIfInBounds, dif_neg h1, Array.setIfInBounds, dif_neg h2]

theorem stepDownM_eq {t : IdxTy} {n : Nat} (hc : Cap t n) (ds : Array Nat) (hsz : ds.size = n)
    (g gM : Nat → α → α → α) (out : Array α) (i : Nat) (hi : i < n)
    (hsafe : ds[i]! < n ∨ out.size ≤ n) (hg : ∀ a b, gM i a b = g i a b) :
    stepDownM (ds.map (enc t n)) gM out (enc t n i) = stepDown ds g out i := by
  unfold stepDownM stepDown
  rw [enc_toNat hc hi, map_get! ds (enc t n) (hsz ▸ hi), read_enc hc out _ hsafe, hg]

theorem stepUpM_eq {t : IdxTy} {n : Nat} (hc : Cap t n) (ds : Array Nat) (hsz : ds.size = n)
    (upd updM : Nat → α → α → α) (out : Array α) (i : Nat) (hi : i < n)
    (hsafe : ds[i]! < n ∨ out.size ≤ n) (hu : ∀ a b, updM i a b = upd i a b) :
    stepUpM (ds.map (enc t n)) updM (enc t n i) out = stepUp ds upd i out := by
  unfold stepUpM stepUp
  rw [enc_toNat hc hi, map_get! ds (enc t n) (hsz ▸ hi), read_enc hc out _ hsafe, write_enc hc out _ _ hsafe, hu]
  exact ite_congr (propext (enc_eq_cell hc hi _)) (fun _ => rfl) (fun _ => rfl)

end

/-- the nodata guard of `accuflux` reads `data[idxs_ds[idx0]]` at the machine position -/
theorem linkOkM_enc {t : IdxTy} {n : Nat} (hc : Cap t n) (ds : Array Nat) (hsz : ds.size = n) (data : Array Int)
    (nodata : Int) {i : Nat} (hi : i < n) (hsafe : ds[i]! < n ∨ data.size ≤ n) :
    linkOkM (ds.map (enc t n)) data nodata i = linkOk ds data nodata i := by
  unfold linkOkM linkOk
  rw [map_get! ds (enc t n) (hsz ▸ hi), read_enc hc data ds[i]! hsafe]

/-- the pair returned by the trace, encoded -/
def encRes (t : IdxTy) (n : Nat) (r : Option (List Nat × Int)) : Option (List (BitVec t.w) × Int) :=
  r.map fun p => (p.1.map (enc t n), p.2)

theorem encRes_some (t : IdxTy) (n : Nat) (acc : List Nat) (dist : Int) :
    encRes t n (some (acc.reverse, dist)) = some ((acc.map (enc t n)).reverse, dist) := by
  rw [encRes, Option.map_some, List.map_reverse]

/-- the mask test of `core._trace`: `mask[idx0]` when a mask is given -/
def stopAt (mask : Option (Array Bool)) (i : Nat) : Bool :=
  match mask with
  | none => false
  | some m => m[i]!

/-- the length test of `core._trace`: `dist + d > max_length` when a limit is given -/
def overAt (maxLen : Option Int) (x : Int) : Bool :=
  match maxLen with
  | none => false
  | some ml => decide (x > ml)

theorem trace_succ (nxt : Array Nat) (mask : Option (Array Bool)) (maxLen : Option Int)
    (step : Nat → Nat → Int) (fuel idx0 : Nat) (acc : List Nat) (dist : Int) :
    trace nxt mask maxLen step (fuel+1) idx0 acc dist =
      if stopAt mask idx0 then some (acc.reverse, dist) else
      if nxt[idx0]! = idx0 ∨ nxt[idx0]! = nxt.size then some (acc.reverse, dist) else
      if overAt maxLen (dist + step idx0 nxt[idx0]!) then some (acc.reverse, dist)
      else trace nxt mask maxLen step fuel nxt[idx0]! (nxt[idx0]! :: acc) (dist + step idx0 nxt[idx0]!) := by
  cases mask <;> cases maxLen <;> rfl

theorem traceM_succ {w : Nat} (nxtM : Array (BitVec w)) (mv : BitVec w) (mask : Option (Array Bool))
    (maxLen : Option Int) (step : Nat → Nat → Int) (fuel : Nat) (idx0 : BitVec w) (acc : List (BitVec w))
    (dist : Int) :
    traceM nxtM mv mask maxLen step (fuel+1) idx0 acc dist =
      if stopAt mask idx0.toNat then some (acc.reverse, dist) else
      if nxtM[idx0.toNat]! = idx0 ∨ nxtM[idx0.toNat]! = mv then some (acc.reverse, dist) else
      if overAt maxLen (dist + step idx0.toNat nxtM[idx0.toNat]!.toNat) then some (acc.reverse, dist)
      else traceM nxtM mv mask maxLen step fuel nxtM[idx0.toNat]! (nxtM[idx0.toNat]! :: acc)
        (dist + step idx0.toNat nxtM[idx0.toNat]!.toNat) := by
  cases mask <;> cases maxLen <;> rfl

theorem map_enc_dec {t : IdxTy} {n : Nat} (dsM : Array (BitVec t.w)) (h : ∀ v ∈ dsM, WfM t n v) :
    (dsM.map (dec t n)).map (enc t n) = dsM := by
  rw [Array.map_map]
  exact (Array.map_congr_left fun v hv => enc_dec_wf (h v hv)).trans (Array.map_id _)

theorem list_map_enc_dec {t : IdxTy} {n : Nat} (l : List (BitVec t.w)) (h : ∀ v ∈ l, WfM t n v) :
    (l.map (dec t n)).map (enc t n) = l := by
  rw [List.map_map]
  exact (List.map_congr_left fun v hv => enc_dec_wf (h v hv)).trans (List.map_id _)

/-- the hypotheses of the refinement theorems, for the decoded arrays -/
theorem decoded_hyps {t : IdxTy} {n : Nat} (hc : Cap t n) (dsM : Array (BitVec t.w)) (hsz : dsM.size = n)
    (seqM : List (BitVec t.w)) (sz : Nat) (hseq : ∀ v ∈ seqM, v.toNat < n)
    (hsafe : ∀ v ∈ seqM, dec t n dsM[v.toNat]! < n ∨ sz ≤ n) :
    ∀ i ∈ seqM.map (dec t n), i < n ∧ ((dsM.map (dec t n))[i]! < n ∨ sz ≤ n) := by
  intro i hi
  obtain ⟨v, hv, rfl⟩ := List.mem_map.1 hi
  rw [dec_cell hc (hseq v hv), map_get! dsM (dec t n) (hsz ▸ hseq v hv)]
  exact ⟨hseq v hv, hsafe v hv⟩

end Pf.C16m
