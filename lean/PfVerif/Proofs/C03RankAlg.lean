import PfVerif.Proofs.C03Rank
/-! Algorithm-level proof for `core.rank`: the output satisfies the rank certificate, for every
well-formed network. Invariant over the outer loop (`PInv`: every cell is untouched (`-9999`) or
locally certified) and over the explicit stack of the inner walk. -/
namespace Pf

/-- partial certificate: the outer-loop invariant of `core.rank` -/
structure PInv (ds : Array Nat) (rk : Array Int) : Prop where
  size : rk.size = ds.size
  nodata : ∀ i, i < ds.size → ds[i]! = ds.size → rk[i]! = -9999
  cell : ∀ i, i < ds.size → ds[i]! ≠ ds.size → rk[i]! = -9999 ∨ DoneAt ds rk i

/-- the stack is a flow path: each cell drains into the one pushed after it; the last pushed drains to `d` -/
def ChainTo (ds : Array Nat) : List Nat → Nat → Prop
  | [], _ => True
  | x :: rest, d => ds[x]! = d ∧ ChainTo ds rest x

theorem ChainTo.inner {ds : Array Nat} : ∀ {rest : List Nat} {x d : Nat}, ChainTo ds (x :: rest) d →
    (x :: rest).Nodup → ∀ j ∈ rest, ds[j]! ∈ x :: rest ∧ ds[j]! ≠ j := by
  intro rest
  induction rest with
  | nil => intro _ _ _ _ j hj; cases hj
  | cons y rest ih =>
    intro x d hc hn j hj
    obtain ⟨_, hy, hc'⟩ := hc
    rw [List.nodup_cons] at hn
    rcases List.mem_cons.1 hj with rfl | hj
    · rw [hy]
      exact ⟨List.mem_cons_self, fun hxy => hn.1 (hxy ▸ List.mem_cons_self)⟩
    · have := ih ⟨hy, hc'⟩ hn.2 j hj
      exact ⟨List.mem_cons_of_mem _ this.1, this.2⟩

/-! ### the two stack-popping loops -/

theorem rankMarkLoop_size (ranks : Array Int) (stack : List Nat) :
    (rankMarkLoop ranks stack).size = ranks.size :=
  size_foldl_set (fun _ => (-1 : Int)) stack ranks

theorem rankMarkLoop_get (ranks : Array Int) (stack : List Nat) (j : Nat) :
    (rankMarkLoop ranks stack)[j]! = if j ∈ stack ∧ j < ranks.size then -1 else ranks[j]! :=
  get!_foldl_set (fun _ => (-1 : Int)) stack ranks j

theorem rankAssign_cons (ranks : Array Int) (x : Nat) (rest : List Nat) (rnk : Int) :
    rankAssign ranks (x :: rest) rnk =
      ((rankAssign (ranks.setIfInBounds x (rnk + 1)) rest (rnk + 1)).1,
       (rankAssign (ranks.setIfInBounds x (rnk + 1)) rest (rnk + 1)).2 + 1) := rfl

/-- the numbering loop on a flow path: the top of the stack gets `rnk + 1`, every other stack cell one more
than its downstream cell, nothing else is written -/
theorem rankAssign_spec (ds : Array Nat) : ∀ (stack : List Nat) (ranks : Array Int) (rnk : Int) (d : Nat),
    0 ≤ rnk + 1 → ChainTo ds stack d → stack.Nodup → (∀ j ∈ stack, j < ranks.size) →
    (rankAssign ranks stack rnk).1.size = ranks.size ∧
    (∀ j, j ∉ stack → (rankAssign ranks stack rnk).1[j]! = ranks[j]!) ∧
    (∀ x ∈ stack.head?, (rankAssign ranks stack rnk).1[x]! = rnk + 1) ∧
    (∀ j ∈ stack, rnk < (rankAssign ranks stack rnk).1[j]!) ∧
    (∀ j ∈ stack.tail, DoneAt ds (rankAssign ranks stack rnk).1 j) ∧
    (rankAssign ranks stack rnk).2 = stack.length := by
  intro stack
  induction stack with
  | nil =>
    intro ranks rnk d _ _ _ _
    exact ⟨rfl, fun _ _ => rfl, (fun _ h => by cases h), (fun _ h => by cases h), (fun _ h => by cases h), rfl⟩
  | cons x rest ih =>
    intro ranks rnk d h0 hc hn hb
    rw [List.nodup_cons] at hn
    have hset : ∀ j, (ranks.setIfInBounds x (rnk + 1))[j]! = if x = j then rnk + 1 else ranks[j]! := by
      intro j
      rw [get!_setIfInBounds]
      by_cases hxj : x = j
      · rw [if_pos ⟨hxj, hb x List.mem_cons_self⟩, if_pos hxj]
      · rw [if_neg fun h => hxj h.1, if_neg hxj]
    obtain ⟨i1, i2, i3, i4, i5, i6⟩ := ih (ranks.setIfInBounds x (rnk + 1)) (rnk + 1) x
      (Int.add_nonneg h0 (by decide)) hc.2 hn.2
      (fun j hj => by rw [Array.size_setIfInBounds]; exact hb j (List.mem_cons_of_mem _ hj))
    rw [rankAssign_cons]
    generalize rankAssign (ranks.setIfInBounds x (rnk + 1)) rest (rnk + 1) = p at i1 i2 i3 i4 i5 i6 ⊢
    obtain ⟨r, c⟩ := p
    dsimp only at i1 i2 i3 i4 i5 i6 ⊢
    have hx : r[x]! = rnk + 1 := by rw [i2 x hn.1, hset, if_pos rfl]
    refine ⟨by rw [i1, Array.size_setIfInBounds], fun j hj => ?_, fun y hy => ?_, fun j hj => ?_,
      fun j hj => ?_, by rw [i6]; rfl⟩
    · rw [List.mem_cons, not_or] at hj
      rw [i2 j hj.2, hset, if_neg (Ne.symm hj.1)]
    · cases hy; exact hx
    · rcases List.mem_cons.1 hj with rfl | hj
      · rw [hx]; exact Int.lt_succ rnk
      · exact Int.lt_trans (Int.lt_succ rnk) (i4 j hj)
    · -- `j` is the top of `rest` (it drains to `x`, ranked just below it) or further down
      cases rest with
      | nil => cases hj
      | cons y rest' =>
        rcases List.mem_cons.1 hj with rfl | hj
        · have hy := i3 j rfl
          have hjx : ds[j]! = x := hc.2.1
          refine Or.inr ⟨fun h => hn.1 (by rw [← hjx, h]; exact List.mem_cons_self), Or.inr ?_⟩
          rw [hjx, hx, hy]
          exact ⟨h0, rfl⟩
        · exact i5 j hj

/-! ### framing: certifying the stack cells preserves the invariant -/

theorem PInv.frame {ds : Array Nat} {ranks r : Array Int} {stack : List Nat} (h : PInv ds ranks)
    (hsz : r.size = ranks.size) (hout : ∀ j, j ∉ stack → r[j]! = ranks[j]!)
    (hst : ∀ j ∈ stack, j < ds.size ∧ ds[j]! ≠ ds.size ∧ ranks[j]! = -9999)
    (hdone : ∀ j ∈ stack, DoneAt ds r j) :
    PInv ds r ∧ (∀ j : Nat, ranks[j]! ≠ -9999 → r[j]! = ranks[j]!) ∧ (∀ j ∈ stack, r[j]! ≠ -9999) := by
  have hmono : ∀ j, ranks[j]! ≠ -9999 → j ∉ stack := fun j hj hm => hj (hst j hm).2.2
  refine ⟨⟨by rw [hsz, h.size], ?_, ?_⟩, fun j hj => hout j (hmono j hj), fun j hj => (hdone j hj).ne⟩
  · intro i hi hd
    rw [hout i fun hm => (hst i hm).2.1 hd]
    exact h.nodata i hi hd
  · intro i hi hd
    by_cases hm : i ∈ stack
    · exact Or.inr (hdone i hm)
    · rw [hout i hm]
      refine (h.cell i hi hd).imp_right fun h1 => ?_
      -- a certified cell and its downstream cell are ranked, hence outside the stack
      have hds : ds[i]! ∉ stack := hmono _ h1.ds_ne
      unfold DoneAt
      rw [hout i hm, hout _ hds]
      exact h1

/-! ### counting the ranked cells -/

/-- number of cells with rank ≥ 0 (`n` of `core.rank`, `np.sum(rank >= 0)` of `nnodes`) -/
def cntNonneg (n : Nat) (rk : Array Int) : Nat :=
  (List.range n).countP (fun i => decide ((0:Int) ≤ rk[i]!))

theorem cnt_frame_neg {n : Nat} {ranks r : Array Int} {stack : List Nat}
    (hout : ∀ j, j ∉ stack → r[j]! = ranks[j]!)
    (hneg : ∀ j ∈ stack, ranks[j]! < 0) (hneg' : ∀ j ∈ stack, r[j]! < 0) :
    cntNonneg n r = cntNonneg n ranks := by
  unfold cntNonneg
  apply List.countP_congr
  intro j _
  by_cases hm : j ∈ stack
  · simp only [decide_eq_true_eq]
    exact ⟨fun h => absurd h (Int.not_le.2 (hneg' j hm)), fun h => absurd h (Int.not_le.2 (hneg j hm))⟩
  · rw [hout j hm]

theorem cnt_frame_pos {n : Nat} {ranks r : Array Int} {stack : List Nat} (hn : stack.Nodup)
    (hb : ∀ j ∈ stack, j < n) (hout : ∀ j, j ∉ stack → r[j]! = ranks[j]!)
    (hneg : ∀ j ∈ stack, ranks[j]! < 0) (hpos : ∀ j ∈ stack, 0 ≤ r[j]!) :
    cntNonneg n r = cntNonneg n ranks + stack.length := by
  unfold cntNonneg
  rw [List.countP_eq_length_filter (l := List.range n) (p := fun i => decide ((0:Int) ≤ ranks[i]!)),
    ← List.length_append]
  -- the cells of rank ≥ 0 afterwards are those before, followed by the stack
  refine (length_eq_countP (List.nodup_append.2 ⟨List.Nodup.sublist List.filter_sublist List.nodup_range, hn,
    fun a ha b hb hab => ?_⟩) fun a => ?_).symm
  · subst hab
    exact absurd (of_decide_eq_true (List.mem_filter.1 ha).2) (Int.not_le.2 (hneg a hb))
  · rw [List.mem_append, List.mem_filter, List.mem_range, decide_eq_true_eq, decide_eq_true_eq]
    by_cases hm : a ∈ stack
    · exact ⟨fun _ => ⟨hb a hm, hpos a hm⟩, fun _ => Or.inr hm⟩
    · rw [hout a hm]
      exact ⟨fun h => h.resolve_right hm, Or.inl⟩

/-! ### the inner walk -/

/-- what one inner walk with final stack `stack` achieves: the invariant again, ranked cells untouched,
every stack cell ranked, `c` more cells of rank ≥ 0 -/
structure WalkPost (ds : Array Nat) (ranks : Array Int) (stack : List Nat) (r : Array Int) (c : Nat) :
    Prop where
  inv : PInv ds r
  mono : ∀ j : Nat, ranks[j]! ≠ -9999 → r[j]! = ranks[j]!
  done : ∀ j ∈ stack, r[j]! ≠ -9999
  count : cntNonneg ds.size r = cntNonneg ds.size ranks + c

section exits
variable {ds : Array Nat} {ranks : Array Int} {x d : Nat} {rest : List Nat}
  (hinv : PInv ds ranks) (hc : ChainTo ds (x :: rest) d) (hn : (x :: rest).Nodup)
  (hst : ∀ j ∈ x :: rest, j < ds.size ∧ ds[j]! ≠ ds.size ∧ ranks[j]! = -9999)
include hinv hc hn hst

/-- leaving the walk through the numbering loop: the downstream cell `d` of the stack top `x` is ranked
(then `rnk` is its rank), or `x` is a pit (then `rnk = -1`) -/
theorem exit_assign {rnk : Int} (hd : (0 ≤ rnk ∧ ranks[d]! = rnk) ∨ (rnk = -1 ∧ d = x)) :
    WalkPost ds ranks (x :: rest) (rankAssign ranks (x :: rest) rnk).1 (rankAssign ranks (x :: rest) rnk).2 := by
  have h0 : 0 ≤ rnk + 1 := by rcases hd with h | h <;> omega
  obtain ⟨a1, a2, a3, a4, a5, a6⟩ := rankAssign_spec ds (x :: rest) ranks rnk d
    h0 hc hn (fun j hj => hinv.size ▸ (hst j hj).1)
  generalize rankAssign ranks (x :: rest) rnk = p at a1 a2 a3 a4 a5 a6 ⊢
  obtain ⟨r, c⟩ := p
  dsimp only at a1 a2 a3 a4 a5 a6 ⊢
  have hx := a3 x rfl
  have hdone : ∀ j ∈ x :: rest, DoneAt ds r j := by
    intro j hj
    rcases List.mem_cons.1 hj with rfl | hj
    · rcases hd with ⟨h0, hr⟩ | ⟨hr, hdx⟩
      · have hdn : d ∉ j :: rest := fun hm => by have := (hst d hm).2.2; omega
        refine Or.inr ⟨fun h => hdn (by rw [← hc.1, h]; exact List.mem_cons_self), Or.inr ?_⟩
        rw [hc.1, a2 d hdn, hx, hr]
        exact ⟨h0, rfl⟩
      · exact Or.inl ⟨hc.1.trans hdx, by rw [hx, hr]; rfl⟩
    · exact a5 j hj
  have f := hinv.frame a1 a2 hst hdone
  refine ⟨f.1, f.2.1, f.2.2, ?_⟩
  rw [a6]
  exact cnt_frame_pos hn (fun j hj => (hst j hj).1) a2 (fun j hj => by rw [(hst j hj).2.2]; decide)
    (fun j hj => Int.le_trans h0 (Int.add_one_le_of_lt (a4 j hj)))

/-- leaving the walk through the marking loop: the downstream cell `d` of the stack top is on the stack or
known not to drain -/
theorem exit_loop (hdx : d ≠ x) (hd : ranks[d]! = -1 ∨ d ∈ x :: rest) :
    WalkPost ds ranks (x :: rest) (rankMarkLoop ranks (x :: rest)) 0 := by
  have hin : ∀ j ∈ x :: rest, (rankMarkLoop ranks (x :: rest))[j]! = -1 := fun j hj => by
    rw [rankMarkLoop_get, if_pos ⟨hj, hinv.size ▸ (hst j hj).1⟩]
  have hout : ∀ j, j ∉ x :: rest → (rankMarkLoop ranks (x :: rest))[j]! = ranks[j]! := fun j hj => by
    rw [rankMarkLoop_get, if_neg fun h => hj h.1]
  have hdone : ∀ j ∈ x :: rest, DoneAt ds (rankMarkLoop ranks (x :: rest)) j := by
    intro j hj
    refine Or.inr ⟨?_, Or.inl ⟨hin j hj, ?_⟩⟩ <;> rcases List.mem_cons.1 hj with rfl | hj'
    · exact hc.1 ▸ hdx
    · exact (hc.inner hn j hj').2
    · rw [hc.1]
      by_cases hdm : d ∈ j :: rest
      · exact hin d hdm
      · rw [hout d hdm]; exact hd.resolve_right hdm
    · exact hin _ (hc.inner hn j hj').1
  have f := hinv.frame (rankMarkLoop_size _ _) hout hst hdone
  exact ⟨f.1, f.2.1, f.2.2, cnt_frame_neg hout (fun j hj => by rw [(hst j hj).2.2]; decide)
    (fun j hj => by rw [hin j hj]; decide)⟩

end exits

theorem rankWalk_spec (ds : Array Nat) (hwf : WF ds) :
    ∀ (fuel : Nat) (ranks : Array Int) (idx0 : Nat) (rest : List Nat),
      PInv ds ranks → ChainTo ds (idx0 :: rest) ds[idx0]! → (idx0 :: rest).Nodup →
      (∀ j ∈ idx0 :: rest, j < ds.size ∧ ds[j]! ≠ ds.size ∧ ranks[j]! = -9999) →
      ds.size + 1 ≤ fuel + rest.length →
      ∃ r c, rankWalk ds ranks fuel idx0 ds[idx0]! (idx0 :: rest) = some (r, c) ∧
        WalkPost ds ranks (idx0 :: rest) r c := by
  intro fuel
  induction fuel with
  | zero =>
    -- the stack holds distinct cells, so it is never longer than the network
    intro ranks idx0 rest _ _ hn hst hf
    have hlen := nodup_length_le hn fun i hi => (hst i hi).1
    rw [List.length_cons] at hlen
    omega
  | succ fuel ih =>
    intro ranks idx0 rest hinv hc hn hst hf
    rw [rankWalk]
    by_cases hge : ranks[ds[idx0]!]! ≥ 0
    · rw [if_pos hge]
      exact ⟨_, _, rfl, exit_assign hinv hc hn hst (Or.inl ⟨hge, rfl⟩)⟩
    rw [if_neg hge]
    by_cases hpit : ds[idx0]! = idx0
    · rw [if_pos hpit]
      exact ⟨_, _, rfl, exit_assign hinv hc hn hst (Or.inr ⟨rfl, hpit⟩)⟩
    rw [if_neg hpit]
    by_cases hloop : ranks[ds[idx0]!]! = -1 ∨ ds[idx0]! ∈ idx0 :: rest
    · rw [if_pos hloop]
      exact ⟨_, _, rfl, exit_loop hinv hc hn hst hpit hloop⟩
    rw [if_neg hloop]
    -- next iteration: the downstream cell is an untouched cell of the network; push it
    have h0 := hst idx0 List.mem_cons_self
    have hw := hwf idx0 h0.1
    have hdlt : ds[idx0]! < ds.size := Nat.lt_of_le_of_ne hw.1 h0.2.1
    have hdne : ds[ds[idx0]!]! ≠ ds.size := Nat.ne_of_lt (hw.2 hdlt)
    have hund : ranks[ds[idx0]!]! = -9999 := by
      refine (hinv.cell _ hdlt hdne).resolve_right fun h1 => ?_
      rcases h1.range with h2 | h2
      · exact hloop (Or.inl h2)
      · exact hge h2
    obtain ⟨r, c, h1, p⟩ := ih ranks ds[idx0]! (idx0 :: rest) hinv ⟨rfl, hc⟩
      (List.nodup_cons.2 ⟨fun h => hloop (Or.inr h), hn⟩)
      (fun j hj => by
        rcases List.mem_cons.1 hj with rfl | hj
        · exact ⟨hdlt, hdne, hund⟩
        · exact hst j hj)
      (by rw [List.length_cons]; omega)
    exact ⟨r, c, h1, p.inv, p.mono, fun j hj => p.done j (List.mem_cons_of_mem _ hj), p.count⟩

/-! ### the outer loop -/

/-- body of the `for idx0 in range(size)` loop of `core.rank` -/
def rankStep (ds : Array Nat) (st : Array Int × Nat) (idx0 : Nat) : Option (Array Int × Nat) :=
  if ds[idx0]! = ds.size ∨ st.1[idx0]! ≠ -9999 then some (st.1, st.2)
  else match rankWalk ds st.1 (ds.size + 1) idx0 ds[idx0]! [idx0] with
    | none => none
    | some (r, c) => some (r, st.2 + c)

theorem rank_eq_fold (ds : Array Nat) :
    rank ds = (List.range ds.size).foldlM (rankStep ds) (Array.replicate ds.size (-9999), 0) := by
  unfold rank
  congr 1

/-- invariant of the outer loop once the cells of `seen` have been visited: the partial certificate, every
visited cell of the network is ranked, and the counter is the number of cells of rank ≥ 0 -/
structure OuterInv (ds : Array Nat) (seen : List Nat) (st : Array Int × Nat) : Prop where
  inv : PInv ds st.1
  ranked : ∀ i ∈ seen, ds[i]! ≠ ds.size → st.1[i]! ≠ -9999
  count : st.2 = cntNonneg ds.size st.1

theorem OuterInv.step {ds : Array Nat} (hwf : WF ds) {seen : List Nat} {st : Array Int × Nat} {idx0 : Nat}
    (h : OuterInv ds seen st) (hi : idx0 < ds.size) :
    ∃ st', rankStep ds st idx0 = some st' ∧ OuterInv ds (idx0 :: seen) st' := by
  unfold rankStep
  by_cases hskip : ds[idx0]! = ds.size ∨ st.1[idx0]! ≠ -9999
  · rw [if_pos hskip]
    refine ⟨_, rfl, h.inv, fun i hi hne => ?_, h.count⟩
    rcases List.mem_cons.1 hi with rfl | hi
    · exact hskip.resolve_left hne
    · exact h.ranked i hi hne
  · rw [if_neg hskip]
    rw [not_or, Decidable.not_not] at hskip
    obtain ⟨r, c, h1, p⟩ := rankWalk_spec ds hwf (ds.size + 1) st.1 idx0 [] h.inv ⟨rfl, trivial⟩
      (by simp) (fun j hj => by cases List.mem_singleton.1 hj; exact ⟨hi, hskip.1, hskip.2⟩)
      (Nat.le_refl _)
    rw [h1]
    refine ⟨_, rfl, p.inv, fun i hi hne => ?_, ?_⟩
    · rcases List.mem_cons.1 hi with rfl | hi
      · exact p.done i List.mem_cons_self
      · have := h.ranked i hi hne
        show r[i]! ≠ -9999
        rw [p.mono i this]; exact this
    · show st.2 + c = cntNonneg ds.size r
      rw [p.count, h.count]

theorem OuterInv.fold {ds : Array Nat} (hwf : WF ds) :
    ∀ (l seen : List Nat) (st : Array Int × Nat), OuterInv ds seen st → (∀ i ∈ l, i < ds.size) →
      ∃ st', l.foldlM (rankStep ds) st = some st' ∧ OuterInv ds (l.reverse ++ seen) st'
  | [], _, st, h, _ => ⟨st, rfl, h⟩
  | x :: l, seen, st, h, hb => by
    obtain ⟨st1, e1, h1⟩ := h.step hwf (hb x List.mem_cons_self)
    obtain ⟨st2, e2, h2⟩ := OuterInv.fold hwf l (x :: seen) st1 h1 (fun i hi => hb i (List.mem_cons_of_mem _ hi))
    refine ⟨st2, by rw [List.foldlM_cons, e1]; exact e2, ?_⟩
    rw [List.reverse_cons, List.append_assoc]
    exact h2

/-- `core.rank` terminates and its output satisfies the rank certificate -/
theorem rank_certified (ds : Array Nat) (hwf : WF ds) :
    ∃ r c, rank ds = some (r, c) ∧ RankCertA ds r ∧ c = cntNonneg ds.size r := by
  have hrep : ∀ i, i < ds.size → (Array.replicate ds.size (-9999 : Int))[i]! = -9999 := fun i hi => by
    simp [hi]
  have hinit : OuterInv ds [] (Array.replicate ds.size (-9999), 0) := by
    refine ⟨⟨Array.size_replicate, fun i hi _ => hrep i hi, fun i hi _ => Or.inl (hrep i hi)⟩,
      (fun i hi => nomatch hi), (List.countP_eq_zero.2 fun i hi => ?_).symm⟩
    rw [hrep i (List.mem_range.1 hi)]
    decide
  obtain ⟨st, e, p, d, hc⟩ := OuterInv.fold hwf (List.range ds.size) [] _ hinit (fun i hi => List.mem_range.1 hi)
  refine ⟨st.1, st.2, by rw [rank_eq_fold, e], (rankCertA_iff ds st.1).2 ⟨p.size, fun i hi => ?_⟩, hc⟩
  by_cases hd : ds[i]! = ds.size
  · exact Or.inl ⟨hd, p.nodata i hi hd⟩
  · exact Or.inr ⟨Nat.lt_of_le_of_ne (hwf i hi).1 hd, (p.cell i hi hd).resolve_left
      (d i (List.mem_append_left _ (List.mem_reverse.2 (List.mem_range.2 hi))) hd)⟩

theorem rank_spec {ds : Array Nat} {r : Array Int} {c : Nat} (hwf : WF ds) (h : rank ds = some (r, c)) :
    RankCertA ds r ∧ c = cntNonneg ds.size r := by
  obtain ⟨r', c', h1, h2⟩ := rank_certified ds hwf
  cases h.symm.trans h1
  exact h2

theorem rank_map {α : Type} {ds : Array Nat} (hwf : WF ds) {f : Array Int × Nat → α} {y : α}
    (h : (rank ds).map f = some y) :
    ∃ r c, rank ds = some (r, c) ∧ RankCertA ds r ∧ c = cntNonneg ds.size r ∧ y = f (r, c) := by
  obtain ⟨r, c, h1, h2, h3⟩ := rank_certified ds hwf
  rw [h1] at h
  exact ⟨r, c, h1, h2, h3, (Option.some.inj h).symm⟩

end Pf
