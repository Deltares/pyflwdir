import PfVerif.Proofs.C18PfInner
import PfVerif.Proofs.C18PfLinkInv
import PfVerif.Proofs.C18PfRefInv
/-! Pfafstetter, the inner loop: `pfInner` keeps the joint invariant (`PfG`, `PfFreshIn`, `PfRem`), the
link invariant `PfHIn`, the queue discipline `PfQIn`, and what the refinement across depths needs (`PfOrdIn`, `PfEvo`):
one bundle `PfIn`, kept by the two fills of an iteration. -/
namespace Pf.C18
open Pf

/-- queue discipline and position of the pending blocks while `pfInner (pfaf0, d0)` runs -/
structure PfQIn (depth : Nat) (labs : List (Int × Nat)) (pfaf0 : Int) (d0 : Nat) (p lo hi : Int) : Prop where
  qlev : ∀ en ∈ labs, d0 ≤ en.2 ∧ en.2 ≤ d0 + 1 ∧ en.2 ≤ depth ∧
    en.1 % (10 : Int) ^ (depth - en.2 + 1) = R1 (depth - en.2 + 1)
  qsorted : labs.Pairwise (fun a b => a.2 ≤ b.2)
  i1p : ∀ en ∈ labs, en.1 + Bsz depth en.2 ≤ pfaf0 ∨ hi ≤ en.1 ∨
    (pfaf0 + p ≤ en.1 ∧ en.1 + Bsz depth en.2 ≤ lo ∧ en.2 = d0 + 1)

/-- writing the code `lo` and queueing it one level deeper -/
theorem PfQIn.push {depth d0 : Nat} {labs : List (Int × Nat)} {pfaf0 p lo hi : Int}
    (h : PfQIn depth labs pfaf0 d0 p lo hi) (hpe : p = (10 : Int) ^ (depth - d0))
    (hlo : pfaf0 + p ≤ lo)
    (hR : lo % (10 : Int) ^ (depth - d0) = R1 (depth - d0)) :
    PfQIn depth (if d0 < depth then labs ++ [(lo, d0 + 1)] else labs) pfaf0 d0 p (lo + p) hi := by
  refine ⟨fun en hen => ?_, ?_, fun en hen => ?_⟩
  · rcases mem_push hen with h1 | ⟨hb, h1⟩
    · exact h.qlev en h1
    · subst h1
      refine ⟨by simp, by simp, by simp; omega, ?_⟩
      have : depth - (d0 + 1) + 1 = depth - d0 := by omega
      simp only [this]
      exact hR
  · split
    · rw [List.pairwise_append]
      refine ⟨h.qsorted, by simp, fun a ha b hb => ?_⟩
      simp only [List.mem_singleton] at hb
      subst hb
      exact (h.qlev a ha).2.1
    · exact h.qsorted
  · rcases mem_push hen with h1 | ⟨hb, h1⟩
    · rcases h.i1p en h1 with h2 | h2 | h2
      · exact Or.inl h2
      · exact Or.inr (Or.inl h2)
      · exact Or.inr (Or.inr ⟨h2.1, by omega, h2.2.2⟩)
    · subst h1
      right; right
      simp only
      rw [Bsz_push hb, ← hpe]
      exact ⟨hlo, Int.le_refl _, trivial⟩

theorem PfQIn.mono {depth d0 : Nat} {labs : List (Int × Nat)} {pfaf0 p lo lo' hi : Int}
    (h : PfQIn depth labs pfaf0 d0 p lo hi) (hle : lo ≤ lo') : PfQIn depth labs pfaf0 d0 p lo' hi :=
  ⟨h.qlev, h.qsorted, fun en hen => by
    rcases h.i1p en hen with h2 | h2 | h2
    · exact Or.inl h2
    · exact Or.inr (Or.inl h2)
    · exact Or.inr (Or.inr ⟨h2.1, by omega, h2.2.2⟩)⟩

theorem PfQIn.toPfQ {depth d0 : Nat} {labs : List (Int × Nat)} {pfaf0 p lo hi : Int}
    (h : PfQIn depth labs pfaf0 d0 p lo hi) (hd0 : 1 ≤ d0) : PfQ depth labs :=
  ⟨h.qsorted, fun a ha b hb => by
      have := h.qlev a ha; have := h.qlev b hb; omega,
    fun en hen => by
      obtain ⟨h1, _, h3, h4⟩ := h.qlev en hen
      exact ⟨by omega, h3, h4⟩⟩

/-- the part of the invariant that the link rule adds, for one state of `pfInner` -/
structure PfLinkIn (ds : Array Nat) (uparea : Array Int) (depth : Nat) (br : Array Int) (idxs : List Nat)
    (labs : List (Int × Nat)) (pfaf0 : Int) (d0 : Nat) (p lo hi : Int) (i : Nat) (intDs : Int)
    (l : List Nat) : Prop where
  h : PfHIn ds uparea depth br idxs labs pfaf0 d0 lo hi l
  q : PfQIn depth labs pfaf0 d0 p lo hi
  intk : ∃ k : Int, 0 ≤ k ∧ k ≤ i ∧ intDs = pfaf0 + 2 * k * p
  remk : ∀ t ∈ l, ∃ k : Int, 0 ≤ k ∧ k ≤ i ∧ br[ds[t]!]! = pfaf0 + 2 * k * p

/-! ### the codes `pfaf0 + a·p` of the popped block -/

/-- codes are ordered like their multipliers -/
theorem code_lt {p : Int} (hp : 0 < p) {a b : Int} (h : a < b) (c : Int) : c + a * p + p ≤ c + b * p := by
  have := Int.mul_le_mul_of_nonneg_right (show a + 1 ≤ b from h) (Int.le_of_lt hp)
  rw [Int.add_mul, Int.one_mul] at this
  omega

/-- position in the popped block `[pfaf0, pfaf0 + 10·p)` of a code `lo` that is about to be used (so the next unused
code is `lo + p`) and of a code `X` written earlier in the block -/
structure CodePos (pfaf0 p lo X : Int) : Prop where
  ne0 : lo ≠ 0
  pos : 0 < lo
  ge : pfaf0 ≤ lo
  base : pfaf0 + p ≤ lo
  next_le : lo + p ≤ pfaf0 + 10 * p
  lt_hi : lo < pfaf0 + 10 * p
  le_hi : lo ≤ pfaf0 + 10 * p
  le8 : lo ≤ pfaf0 + 8 * p
  le_next : lo ≤ lo + p
  lt_next : lo < lo + p
  below : pfaf0 ≤ X ∧ X < lo
  below_next : pfaf0 ≤ X ∧ X < lo + p
  ne : lo ≠ X

theorem CodePos.of_bounds {pfaf0 p lo X : Int} (hp0 : 0 < pfaf0) (hp : 0 < p) (h1 : pfaf0 + p ≤ lo)
    (h2 : lo + p ≤ pfaf0 + 9 * p) (h3 : pfaf0 ≤ X) (h4 : X + p ≤ lo) : CodePos pfaf0 p lo X := by
  constructor <;> omega

/-- the codes `lo = pfaf0 + a·p` and `X = pfaf0 + 2k·p` with `2k < a ≤ 8` -/
theorem code_pos {pfaf0 p lo X a k : Int} (hp0 : 0 < pfaf0) (hp : 0 < p) (hlo : lo = pfaf0 + a * p)
    (hX : X = pfaf0 + 2 * k * p) (ha : a ≤ 8) (hk : 0 ≤ k) (hka : 2 * k < a) : CodePos pfaf0 p lo X := by
  have e1 := code_lt hp (a := 0) (b := a) (by omega) pfaf0
  have e2 := code_lt hp (a := a) (b := 9) (by omega) pfaf0
  have e3 := code_lt hp (a := 2 * k) (b := a) hka pfaf0
  have e4 : 0 ≤ 2 * k * p := Int.mul_nonneg (by omega) (by omega)
  rw [← hlo] at e1 e2 e3
  rw [← hX] at e3
  exact .of_bounds hp0 hp (by omega) e2 (by omega) e3

/-- the same two codes when the digits `0..e` of `pfaf0` are 1 and `p = 10^e`: `lo` is linked to `X` at level `e`, its
digits below `e` are 1, and the two agree above level `e` -/
theorem code_link {pfaf0 p lo X a k : Int} {e : Nat} (hbase : pfaf0 % (10 : Int) ^ (e + 1) = R1 (e + 1))
    (hpe : p = (10 : Int) ^ e) (hlo : lo = pfaf0 + a * p) (hX : X = pfaf0 + 2 * k * p) (ha : a ≤ 8) (hk : 0 ≤ k)
    (hka : 2 * k < a) :
    LinkE e lo X ∧ lo % (10 : Int) ^ e = R1 e ∧ ∀ e', e < e' → X / (10 : Int) ^ e' = lo / (10 : Int) ^ e' := by
  subst hpe hlo hX
  have hp := Int.le_of_lt (pow10_pos e)
  exact ⟨LinkE.new hbase hk hka ha, (code_divmod hbase _).2, fun e' he =>
    quot_refine hbase (Int.mul_nonneg (by omega) hp) (Int.mul_le_mul_of_nonneg_right (by omega) hp)
      (Int.mul_nonneg (by omega) hp) (Int.mul_le_mul_of_nonneg_right ha hp) he⟩

/-- the inter-basin code of iteration `i` as the model writes it, as successor of the tributary's code, and as
`pfaf0 + 2k·p` with `k = i + 1`; the tributary's code of iteration `i + 1` -/
theorem code_next (i : Nat) (p a : Int) :
    a + ((i : Int) + 1) * 2 * p = a + (2 * (i : Int) + 1) * p + p ∧
    a + (2 * (i : Int) + 1) * p + p = a + 2 * ((i + 1 : Nat) : Int) * p ∧
    a + (2 * ((i + 1 : Nat) : Int) + 1) * p = a + (2 * (i : Int) + 1) * p + p + p :=
  ⟨by grind, by grind, by grind⟩

/-! ### one state of `pfInner` with all its invariants -/

variable {ds usMain : Array Nat} {seq : List Nat} {uparea so : Array Int}

/-- Everything a state `(br, idxs, labs, intDs)` of `pfInner (pfaf0, d0)` satisfies: `lo` is the next unused code,
`l` the tributaries still unassigned, `lH` those whose confluence may still be relabelled (`l`, or `t :: l` between
the two fills of the iteration for `t`). `W` switches the part about the stream orders `soraw` on; it is `True` for
the shallower run of the refinement theorem and `False` (nothing to show) everywhere else. -/
structure PfIn (ds usMain : Array Nat) (seq : List Nat) (uparea so : Array Int) (depth : Nat) (pfaf0 : Int)
    (d0 : Nat) (W : Prop) (soraw br0 : Array Int) (p lo : Int) (i : Nat) (l lH : List Nat)
    (br : Array Int) (idxs : List Nat) (labs : List (Int × Nat)) (intDs : Int) : Prop where
  g : PfG ds usMain so br idxs
  fr : PfFreshIn depth br labs lo (pfaf0 + 10 * p)
  rem : PfRem ds usMain seq uparea br idxs intDs l
  int0 : intDs ≠ 0
  lp : LabsPos labs
  lk : PfLinkIn ds uparea depth br idxs labs pfaf0 d0 p lo (pfaf0 + 10 * p) i intDs lH
  od : W → PfOrdIn ds soraw br labs intDs d0 lH
  ev : PfEvo ds br0 br pfaf0 lo

variable {depth d0 : Nat} {pfaf0 p lo : Int} {W : Prop} {soraw br0 br br1 br2 : Array Int} {i : Nat}
  {t : Nat} {rest l lH : List Nat} {idxs : List Nat} {labs : List (Int × Nat)} {intDs : Int}

theorem PfIn.mono (a : PfIn ds usMain seq uparea so depth pfaf0 d0 W soraw br0 p lo i l lH br idxs labs intDs)
    {lo' : Int} {i' : Nat} {lH' : List Nat} (hlo : lo ≤ lo') (hi : i ≤ i') (hl : ∀ t ∈ lH', t ∈ lH) :
    PfIn ds usMain seq uparea so depth pfaf0 d0 W soraw br0 p lo' i' l lH' br idxs labs intDs where
  g := a.g
  fr := a.fr.mono hlo
  rem := a.rem
  int0 := a.int0
  lp := a.lp
  lk := by
    obtain ⟨k, h1, h2, h3⟩ := a.lk.intk
    refine ⟨a.lk.h.keep (fun _ _ _ => ⟨rfl, rfl⟩) hlo hl (fun _ h => Or.inl h), a.lk.q.mono hlo,
      ⟨k, h1, by omega, h3⟩, fun t ht => ?_⟩
    obtain ⟨k, h1, h2, h3⟩ := a.lk.remk t (hl t ht)
    exact ⟨k, h1, by omega, h3⟩
  od := fun w => ⟨(a.od w).ord, (a.od w).oi, fun t ht => (a.od w).ol t (hl t ht)⟩
  ev := a.ev.mono hlo

section fills
variable (c : PfCtx ds usMain seq uparea) (hp0 : 0 < pfaf0) (hd0 : 1 ≤ d0) (hd0' : d0 ≤ depth)
    (hbase : pfaf0 % (10 : Int) ^ (depth - d0 + 1) = R1 (depth - d0 + 1))
    (hS : W → SoRaw ds usMain so soraw)
    (hpe : p = (10 : Int) ^ (depth - d0))
include c hp0 hd0 hd0' hbase hS hpe

/-- the sub-basin fill above the tributary `t` with the code `lo = pfaf0 + (2i+1)·p` -/
theorem PfIn.sub (hlo : lo = pfaf0 + (2 * (i : Int) + 1) * p) (hi : i ≤ 3)
    (a : PfIn ds usMain seq uparea so depth pfaf0 d0 W soraw br0 p lo i (t :: rest) (t :: rest) br idxs labs
      intDs) {f : Nat}
    (h1 : stemFill usMain ds.size (fun u _ => so[u]! == 0) lo f t (br.setIfInBounds t lo) = some br1) :
    PfIn ds usMain seq uparea so depth pfaf0 d0 W soraw br0 p (lo + p) i rest (t :: rest) br1 (idxs ++ [t])
      (if d0 < depth then labs ++ [(lo, d0 + 1)] else labs) intDs ∧
    (∀ s : Nat, br[s]! ≠ 0 → br1[s]! = br[s]!) := by
  have hpp : 0 < p := by rw [hpe]; exact pow10_pos _
  obtain ⟨k0, hk0, hk0i, hBk⟩ := a.lk.remk t (by simp)
  obtain ⟨kI, hkI0, hkIi, hintk⟩ := a.lk.intk
  obtain ⟨hlinkT, hR, _⟩ := code_link hbase hpe hlo hBk (by omega) hk0 (by omega)
  have cp := code_pos hp0 hpp hlo hBk (by omega) hk0 (by omega)
  have lneI : lo ≠ intDs := (code_pos hp0 hpp hlo hintk (by omega) hkI0 (by omega)).ne
  obtain ⟨g, fr, rem, hint, hl, lk, od, ev⟩ := a
  obtain ⟨hts, htd, ht0, htm, htc⟩ := rem.r1 t (by simp)
  obtain ⟨g1, hw1, hclo1⟩ := g.step_sub c.hus (c.hb t hts) ht0 (Or.inr htc) cp.ne0 (fr.ne_lo cp.lt_hi) h1
  have hw1' : ∀ s : Nat, br1[s]! = br[s]! ∨ br1[s]! = lo := fun s => (hw1 s).imp id fun h => h.1
  have hkeep : ∀ s : Nat, br[s]! ≠ 0 → br1[s]! = br[s]! := fun s hs =>
    (hw1 s).elim id fun h => absurd h.2.1 hs
  have hbr1t : br1[t]! = lo := (hw1 t).elim
    (fun h => absurd (by rw [h]; exact ht0) (g1.inv.out t (by simp)).2) fun h => h.1
  have hB1 : br1[ds[t]!]! = br[ds[t]!]! := hkeep _ htc
  have hso := List.pairwise_cons.1 rem.sorted
  have q1 := lk.q.push hpe cp.base hR
  refine ⟨⟨g1, fr.write hpp cp.next_le hw1' (d0 < depth) (d0 + 1) (fun h => by rw [hpe]; exact Bsz_push h),
    rem.sub hint hw1, hint, labsPos_push hl cp.pos _ _, ⟨?_, q1, lk.intk, fun t' ht' => ?_⟩, fun w => ?_, ?_⟩,
    hkeep⟩
  · -- the earlier outlets keep their links, the new outlet `t` is linked to its confluence
    have hsame : ∀ o ∈ idxs, ds[o]! ≠ o → br1[o]! = br[o]! ∧ br1[ds[o]!]! = br[ds[o]!]! := by
      intro o ho _
      obtain ⟨olt, one⟩ := g.inv.out o ho
      exact ⟨hkeep o one, hkeep _ (g.dn o olt one)⟩
    refine (lk.h.keep hsame cp.le_next (fun _ h => h) (fun en hen => ?_)).add hd0 hd0'
      (by rw [hbr1t, hB1]; exact hlinkT) (by rw [hB1]; exact cp.below_next) (fun t' ht' => ?_) ?_
    · exact (mem_push hen).imp id fun h => ⟨by rw [h.2], h.1⟩
    · rcases List.mem_cons.1 ht' with h | h
      · rw [h]; exact Int.le_refl _
      · exact hso.1 t' h
    · exact pend_of_blocks (fun en hen => ⟨(q1.qlev en hen).1, (q1.qlev en hen).2.2.1⟩) q1.i1p
        (by rw [hB1]; exact cp.below_next) cp.next_le hd0'
  · obtain ⟨k, a1, a2, a3⟩ := lk.remk t' ht'
    exact ⟨k, a1, a2, by rw [hkeep _ (rem.r1 t' ht').2.2.2.2]; exact a3⟩
  · -- the cells of the new stem have the stream order of `t`
    refine (od w).write (fun _ h => h) hw1' (fr.ne_lo cp.lt_hi) (fun s hs => ?_) (fr.lab_ne_lo cp.lt_hi) (d0 < depth) intDs
      (Or.inr ⟨rfl, lneI⟩)
    rw [(hS w).stem hclo1 s hs]; exact ((od w).ol t (by simp)).2
  · refine ev.sub_step hp0 (v := lo) cp.ge cp.le_next cp.lt_next hkeep (fun s hs0 hs1 => ?_)
    rcases hw1 s with h | h
    · rw [h] at hs1; exact absurd hs0 hs1
    · refine ⟨h.1, ?_⟩
      by_cases hst : s = t
      · rw [hst, hB1]; exact ⟨htd, cp.below_next⟩
      · rcases h.2.2 with h3 | h3
        · exact absurd h3 hst
        · have hsn : s ∉ idxs ++ [t] := by
            intro hm
            rcases List.mem_append.1 hm with hm | hm
            · exact (g.inv.out s hm).2 hs0
            · exact hst (by simpa using hm)
          obtain ⟨_, d2, _, _⟩ := g1.inv.down s (g1.lt hs1) hs1 hsn
          rw [d2, h.1]
          exact ⟨h3.1, cp.ge, cp.lt_next⟩

/-- the inter-basin fill above the confluence `ds[t]` of the tributary `t` with the code
`lo = pfaf0 + 2(i+1)·p`: the cells of `pfaf_int_ds` above the confluence get `lo`, which becomes `pfaf_int_ds` -/
theorem PfIn.int (hlo : lo = pfaf0 + 2 * ((i + 1 : Nat) : Int) * p) (hi : i ≤ 3)
    (hts : t ∈ seq) (htd : ds[t]! ≠ t) (hhead : ∀ t' ∈ rest, uparea[ds[t]!]! ≥ uparea[ds[t']!]!)
    (a : PfIn ds usMain seq uparea so depth pfaf0 d0 W soraw br0 p lo i rest (t :: rest) br1 idxs labs intDs)
    (hconf : br1[ds[t]!]! = intDs) (hni : usMain[ds[t]!]! ∉ idxs) {f : Nat}
    (h2 : stemFill usMain ds.size (fun _ x => x != intDs) lo f usMain[ds[t]!]!
      (br1.setIfInBounds usMain[ds[t]!]! lo) = some br2) :
    PfIn ds usMain seq uparea so depth pfaf0 d0 W soraw br0 p (lo + p) (i + 1) rest rest br2
      (idxs ++ [usMain[ds[t]!]!]) (if d0 < depth then labs ++ [(lo, d0 + 1)] else labs) lo ∧
    usMain[ds[t]!]! < ds.size ∧ (br1[usMain[ds[t]!]!]! = 0 ∨ br1[usMain[ds[t]!]!]! = intDs) := by
  have hpp : 0 < p := by rw [hpe]; exact pow10_pos _
  obtain ⟨kI, hkI0, hkIi, hintk⟩ := a.lk.intk
  obtain ⟨hlinkI, hR, href⟩ := code_link hbase hpe hlo hintk (by omega) hkI0 (by omega)
  have cp := code_pos hp0 hpp hlo hintk (by omega) hkI0 (by omega)
  have hii : (i : Int) ≤ ((i + 1 : Nat) : Int) := by omega
  obtain ⟨g1, fr1, rem1, hint, hl1, lk1, od1, ev1⟩ := a
  have hu : usMain[ds[t]!]! < ds.size := c.htot t hts htd
  have hdm : ds[t]! ∈ seq := c.topo.ds_mem t hts
  obtain ⟨_, hdx, hxd, _⟩ := c.ustep (c.hb _ hdm) hu
  obtain ⟨g2, hpre, hw2, hreach, hout2, hx2⟩ := g1.step_int c hdm hu hni hint hconf cp.ne0 (fr1.ne_lo cp.lt_hi) h2
  have hw2' : ∀ s : Nat, br2[s]! = br1[s]! ∨ br2[s]! = lo := fun s => (hw2 s).imp id fun h => h.1
  have hbr2d : br2[ds[t]!]! = intDs := by
    rcases hw2 ds[t]! with h | h
    · rw [h]; exact hconf
    · exact absurd h.2.2 (Int.lt_irrefl _)
  have q2 := lk1.q.push hpe cp.base hR
  refine ⟨⟨g2, fr1.write hpp cp.next_le hw2' (d0 < depth) (d0 + 1) (fun h => by rw [hpe]; exact Bsz_push h),
    rem1.int c hint cp.ne0 hdx hhead hw2 hreach, cp.ne0, labsPos_push hl1 cp.pos _ _,
    ⟨?_, q2, ⟨((i + 1 : Nat) : Int), Int.natCast_nonneg _, Int.le_refl _, hlo⟩, fun t' ht' => ?_⟩, fun w => ?_, ?_⟩,
    hu, hpre⟩
  · -- earlier outlets: the downstream cell is unchanged or relabelled from `pfaf_int_ds`; the new outlet
    have hrel := lk1.h.relabel (br2 := br2) (w := intDs) (v := lo) (U := uparea[ds[t]!]!) hout2
      (fun o ho hnp => ?_) ⟨t, by simp, rfl⟩ cp.below cp.le_hi href
      (fun en hen => ⟨(lk1.q.qlev en hen).1, (lk1.q.qlev en hen).2.2.1⟩) hd0'
    · refine (hrel.keep (br' := br2) (fun _ _ _ => ⟨rfl, rfl⟩) cp.le_next
        (fun _ h => List.mem_cons_of_mem _ h) (fun en hen => ?_)).add hd0 hd0'
        (by rw [hx2, hdx, hbr2d]; exact hlinkI) (by rw [hdx, hbr2d]; exact cp.below_next)
        (fun t' ht' => by rw [hdx]; exact hhead t' ht') ?_
      · exact (mem_push hen).imp id fun h => ⟨by rw [h.2], h.1⟩
      · rw [hdx, hbr2d]
        exact pend_of_blocks (fun en hen => ⟨(q2.qlev en hen).1, (q2.qlev en hen).2.2.1⟩) q2.i1p cp.below_next cp.next_le hd0'
    · have hone : br1[ds[o]!]! ≠ 0 := by
        obtain ⟨olt, one⟩ := g1.inv.out o ho
        exact g1.dn o olt one
      refine (hw2 ds[o]!).imp id fun h => ⟨h.1, ?_, h.2.2⟩
      rcases h.2.1 with h3 | h3
      · rw [h3] at hone ⊢; exact hpre.resolve_left hone
      · exact h3
  · obtain ⟨k, a1, a2, a3⟩ := lk1.remk t' (List.mem_cons_of_mem _ ht')
    rcases hw2 ds[t']! with h | h
    · exact ⟨k, a1, Int.le_trans a2 hii, by rw [h]; exact a3⟩
    · exact ⟨((i + 1 : Nat) : Int), Int.natCast_nonneg _, Int.le_refl _, by rw [h.1]; exact hlo⟩
  · -- the relabelled cells carried `pfaf_int_ds`; the new outlet continues the stem of the confluence
    have hmainS := (hS w).2
    refine (od1 w).write (fun _ h => List.mem_cons_of_mem _ h) hw2' (fr1.ne_lo cp.lt_hi) (fun s hs => ?_)
      (fr1.lab_ne_lo cp.lt_hi) (d0 < depth) _ (Or.inl rfl)
    rcases hw2 s with h | h
    · exact absurd h hs
    · rcases h.2.1 with h3 | h3
      · rw [h3]
        have := ((od1 w).ol t (by simp)).1
        rcases hmainS ds[t]! (c.hb _ hdm) hu with h4 | h4 <;> omega
      · exact (od1 w).oi s h3
  · exact ev1.int_step hp0 (v := lo) (w := intDs) (x := usMain[ds[t]!]!) cp.ge cp.le_next cp.lt_next cp.below
      (fun s => (hw2 s).imp id fun h => ⟨h.1, h.2.1⟩) hpre
      (by rw [hdx]; exact Ne.symm hxd) (by rw [hdx]; exact hbr2d)

end fills

/-- `pfInner` keeps the joint invariant, does not touch the flag `ok` (`r.2.2 = st.2.2`), keeps the link invariant, the
queue discipline and (under `W`) the stream orders of the pending codes; the codes evolve inside the part
`[pfaf0, pfaf0 + 9·10^(depth-d0))` of the popped block (at most four tributaries use the multipliers `1 … 8`); every
queued entry has level `≥ d0` -/
theorem pfInner_link (c : PfCtx ds usMain seq uparea) (depth : Nat) (pfaf0 : Int) (d0 : Nat)
    (hp0 : 0 < pfaf0) (hd0 : 1 ≤ d0) (hd0' : d0 ≤ depth)
    (hbase : pfaf0 % (10 : Int) ^ (depth - d0 + 1) = R1 (depth - d0 + 1))
    (W : Prop) (soraw : Array Int)
    (hS : W → (∀ s : Nat, so[s]! ≠ 0 → soraw[s]! ≠ 0) ∧
      (∀ c, c < ds.size → usMain[c]! < ds.size →
        soraw[usMain[c]!]! = 0 ∨ soraw[usMain[c]!]! = soraw[c]!))
    (br0 : Array Int) :
    ∀ (l : List Nat) (i : Nat) (st r : PfSt × Int × Bool), i + l.length ≤ 4 →
      pfInner ds usMain so depth pfaf0 d0 l i st = some r →
      PfG ds usMain so st.1.1 st.1.2.1 →
      PfFreshIn depth st.1.1 st.1.2.2 (pfaf0 + (2 * (i : Int) + 1) * (10 : Int) ^ (depth - d0))
        (pfaf0 + 10 * (10 : Int) ^ (depth - d0)) →
      PfRem ds usMain seq uparea st.1.1 st.1.2.1 st.2.1 l → st.2.1 ≠ 0 → LabsPos st.1.2.2 →
      PfLinkIn ds uparea depth st.1.1 st.1.2.1 st.1.2.2 pfaf0 d0 ((10 : Int) ^ (depth - d0))
        (pfaf0 + (2 * (i : Int) + 1) * (10 : Int) ^ (depth - d0))
        (pfaf0 + 10 * (10 : Int) ^ (depth - d0)) i st.2.1 l →
      (W → PfOrdIn ds soraw st.1.1 st.1.2.2 st.2.1 d0 l) →
      PfEvo ds br0 st.1.1 pfaf0 (pfaf0 + (2 * (i : Int) + 1) * (10 : Int) ^ (depth - d0)) →
      PfG ds usMain so r.1.1 r.1.2.1 ∧ PfFresh depth r.1.1 r.1.2.2 ∧ LabsPos r.1.2.2 ∧
        r.2.2 = st.2.2 ∧ PfH ds depth r.1.1 r.1.2.1 r.1.2.2 ∧ PfQ depth r.1.2.2 ∧
        (W → PfOrd soraw r.1.1 r.1.2.2) ∧
        PfEvo ds br0 r.1.1 pfaf0 (pfaf0 + 9 * (10 : Int) ^ (depth - d0)) ∧
        (∀ en ∈ r.1.2.2, d0 ≤ en.2) := by
  intro l i st r hlen hr g fr rem hint hl lk od ev
  have key := pfInner_induction ds usMain so depth pfaf0 d0
    (P := fun l i s => i + l.length ≤ 4 ∧ s.2.2 = st.2.2 ∧
      PfIn ds usMain seq uparea so depth pfaf0 d0 W soraw br0 ((10 : Int) ^ (depth - d0))
        (pfaf0 + (2 * (i : Int) + 1) * (10 : Int) ^ (depth - d0)) i l l s.1.1 s.1.2.1 s.1.2.2 s.2.1)
  obtain ⟨hlen', hok, a⟩ := key (by
    intro t rest i br idxs labs intDs ok p sub pint br1 hp hsub hpint ⟨hlen, hok, a⟩ h1
    simp only [List.length_cons] at hlen
    simp only at hok a ⊢
    subst hp hsub
    obtain ⟨e1, e2, e3⟩ := code_next i ((10 : Int) ^ (depth - d0)) pfaf0
    rw [e1] at hpint
    rw [e3]
    have hpp := pow10_pos (depth - d0)
    obtain ⟨hts, htd, _, _, htc⟩ := a.rem.r1 t (by simp)
    obtain ⟨m, hkeep⟩ := a.sub c hp0 hd0 hd0' hbase hS rfl rfl (by omega) h1
    refine ⟨fun _ => ⟨by omega, hok, m.mono (by omega) (Nat.le_succ i) fun _ h => List.mem_cons_of_mem _ h⟩,
      fun hni br2 h2 => ?_⟩
    have hconf : br1[ds[t]!]! = intDs := by
      rw [hkeep _ htc]
      exact (a.rem.r2 t (by simp)).resolve_right fun h => hni (List.mem_append_left _ h)
    rw [hpint] at h2 ⊢
    obtain ⟨n, hu, hpre⟩ := m.int c hp0 hd0 hd0' hbase hS rfl e2 (by omega) hts htd
      (List.pairwise_cons.1 a.rem.sorted).1 hconf hni h2
    refine ⟨by omega, ?_, n⟩
    rw [← hok]
    have h1 : decide (usMain[ds[t]!]! < ds.size) = true := by simpa using hu
    have h2 : (br1[usMain[ds[t]!]!]! == 0 || br1[usMain[ds[t]!]!]! == intDs) = true := by
      rcases hpre with h | h <;> simp [h]
    rw [h1, h2]; simp) l i st r hr ⟨hlen, rfl, g, fr, rem, hint, hl, lk, od, ev⟩
  refine ⟨a.g, a.fr.toPfFresh, a.lp, hok, a.lk.h.toPfH, a.lk.q.toPfQ hd0, fun w => (a.od w).ord, a.ev.mono ?_,
    fun en hen => (a.lk.q.qlev en hen).1⟩
  simp only [List.length_nil] at hlen'
  have := Int.mul_le_mul_of_nonneg_right (show 2 * ((i + l.length : Nat) : Int) + 1 ≤ 9 by omega)
    (Int.le_of_lt (pow10_pos (depth - d0)))
  omega

end Pf.C18
