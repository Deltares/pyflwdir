import PfVerif.Proofs.C06Final
/-! The fuel `n + 1` of the model loop always suffices (potential =
heap size + number of cells not yet queued; it starts at `n` and drops by one per pop). -/
namespace Pf.C06
open Pf

/-- number of cells not yet queued -/
def unq (n : Nat) (a : Array Bool) : Nat := (List.range n).countP (fun c => !a[c]!)

/-- potential: heap size + cells not yet queued; every loop iteration lowers it by one -/
def pot (G : Grid) (s : St) : Nat := s.q.length + unq G.n s.queued

/-- counting the `false` entries on a duplicate-free index list, before and after one write -/
theorem countP_setIfInBounds (a : Array Bool) (j : Nat) (v : Bool) (l : List Nat) (hl : l.Nodup) :
    l.countP (fun c => !(a.setIfInBounds j v)[c]!) + (if j ∈ l ∧ j < a.size ∧ a[j]! = false then 1 else 0) =
      l.countP (fun c => !a[c]!) + (if j ∈ l ∧ j < a.size ∧ v = false then 1 else 0) := by
  induction l with
  | nil => simp
  | cons x r ih =>
    have hn := List.nodup_cons.1 hl
    have ih := ih hn.2
    rw [List.countP_cons, List.countP_cons, get!_setIfInBounds]
    by_cases hjx : j = x
    · subst hjx
      have hr : j ∉ r := hn.1
      simp only [hr, false_and, if_false, Nat.add_zero] at ih
      rw [ih]
      by_cases hs : j < a.size
      · cases v <;> cases a[j]! <;> simp [hs]
      · simp [hs]
    · have h1 : ¬ (j = x ∧ j < a.size) := fun h => hjx h.1
      have h2 : (j ∈ x :: r) ↔ j ∈ r := by simp [hjx]
      simp only [h1, if_false, h2]
      omega

theorem unq_set {n : Nat} (a : Array Bool) (j : Nat) (hn : a.size = n) (hj : j < n) (ha : a[j]! = false) :
    unq n (a.setIfInBounds j true) + 1 = unq n a := by
  have := countP_setIfInBounds a j true (List.range n) List.nodup_range
  rw [if_pos ⟨List.mem_range.2 hj, by omega, ha⟩, if_neg (fun h => nomatch h.2.2)] at this
  exact this

theorem unq_set_false_le (n : Nat) (a : Array Bool) (k : Nat) :
    unq n (a.setIfInBounds k false) ≤ unq n a + 1 := by
  have := countP_setIfInBounds a k false (List.range n) List.nodup_range
  unfold unq
  split at this <;> split at this <;> omega

theorem pot_visit {G : Grid} {elev : Array Int} (z0 : Int) (i0 : Nat) (s : St) (o : Int × Int)
    (hs : Sized G s) : pot G (visit G elev z0 i0 s o) = pot G s := by
  rcases visit_miss_or i0 s o with hmiss | ⟨j, hsh, hd⟩
  · rw [visit_miss hmiss]
  · have hj : j < G.n := (shift_spec.1 hsh).1
    unfold visit pot
    simp only [hsh, hd, Bool.false_eq_true, if_false]
    by_cases hq : s.queued[j]! = true
    · simp [hq]
    · have hq' : s.queued[j]! = false := by simpa using hq
      simp only [hq', Bool.not_false, if_true, length_hpush]
      have := unq_set s.queued j hs.2.1 hj hq'
      omega

theorem pot_fold {G : Grid} {elev : Array Int} (z0 : Int) (i0 : Nat) (l : List (Int × Int)) (s : St)
    (hs : Sized G s) : pot G (l.foldl (visit G elev z0 i0) s) = pot G s := by
  induction l generalizing s with
  | nil => rfl
  | cons o l ih =>
    simp only [List.foldl_cons]
    rw [ih _ (sized_visit z0 i0 s o hs), pot_visit z0 i0 s o hs]

theorem sized_fold {G : Grid} {elev : Array Int} (z0 : Int) (i0 : Nat) (l : List (Int × Int)) (s : St)
    (hs : Sized G s) : Sized G (l.foldl (visit G elev z0 i0) s) :=
  (eff_fold z0 i0 l s hs).sized

theorem sized_loop {G : Grid} {conn : Nat} {elev : Array Int} (fuel : Nat) (s : St) (hs : Sized G s) :
    Sized G (fillLoop G conn elev fuel s) :=
  fillLoop_induct _ (fun _ _ _ hs _ => sized_fold _ _ _ _ hs) fuel s hs

/-- **the fuel suffices**: the loop ends with an empty heap whenever the potential fits the fuel -/
theorem loop_empties {G : Grid} {conn : Nat} {elev : Array Int} (fuel : Nat) (s : St) (hs : Sized G s)
    (hp : pot G s ≤ fuel) : (fillLoop G conn elev fuel s).q = [] := by
  induction fuel generalizing s with
  | zero =>
    unfold fillLoop
    unfold pot at hp
    exact List.eq_nil_of_length_eq_zero (by omega)
  | succ k ih =>
    unfold fillLoop
    split
    · rename_i hq; exact hq
    · rename_i h rest hq
      have hs0 : Sized G { s with q := rest } := hs
      apply ih _ (sized_fold _ _ _ _ hs0)
      show pot G (List.foldl (visit G elev h.z h.idx) { s with q := rest } (offsets conn)) ≤ k
      rw [pot_fold _ _ _ _ hs0]
      unfold pot at hp ⊢
      rw [hq] at hp
      simp only [List.length_cons] at hp
      simp only
      omega

theorem pot_init (G : Grid) (elev : Array Int) (nod seed : Array Bool) :
    pot G (initState G elev nod seed) = G.n := by
  unfold pot initState initHeap unq
  simp only
  rw [length_initHeap_fold]
  simp only [List.length_nil, Nat.zero_add]
  have h1 := List.length_eq_countP_add_countP (fun c => seed[c]!) (l := List.range G.n)
  simp only [List.length_range] at h1
  have h2 : List.countP (fun c => !seed[c]!) (List.range G.n) =
      List.countP (fun a => decide ¬seed[a]! = true) (List.range G.n) := by
    apply List.countP_congr
    intro x _
    simp
  omega


end Pf.C06
