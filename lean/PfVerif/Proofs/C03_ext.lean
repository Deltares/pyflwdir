import PfVerif.Model.C03_ext
import PfVerif.Proofs.C01
import PfVerif.Proofs.C19Nup
import PfVerif.Proofs.C03Topo
/-! Lemmas for the C03 extension: the dictionary of `get_loc_idx`, sentinel arithmetic, success of the two
constructors in closed form, outlet filters, `n_upstream` on missing cells. -/
namespace Pf.C03x
open Pf Pf.Fd Pf.C19

/-! ### the dictionary -/

theorem dict_fold (f : Nat → Int) (l : List Nat) (acc : List (Int × Nat)) :
    l.foldl (fun m i => dictSet m (f i) i) acc = (l.map fun i => (f i, i)).reverse ++ acc := by
  induction l generalizing acc with
  | nil => simp
  | cons a l _ => simp [List.foldl_cons, dictSet]

theorem idxMap_eq (ids : Array Int) :
    idxMap ids = ((List.range ids.size).reverse.map fun i => (ids[i]!, i)) := by
  unfold idxMap
  rw [dict_fold (fun i => ids[i]!)]
  simp [List.map_reverse]

theorem lookup_map (f : Nat → Int) (k : Int) (l : List Nat) :
    List.lookup k (l.map fun i => (f i, i)) = l.find? fun i => k == f i := by
  induction l with
  | nil => simp
  | cons a l ih =>
    simp only [List.map_cons, List.lookup_cons, List.find?_cons, ih]

theorem dictGet_idxMap (ids : Array Int) (k : Int) (d : Nat) :
    dictGet (idxMap ids) k d = (rowOf ids k).getD d := by
  unfold dictGet rowOf
  rw [idxMap_eq, lookup_map (fun i => ids[i]!)]
  cases List.find? (fun j => k == ids[j]!) (List.range ids.size).reverse <;> rfl

theorem foldl_set_range (g : Nat → Nat) (n : Nat) (init : Array Nat) (h : init.size = n) :
    (List.range n).foldl (fun out i => out.setIfInBounds i (g i)) init = ((List.range n).map g).toArray := by
  have hs := size_foldl_set g (List.range n) init
  apply array_ext_get! (by rw [hs, h]; simp)
  intro i hi
  rw [hs] at hi
  rw [get!_foldl_set, if_pos ⟨List.mem_range.2 (h ▸ hi), hi⟩]
  simp [h ▸ hi]

theorem specLocIdx_size (ids dsids : Array Int) : (specLocIdx ids dsids).size = ids.size := by
  simp [specLocIdx]

theorem specLocIdx_get (ids dsids : Array Int) (i : Nat) (hi : i < ids.size) :
    (specLocIdx ids dsids)[i]! = (rowOf ids dsids[i]!).getD i := by
  simp [specLocIdx, hi]

theorem find?_reverse_range {p : Nat → Bool} : ∀ {n j : Nat}, (List.range n).reverse.find? p = some j →
    j < n ∧ p j = true ∧ ∀ j', j' < n → p j' = true → j' ≤ j
  | 0, _, h => nomatch h
  | n + 1, j, h => by
    rw [List.range_succ, List.reverse_append, List.reverse_singleton, List.singleton_append,
      List.find?_cons] at h
    cases hp : p n with
    | true =>
      rw [hp] at h
      cases h
      exact ⟨Nat.lt_succ_self n, hp, fun j' hj' _ => Nat.le_of_lt_succ hj'⟩
    | false =>
      rw [hp] at h
      obtain ⟨h1, h2, h3⟩ := find?_reverse_range h
      refine ⟨Nat.lt_succ_of_lt h1, h2, fun j' hj' hpj' => ?_⟩
      rcases Nat.lt_succ_iff_lt_or_eq.1 hj' with hlt | rfl
      · exact h3 j' hlt hpj'
      · rw [hp] at hpj'; cases hpj'

/-- the row found for an id holds that id, is in range and is the last such row -/
theorem rowOf_some {ids : Array Int} {k : Int} {j : Nat} (h : rowOf ids k = some j) :
    j < ids.size ∧ ids[j]! = k ∧ ∀ j', j' < ids.size → ids[j']! = k → j' ≤ j := by
  obtain ⟨h1, h2, h3⟩ := find?_reverse_range h
  exact ⟨h1, (beq_iff_eq.1 h2).symm, fun j' hj' hk => h3 j' hj' (beq_iff_eq.2 hk.symm)⟩

theorem rowOf_none {ids : Array Int} {k : Int} (h : rowOf ids k = none) :
    ∀ j, j < ids.size → ids[j]! ≠ k := by
  intro j hj hk
  have := List.find?_eq_none.1 h j (List.mem_reverse.2 (List.mem_range.2 hj))
  exact this (beq_iff_eq.2 hk.symm)

/-! ### sentinels and index dtypes -/

theorem canon_size (d : Dtype) (raw : Array Int) : (canon d raw).size = raw.size := by simp [canon]
theorem maskRaw_size (d : Dtype) (raw : Array Int) : (maskRaw d raw).size = raw.size := by simp [maskRaw]

theorem canon_get (d : Dtype) (raw : Array Int) (i : Nat) (hi : i < raw.size) :
    (canon d raw)[i]! = if raw[i]! = mvSel d then raw.size else raw[i]!.toNat := by
  simp [canon, hi]

theorem maskRaw_get (d : Dtype) (raw : Array Int) (i : Nat) (hi : i < raw.size) :
    (maskRaw d raw)[i]! = (raw[i]! != mvSel d) := by
  simp [maskRaw, hi]

theorem mvSel_cases (d : Dtype) : mvSel d = -1 ∨ mvSel d = d.maxVal := by
  cases d <;> decide

theorem selectDtype_le_maxVal (n : Nat) (hn : n < 18446744073709551616) :
    (n : Int) ≤ (selectDtype n).maxVal := by
  unfold selectDtype
  split
  · rename_i h
    exact Int.ofNat_le.2 (Nat.le_of_lt h)
  · split
    · rename_i h
      exact Int.ofNat_le.2 (Nat.le_of_lt (Nat.lt_succ_of_lt h))
    · exact Int.ofNat_le.2 (Nat.le_of_lt_succ hn)

/-! ### pits -/

theorem pitIndices_eq_pitsOf (ds : Array Nat) : pitIndices ds = Spec.pitsOf ds := rfl

theorem pitIndices_ne_nil_iff (ds : Array Nat) : pitIndices ds ≠ [] ↔ ∃ i, i < ds.size ∧ ds[i]! = i := by
  constructor
  · intro h
    obtain ⟨a, ha⟩ := List.exists_mem_of_ne_nil _ h
    exact ⟨a, (mem_pitIndices ds a).1 ha⟩
  · rintro ⟨i, hi⟩ h0
    have := (mem_pitIndices ds i).2 hi
    rw [h0] at this
    cases this

/-! ### the constructors in closed form -/

theorem ctorVec_closed (dtype : Dtype) (ds : Array Nat) (pit outlet seq : Option (List Nat)) (nnodes : Option Nat)
    (cache : Bool) :
    ctorVec dtype ds pit outlet seq nnodes cache =
      if ds.size ≤ 1 then .error "ValueError"
      else if (pit.getD (pitIndices ds)).length = 0 then .error "ValueError"
      else .ok { dtype := dtype, ds := ds, pit := some (pit.getD (pitIndices ds)), outlet := outlet, seq := seq,
                 nnodes := nnodes, cache := cache, rast := none } := by
  unfold ctorVec
  cases pit <;> rfl

/-- success of `Flwdir.__init__` and the object it builds -/
theorem ctorVec_ok {dtype : Dtype} {ds : Array Nat} {pit outlet seq : Option (List Nat)} {nnodes : Option Nat}
    {cache : Bool} {o : Obj} :
    ctorVec dtype ds pit outlet seq nnodes cache = .ok o ↔
      1 < ds.size ∧ pit.getD (pitIndices ds) ≠ [] ∧
      o = { dtype := dtype, ds := ds, pit := some (pit.getD (pitIndices ds)), outlet := outlet, seq := seq,
            nnodes := nnodes, cache := cache, rast := none } := by
  rw [ctorVec_closed]
  by_cases h1 : ds.size ≤ 1
  · rw [if_pos h1]
    exact ⟨(fun h => nomatch h), fun h => absurd h.1 (Nat.not_lt.2 h1)⟩
  · rw [if_neg h1]
    by_cases h2 : (pit.getD (pitIndices ds)).length = 0
    · rw [if_pos h2]
      exact ⟨(fun h => nomatch h), fun h => absurd (List.length_eq_zero_iff.1 h2) h.2.1⟩
    · rw [if_neg h2]
      exact ⟨fun h => ⟨Nat.lt_of_not_le h1, fun h0 => h2 (List.length_eq_zero_iff.2 h0), (Except.ok.inj h).symm⟩,
        fun h => h.2.2 ▸ rfl⟩

theorem transformCheck_ok (t : Array Int) : transformCheck t = .ok () ↔ t.size = 6 := by
  unfold transformCheck
  by_cases h : t.size = 6
  · rw [if_pos h]; exact ⟨fun _ => h, fun _ => rfl⟩
  · rw [if_neg h]
    refine ⟨fun h' => ?_, fun h' => absurd h' h⟩
    split at h' <;> cases h'

/-- success of `FlwdirRaster.__init__`, read off the nest of checks: the vector part succeeds, the type is
known, the shape is 2-D and matches the size in `uint64`, the transform has six coefficients -/
theorem ctorRaster_ok {dtype : Dtype} {ds : Array Nat} {shape : List Nat} {ftype : Option Ftype}
    {pit outlet seq : Option (List Nat)} {nnodes : Option Nat} {transform : Array Int} {latlon cache : Bool}
    {o : Obj} :
    ctorRaster dtype ds shape ftype pit outlet seq nnodes transform latlon cache = .ok o ↔
      ∃ o1 ft nrow ncol, ctorVec dtype ds pit outlet seq nnodes cache = .ok o1 ∧ ftype = some ft ∧
        shape = [nrow, ncol] ∧ (nrow * ncol) % 2 ^ 64 = ds.size ∧ transform.size = 6 ∧
        o = { o1 with rast := some { shape := (nrow, ncol), ftype := ft, transform := transform, latlon := latlon } } := by
  constructor
  · intro h
    unfold ctorRaster at h
    split at h
    · cases h
    · rename_i o1 hv
      split at h
      · cases h
      · rename_i ft
        split at h
        · rename_i nrow ncol
          split at h
          · cases h
          · rename_i hs
            split at h
            · cases h
            · rename_i ht
              exact ⟨o1, ft, nrow, ncol, hv, rfl, rfl, Decidable.not_not.1 hs, (transformCheck_ok _).1 ht,
                (Except.ok.inj h).symm⟩
        · cases h
  · rintro ⟨o1, ft, nrow, ncol, hv, rfl, rfl, hs, ht, rfl⟩
    unfold ctorRaster
    rw [hv]
    simp only [hs, ne_eq, not_true_eq_false, if_false, (transformCheck_ok _).2 ht]

/-- dumping a freshly loaded object gives back the dictionary it was loaded from, provided the dictionary
holds a pit array (`load` stores the pits it is given, the count and the order as they are) -/
theorem load_dictOf {d : Dict} {o2 : Obj} (h : load d = .ok o2) (hp : d.pit.isSome = true) :
    ∃ o3, dictOf o2 = some (d, o3) := by
  obtain ⟨dtype, nn, ds, seq, pit, rast⟩ := d
  obtain ⟨p, rfl⟩ := Option.isSome_iff_exists.1 hp
  unfold load at h
  cases rast with
  | none =>
    obtain ⟨_, _, rfl⟩ := ctorVec_ok.1 h
    exact ⟨_, rfl⟩
  | some r =>
    obtain ⟨o1, _, _, _, hv, hf, hsh, _, _, rfl⟩ := ctorRaster_ok.1 h
    obtain ⟨_, _, rfl⟩ := ctorVec_ok.1 hv
    cases hf; cases hsh
    exact ⟨_, rfl⟩

/-! ### outlets -/

open Spec in
theorem readTab_eq_pit_iff (dirs : List (Nat × (Int × Int))) (pits : List Nat) (mv ncol : Nat)
    (codes : Array Nat) (i : Nat) (hmv : mv ∉ pits) :
    readTab dirs pits mv ncol codes i = .pit ↔ codes[i]! ∈ pits := by
  unfold readTab
  dsimp only
  by_cases h1 : codes[i]! = mv
  · rw [if_pos h1]
    exact ⟨(fun h => nomatch h), fun h => absurd (h1 ▸ h) hmv⟩
  · rw [if_neg h1]
    by_cases h2 : codes[i]! ∈ pits
    · rw [if_pos h2]; exact ⟨fun _ => h2, fun _ => rfl⟩
    · rw [if_neg h2]
      refine ⟨fun h => ?_, fun h => absurd h h2⟩
      split at h <;> cases h

open Spec in
theorem readXY_eq_pit_iff (xs ys : Array Int) (i : Nat) : readXY xs ys i = .pit ↔ xs[i]! ∈ xyPits := by
  unfold readXY
  dsimp only
  by_cases h1 : xs[i]! = xyNodata
  · rw [if_pos h1]
    exact ⟨(fun h => nomatch h), fun h => by rw [h1] at h; revert h; decide⟩
  · rw [if_neg h1]
    by_cases h2 : xs[i]! ∈ xyPits
    · rw [if_pos h2]; exact ⟨fun _ => h2, fun _ => rfl⟩
    · rw [if_neg h2]; exact ⟨(fun h => nomatch h), fun h => absurd h h2⟩

open Spec in
/-- filtering the self-draining cells of the declarative graph by "carries an explicit pit code" gives
exactly the cells whose reading is `pit` -/
theorem outlets_generic (nrow ncol : Nat) (read : Nat → Code) (pv : Nat → Bool)
    (hpv : ∀ i, i < nrow * ncol → (pv i = true ↔ read i = .pit)) :
    (pitsOf (graph nrow ncol read)).filter pv = specOutlets nrow ncol read := by
  unfold pitsOf specOutlets
  rw [graph_size, List.filter_filter]
  apply List.filter_congr
  intro i hi
  have hi' : i < nrow * ncol := by simpa using hi
  rw [graph_get _ _ _ _ hi']
  rw [Bool.eq_iff_iff]
  simp only [Bool.and_eq_true, beq_iff_eq, hpv i hi']
  constructor
  · exact fun h => h.1
  · intro h
    exact ⟨h, by simp [dsOf, h]⟩

open Spec in
/-- the remaining pits are the cells with a direction code that cannot be followed -/
theorem edge_generic (nrow ncol : Nat) (read : Nat → Code) (pv : Nat → Bool)
    (hpv : ∀ i, i < nrow * ncol → (pv i = true ↔ read i = .pit)) :
    (pitsOf (graph nrow ncol read)).filter (fun i => !pv i) = specEdgePits nrow ncol read := by
  unfold pitsOf specEdgePits
  rw [graph_size, List.filter_filter]
  apply List.filter_congr
  intro i hi
  have hi' : i < nrow * ncol := by simpa using hi
  have hpv' : pv i = (read i == .pit) := by
    rw [Bool.eq_iff_iff, beq_iff_eq]; exact hpv i hi'
  rw [graph_get _ _ _ _ hi', hpv']
  unfold dsOf
  cases read i with
  | nodata => simp [Nat.ne_of_gt hi']
  | pit => simp
  | to r c =>
    by_cases hc : (inRaster nrow ncol r c && read (cellIdx ncol r c) != Code.nodata) = true
    · simp [hc]
    · simp [Bool.eq_false_iff.2 hc]

open Spec in
/-- masking keeps a table-coded raster inside its alphabet: hidden cells get the nodata code -/
theorem applyMask_mem_alphabet (dirs : List (Nat × (Int × Int))) (pits : List Nat) (mv : Nat) (mask : Array Bool)
    {codes : Array Nat} {n : Nat} (hsize : codes.size = n)
    (hlegal : ∀ i, i < n → codes[i]! ∈ alphabet dirs pits mv) :
    ∀ i, i < n → (applyMask mv mask codes)[i]! ∈ alphabet dirs pits mv := by
  intro i hi
  rw [applyMask_get _ _ _ _ (hsize ▸ hi)]
  split
  · exact hlegal i hi
  · exact List.mem_append_right _ (List.mem_singleton.2 rfl)

theorem specOutlets_congr {nrow ncol : Nat} {read read' : Nat → Spec.Code}
    (h : ∀ j, j < nrow * ncol → read j = read' j) : specOutlets nrow ncol read = specOutlets nrow ncol read' := by
  unfold specOutlets
  apply List.filter_congr
  intro i hi
  rw [h i (by simpa using hi)]

open Spec in
/-- outlets of a decoded raster, whatever the format: if the pit list is that of the declarative graph of a
reading and `isPvAt` recognises exactly the cells read as `pit`, then `idxs_pit[np.isin(data.flat[idxs_pit], _pv)]`
lists the cells read as `pit`, and the other pits are the cells whose direction cannot be followed -/
theorem outlets_of_decode (ft : Ftype) (data : Data) (nrow ncol : Nat) (read : Nat → Code) (pits : Array Nat)
    (hp : pits.toList = pitsOf (graph nrow ncol read))
    (hpv : ∀ i, i < nrow * ncol → (isPvAt ft data i = true ↔ read i = .pit)) :
    outletsOf ft data pits = specOutlets nrow ncol read ∧
    (∀ i, i ∈ outletsOf ft data pits → i ∈ pits.toList) ∧
    pits.toList.filter (fun i => !(outletsOf ft data pits).contains i) = specEdgePits nrow ncol read := by
  unfold outletsOf
  refine ⟨by rw [hp]; exact outlets_generic nrow ncol read _ hpv, fun i hi => (List.mem_filter.1 hi).1, ?_⟩
  rw [← edge_generic nrow ncol read _ hpv, ← hp]
  apply List.filter_congr
  intro i hi
  simp [List.mem_filter, hi]

/-! ### `n_upstream` -/

/-- a cell outside a well-formed network is never written by the loop of `upstream_count` -/
theorem nup_fold_missing (ds : Array Nat) (hwf : WF ds) (v : Nat) (hv : v < ds.size) (hm : ds[v]! = ds.size) :
    ∀ (l : List Nat) (nup0 : Array Int), nup0.size = ds.size → (∀ j ∈ l, j < ds.size) →
      (l.foldl (nupStep ds none) nup0)[v]! = nup0[v]! := by
  intro l
  induction l with
  | nil => intro _ _ _; rfl
  | cons j l ih =>
    intro nup0 hsz hb
    have hj : j < ds.size := hb j (by simp)
    rw [List.foldl_cons, ih _ (by rw [nupStep_size, hsz]) (fun i hi => hb i (by simp [hi])),
      nupStep_get ds none nup0 j v hsz hj hv]
    have h1 : ¬ (j = v ∧ ds[j]! ≠ ds.size) := fun h => h.2 (h.1 ▸ hm)
    -- nothing drains into a missing cell
    have h2 : inflow ds none v j = false := Bool.eq_false_iff.2 fun h => by
      simp only [inflow, Bool.and_eq_true, beq_iff_eq] at h
      have := (hwf j hj).2 (h.2 ▸ hv)
      rw [h.2, hm] at this
      exact Nat.lt_irrefl _ this
    simp [h1, h2]

theorem nUpstream_get (ds : Array Nat) (hwf : WF ds) (v : Nat) (hv : v < ds.size) :
    (upstreamCount ds none)[v]! = specNup ds v := by
  unfold specNup
  by_cases hm : ds[v]! = ds.size
  · rw [if_pos hm, upstreamCount_eq,
      nup_fold_missing ds hwf v hv hm _ _ (by simp) (fun j hj => List.mem_range.mp hj)]
    simp [hv]
  · rw [if_neg hm, upstreamCount_spec ds none v (by simp only [isValid, hv, decide_true, Bool.true_and, bne_iff_ne, ne_eq]; exact hm)]
    unfold nupM
    congr 2
    apply List.filter_congr
    intro j hj
    simp only [inStream, isValid, maskAt, List.mem_range.1 hj, decide_true, Bool.true_and, Bool.and_true]
    by_cases h2 : ds[j]! = v
    · rw [h2]; simp [Nat.ne_of_lt hv]
    · rw [beq_false_of_ne h2]; simp

end Pf.C03x
