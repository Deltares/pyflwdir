import PfVerif.Proofs.C15Last
/-! The output of `_adjust_elevation` is non-increasing (`MonoOut adjust1d`) and ends on the last input value
(`LastKept adjust1d`).

Shape invariant at the start of iteration `i` once a first pit has been met (`pit = true`):
`e[0..imin]` is non-increasing (finished prefix, ends at `zmin`), `e[imin..imax]` is non-decreasing and
`e[imax..i-1]` is non-increasing (the open hump, peak `zmax` at `imax`). At a pit each of the three
candidate modifications (dig to `zmin`, fill to `zmax`, dig & fill to an intermediate level `z`) turns
`e[0..i-1]` into a non-increasing prefix that does not end above `e[i]`. -/
namespace Pf.C15
open Pf

/-- what is known about the array when a pit is met at index `i` (`M`, `zmax` are the values of
`imax`, `zmax` *before* the update with `e[i]`) -/
structure FixCtx (e : Array Int) (imin M i : Nat) (zmin zmax : Int) : Prop where
  hsz : i < e.size
  b1 : imin ≤ M
  b2 : M + 1 ≤ i
  pref : NI e 0 imin
  zminv : e[imin]! = zmin
  zmaxv : e[M]! = zmax
  up : ND e imin M
  down : NI e M (i-1)

theorem FixCtx.dom {e : Array Int} {imin M i : Nat} {zmin zmax : Int} (c : FixCtx e imin M i zmin zmax) :
    ∀ k : Nat, imin ≤ k → k + 1 ≤ i → e[k]! ≤ zmax := by
  intro k h1 h2
  rw [← c.zmaxv]
  by_cases h : k ≤ M
  · exact c.up.le k M h1 h (Nat.le_refl _)
  · exact c.down.le M k (Nat.le_refl _) (by omega) (by omega)

theorem FixCtx.low {e : Array Int} {imin M i : Nat} {zmin zmax : Int} (c : FixCtx e imin M i zmin zmax) :
    ∀ k : Nat, imin ≤ k → k ≤ M → zmin ≤ e[k]! := by
  intro k h1 h2
  rw [← c.zminv]
  exact c.up.le imin k (Nat.le_refl _) h1 h2

/-- the result of a fix: `e'[0..i-1]` non-increasing, `e'[i]` not raised, and if `e` rises into `i`
then `e'` does not descend into `i` -/
def Good (e e' : Array Int) (i : Nat) : Prop :=
  NI e' 0 (i-1) ∧ e'[i]! ≤ e[i]! ∧ (e[i-1]! < e[i]! → e'[i-1]! ≤ e'[i]!)

theorem good_refl {e : Array Int} {i : Nat} (h : NI e 0 (i-1)) : Good e e i :=
  ⟨h, Int.le_refl _, Int.le_of_lt⟩

/-- option 1: dig -/
theorem good_dig {e e' : Array Int} {imin M i : Nat} {zmin zmax : Int} (c : FixCtx e imin M i zmin zmax)
    (he' : ∀ k : Nat, k ≤ i → e'[k]! = if imin ≤ k ∧ k < i then min zmin e[k]! else e[k]!) : Good e e' i := by
  have hMi : imin < i := Nat.lt_of_le_of_lt c.b1 c.b2
  have hlo : ∀ k : Nat, k < imin → e'[k]! = e[k]! := fun k h =>
    (he' k (Nat.le_of_lt (Nat.lt_trans h hMi))).trans (if_neg fun h' => Nat.not_le.2 h h'.1)
  have hin : ∀ k : Nat, imin ≤ k → k < i → e'[k]! = min zmin e[k]! :=
    fun k h1 h2 => (he' k (Nat.le_of_lt h2)).trans (if_pos ⟨h1, h2⟩)
  have hi : e'[i]! = e[i]! := (he' i (Nat.le_refl _)).trans (if_neg fun h => Nat.lt_irrefl _ h.2)
  refine ⟨fun k _ hk => ?_, Int.le_of_eq hi, fun hr => ?_⟩
  · have hk2 : k + 1 < i := by omega
    rcases Nat.lt_or_ge (k+1) imin with h | h
    · rw [hlo k (Nat.lt_of_succ_lt h), hlo _ h]; exact c.pref k (Nat.zero_le _) (Nat.le_of_lt h)
    · rw [hin _ h hk2]
      rcases Nat.lt_or_ge k imin with h3 | h3
      · rw [hlo k h3]; exact Int.le_trans (Int.min_le_right _ _) (c.pref k (Nat.zero_le _) h3)
      · rw [hin k h3 (Nat.lt_of_succ_lt hk2)]
        refine Int.le_min.2 ⟨Int.min_le_left _ _, ?_⟩
        rcases Nat.lt_or_ge M (k+1) with h4 | h4
        · exact Int.le_trans (Int.min_le_right _ _) (c.down k (Nat.le_of_lt_succ h4) hk)
        · -- on the rising limb everything is dug down to `zmin`
          exact Int.le_trans (Int.min_le_left _ _) (c.low k h3 (Nat.le_of_succ_le h4))
  · rw [hi, hin _ (Nat.le_sub_of_add_le hMi) (Nat.sub_lt (Nat.zero_lt_of_lt hMi) Nat.one_pos)]
    exact Int.le_trans (Int.min_le_right _ _) (Int.le_of_lt hr)

/-- option 2: fill up to the running maximum, which stands at `m` (the old peak `M`, or `i` itself) -/
theorem good_fill {e e' : Array Int} {imin M i : Nat} {zmin zmax : Int} (c : FixCtx e imin M i zmin zmax)
    (m : Nat) (hm : M ≤ m) (hmi : m ≤ i) (hz : zmax ≤ e[m]!)
    (he' : ∀ k : Nat, k ≤ i → e'[k]! = if 0 ≤ k ∧ k < m then max e[m]! e[k]! else e[k]!) : Good e e' i := by
  have hin : ∀ k : Nat, k < m → e'[k]! = max e[m]! e[k]! :=
    fun k h => (he' k (Nat.le_trans (Nat.le_of_lt h) hmi)).trans (if_pos ⟨Nat.zero_le _, h⟩)
  have hout : ∀ k : Nat, m ≤ k → k ≤ i → e'[k]! = e[k]! :=
    fun k h1 h2 => (he' k h2).trans (if_neg fun h => Nat.not_le.2 h.2 h1)
  have hi := hout i hmi (Nat.le_refl _)
  refine ⟨fun k _ hk => ?_, Int.le_of_eq hi, fun hr => ?_⟩
  · have hk2 : k + 1 < i := by have := c.b2; omega
    rcases Nat.lt_or_ge (k+1) m with h | h
    · rw [hin k (Nat.lt_of_succ_lt h), hin _ h]
      refine Int.max_le.2 ⟨Int.le_max_left _ _, ?_⟩
      rcases Nat.lt_or_ge imin (k+1) with h3 | h3
      · -- inside the hump everything is raised to `e[m]`
        exact Int.le_trans (Int.le_trans (c.dom (k+1) (Nat.le_of_lt h3) hk2) hz) (Int.le_max_left _ _)
      · exact Int.le_trans (c.pref k (Nat.zero_le _) h3) (Int.le_max_right _ _)
    · rw [hout _ h (Nat.le_of_lt hk2)]
      rcases Nat.lt_or_ge k m with h3 | h3
      · have hkm : k + 1 = m := Nat.le_antisymm h3 h
        rw [hin k h3, hkm]; exact Int.le_max_left _ _
      · rw [hout k h3 (Nat.le_of_lt (Nat.lt_of_succ_lt hk2))]; exact c.down k (Nat.le_trans hm h3) hk
  · rw [hi]
    rcases Nat.lt_or_ge (i-1) m with h | h
    · rw [hin _ h, show m = i by omega]; exact Int.max_le.2 ⟨Int.le_refl _, Int.le_of_lt hr⟩
    · rw [hout _ h (Nat.sub_le _ _)]; exact Int.le_of_lt hr

/-- option 3: dig & fill to a level `z` below the running maximum, which stands at `m`; `j0`, `j1` are
what the two scans of the option found -/
theorem good_level {e e' : Array Int} {imin M i : Nat} {zmin zmax : Int} (c : FixCtx e imin M i zmin zmax)
    (m : Nat) (hm : M ≤ m) (hmi : m ≤ i) (z : Int) (hz : z < e[m]!) (j0 j1 : Nat) (hj0 : j0 ≤ imin)
    (hpre : ∀ k : Nat, k < j0 → z < e[k]!) (h1 : m ≤ j1) (h1' : j1 ≤ i)
    (hmid : ∀ k : Nat, m ≤ k → k < j1 → z < e[k]!) (hfound : j1 < i → e[j1]! ≤ z)
    (he' : ∀ k : Nat, k ≤ i → e'[k]! = if j0 ≤ k ∧ k < max (m+1) j1 then z else e[k]!) : Good e e' i := by
  -- the end `b` of the levelled stretch: `j1`, or `i + 1` when the scan for `j1` started at `m = i`
  obtain ⟨b, hb, hmb, hbi, hmid', hfound'⟩ : ∃ b, max (m+1) j1 = b ∧ m < b ∧ b ≤ i + 1 ∧
      (∀ k : Nat, m ≤ k → k < b → z < e[k]!) ∧ (b < i → e[b]! ≤ z) := by
    rcases Nat.lt_or_ge m j1 with hlt | hge
    · exact ⟨j1, Nat.max_eq_right hlt, hlt, Nat.le_succ_of_le h1', hmid, hfound⟩
    · have hj : j1 = m := Nat.le_antisymm hge h1
      rw [hj] at hfound ⊢
      refine ⟨m+1, Nat.max_eq_left (Nat.le_succ m), Nat.lt_succ_self m, Nat.succ_le_succ hmi,
        fun k h2 h3 => ?_, fun h => absurd (hfound (Nat.lt_of_succ_lt h)) (Int.not_le.2 hz)⟩
      rw [Nat.le_antisymm (Nat.le_of_lt_succ h3) h2]; exact hz
  rw [hb] at he'
  clear hmid hfound h1 h1' hb
  have hMb : M < b := Nat.lt_of_le_of_lt hm hmb
  have hj0b : j0 < b := Nat.lt_of_le_of_lt (Nat.le_trans hj0 c.b1) hMb
  have hin : ∀ k : Nat, j0 ≤ k → k < b → e'[k]! = z :=
    fun k h2 h3 => (he' k (Nat.le_of_lt_succ (Nat.lt_of_lt_of_le h3 hbi))).trans (if_pos ⟨h2, h3⟩)
  have hlo : ∀ k : Nat, k < j0 → e'[k]! = e[k]! := fun k h2 =>
    (he' k (Nat.le_of_lt_succ (Nat.lt_of_lt_of_le (Nat.lt_trans h2 hj0b) hbi))).trans
      (if_neg fun h => Nat.not_le.2 h2 h.1)
  have hhi : ∀ k : Nat, b ≤ k → k ≤ i → e'[k]! = e[k]! :=
    fun k h2 h3 => (he' k h3).trans (if_neg fun h => Nat.not_le.2 h.2 h2)
  have hj0i : j0 ≤ i - 1 := by have := c.b1; have := c.b2; omega
  -- from `m` on, a levelled cell is lowered
  have hle : ∀ k : Nat, m ≤ k → k ≤ i → e'[k]! ≤ e[k]! := fun k h2 h3 => by
    rcases Nat.lt_or_ge k b with h4 | h4
    · rw [hin k (Nat.le_trans (Nat.le_trans hj0 c.b1) (Nat.le_trans hm h2)) h4]; exact Int.le_of_lt (hmid' k h2 h4)
    · rw [hhi k h4 h3]; exact Int.le_refl _
  refine ⟨fun k _ hk => ?_, ?_, fun hr => ?_⟩
  · have hk2 : k + 1 < i := by omega
    rcases Nat.lt_or_ge (k+1) j0 with h2 | h2
    · rw [hlo k (Nat.lt_of_succ_lt h2), hlo _ h2]
      exact c.pref k (Nat.zero_le _) (Nat.le_trans (Nat.le_of_lt h2) hj0)
    rcases Nat.lt_or_ge k j0 with h3 | h3
    · rw [hlo k h3, hin _ h2 (Nat.lt_of_le_of_lt h3 hj0b)]; exact Int.le_of_lt (hpre k h3)
    rcases Nat.lt_or_ge (k+1) b with h4 | h4
    · rw [hin k h3 (Nat.lt_of_succ_lt h4), hin _ h2 h4]; exact Int.le_refl _
    rw [hhi _ h4 (Nat.le_of_lt hk2)]
    rcases Nat.lt_or_ge k b with h5 | h5
    · have hkb : k + 1 = b := Nat.le_antisymm h5 h4
      rw [hin k h3 h5, hkb]; exact hfound' (hkb ▸ hk2)
    · rw [hhi k h5 (Nat.le_of_lt (Nat.lt_of_succ_lt hk2))]
      exact c.down k (Nat.le_trans (Nat.le_of_lt hMb) h5) hk
  · exact hle i hmi (Nat.le_refl _)
  · rcases Nat.lt_or_ge i b with h2 | h2
    · rw [hin i (Nat.le_trans hj0i (Nat.sub_le _ _)) h2, hin _ hj0i (Nat.lt_of_le_of_lt (Nat.sub_le _ _) h2)]
      exact Int.le_refl _
    · rw [hhi i h2 (Nat.le_refl _)]
      exact Int.le_trans (hle (i-1) (by omega) (Nat.sub_le _ _)) (Int.le_of_lt hr)

/-- the fix at a pit makes the processed prefix non-increasing, wherever between the old peak and `i` the
running maximum `e[m]` stands -/
theorem a1Fix_good {e : Array Int} {imin M i : Nat} {zmin zmax : Int} (c : FixCtx e imin M i zmin zmax)
    (m : Nat) (hm : M ≤ m) (hmi : m ≤ i) (hz : zmax ≤ e[m]!) : Good e (a1Fix e imin m i zmin e[m]!) i := by
  have hsz : ∀ k : Nat, k ≤ i → k < e.size := fun k hk => Nat.lt_of_le_of_lt hk c.hsz
  obtain ⟨cd, hcd, heq⟩ := a1Fix_ind (fun cd => Good e (applyCand e cd) i) e imin m i zmin e[m]! hmi
    (good_dig c fun k hk => by rw [applyCand_get _ _ k (hsz k hk)]; rfl)
    (good_fill c m hm hmi hz fun k hk => by rw [applyCand_get _ _ k (hsz k hk)]; rfl)
    (fun z _ ⟨k, hk1, hk2, hlt⟩ j0 j1 hj0 hpre h1 h1' hmid hfound =>
      good_level c m hm hmi z (Int.lt_of_lt_of_le hlt (Int.le_trans (c.dom k (Nat.le_of_succ_le hk1) hk2) hz))
        j0 j1 hj0 hpre h1 h1' hmid hfound fun k hk => by rw [applyCand_get _ _ k (hsz k hk)]; rfl)
  rw [heq]; exact hcd

/-- the arguments the loop body passes -/
theorem a1Fix_good' {e : Array Int} {imin M i : Nat} {zmin zmax : Int} (c : FixCtx e imin M i zmin zmax) :
    Good e (a1Fix e imin (if e[i]! ≥ zmax then i else M) i zmin (if e[i]! ≥ zmax then e[i]! else zmax)) i := by
  have hb2 := c.b2
  by_cases hge : e[i]! ≥ zmax
  · simp only [if_pos hge]; exact a1Fix_good c i (by omega) (Nat.le_refl _) hge
  · simp only [if_neg hge]
    have := a1Fix_good c M (Nat.le_refl _) (by omega) (Int.le_of_eq c.zmaxv.symm)
    rwa [c.zmaxv] at this

/-- after the fix at `i` a new hump starts at `i-1` -/
theorem FixCtx.start {e e' : Array Int} {i : Nat} (g : Good e e' i) (hr : i = 0 ∨ e[i-1]! < e[i]!)
    (hsz : i + 1 < e'.size) : FixCtx e' (i-1) i (i+1) e'[i-1]! e'[i]! := by
  refine ⟨hsz, Nat.sub_le _ _, Nat.le_refl _, g.1, rfl, rfl, fun k h1 h2 => ?_,
    fun k h1 h2 => absurd h1 (Nat.not_le.2 h2)⟩
  rcases hr with hr | hr
  · subst hr; exact absurd h2 (Nat.not_succ_le_zero k)
  · have hki : k + 1 = i := Nat.le_antisymm h2 (Nat.sub_le_iff_le_add.1 h1)
    subst hki; exact g.2.2 hr

/-- an iteration without a pit: cell `i` joins the hump, as its new peak or on its falling limb -/
theorem FixCtx.extend {e : Array Int} {imin M i : Nat} {zmin zmax : Int} (c : FixCtx e imin M i zmin zmax)
    (hsz : i + 1 < e.size) (hpf : M + 1 = i ∨ e[i]! ≤ e[i-1]!) :
    FixCtx e imin (if e[i]! ≥ zmax then i else M) (i+1) zmin (if e[i]! ≥ zmax then e[i]! else zmax) := by
  by_cases hge : e[i]! ≥ zmax
  · simp only [if_pos hge]
    refine ⟨hsz, Nat.le_trans c.b1 (Nat.le_of_succ_le c.b2), Nat.le_refl _, c.pref, c.zminv, rfl,
      fun k h1 h2 => ?_, fun k h1 h2 => absurd h1 (Nat.not_le.2 h2)⟩
    rcases Nat.lt_or_ge M (k+1) with hk | hk
    · refine Int.le_trans (c.dom k h1 h2) ?_
      rcases Nat.lt_or_ge (k+1) i with hki | hki
      · -- beyond the old peak the hump is flat: `zmax ≤ e[i] ≤ e[i-1] ≤ e[k+1]`
        have h3 := hpf.resolve_left (Nat.ne_of_lt (Nat.lt_of_le_of_lt hk hki))
        exact Int.le_trans hge (Int.le_trans h3
          (c.down.le (k+1) (i-1) (Nat.le_of_lt hk) (Nat.le_sub_of_add_le hki) (Nat.le_refl _)))
      · rw [Nat.le_antisymm h2 hki]; exact hge
    · exact c.up k h1 hk
  · simp only [if_neg hge]
    refine ⟨hsz, c.b1, Nat.le_succ_of_le c.b2, c.pref, c.zminv, c.zmaxv, c.up, fun k h1 h2 => ?_⟩
    rcases Nat.lt_or_ge (k+1) i with hk | hk
    · exact c.down k h1 (Nat.le_sub_of_add_le hk)
    · have hki : k + 1 = i := Nat.le_antisymm h2 hk
      subst hki
      rcases hpf with h | h
      · have hz := c.zmaxv
        rw [Nat.succ.inj h] at hz
        rw [hz]; exact Int.le_of_lt (Int.not_le.1 hge)
      · exact h

/-- invariant at the start of iteration `i`. The pit test reads `z1`, `z2`, the values found at `i-1`, `i-2`
before a fix may have lowered those cells, not the array; so the invariant says that `z1` bounds `e[i-1]` and
is exact unless the peak of the hump stands at `i-1` (the one cell a fix lowers and the scan does not read
again). Before the first pit the scanned part is non-increasing and `z1` is exact; `i = 0 → z1 ≤ e[0]` is there
because `a1Init` takes `z1` from `elevtn[0]` before `np.maximum(elevtn, elevtn[-1])`. At the end (`fin`) only
`e[0..n-2]` is claimed: the last link comes from `LInv` (last value kept, and a lower bound). -/
structure MInv (n i : Nat) (s : A1) : Prop where
  sz : s.e.size = n
  nopit : s.pit = false →
    NI s.e 0 (i-1) ∧ s.z2 ≥ s.z1 ∧ (i = 0 → s.z1 ≤ s.e[0]!) ∧ (1 ≤ i → s.e[i-1]! = s.z1)
  pit_pos : s.pit = true → 1 ≤ i
  live : s.pit = true → i < n → FixCtx s.e s.imin s.imax i s.zmin s.zmax ∧ s.e[i-1]! ≤ s.z1 ∧
    (s.imax + 1 = i ∨ (s.e[i-1]! = s.z1 ∧ s.z2 ≥ s.z1))
  fin : s.pit = true → i = n → NI s.e 0 (n-2)

theorem a1Init_mono (e0 : Array Int) (hpos : 0 < e0.size) : MInv e0.size 0 (a1Init e0) := by
  refine ⟨by simp [a1Init], fun _ => ⟨fun k _ hk => by omega, Int.le_refl _, fun _ => ?_, fun h => by omega⟩,
    fun h => by simp [a1Init] at h, fun h => by simp [a1Init] at h, fun h => by simp [a1Init] at h⟩
  simp only [a1Init]
  rw [map_get! _ _ hpos]
  exact Int.le_max_left _ _

theorem a1Fixed_good {n i : Nat} {s : A1} (h : MInv n i s) (hi : i < n) : Good s.e (a1Fixed s i) i := by
  by_cases hp : s.pit = true
  · rw [a1Fixed_pit i hp]; exact a1Fix_good' (h.live hp hi).1
  · rw [a1Fixed_nopit i hp]; exact good_refl (h.nopit (by simpa using hp)).1

theorem a1Step_mono (n : Nat) (s : A1) (i : Nat) (hi : i < n) (h : MInv n i s) : MInv n (i+1) (a1Step n s i) := by
  have hsz' : (a1Step n s i).e.size = n := (a1Step_size n s i).trans h.sz
  by_cases hc : (s.e[i]! > s.z1 ∧ s.z2 ≥ s.z1) ∨ (s.pit = true ∧ i + 1 = n)
  · -- a pit, or the end of the profile after a pit
    rw [a1Step_event n s i hc] at hsz' ⊢
    have g := a1Fixed_good h hi
    -- unless this is the last iteration, the profile rises into `i`
    have hr : i + 1 < n → i = 0 ∨ s.e[i-1]! < s.e[i]! := fun hlt => by
      by_cases h0 : i = 0
      · exact Or.inl h0
      refine Or.inr (Int.lt_of_le_of_lt ?_ (hc.resolve_right fun h => Nat.ne_of_lt hlt h.2).1)
      by_cases hp : s.pit = true
      · exact (h.live hp hi).2.1
      · exact Int.le_of_eq ((h.nopit (by simpa using hp)).2.2.2 (Nat.pos_of_ne_zero h0))
    refine ⟨hsz', fun hp => by simp at hp, fun _ => Nat.succ_pos i,
      fun _ hlt => ⟨FixCtx.start g (hr hlt) (by rw [hsz']; exact hlt), g.2.1, Or.inl rfl⟩, fun _ hn => ?_⟩
    subst hn; exact g.1
  · rw [a1Step_noevent n s i hc]
    have hnc : s.z2 ≥ s.z1 → s.e[i]! ≤ s.z1 := fun h2 => Int.not_lt.1 fun h1 => hc (Or.inl ⟨h1, h2⟩)
    refine ⟨h.sz, fun hp => ?_, fun _ => Nat.succ_pos i, fun hp hlt => ?_,
      fun hp hn => absurd (Or.inr ⟨hp, hn⟩) hc⟩
    · obtain ⟨hni, hz, _, hz1⟩ := h.nopit hp
      refine ⟨fun k _ hk => ?_, hnc hz, fun h => absurd h (Nat.succ_ne_zero i), fun _ => rfl⟩
      show s.e[k+1]! ≤ s.e[k]!
      by_cases hki : k + 1 = i
      · subst hki
        have h1 : s.e[k]! = s.z1 := hz1 (Nat.succ_pos k)
        rw [h1]; exact hnc hz
      · exact hni k (Nat.zero_le _) (Nat.le_sub_of_add_le (Nat.lt_of_le_of_ne hk hki))
    · obtain ⟨c, hz1, hpk⟩ := h.live hp hi
      have hpf : s.imax + 1 = i ∨ s.e[i]! ≤ s.e[i-1]! := hpk.imp_right fun ⟨h1, h2⟩ => h1 ▸ hnc h2
      refine ⟨c.extend (by rw [h.sz]; exact hlt) hpf, Int.le_refl _, ?_⟩
      by_cases hr : s.e[i]! ≤ s.z1
      · exact Or.inr ⟨rfl, hr⟩
      · -- still rising: the peak was at `i-1` and moves to `i`
        rcases hpk with hM | ⟨_, h2⟩
        · subst hM
          have hge : s.e[s.imax + 1]! ≥ s.zmax := by
            rw [← c.zmaxv]; exact Int.le_of_lt (Int.lt_of_le_of_lt hz1 (Int.not_le.1 hr))
          exact Or.inl (by rw [if_pos hge])
        · exact absurd (hnc h2) hr

/-- what the scan establishes: the last value is kept and is a lower bound, the rest is non-increasing -/
theorem adjust1d_scan (v : List Int) (hpos : 0 < v.length) :
    ∃ a : Array Int, adjust1d v = a.toList ∧ a.size = v.length ∧ a[v.length - 1]! = v[v.length - 1]! ∧
      (∀ k : Nat, k < v.length → v[v.length - 1]! ≤ a[k]!) ∧ NI a 0 (v.length - 2) := by
  obtain ⟨e0, he0⟩ : ∃ a, a = v.toArray := ⟨_, rfl⟩
  have hn : v.length = e0.size := by simp [he0]
  rw [hn] at hpos ⊢
  have hlast : v[e0.size - 1]! = e0[e0.size - 1]! := by simp [he0]
  have hfin := range_fold_inv (a1Step e0.size) (fun i s => LInv e0.size e0[e0.size - 1]! i s ∧ MInv e0.size i s)
    (a1Init e0) e0.size ⟨a1Init_last e0 hpos, a1Init_mono e0 hpos⟩
    (fun i s hi h => ⟨a1Step_last _ _ s i hi h.1 (a1Fixed_good h.2 hi).2.1, a1Step_mono _ s i hi h.2⟩)
  generalize hfs : (List.range e0.size).foldl (a1Step e0.size) (a1Init e0) = fs at hfin
  obtain ⟨hL, hM⟩ := hfin
  refine ⟨fs.e, by unfold adjust1d; rw [hn, ← he0, hfs], ?_⟩
  rw [hlast]
  refine ⟨hM.sz, hL.lastv, hL.vals.cells, ?_⟩
  by_cases hp : fs.pit = true
  · exact hM.fin hp rfl
  · exact fun k h1 h2 => (hM.nopit (by simpa using hp)).1 k h1 (by omega)

theorem adjust1d_last : LastKept adjust1d := by
  intro v hpos
  obtain ⟨a, h, hs, hl, _⟩ := adjust1d_scan v hpos
  rw [h, toList_get! _ _ (by omega)]; exact hl

/-- `_adjust_elevation` returns a non-increasing profile, for every input profile -/
theorem adjust1d_mono : MonoOut adjust1d := by
  intro v j hj
  obtain ⟨a, h, hs, hl, hlb, hni⟩ := adjust1d_scan v (by omega)
  rw [← hs] at hj
  rw [h, toList_get! _ _ hj, toList_get! _ _ (Nat.lt_of_succ_lt hj)]
  by_cases hj2 : j + 1 ≤ v.length - 2
  · exact hni j (Nat.zero_le _) hj2
  · rw [show j + 1 = v.length - 1 by omega, hl]; exact hlb j (hs ▸ Nat.lt_of_succ_lt hj)

end Pf.C15
