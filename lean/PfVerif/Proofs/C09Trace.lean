import PfVerif.Model.C09
/-! `collect` / `allCells`; the predicates `FineWF`, `ValidPx`, `PitAt`, `EndsInPit`; the `while True` loops of
`upscale.py` (C09): one loop rule per trace, generic in the invariant, and termination from the distance to the pit;
the walk of `upscale_error` and the relation `NextStop` it computes. -/
namespace Pf

theorem allCells_iff (n : Nat) (p : Nat → Bool) : allCells n p = true ↔ ∀ c < n, p c = true := by
  simp [allCells, List.all_eq_true, List.mem_range]

theorem collect_some {α : Type} [Inhabited α] (n : Nat) (f : Nat → Option α) (a : Array α)
    (h : collect n f = some a) : a.size = n ∧ ∀ c < n, f c = some a[c]! := by
  unfold collect at h
  simp only at h
  split at h
  · rename_i hall
    simp only [Option.some.injEq] at h
    subst h
    refine ⟨by simp, fun c hc => ?_⟩
    rw [List.all_eq_true] at hall
    have hm : f c ∈ (List.range n).map f := List.mem_map.mpr ⟨c, List.mem_range.mpr hc, rfl⟩
    have hs := hall _ hm
    obtain ⟨v, hv⟩ := Option.isSome_iff_exists.mp hs
    simp [hc, hv]
  · cases h

theorem collect_isSome {α : Type} [Inhabited α] (n : Nat) (f : Nat → Option α)
    (h : ∀ c < n, (f c).isSome = true) : (collect n f).isSome = true := by
  unfold collect
  simp only
  rw [if_pos]
  · rfl
  · rw [List.all_eq_true]
    intro o ho
    obtain ⟨c, hc, rfl⟩ := List.mem_map.mp ho
    exact h c (List.mem_range.mp hc)

theorem collect_eq {α : Type} [Inhabited α] (n : Nat) (f : Nat → Option α) (v : Nat → α)
    (h : ∀ c, c < n → f c = some (v c)) :
    ∃ a, collect n f = some a ∧ a.size = n ∧ ∀ c, c < n → a[c]! = v c := by
  have hsome := collect_isSome n f (fun c hc => by rw [h c hc]; rfl)
  obtain ⟨a, ha⟩ := Option.isSome_iff_exists.mp hsome
  obtain ⟨hs, hval⟩ := collect_some n f a ha
  refine ⟨a, ha, hs, fun c hc => ?_⟩
  have := hval c hc
  rw [h c hc] at this
  exact (Option.some.inj this).symm
/-- `collect` over a loop body that skips the cells marked missing -/
theorem collect_ite_some {α : Type} [Inhabited α] {n : Nat} {b : Nat → Prop} [DecidablePred b] {d : α}
    {F : Nat → Option α} {a : Array α} (h : collect n (fun c => if b c then some d else F c) = some a) :
    a.size = n ∧ ∀ c, c < n → (b c → a[c]! = d) ∧ (¬ b c → F c = some a[c]!) := by
  obtain ⟨hs, hf⟩ := collect_some _ _ _ h
  refine ⟨hs, fun c hc => ⟨fun hb => ?_, fun hb => ?_⟩⟩
  · have := hf c hc
    rw [if_pos hb] at this
    exact (Option.some.inj this).symm
  · have := hf c hc
    rwa [if_neg hb] at this

theorem collect_ite_isSome {α : Type} [Inhabited α] {n : Nat} {b : Nat → Prop} [DecidablePred b] {d : α}
    {F : Nat → Option α} (h : ∀ c, c < n → ¬ b c → (F c).isSome = true) :
    (collect n (fun c => if b c then some d else F c)).isSome = true :=
  collect_isSome n _ fun c hc => by
    by_cases hb : b c
    · rw [if_pos hb]; rfl
    · rw [if_neg hb]; exact h c hc hb

/-- valid fine cells point to valid fine cells -/
def FineWF (ds : Array Nat) : Prop :=
  ∀ p, p < ds.size → ds[p]! ≠ ds.size → ds[p]! < ds.size ∧ ds[ds[p]!]! ≠ ds.size

def ValidPx (ds : Array Nat) (p : Nat) : Prop := p < ds.size ∧ ds[p]! ≠ ds.size

theorem FineWF.next {ds : Array Nat} (h : FineWF ds) {p : Nat} (hp : ValidPx ds p) : ValidPx ds ds[p]! :=
  h p hp.1 hp.2

/-- the flow path from `p` is at a pit after `k` steps -/
def PitAt (ds : Array Nat) (k p : Nat) : Prop := ds[iterA ds k p]! = iterA ds k p

/-- following the links of `cds` from cell `c` stays among the `n` cells and ends in a pit: no loop at `c` -/
def EndsInPit (cds : Array Nat) (n c : Nat) : Prop := ∃ k, iterA cds k c < n ∧ PitAt cds k c

theorem PitAt.pred {ds : Array Nat} {k p : Nat} (h : PitAt ds (k+1) p) : PitAt ds k ds[p]! := by
  simpa [PitAt, iterA] using h

/-- a fuel-indexed loop that at every pixel either answers or moves one pixel downstream answers as soon as the
fuel exceeds the distance to the pit -/
theorem total_of_step {σ β : Type} (ds : Array Nat) (F : Nat → σ → Option β) (pix : σ → Nat)
    (h : ∀ f s, (F (f+1) s).isSome = true ∨
      (ds[pix s]! ≠ pix s ∧ ∃ s', pix s' = ds[pix s]! ∧ F (f+1) s = F f s')) :
    ∀ k s, PitAt ds k (pix s) → ∀ fuel, k < fuel → (F fuel s).isSome = true := by
  intro k
  induction k with
  | zero =>
    intro s hp fuel hf
    cases fuel with
    | zero => exact absurd hf (Nat.lt_irrefl 0)
    | succ f => exact (h f s).resolve_right fun hc => hc.1 hp
  | succ k ih =>
    intro s hp fuel hf
    cases fuel with
    | zero => exact absurd hf (Nat.not_lt_zero _)
    | succ f =>
      rcases h f s with h | ⟨_, s', hs', e⟩
      · exact h
      · rw [e]; exact ih s' (hs' ▸ hp.pred) f (Nat.lt_of_succ_lt_succ hf)

/-! ### loop rules

Each `while True` below gets one rule, the only induction over its fuel: an invariant of the current pixel that
survives every step the loop actually takes (the step hypothesis is handed the negated stop test) holds, whenever the
loop returns, at the pixel where it stopped, together with the stop test there. Every other fact about a trace is an
instance of its rule; termination is `total_of_step`. -/

/-! ### `ihu_outlets` -/

/-- loop rule: `P` holds of every pixel visited; the pixel returned lies downstream of the start and is the last one
inside the coarse cell (its downstream pixel lies in another coarse cell, or it is a pit) -/
theorem ihuOutTrace_rule (ds : Array Nat) (cell : Nat → Nat) (idx0 : Nat) (P : Nat → Prop)
    (hP : ∀ p, P p → ds[p]! ≠ p → cell ds[p]! = idx0 → P ds[p]!) :
    ∀ fuel p q, ihuOutTrace ds cell idx0 fuel p = some q → P p →
      P q ∧ (cell ds[q]! ≠ idx0 ∨ ds[q]! = q) ∧ ∃ k, q = iterA ds k p := by
  intro fuel
  induction fuel with
  | zero => intro p q h; cases h
  | succ f ih =>
    intro p q h hp
    simp only [ihuOutTrace] at h
    by_cases hc : idx0 ≠ cell ds[p]! ∨ ds[p]! = p
    · rw [if_pos hc] at h
      cases h
      exact ⟨hp, hc.imp_left fun hne e => hne e.symm, 0, rfl⟩
    · rw [if_neg hc] at h
      obtain ⟨h1, h2, k, hk⟩ := ih _ _ h
        (hP p hp (fun e => hc (Or.inr e)) (Classical.byContradiction fun e => hc (Or.inl fun e' => e e'.symm)))
      exact ⟨h1, h2, k + 1, hk⟩

theorem ihuOutTrace_total (ds : Array Nat) (cell : Nat → Nat) (idx0 : Nat) :
    ∀ k p, PitAt ds k p → ∀ fuel, k < fuel → (ihuOutTrace ds cell idx0 fuel p).isSome = true :=
  total_of_step ds (ihuOutTrace ds cell idx0) id fun f p => by
    simp only [ihuOutTrace, id]
    by_cases hc : idx0 ≠ cell ds[p]! ∨ ds[p]! = p
    · rw [if_pos hc]; exact Or.inl rfl
    · rw [if_neg hc]; exact Or.inr ⟨fun e => hc (Or.inr e), _, rfl, rfl⟩

/-! ### `dmm_nextidx` -/

/-- loop rule: the result is the coarse cell of a pixel that satisfies the invariant; the invariant need only be
carried over a step the loop actually takes -/
theorem dmmTrace_rule (ds : Array Nat) (cell : Nat → Nat) (outside : Nat → Bool) (idx0 : Nat) (P : Nat → Prop)
    (hP : ∀ p, P p → ds[p]! ≠ p → ¬ (cell ds[p]! ≠ idx0 ∧ outside p = true) → P ds[p]!) :
    ∀ fuel p idx r, dmmTrace ds cell outside idx0 fuel p idx = some r → P p → idx = cell p →
      ∃ q, P q ∧ r = cell q := by
  intro fuel
  induction fuel with
  | zero => intro p idx r h; cases h
  | succ f ih =>
    intro p idx r h hp hidx
    simp only [dmmTrace] at h
    by_cases hne : ds[p]! = p
    · rw [if_pos hne] at h
      cases h; exact ⟨p, hp, hidx⟩
    · rw [if_neg hne] at h
      by_cases hc : cell ds[p]! ≠ idx0 ∧ outside p = true
      · rw [if_pos hc] at h
        cases h; exact ⟨p, hp, hidx⟩
      · rw [if_neg hc] at h
        exact ih _ _ _ h (hP p hp hne hc) rfl

theorem dmmTrace_total (ds : Array Nat) (cell : Nat → Nat) (outside : Nat → Bool) (idx0 : Nat) (k p idx : Nat) :
    PitAt ds k p → ∀ fuel, k < fuel → (dmmTrace ds cell outside idx0 fuel p idx).isSome = true :=
  total_of_step ds (fun f (s : Nat × Nat) => dmmTrace ds cell outside idx0 f s.1 s.2) (·.1) (fun f s => by
    simp only [dmmTrace]
    by_cases hne : ds[s.1]! = s.1
    · rw [if_pos hne]; exact Or.inl rfl
    · rw [if_neg hne]
      by_cases hc : cell ds[s.1]! ≠ idx0 ∧ outside s.1 = true
      · rw [if_pos hc]; exact Or.inl rfl
      · rw [if_neg hc]; exact Or.inr ⟨hne, (_, _), rfl, rfl⟩) k (p, idx)

/-! ### `eam_nextidx` -/

/-- loop rule: the result is the coarse cell of the pixel downstream of a pixel `p'` that satisfies the invariant,
and that downstream pixel is where the loop stops: `p'` is a pit, or its downstream pixel is an effective-area pixel
of another coarse cell -/
theorem eamTrace_rule (ds : Array Nat) (ea : Array Bool) (cell : Nat → Nat) (idx0 : Nat) (P : Nat → Prop)
    (hP : ∀ p, P p → ds[p]! ≠ p → ¬ (cell ds[p]! ≠ idx0 ∧ ea[ds[p]!]! = true) → P ds[p]!) :
    ∀ fuel p r, eamTrace ds ea cell idx0 fuel p = some r → P p →
      ∃ p', P p' ∧ r = cell ds[p']! ∧ (ds[p']! = p' ∨ (cell ds[p']! ≠ idx0 ∧ ea[ds[p']!]! = true)) := by
  intro fuel
  induction fuel with
  | zero => intro p r h; cases h
  | succ f ih =>
    intro p r h hp
    simp only [eamTrace] at h
    by_cases hne : ds[p]! = p
    · rw [if_pos hne] at h
      cases h; exact ⟨p, hp, rfl, Or.inl hne⟩
    · rw [if_neg hne] at h
      by_cases hc : cell ds[p]! ≠ idx0 ∧ ea[ds[p]!]! = true
      · rw [if_pos hc] at h
        cases h; exact ⟨p, hp, rfl, Or.inr hc⟩
      · rw [if_neg hc] at h
        exact ih _ _ h (hP p hp hne hc)

theorem eamTrace_total (ds : Array Nat) (ea : Array Bool) (cell : Nat → Nat) (idx0 : Nat) :
    ∀ k p, PitAt ds k p → ∀ fuel, k < fuel → (eamTrace ds ea cell idx0 fuel p).isSome = true :=
  total_of_step ds (eamTrace ds ea cell idx0) id fun f p => by
    simp only [eamTrace, id]
    by_cases hne : ds[p]! = p
    · rw [if_pos hne]; exact Or.inl rfl
    · rw [if_neg hne]
      by_cases hc : cell ds[p]! ≠ idx0 ∧ ea[ds[p]!]! = true
      · rw [if_pos hc]; exact Or.inl rfl
      · rw [if_neg hc]; exact Or.inr ⟨hne, _, rfl, rfl⟩

/-! ### `ihu_nextidx` -/

/-- loop rule: `A` holds of every pixel visited, `B` of those visited before the first effective-area pixel, `C` of
that pixel (the carried `subidx_ds`). The loop stops at a pixel `p'` whose downstream pixel is an outlet pixel or
`p'` itself; the link goes there if that is in the 3×3 neighbourhood, else to the carried pixel and the cell is
flagged. -/
theorem ihuNextTrace_rule (ds out : Array Nat) (ea : Array Bool) (cell : Nat → Nat) (ncol idx0 : Nat)
    (A B C : Nat → Prop) (hA : ∀ p, A p → ds[p]! ≠ p → A ds[p]!)
    (hB : ∀ p, A p → B p → ds[p]! ≠ p → ea[ds[p]!]! ≠ true → B ds[p]!)
    (hC : ∀ p, A p → B p → ds[p]! ≠ p → ea[ds[p]!]! = true → C ds[p]!) :
    ∀ fuel p sd r, ihuNextTrace ds out ea cell ncol idx0 fuel p sd = some r → A p → (sd = none → B p) →
      (∀ q, sd = some q → C q) →
      ∃ p', A p' ∧ (out[cell ds[p']!]! = ds[p']! ∨ ds[p']! = p') ∧
        ((inD8 idx0 (cell ds[p']!) ncol = true ∧ r = (some ds[p']!, decide (out[cell ds[p']!]! ≠ ds[p']!))) ∨
         (inD8 idx0 (cell ds[p']!) ncol = false ∧ r.2 = true ∧ (r.1 = none → B p') ∧ ∀ q, r.1 = some q → C q)) := by
  intro fuel
  induction fuel with
  | zero => intro p sd r h; cases h
  | succ f ih =>
    intro p sd r h hp hnone hsome
    simp only [ihuNextTrace] at h
    by_cases hstop : out[cell ds[p]!]! = ds[p]! ∨ ds[p]! = p
    · rw [if_pos hstop] at h
      refine ⟨p, hp, hstop, ?_⟩
      cases hd : inD8 idx0 (cell ds[p]!) ncol
      · rw [if_pos hd] at h
        cases h; exact Or.inr ⟨rfl, rfl, hnone, hsome⟩
      · rw [if_neg (by rw [hd]; decide)] at h
        cases h; exact Or.inl ⟨rfl, rfl⟩
    · rw [if_neg hstop] at h
      have hne : ds[p]! ≠ p := fun e => hstop (Or.inr e)
      -- the carried pixel changes exactly when the first effective-area pixel is met
      by_cases hc : sd.isNone ∧ ea[ds[p]!]! = true
      · rw [if_pos hc] at h
        have hb := hnone (Option.isNone_iff_eq_none.mp hc.1)
        exact ih _ _ _ h (hA p hp hne) (fun hs => nomatch hs) fun q hq => Option.some.inj hq ▸ hC p hp hb hne hc.2
      · rw [if_neg hc] at h
        exact ih _ _ _ h (hA p hp hne)
          (fun hs => hB p hp (hnone hs) hne fun he => hc ⟨Option.isNone_iff_eq_none.mpr hs, he⟩) hsome

theorem ihuNextTrace_total (ds out : Array Nat) (ea : Array Bool) (cell : Nat → Nat) (ncol idx0 : Nat)
    (k p : Nat) (sd : Option Nat) :
    PitAt ds k p → ∀ fuel, k < fuel → (ihuNextTrace ds out ea cell ncol idx0 fuel p sd).isSome = true :=
  total_of_step ds (fun f (s : Nat × Option Nat) => ihuNextTrace ds out ea cell ncol idx0 f s.1 s.2) (·.1)
    (fun f s => by
      simp only [ihuNextTrace]
      by_cases hc : out[cell ds[s.1]!]! = ds[s.1]! ∨ ds[s.1]! = s.1
      · rw [if_pos hc]; exact Or.inl (by split <;> rfl)
      · rw [if_neg hc]; exact Or.inr ⟨fun e => hc (Or.inr e), (_, _), rfl, rfl⟩) k (p, sd)

/-- every pixel a link is derived from is a valid pixel, and the link of a cell that is not flagged goes to the cell
of the next outlet pixel downstream, inside the 3×3 neighbourhood -/
theorem ihuNextTrace_valid (ds out : Array Nat) (ea : Array Bool) (cell : Nat → Nat) (ncol idx0 : Nat)
    (hwf : FineWF ds) {fuel p : Nat} {r : Option Nat × Bool}
    (h : ihuNextTrace ds out ea cell ncol idx0 fuel p none = some r) (hp : ValidPx ds p) :
    (∀ q, r.1 = some q → ValidPx ds q) ∧
    (r.2 = false → ∃ q, r.1 = some q ∧ inD8 idx0 (cell q) ncol = true ∧ out[cell q]! = q) := by
  obtain ⟨p', hv, _, hr⟩ := ihuNextTrace_rule ds out ea cell ncol idx0 (ValidPx ds) (fun _ => True) (ValidPx ds)
    (fun p hv _ => hwf.next hv) (fun _ _ _ _ _ => trivial) (fun p hv _ _ _ => hwf.next hv) _ _ _ _ h hp
    (fun _ => trivial) (fun q hq => nomatch hq)
  rcases hr with ⟨hd, rfl⟩ | ⟨_, hfl, _, hs⟩
  · exact ⟨fun q hq => Option.some.inj hq ▸ hwf.next hv, fun hf => ⟨_, rfl, hd, by simpa using hf⟩⟩
  · exact ⟨hs, fun hf => absurd (hf.symm.trans hfl) Bool.false_ne_true⟩

/-- a successful run of `ihu_nextidx`, cell by cell: a cell without outlet pixel gets no link and no flag; else the
link is the cell of the pixel the trace returns (missing if it returns none) and the cell is listed iff flagged -/
theorem ihuNextidx_some {ds out cds : Array Nat} {ea : Array Bool} {subncol cs ncol : Nat} {fix : List Nat}
    (h : ihuNextidx ds out ea subncol cs ncol = some (cds, fix)) {n : Nat} (hn : out.size = n) :
    cds.size = n ∧ ∀ c, c < n →
      (out[c]! = ds.size → cds[c]! = n ∧ c ∉ fix) ∧
      (out[c]! ≠ ds.size → ∃ r,
        ihuNextTrace ds out ea (fun q => subidx2idx q subncol cs ncol) ncol c (ds.size + 1) out[c]! none = some r ∧
        (∀ q, r.1 = some q → cds[c]! = subidx2idx q subncol cs ncol) ∧ (r.1 = none → cds[c]! = n) ∧
        (c ∈ fix ↔ r.2 = true)) := by
  subst hn
  unfold ihuNextidx at h
  simp only [Option.map_eq_some_iff, Prod.mk.injEq] at h
  obtain ⟨a, ha, rfl, rfl⟩ := h
  obtain ⟨hsa, hf⟩ := collect_ite_some ha
  refine ⟨by rw [Array.size_map, hsa], fun c hc => ?_⟩
  have hca : c < a.size := hsa ▸ hc
  have e1 : (a.map (·.1))[c]! = a[c]!.1 := by
    rw [getElem!_pos (a.map (·.1)) c (by simpa using hca), getElem!_pos a c hca, Array.getElem_map]
  have e2 : c ∈ (List.range a.size).filter (fun c => a[c]!.2) ↔ a[c]!.2 = true := by
    simp only [List.mem_filter, List.mem_range, hca, true_and]
  rw [e1, e2]
  refine ⟨fun ho => ?_, fun ho => ?_⟩
  · rw [(hf c hc).1 ho]; exact ⟨rfl, Bool.false_ne_true⟩
  · obtain ⟨r, hr, hra⟩ := Option.map_eq_some_iff.mp ((hf c hc).2 ho)
    refine ⟨r, hr, fun q hq => ?_, fun hq => ?_, by rw [← hra]⟩ <;> rw [← hra, hq]

/-! ### `upscale_error`: the walk and the relation it computes -/

/-- `NextStop ds isOut p q`: `q` is the first pixel strictly downstream of `p` that is an outlet pixel, or the pit
in which the flow path ends if no outlet pixel is met before -/
inductive NextStop (ds : Array Nat) (isOut : Nat → Prop) : Nat → Nat → Prop
  | stop (p : Nat) : isOut ds[p]! ∨ ds[p]! = p → NextStop ds isOut p ds[p]!
  | step (p q : Nat) : ¬ isOut ds[p]! → ds[p]! ≠ p → NextStop ds isOut ds[p]! q → NextStop ds isOut p q

theorem NextStop.inv {ds : Array Nat} {isOut : Nat → Prop} {p q : Nat} (h : NextStop ds isOut p q) :
    ((isOut ds[p]! ∨ ds[p]! = p) ∧ q = ds[p]!) ∨
    (¬ isOut ds[p]! ∧ ds[p]! ≠ p ∧ NextStop ds isOut ds[p]! q) := by
  cases h with
  | stop _ h1 => exact Or.inl ⟨h1, rfl⟩
  | step _ _ h1 h2 h3 => exact Or.inr ⟨h1, h2, h3⟩

/-- the relation is functional -/
theorem NextStop.unique {ds : Array Nat} {isOut : Nat → Prop} {p q q' : Nat}
    (h1 : NextStop ds isOut p q) (h2 : NextStop ds isOut p q') : q = q' := by
  induction h1 generalizing q' with
  | stop p hs =>
    rcases h2.inv with ⟨_, h⟩ | ⟨hn, hp, _⟩
    · exact h.symm
    · rcases hs with hs | hs
      · exact absurd hs hn
      · exact absurd hs hp
  | step p q hn hp _ ih =>
    rcases h2.inv with ⟨hs, _⟩ | ⟨_, _, h⟩
    · rcases hs with hs | hs
      · exact absurd hs hn
      · exact absurd hs hp
    · exact ih h

theorem NextStop.congr {ds : Array Nat} {P Q : Nat → Prop} (hPQ : ∀ x, P x ↔ Q x) {p q : Nat}
    (h : NextStop ds P p q) : NextStop ds Q p q := by
  induction h with
  | stop p hs => exact NextStop.stop p (hs.imp (hPQ _).mp id)
  | step p q hn hp _ ih => exact NextStop.step p q (fun e => hn ((hPQ _).mpr e)) hp ih

/-- what is reached is an outlet pixel or a pit -/
theorem NextStop.target {ds : Array Nat} {isOut : Nat → Prop} {p q : Nat} (h : NextStop ds isOut p q) :
    isOut q ∨ ds[q]! = q := by
  induction h with
  | stop p hs =>
    rcases hs with hs | hs
    · exact Or.inl hs
    · exact Or.inr (by rw [hs, hs])
  | step _ _ _ _ _ ih => exact ih

theorem errWalk_sound (ds : Array Nat) (isOut : Nat → Bool) :
    ∀ fuel p q, errWalk ds isOut fuel p = some q → NextStop ds (fun x => isOut x = true) p q := by
  intro fuel
  induction fuel with
  | zero => intro p q h; simp [errWalk] at h
  | succ f ih =>
    intro p q h
    simp only [errWalk] at h
    by_cases hc : isOut ds[p]! = true ∨ ds[p]! = p
    · rw [if_pos hc] at h
      cases h
      exact NextStop.stop p hc
    · rw [if_neg hc] at h
      exact NextStop.step p q (fun e => hc (Or.inl e)) (fun e => hc (Or.inr e)) (ih _ _ h)

theorem errWalk_total (ds : Array Nat) (isOut : Nat → Bool) :
    ∀ k p, PitAt ds k p → ∀ fuel, k < fuel → (errWalk ds isOut fuel p).isSome = true :=
  total_of_step ds (errWalk ds isOut) id fun f p => by
    simp only [errWalk, id]
    by_cases hc : isOut ds[p]! = true ∨ ds[p]! = p
    · rw [if_pos hc]; exact Or.inl rfl
    · rw [if_neg hc]; exact Or.inr ⟨fun e => hc (Or.inr e), _, rfl, rfl⟩

/-- the pixel the walk returns against a target `t`, for any predicate `Q` the boolean test decides -/
theorem errWalk_flag {ds : Array Nat} {isOut : Nat → Bool} {Q : Nat → Prop} (hQ : ∀ x, isOut x = true ↔ Q x)
    {fuel p q : Nat} (h : errWalk ds isOut fuel p = some q) (t : Nat) :
    (q = t ↔ NextStop ds Q p t) ∧ (q ≠ t ↔ ∃ q', NextStop ds Q p q' ∧ q' ≠ t) := by
  have hs := (errWalk_sound ds isOut fuel p q h).congr hQ
  refine ⟨⟨fun e => e ▸ hs, fun ht => hs.unique ht⟩, ⟨fun ne => ⟨q, hs, ne⟩, ?_⟩⟩
  rintro ⟨q', h1, h2⟩
  rw [hs.unique h1]; exact h2

/-- reading the flag `v` of a cell that has a link (`link ≠ noLink`) and an outlet pixel (`px ≠ noPx`): `1` iff the
walk ends at the target `t`, `0` iff it ends elsewhere, never `255` -/
theorem errFlag_spec {q t link noLink px noPx v : Nat} {N M : Prop} (hv : v = if q ≠ t then 0 else 1)
    (h1 : link ≠ noLink) (h2 : px ≠ noPx) (w : (q = t ↔ N) ∧ (q ≠ t ↔ M)) :
    (v = 255 ↔ (link = noLink ∨ px = noPx)) ∧ (v = 1 ↔ (link ≠ noLink ∧ px ≠ noPx ∧ N)) ∧
    (v = 0 ↔ (link ≠ noLink ∧ px ≠ noPx ∧ M)) := by
  rw [← w.1, ← w.2, hv]
  by_cases hqt : q = t <;> simp [hqt, h1, h2]

/-- the `outlets` mask of `upscale_error` is the characteristic function of the reported outlet pixels -/
theorem outletMask_spec (subn : Nat) (out : Array Nat) (q : Nat) :
    (outletMask subn out)[q]! = true ↔ q < subn ∧ q ∈ out.toList := by
  unfold outletMask
  suffices h : ∀ (l : List Nat) (m : Array Bool), m.size = subn →
      ((l.foldl (fun m p => if p = subn then m else m.setIfInBounds p true) m)[q]! = true ↔
        (m[q]! = true ∨ (q < subn ∧ q ∈ l))) by
    rw [h out.toList (Array.replicate subn false) Array.size_replicate]
    refine ⟨fun h0 => h0.resolve_left fun h1 => ?_, Or.inr⟩
    by_cases hq : q < subn <;> simp [hq] at h1
  intro l
  induction l with
  | nil => intro m _; simp
  | cons a l ih =>
    intro m hm
    -- one pixel: the mask gains `a` unless `a` is the missing value (which is not `< subn`)
    have step : (if a = subn then m else m.setIfInBounds a true)[q]! = true ↔ m[q]! = true ∨ (q < subn ∧ q = a) := by
      split
      · exact ⟨Or.inl, fun h => h.resolve_right fun h1 => by omega⟩
      · rw [get!_setIfInBounds, hm]
        by_cases hc : a = q ∧ a < subn
        · rw [if_pos hc]; exact ⟨fun _ => Or.inr ⟨hc.1 ▸ hc.2, hc.1.symm⟩, fun _ => rfl⟩
        · rw [if_neg hc]; exact ⟨Or.inl, fun h => h.resolve_right fun h1 => hc ⟨h1.2.symm, h1.2 ▸ h1.1⟩⟩
    rw [List.foldl_cons, ih _ (by split <;> simp [hm]), step, List.mem_cons, or_assoc, and_or_left]

end Pf
