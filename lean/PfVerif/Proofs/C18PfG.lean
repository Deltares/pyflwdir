import PfVerif.Proofs.C18PfStem
/-! Pfafstetter, joint invariant: the global invariant `PfG` of the worklist loop
(partition invariant + distinct outlets carry distinct codes + every coded cell has a coded downstream
cell), the chain structure of the cells carrying one code that follows from it, and its preservation by
a sub-basin fill (`step_sub`) and by an inter-basin fill (`step_int`). -/
namespace Pf.C18
open Pf

/-- global invariant of `pfaf_branch` / `idxs` -/
structure PfG (ds usMain : Array Nat) (so br : Array Int) (idxs : List Nat) : Prop where
  inv : PfafInv ds usMain so br idxs
  inj : ∀ o ∈ idxs, ∀ o' ∈ idxs, br[o]! = br[o']! → o = o'
  dn : ∀ s, s < ds.size → br[s]! ≠ 0 → br[ds[s]!]! ≠ 0

variable {ds usMain : Array Nat} {seq : List Nat} {uparea so br : Array Int} {idxs : List Nat}

theorem PfG.lt (g : PfG ds usMain so br idxs) {s : Nat} (h : br[s]! ≠ 0) : s < ds.size := by
  rw [← g.inv.size]
  exact Decidable.byContradiction fun hs => h (by simp [hs])

theorem PfG.coded_mem (g : PfG ds usMain so br idxs) (c : PfCtx ds usMain seq uparea) {s : Nat}
    (h : br[s]! ≠ 0) : s ∈ seq :=
  c.hall s (g.lt h) (g.lt (g.dn s (g.lt h) h))

/-- a new outlet with a fresh code, the old outlets keeping theirs -/
theorem PfG.inj_snoc (g : PfG ds usMain so br idxs) {r : Array Int} {x : Nat} {v : Int}
    (hold : ∀ o ∈ idxs, r[o]! = br[o]!) (hx : r[x]! = v) (hfresh : ∀ s : Nat, br[s]! ≠ v) :
    ∀ o ∈ idxs ++ [x], ∀ o' ∈ idxs ++ [x], r[o]! = r[o']! → o = o' := by
  intro o ho o' ho' heq
  simp only [List.mem_append, List.mem_singleton] at ho ho'
  rcases ho with ho | ho <;> rcases ho' with ho' | ho'
  · rw [hold o ho, hold o' ho'] at heq
    exact g.inj o ho o' ho' heq
  · subst ho'
    rw [hold o ho, hx] at heq
    exact absurd heq (hfresh o)
  · subst ho
    rw [hold o' ho', hx] at heq
    exact absurd heq.symm (hfresh o')
  · rw [ho, ho']

theorem PfG.init (ds usMain : Array Nat) (so : Array Int) :
    PfG ds usMain so (Array.replicate ds.size 0) [] where
  inv := PfafInv.init ds usMain so
  inj := by simp
  dn := fun s _ hs => absurd (get!_replicate ds.size s (.inr rfl)) hs

/-- every coded cell is a main-upstream iterate of a returned outlet, and all
cells in between carry the same code -/
theorem PfG.chain (g : PfG ds usMain so br idxs) (c : PfCtx ds usMain seq uparea) :
    ∀ s ∈ seq, br[s]! ≠ 0 → ∃ o ∈ idxs, ∃ m, s = iterU usMain m o ∧
      ∀ k, k ≤ m → br[iterU usMain k o]! = br[s]! := by
  refine c.topo.induction _ (fun s hs ih hne => ?_)
  by_cases hmem : s ∈ idxs
  · refine ⟨s, hmem, 0, rfl, fun k hk => ?_⟩
    have : k = 0 := by omega
    subst this; rfl
  · obtain ⟨h1, h2, h3, _⟩ := g.inv.down s (c.hb s hs) hne hmem
    obtain ⟨o, ho, m, hm, hk⟩ := (ih h1).2 (by rw [h2]; exact hne)
    refine ⟨o, ho, m + 1, ?_, fun k hk' => ?_⟩
    · rw [iterU_succ', ← hm, h3]
    · by_cases hkm : k ≤ m
      · rw [hk k hkm, h2]
      · have : k = m + 1 := by omega
        subst this
        rw [iterU_succ', ← hm, h3]

/-- two cells with the same code: the one with the smaller (or equal) upstream area is the other one
or lies above it on the main stem, all cells in between carrying the code too -/
theorem PfG.chain_above (g : PfG ds usMain so br idxs) (c : PfCtx ds usMain seq uparea)
    {a d : Nat} {w : Int} (ha : a ∈ seq) (hd : d ∈ seq) (hw : w ≠ 0) (hca : br[a]! = w)
    (hcd : br[d]! = w) (hle : uparea[a]! ≤ uparea[d]!) :
    a = d ∨ ∃ j, a = iterU usMain j usMain[d]! ∧
      ∀ j', j' ≤ j → br[iterU usMain j' usMain[d]!]! = w := by
  obtain ⟨o, ho, m, hm, hk⟩ := g.chain c a ha (by rw [hca]; exact hw)
  obtain ⟨o', ho', m', hm', hk'⟩ := g.chain c d hd (by rw [hcd]; exact hw)
  have hoo : o = o' := by
    apply g.inj o ho o' ho'
    have h1 := hk 0 (Nat.zero_le _)
    have h2 := hk' 0 (Nat.zero_le _)
    simp only [iterU] at h1 h2
    rw [h1, h2, hca, hcd]
  subst hoo
  rw [hca] at hk
  rw [hcd] at hk'
  by_cases hmm : m ≤ m'
  · left
    have hd' : d = iterU usMain (m' - m) a := by
      rw [hm, ← iterU_add, hm']; congr 1; omega
    have hlt : ∀ k, k ≤ m' - m → iterU usMain k a < ds.size := by
      intro k hk2
      rw [hm, ← iterU_add]
      exact g.lt (by rw [hk' (m + k) (by omega)]; exact hw)
    have hu := c.upa_iterU (x := a) (m' - m) hlt
    rw [← hd'] at hu
    by_cases h0 : m' - m = 0
    · rw [h0] at hd'; exact hd'.symm
    · have := hu.2 (by omega); omega
  · right
    refine ⟨m - m' - 1, ?_, fun j' hj' => ?_⟩
    · have : a = iterU usMain (m - m' - 1 + 1) d := by
        rw [hm, hm', ← iterU_add]; congr 1; omega
      rw [this]; rfl
    · have : iterU usMain j' usMain[d]! = iterU usMain (m' + (j' + 1)) o := by
        rw [iterU_add, ← hm']; rfl
      rw [this]
      exact hk _ (by omega)

/-! ### a sub-basin (or pit) fill -/

/-- The third part says that every written cell is reached from `x` by main-upstream steps through uncoded stream
cells: whatever holds of `x` and is inherited along such steps holds of all written cells (used for the stream
orders of a new stem, `SoRaw.stem`). -/
theorem PfG.step_sub (g : PfG ds usMain so br idxs)
    (hus : ∀ i, i < ds.size → usMain[i]! < ds.size → usMain[i]! ≠ i ∧ ds[usMain[i]!]! = i)
    {x : Nat} (hx : x < ds.size) (hx0 : br[x]! = 0) (hdx : ds[x]! = x ∨ br[ds[x]!]! ≠ 0)
    {v : Int} (hv : v ≠ 0) (hfresh : ∀ s : Nat, br[s]! ≠ v) {f : Nat} {r : Array Int}
    (hr : stemFill usMain ds.size (fun u _ => so[u]! == 0) v f x (br.setIfInBounds x v) = some r) :
    PfG ds usMain so r (idxs ++ [x]) ∧
    (∀ s, r[s]! = br[s]! ∨ (r[s]! = v ∧ br[s]! = 0 ∧ (s = x ∨ (ds[s]! ≠ s ∧ br[ds[s]!]! = 0)))) ∧
    (∀ P : Nat → Prop, P x →
      (∀ s, s ≠ x → s < ds.size → ds[s]! < ds.size → br[s]! = 0 → P ds[s]! → usMain[ds[s]!]! = s →
        so[s]! ≠ 0 → P s) →
      ∀ s, r[s]! ≠ br[s]! → P s) := by
  obtain ⟨T, hTx, hTlt, hTout, hTin, hTw, _, hTk⟩ :=
    stemFill_spec ds usMain hus _ v f x _ r hx (by simp [g.inv.size])
      (get!_set_self (by rw [g.inv.size]; exact hx) v) hr
  have hrT : ∀ s, ¬ T s → r[s]! = br[s]! := fun s hs => by
    rw [hTout s hs, get!_set_ne (fun hc : s = x => hs (hc ▸ hTx))]
  have hk0 : ∀ k, (∀ j, j ≤ k → T (iterU usMain j x)) → br[iterU usMain k x]! = 0 := by
    intro k
    induction k with
    | zero => intro _; exact hx0
    | succ k ih =>
      intro hj
      have h0 := ih (fun j hj' => hj j (by omega))
      have hc := hTlt _ (hj k (by omega))
      have hs := hTlt _ (hj (k + 1) (Nat.le_refl _))
      rw [iterU_succ'] at hs ⊢
      obtain ⟨_, h2⟩ := hus _ hc hs
      apply Classical.byContradiction
      intro hne
      have := g.dn _ hs hne
      rw [h2] at this
      exact this h0
  have hTz : ∀ s, T s → br[s]! = 0 := by
    intro s hs
    obtain ⟨k, hk, hkj⟩ := hTk s hs
    rw [hk]; exact hk0 k hkj
  have hold : ∀ o ∈ idxs, ¬ T o := fun o ho ht => (g.inv.out o ho).2 (hTz o ht)
  refine ⟨⟨g.inv.step_sub hus hx hv hr, ?_, ?_⟩, fun s => ?_, fun P hPx hPs s hs => ?_⟩
  rotate_left 3
  · -- closure: every written cell is reached from `x` along main-upstream steps through stream cells
    have hTs : T s := Classical.byContradiction fun hn => hs (hrT s hn)
    obtain ⟨k, hk, hkj⟩ := hTk s hTs
    rw [hk]
    clear hk hs hTs
    induction k with
    | zero => exact hPx
    | succ k ih =>
      have h0 := ih (fun j hj' => hkj j (by omega))
      have hc := hTlt _ (hkj k (by omega))
      have hT1 := hkj (k + 1) (Nat.le_refl _)
      have hs1 := hTlt _ hT1
      rw [iterU_succ'] at hT1 hs1 ⊢
      by_cases hsx : usMain[iterU usMain k x]! = x
      · rw [hsx]; exact hPx
      · obtain ⟨_, h2⟩ := hus _ hc hs1
        obtain ⟨_, _, h5, h6⟩ := hTw _ hT1 hsx
        refine hPs _ hsx hs1 (by rw [h2]; exact hc) (hTz _ hT1) (by rw [h2]; exact h0) h5 ?_
        simpa using h6
  · exact g.inj_snoc (fun o ho => hrT o (hold o ho)) (hTin _ hTx) hfresh
  · have hne0 : ∀ s : Nat, br[s]! ≠ 0 → r[s]! ≠ 0 := fun s hs => by
      rw [hrT s fun ht => hs (hTz s ht)]; exact hs
    intro s hs hne
    by_cases ht : T s
    · by_cases hsx : s = x
      · subst hsx
        rcases hdx with hd | hd
        · rw [hd]; exact hne
        · exact hne0 _ hd
      · rw [hTin _ (hTw s ht hsx).2.1]; exact hv
    · rw [hrT s ht] at hne
      exact hne0 _ (g.dn s hs hne)
  · by_cases ht : T s
    · right
      refine ⟨hTin s ht, hTz s ht, ?_⟩
      by_cases hsx : s = x
      · exact Or.inl hsx
      · obtain ⟨h1, h2, _, _⟩ := hTw s ht hsx
        exact Or.inr ⟨h1, hTz _ h2⟩
    · exact Or.inl (hrT s ht)

/-! ### an inter-basin fill -/

theorem PfG.step_int (g : PfG ds usMain so br idxs) (c : PfCtx ds usMain seq uparea)
    {d : Nat} (hd : d ∈ seq) (hu : usMain[d]! < ds.size) (hni : usMain[d]! ∉ idxs)
    {w v : Int} (hw : w ≠ 0) (hcd : br[d]! = w) (hv : v ≠ 0) (hfresh : ∀ s : Nat, br[s]! ≠ v)
    {f : Nat} {r : Array Int}
    (hr : stemFill usMain ds.size (fun _ y => y != w) v f usMain[d]!
      (br.setIfInBounds usMain[d]! v) = some r) :
    PfG ds usMain so r (idxs ++ [usMain[d]!]) ∧
    (br[usMain[d]!]! = 0 ∨ br[usMain[d]!]! = w) ∧
    (∀ s, r[s]! = br[s]! ∨
      (r[s]! = v ∧ (s = usMain[d]! ∨ br[s]! = w) ∧ uparea[s]! < uparea[d]!)) ∧
    (∀ a ∈ seq, br[a]! = w → uparea[a]! ≤ uparea[d]! → a = d ∨ r[a]! = v) ∧
    (∀ o ∈ idxs, r[o]! = br[o]!) ∧ r[usMain[d]!]! = v := by
  obtain ⟨x, hxe⟩ : ∃ x, x = usMain[d]! := ⟨_, rfl⟩
  rw [← hxe] at hu hni hr ⊢
  have hdlt := c.hb d hd
  have hxs : x ∈ seq ∧ ds[x]! = d ∧ x ≠ d ∧ uparea[x]! < uparea[d]! := by
    rw [hxe]; exact c.ustep hdlt (hxe ▸ hu)
  have hpre : br[x]! = 0 ∨ br[x]! = w := by
    by_cases hz : br[x]! = 0
    · exact Or.inl hz
    · right
      obtain ⟨_, h2, _, _⟩ := g.inv.down x hu hz hni
      rw [hxs.2.1] at h2
      rw [← h2]; exact hcd
  obtain ⟨T, hTx, hTlt, hTout, hTin, hTw, hTc, hTk⟩ :=
    stemFill_spec ds usMain c.hus _ v f x _ r hu (by simp [g.inv.size])
      (get!_set_self (by rw [g.inv.size]; exact hu) v) hr
  have hrT : ∀ s, ¬ T s → r[s]! = br[s]! := fun s hs => by
    rw [hTout s hs, get!_set_ne (fun hc : s = x => hs (hc ▸ hTx))]
  have hTcode : ∀ s, T s → s ≠ x → br[s]! = w := by
    intro s hs hsx
    have := (hTw s hs hsx).2.2.2
    rw [get!_set_ne hsx] at this
    simpa using this
  have hTupa : ∀ s, T s → uparea[s]! < uparea[d]! := by
    intro s hs
    obtain ⟨k, hk, hkj⟩ := hTk s hs
    have := (c.upa_iterU (x := x) k (fun j hj => hTlt _ (hkj j hj))).1
    rw [← hk] at this
    have := hxs.2.2.2
    omega
  have hold : ∀ o ∈ idxs, ¬ T o := by
    intro o ho ht
    have hox : o ≠ x := fun hc => hni (hc ▸ ho)
    have hco := hTcode o ht hox
    obtain ⟨o', ho', m, hm, hk⟩ := g.chain c d hd (by rw [hcd]; exact hw)
    rw [hcd] at hk
    have hoo : o' = o := by
      apply g.inj o' ho' o ho
      have h1 := hk 0 (Nat.zero_le _)
      simp only [iterU] at h1
      rw [h1, hco]
    subst hoo
    have := (c.upa_iterU (x := o') m (fun k hk' => g.lt (by rw [hk k hk']; exact hw))).1
    rw [← hm] at this
    have := hTupa o' ht
    omega
  have hne0 : ∀ s : Nat, br[s]! ≠ 0 → r[s]! ≠ 0 := by
    intro s hs
    by_cases ht : T s
    · rw [hTin s ht]; exact hv
    · rw [hrT s ht]; exact hs
  refine ⟨⟨g.inv.step_int c.hus hu hv hw hpre hr, ?_, ?_⟩, hpre, fun s => ?_, fun a ha hca hle => ?_,
    fun o ho => hrT o (hold o ho), hTin _ hTx⟩
  · exact g.inj_snoc (fun o ho => hrT o (hold o ho)) (hTin _ hTx) hfresh
  · intro s hs hne
    by_cases ht : T s
    · by_cases hsx : s = x
      · rw [hsx, hxs.2.1]
        exact hne0 d (by rw [hcd]; exact hw)
      · rw [hTin _ (hTw s ht hsx).2.1]; exact hv
    · rw [hrT s ht] at hne
      exact hne0 _ (g.dn s hs hne)
  · by_cases ht : T s
    · right
      refine ⟨hTin s ht, ?_, hTupa s ht⟩
      by_cases hsx : s = x
      · exact Or.inl hsx
      · exact Or.inr (hTcode s ht hsx)
    · exact Or.inl (hrT s ht)
  · rcases g.chain_above c ha hd hw hca hcd hle with h | ⟨j, hj, hjc⟩
    · exact Or.inl h
    · right
      rw [← hxe] at hj hjc
      have hall : ∀ j', j' ≤ j → T (iterU usMain j' x) := by
        intro j'
        induction j' with
        | zero => intro _; exact hTx
        | succ j' ih =>
          intro hj'
          have h1 := ih (by omega)
          have hcode := hjc (j' + 1) hj'
          rw [iterU_succ'] at hcode ⊢
          have hlt : usMain[iterU usMain j' x]! < ds.size := g.lt (by rw [hcode]; exact hw)
          by_cases hux : usMain[iterU usMain j' x]! = x
          · rw [hux]; exact hTx
          · rcases hTc _ h1 hlt with h2 | h2
            · exact h2
            · exfalso
              rw [get!_set_ne hux, hcode] at h2
              simp at h2
      rw [hj]; exact hTin _ (hall j (Nat.le_refl _))

end Pf.C18
