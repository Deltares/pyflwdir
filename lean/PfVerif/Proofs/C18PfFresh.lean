import PfVerif.Proofs.C18Part
/-! Pfafstetter, joint invariant: fresh codes. Every pending entry `(c, d)` of `labs`
owns the block `[c, c + 10^(depth-d+1))`; blocks are pairwise disjoint and contain no code of
`pfaf_branch` other than their root. While `pfInner (pfaf0, d0)` runs, the not yet used part
`[lo, hi)` of the popped block is free of codes and of pending blocks. Pure interval arithmetic. -/
namespace Pf.C18
open Pf

/-- size of the block owned by a pending entry of level `d` -/
def Bsz (depth d : Nat) : Int := (10 : Int) ^ (depth - d + 1)

/-- every pending entry `(c, d)` owns the block `[c, c + Bsz depth d)`: no cell carries a code of the block other than
its root `c` (`fa`), blocks are pairwise disjoint (`fb`) -/
structure PfFresh (depth : Nat) (br : Array Int) (labs : List (Int × Nat)) : Prop where
  fa : ∀ e ∈ labs, ∀ s : Nat, e.1 ≤ br[s]! → br[s]! < e.1 + Bsz depth e.2 → br[s]! = e.1
  fb : labs.Pairwise (fun e e' => e.1 + Bsz depth e.2 ≤ e'.1 ∨ e'.1 + Bsz depth e'.2 ≤ e.1)

/-- while the popped block is processed: its unused part `[lo, hi)` meets no pending block (`i1`) and holds no code
of a cell (`i2`) -/
structure PfFreshIn (depth : Nat) (br : Array Int) (labs : List (Int × Nat)) (lo hi : Int) : Prop
    extends PfFresh depth br labs where
  i1 : ∀ e ∈ labs, e.1 + Bsz depth e.2 ≤ lo ∨ hi ≤ e.1
  i2 : ∀ s : Nat, br[s]! < lo ∨ hi ≤ br[s]!

variable {depth : Nat} {br r : Array Int} {labs : List (Int × Nat)} {lo hi : Int}

theorem Bsz_pos (depth d : Nat) : 0 < Bsz depth d := Int.pow_pos (by decide)

/-- the next unused code is carried by no cell and is the root of no pending block -/
theorem PfFreshIn.ne_lo (h : PfFreshIn depth br labs lo hi) (hlt : lo < hi) (s : Nat) : br[s]! ≠ lo := by
  rcases h.i2 s with h1 | h1 <;> omega

theorem PfFreshIn.lab_ne_lo (h : PfFreshIn depth br labs lo hi) (hlt : lo < hi) :
    ∀ en ∈ labs, en.1 ≠ lo := by
  intro en hen
  have := Bsz_pos depth en.2
  rcases h.i1 en hen with h1 | h1 <;> omega

theorem PfFreshIn.mono (h : PfFreshIn depth br labs lo hi) {lo' : Int} (hle : lo ≤ lo') :
    PfFreshIn depth br labs lo' hi where
  fa := h.fa
  fb := h.fb
  i1 := fun e he => by rcases h.i1 e he with h1 | h1 <;> omega
  i2 := fun s => by rcases h.i2 s with h1 | h1 <;> omega

/-- when all codes and pending blocks lie below `lo`, everything from `lo` on is unused -/
theorem PfFresh.above (h : PfFresh depth br labs) (h1 : ∀ e ∈ labs, e.1 + Bsz depth e.2 ≤ lo)
    (h2 : ∀ s : Nat, br[s]! < lo) : PfFreshIn depth br labs lo hi :=
  ⟨h, fun e he => Or.inl (h1 e he), fun s => Or.inl (h2 s)⟩

/-- the unused part of the popped block may also be cut from above -/
theorem PfFreshIn.mono_hi (h : PfFreshIn depth br labs lo hi) {hi' : Int}
    (h1 : ∀ e ∈ labs, e.1 + Bsz depth e.2 ≤ lo) (h2 : ∀ s : Nat, br[s]! < lo) :
    PfFreshIn depth br labs lo hi' :=
  h.toPfFresh.above h1 h2

theorem mem_push {α : Type} {b : Prop} [Decidable b] {labs : List α} {x en : α}
    (h : en ∈ (if b then labs ++ [x] else labs)) : en ∈ labs ∨ (b ∧ en = x) := by
  split at h
  · rename_i hb
    rcases List.mem_append.1 h with h | h
    · exact Or.inl h
    · exact Or.inr ⟨hb, by simpa using h⟩
  · exact Or.inl h

/-- writing the code `lo` (and nothing else), and optionally queueing it with the block `[lo, lo+p)` -/
theorem PfFreshIn.write (h : PfFreshIn depth br labs lo hi) {p : Int} (hp : 0 < p) (hle : lo + p ≤ hi)
    (hr : ∀ s : Nat, r[s]! = br[s]! ∨ r[s]! = lo) (b : Prop) [Decidable b] (d : Nat)
    (hB : b → Bsz depth d = p) :
    PfFreshIn depth r (if b then labs ++ [(lo, d)] else labs) (lo + p) hi := by
  refine ⟨⟨fun e he s h1 h2 => ?_, ?_⟩, fun e he => ?_, fun s => ?_⟩
  · rcases mem_push he with he | ⟨hb, rfl⟩
    · rcases hr s with h3 | h3
      · rw [h3] at h1 h2 ⊢; exact h.fa e he s h1 h2
      · rw [h3] at h1 h2
        rcases h.i1 e he with h4 | h4 <;> omega
    · simp only at h1 h2 ⊢
      rw [hB hb] at h2
      rcases hr s with h3 | h3
      · rw [h3] at h1 h2
        rcases h.i2 s with h4 | h4 <;> omega
      · exact h3
  · split
    · rename_i hb
      rw [List.pairwise_append]
      refine ⟨h.fb, by simp, fun e he e' he' => ?_⟩
      simp only [List.mem_singleton] at he'
      subst he'
      simp only
      rw [hB hb]
      rcases h.i1 e he with h4 | h4
      · exact Or.inl h4
      · exact Or.inr (by omega)
    · exact h.fb
  · rcases mem_push he with he | ⟨hb, rfl⟩
    · rcases h.i1 e he with h4 | h4
      · exact Or.inl (by omega)
      · exact Or.inr h4
    · simp only
      rw [hB hb]
      exact Or.inl (Int.le_refl _)
  · rcases hr s with h3 | h3
    · rw [h3]; rcases h.i2 s with h4 | h4 <;> omega
    · rw [h3]; omega

/-- writing the code `lo` above everything and queueing it with the block `[lo, lo + p)`: again everything lies
below the next code `lo + p` -/
theorem PfFresh.write_top {depth : Nat} {br r : Array Int} {labs : List (Int × Nat)} {lo p : Int}
    (h : PfFresh depth br labs) (hA : ∀ e ∈ labs, e.1 + Bsz depth e.2 ≤ lo)
    (hB : ∀ s : Nat, br[s]! < lo) (hp : 0 < p) (hr : ∀ s : Nat, r[s]! = br[s]! ∨ r[s]! = lo)
    (d : Nat) (hBd : Bsz depth d = p) :
    PfFresh depth r (labs ++ [(lo, d)]) ∧ (∀ e ∈ labs ++ [(lo, d)], e.1 + Bsz depth e.2 ≤ lo + p) ∧
      ∀ s : Nat, r[s]! < lo + p := by
  have hw := (h.above hA hB).write hp (Int.le_refl _) hr True d (fun _ => hBd)
  rw [if_pos trivial] at hw
  refine ⟨hw.toPfFresh, fun e he => ?_, fun s => ?_⟩
  · rcases List.mem_append.1 he with he | he
    · have := hA e he; omega
    · simp only [List.mem_singleton] at he; subst he; simp only; rw [hBd]; exact Int.le_refl _
  · rcases hr s with h1 | h1
    · rw [h1]; have := hB s; omega
    · rw [h1]; omega

theorem Bsz_pop (depth d0 : Nat) : Bsz depth d0 = 10 * (10 : Int) ^ (depth - d0) := by
  unfold Bsz
  rw [Int.pow_succ, Int.mul_comm]

theorem Bsz_push {depth d0 : Nat} (h : d0 < depth) : Bsz depth (d0 + 1) = (10 : Int) ^ (depth - d0) := by
  unfold Bsz
  congr 1
  omega

/-- popping the head `(pfaf0, d0)`: everything of its block above `pfaf0` itself is unused -/
theorem PfFresh.pop {pfaf0 : Int} {d0 : Nat} (h : PfFresh depth br ((pfaf0, d0) :: labs)) :
    PfFreshIn depth br labs (pfaf0 + (10 : Int) ^ (depth - d0)) (pfaf0 + 10 * (10 : Int) ^ (depth - d0)) := by
  have hpp : (0 : Int) < (10 : Int) ^ (depth - d0) := Int.pow_pos (by decide)
  have hfb := List.pairwise_cons.1 h.fb
  refine ⟨⟨fun e he => h.fa e (List.mem_cons_of_mem _ he), hfb.2⟩, ?_, ?_⟩
  · intro e he
    have := hfb.1 e he
    simp only [Bsz_pop depth d0] at this
    rcases this with h1 | h1
    · exact Or.inr h1
    · exact Or.inl (by omega)
  · intro s
    have := h.fa (pfaf0, d0) (by simp) s
    simp only [Bsz_pop depth d0] at this
    by_cases h1 : br[s]! < pfaf0 + (10 : Int) ^ (depth - d0)
    · exact Or.inl h1
    · by_cases h2 : pfaf0 + 10 * (10 : Int) ^ (depth - d0) ≤ br[s]!
      · exact Or.inr h2
      · have := this (by omega) (by omega)
        omega

/-- dropping a head without tributaries -/
theorem PfFresh.tail {e : Int × Nat} (h : PfFresh depth br (e :: labs)) : PfFresh depth br labs :=
  ⟨fun e' he => h.fa e' (List.mem_cons_of_mem _ he), (List.pairwise_cons.1 h.fb).2⟩

theorem PfFresh.init (depth n : Nat) : PfFresh depth (Array.replicate n 0) [] :=
  ⟨fun _ he => absurd he (List.not_mem_nil), List.Pairwise.nil⟩

end Pf.C18
