import PfVerif.Proofs.C11Trace
/-! Existence of a stopping index (termination of `_trace`) from `max_length`: the travelled length `cumLen`
grows at least linearly. -/
namespace Pf

/-- steps of length at least `δ`: the travelled length grows at least linearly -/
theorem cumLen_ge_mul (nxt : Array Nat) (step : Nat → Nat → Int) (s : Nat) (δ : Int)
    (hstep : ∀ i j, δ ≤ step i j) : ∀ k : Nat, δ * (k : Int) ≤ cumLen nxt step s k
  | 0 => by simp [cumLen]
  | k+1 => by
    have := cumLen_ge_mul nxt step s δ hstep k
    have := hstep (iterA nxt k s) (iterA nxt (k+1) s)
    simp only [cumLen, Int.natCast_succ, Int.mul_add, Int.mul_one]; omega

/-- cell units: the travelled length is `one` per step -/
theorem cumLen_const (nxt : Array Nat) (one : Int) (s : Nat) :
    ∀ k : Nat, cumLen nxt (stepConst one) s k = one * k
  | 0 => by simp [cumLen]
  | k+1 => by
    simp only [cumLen, stepConst, cumLen_const nxt one s k, Int.natCast_succ, Int.mul_add, Int.mul_one]

/-- steps of length at least `δ > 0`: after `⌊ml / δ⌋` steps (none for a negative `ml`) the next one exceeds `ml` -/
theorem stopAt_of_maxlen (nxt : Array Nat) (mask : Option (Array Bool)) {ml δ : Int} {step : Nat → Nat → Int}
    (hδ : 0 < δ) (hstep : ∀ i j, δ ≤ step i j) (s : Nat) :
    stopAt nxt mask (some ml) step s (ml / δ).toNat = true := by
  refine stopAt_iff.2 (Or.inr (Or.inr (overLen_iff.2 ⟨ml, rfl, ?_⟩)))
  have h1 := cumLen_ge_mul nxt step s δ hstep ((ml / δ).toNat + 1)
  rw [cumLen, iterA_succ', Int.natCast_succ] at h1
  have h2 := Int.lt_ediv_add_one_mul_self ml hδ
  have h3 := Int.mul_le_mul_of_nonneg_left (Int.add_le_add_right (Int.self_le_toNat (ml / δ)) 1)
    (Int.le_of_lt hδ)
  rw [Int.mul_comm] at h2
  exact Int.lt_of_lt_of_le h2 (Int.le_trans h3 h1)

end Pf
