import PfVerif.Proofs.C06Algo
/-! The effect of one neighbour loop of the priority flood on a state (`Eff`): which cells are visited,
what they get, what is pushed. -/
namespace Pf.C06
open Pf


/-- the rasters of the state have the size of the grid -/
def Sized (G : Grid) (s : St) : Prop :=
  s.done.size = G.n ∧ s.queued.size = G.n ∧ s.f.size = G.n ∧ s.d8.size = G.n

theorem sized_init {G : Grid} {elev : Array Int} {nod seed : Array Bool} (hN : nod.size = G.n)
    (hE : elev.size = G.n) (hS : seed.size = G.n) : Sized G (initState G elev nod seed) :=
  ⟨hN, hS, hE, by simp [initState, hN]⟩

/-- offset `o` from `i0` lands on `c` -/
def tgt (G : Grid) (i0 c : Nat) (o : Int × Int) : Bool := shift G i0 o.1 o.2 == some c

theorem tgt_iff {G : Grid} {i0 c : Nat} {o : Int × Int} : tgt G i0 c o = true ↔ shift G i0 o.1 o.2 = some c := by
  simp [tgt]

/-- level a cell gets when visited from a cell popped with level `z0` -/
def lvl (z0 z1 : Int) : Int := if z0 - z1 > 0 then z0 else z1

theorem lvl_ge (z0 z1 : Int) : z0 ≤ lvl z0 z1 ∧ z1 ≤ lvl z0 z1 := by
  unfold lvl; split <;> omega

theorem lvl_eq_max (z0 z1 : Int) : lvl z0 z1 = max z1 z0 := by
  unfold lvl; split <;> omega

theorem sized_visit {G : Grid} {elev : Array Int} (z0 : Int) (i0 : Nat) (s : St) (o : Int × Int)
    (h : Sized G s) : Sized G (visit G elev z0 i0 s o) := by
  unfold visit
  split
  · exact h
  · split
    · exact h
    · obtain ⟨h1, h2, h3, h4⟩ := h
      refine ⟨by simp [h1], ?_, ?_, by simp [h4]⟩
      · simp only; split <;> simp [h2]
      · simp only; split <;> simp [h3]

/-- a visit that lands on a cell `j` that is not done: the reads of every field afterwards -/
theorem visit_hit {G : Grid} {elev : Array Int} {z0 : Int} {i0 : Nat} {s : St} {o : Int × Int} {j : Nat}
    (hs : Sized G s) (hsh : shift G i0 o.1 o.2 = some j) (hd : s.done[j]! = false) :
    let s1 := visit G elev z0 i0 s o
    (∀ c, s1.done[c]! = if j = c then true else s.done[c]!) ∧
    (∀ c, s1.queued[c]! = if j = c then true else s.queued[c]!) ∧
    (∀ c, s1.f[c]! = if j = c then (if z0 - elev[j]! > 0 then z0 else s.f[j]!) else s.f[c]!) ∧
    (∀ c, s1.d8[c]! = if j = c then usCode o.1 o.2 else s.d8[c]!) ∧
    s1.q = (if s.queued[j]! = false then hpush ⟨lvl z0 elev[j]!, 0, j⟩ s.q else s.q) := by
  have hj : j < G.n := (shift_spec.1 hsh).1
  obtain ⟨h1, h2, h3, h4⟩ := hs
  unfold visit
  simp only [hsh, hd, Bool.false_eq_true, if_false]
  -- every field is the old array, or the old array written at `j`
  have rd : ∀ {α : Type} [Inhabited α] (a : Array α) (v : α) (c : Nat), j < a.size →
      (a.setIfInBounds j v)[c]! = if j = c then v else a[c]! := by
    intro α _ a v c hja
    by_cases hjc : j = c
    · rw [if_pos hjc, ← hjc]; exact get!_set_self hja v
    · rw [if_neg hjc]; exact get!_set_ne (Ne.symm hjc) v
  refine ⟨fun c => rd _ _ c (by rw [h1]; exact hj), fun c => ?_, fun c => ?_,
    fun c => rd _ _ c (by rw [h4]; exact hj), ?_⟩
  · cases hq : s.queued[j]! with
    | false => exact rd _ _ c (by rw [h2]; exact hj)
    | true =>
      by_cases hjc : j = c
      · rw [if_pos hjc, ← hjc]; exact hq
      · rw [if_neg hjc]; rfl
  · by_cases hf : z0 - elev[j]! > 0
    · rw [if_pos (decide_eq_true hf), if_pos hf]; exact rd _ _ c (by rw [h3]; exact hj)
    · rw [if_neg (by simpa using hf), if_neg hf]
      by_cases hjc : j = c
      · rw [if_pos hjc, ← hjc]
      · rw [if_neg hjc]
  · cases hq : s.queued[j]! <;> simp [lvl]

theorem visit_miss {G : Grid} {elev : Array Int} {z0 : Int} {i0 : Nat} {s : St} {o : Int × Int}
    (h : ∀ j, shift G i0 o.1 o.2 = some j → s.done[j]! = true) : visit G elev z0 i0 s o = s := by
  unfold visit
  split
  · rfl
  · rename_i j hsh
    rw [if_pos (h j hsh)]


/-- a visit either finds nothing to do or lands on a cell that is not done -/
theorem visit_miss_or {G : Grid} (i0 : Nat) (s : St) (o : Int × Int) :
    (∀ j, shift G i0 o.1 o.2 = some j → s.done[j]! = true) ∨
      ∃ j, shift G i0 o.1 o.2 = some j ∧ s.done[j]! = false := by
  cases hsh : shift G i0 o.1 o.2 with
  | none => exact Or.inl fun _ h => nomatch h
  | some j =>
    cases hd : s.done[j]! with
    | true => exact Or.inl fun _ h => Option.some.inj h ▸ hd
    | false => exact Or.inr ⟨j, rfl, hd⟩

/-- effect of the whole neighbour loop `l.foldl visit` on a state -/
structure Eff (G : Grid) (elev : Array Int) (z0 : Int) (i0 : Nat) (l : List (Int × Int)) (s s' : St) : Prop where
  sized : Sized G s'
  keep : ∀ c : Nat, s.done[c]! = true →
    s'.done[c]! = true ∧ s'.f[c]! = s.f[c]! ∧ s'.d8[c]! = s.d8[c]! ∧ s'.queued[c]! = s.queued[c]!
  miss : ∀ c : Nat, s.done[c]! = false → l.find? (tgt G i0 c) = none →
    s'.done[c]! = false ∧ s'.f[c]! = s.f[c]! ∧ s'.d8[c]! = s.d8[c]! ∧ s'.queued[c]! = s.queued[c]!
  hit : ∀ (c : Nat) (o : Int × Int), s.done[c]! = false → l.find? (tgt G i0 c) = some o →
    s'.done[c]! = true ∧ s'.queued[c]! = true ∧
    s'.f[c]! = (if z0 - elev[c]! > 0 then z0 else s.f[c]!) ∧ s'.d8[c]! = usCode o.1 o.2
  heap : ∀ e, e ∈ s'.q ↔ e ∈ s.q ∨ ∃ c : Nat, s.done[c]! = false ∧ s.queued[c]! = false ∧
    (l.find? (tgt G i0 c)).isSome = true ∧ e = ⟨lvl z0 elev[c]!, 0, c⟩
  sorted : HSorted s.q → HSorted s'.q
  nd : (∀ e, e ∈ s.q → s.queued[e.idx]! = true) → (s.q.map (·.idx)).Nodup →
    (s'.q.map (·.idx)).Nodup ∧ ∀ e, e ∈ s'.q → s'.queued[e.idx]! = true

/-- an offset that finds nothing to do adds nothing to the effect of the rest of the loop -/
theorem eff_cons_miss {G : Grid} {elev : Array Int} {z0 : Int} {i0 : Nat} {o : Int × Int}
    {l : List (Int × Int)} {s s' : St}
    (hmiss : ∀ j, shift G i0 o.1 o.2 = some j → s.done[j]! = true) (ih : Eff G elev z0 i0 l s s') :
    Eff G elev z0 i0 (o :: l) s s' := by
  have hno : ∀ c, s.done[c]! = false → tgt G i0 c o = false := by
    intro c hc
    cases ht : tgt G i0 c o with
    | false => rfl
    | true => have := hmiss c (tgt_iff.1 ht); rw [hc] at this; cases this
  refine ⟨ih.sized, ih.keep, ?_, ?_, ?_, ih.sorted, ih.nd⟩
  · intro c hc hf
    rw [List.find?_cons, hno c hc] at hf
    exact ih.miss c hc hf
  · intro c o' hc hf
    rw [List.find?_cons, hno c hc] at hf
    exact ih.hit c o' hc hf
  · intro e
    rw [ih.heap e]
    constructor
    · rintro (h | ⟨c, h1, h2, h3, h4⟩)
      · exact Or.inl h
      · exact Or.inr ⟨c, h1, h2, by rw [List.find?_cons, hno c h1]; exact h3, h4⟩
    · rintro (h | ⟨c, h1, h2, h3, h4⟩)
      · exact Or.inl h
      · exact Or.inr ⟨c, h1, h2, by rw [List.find?_cons, hno c h1] at h3; exact h3, h4⟩

/-- an offset that lands on a cell `j` that is not done: `j` gets what this visit writes and is kept by the
rest of the loop; every other cell is what the rest of the loop makes of it -/
theorem eff_cons_hit {G : Grid} {elev : Array Int} {z0 : Int} {i0 : Nat} {o : Int × Int}
    {l : List (Int × Int)} {s s' : St} {j : Nat} (hs : Sized G s) (hsh : shift G i0 o.1 o.2 = some j)
    (hd : s.done[j]! = false) (ih : Eff G elev z0 i0 l (visit G elev z0 i0 s o) s') :
    Eff G elev z0 i0 (o :: l) s s' := by
  obtain ⟨v1, v2, v3, v4, v5⟩ := visit_hit (elev := elev) (z0 := z0) hs hsh hd
  have htj : tgt G i0 j o = true := tgt_iff.2 hsh
  have htc : ∀ c, j ≠ c → tgt G i0 c o = false := by
    intro c hjc
    cases ht : tgt G i0 c o with
    | false => rfl
    | true =>
      have := tgt_iff.1 ht
      rw [hsh] at this
      injection this with this
      exact absurd this hjc
  have hk := ih.keep j (by rw [v1]; simp)
  refine ⟨ih.sized, ?_, ?_, ?_, ?_, ?_, ?_⟩
  · intro c hc
    have hjc : j ≠ c := fun h => by subst h; rw [hd] at hc; cases hc
    have := ih.keep c (by rw [v1, if_neg hjc]; exact hc)
    rw [v2, v3, v4, if_neg hjc, if_neg hjc, if_neg hjc] at this
    exact this
  · intro c hc hf
    by_cases hjc : j = c
    · subst hjc
      rw [List.find?_cons, htj] at hf
      cases hf
    · rw [List.find?_cons, htc c hjc] at hf
      have := ih.miss c (by rw [v1, if_neg hjc]; exact hc) hf
      rw [v2, v3, v4, if_neg hjc, if_neg hjc, if_neg hjc] at this
      exact this
  · intro c o' hc hf
    by_cases hjc : j = c
    · subst hjc
      rw [List.find?_cons, htj] at hf
      injection hf with hf
      subst hf
      rw [v2, v3, v4] at hk
      simp only [if_true] at hk
      exact ⟨hk.1, hk.2.2.2, hk.2.1, hk.2.2.1⟩
    · rw [List.find?_cons, htc c hjc] at hf
      have := ih.hit c o' (by rw [v1, if_neg hjc]; exact hc) hf
      rw [v3, if_neg hjc] at this
      exact this
  · intro e
    rw [ih.heap e, v5]
    constructor
    · rintro (h | ⟨c, h1, h2, h3, h4⟩)
      · by_cases hq : s.queued[j]! = false
        · rw [if_pos hq, mem_hpush] at h
          rcases h with h | h
          · exact Or.inr ⟨j, hd, hq, by rw [List.find?_cons, htj]; rfl, h⟩
          · exact Or.inl h
        · rw [if_neg hq] at h
          exact Or.inl h
      · have hjc : j ≠ c := fun h => by subst h; rw [v1] at h1; simp at h1
        rw [v1, if_neg hjc] at h1
        rw [v2, if_neg hjc] at h2
        exact Or.inr ⟨c, h1, h2, by rw [List.find?_cons, htc c hjc]; exact h3, h4⟩
    · rintro (h | ⟨c, h1, h2, h3, h4⟩)
      · left
        by_cases hq : s.queued[j]! = false
        · rw [if_pos hq, mem_hpush]; exact Or.inr h
        · rw [if_neg hq]; exact h
      · by_cases hjc : j = c
        · subst hjc
          left
          rw [if_pos h2, mem_hpush]
          exact Or.inl h4
        · right
          refine ⟨c, by rw [v1, if_neg hjc]; exact h1, by rw [v2, if_neg hjc]; exact h2, ?_, h4⟩
          rw [List.find?_cons, htc c hjc] at h3
          exact h3
  · intro hsq
    apply ih.sorted
    rw [v5]
    split
    · exact hsorted_hpush _ _ hsq
    · exact hsq
  · intro hq hnd
    apply ih.nd
    · intro e he
      rw [v2]
      rw [v5] at he
      by_cases hje : j = e.idx
      · rw [if_pos hje]
      · rw [if_neg hje]
        by_cases hqj : s.queued[j]! = false
        · rw [if_pos hqj, mem_hpush] at he
          rcases he with rfl | he
          · exact absurd rfl hje
          · exact hq e he
        · rw [if_neg hqj] at he
          exact hq e he
    · rw [v5]
      by_cases hqj : s.queued[j]! = false
      · rw [if_pos hqj]
        apply nodup_hpush _ _ hnd
        intro hmem
        obtain ⟨e, he, hej⟩ := List.mem_map.1 hmem
        have := hq e he
        simp only at hej
        rw [hej, hqj] at this
        cases this
      · rw [if_neg hqj]; exact hnd

theorem eff_fold {G : Grid} {elev : Array Int} (z0 : Int) (i0 : Nat) (l : List (Int × Int)) (s : St)
    (hs : Sized G s) : Eff G elev z0 i0 l s (l.foldl (visit G elev z0 i0) s) := by
  induction l generalizing s with
  | nil =>
    refine ⟨hs, fun c h => ⟨h, rfl, rfl, rfl⟩, fun c h _ => ⟨h, rfl, rfl, rfl⟩, ?_, ?_, fun h => h,
      fun h1 h2 => ⟨h2, h1⟩⟩
    · intro c o _ h; simp at h
    · intro e; simp
  | cons o l ih =>
    simp only [List.foldl_cons]
    have ih := ih (visit G elev z0 i0 s o) (sized_visit z0 i0 s o hs)
    rcases visit_miss_or i0 s o with hmiss | ⟨j, hsh, hd⟩
    · rw [visit_miss hmiss] at ih ⊢
      exact eff_cons_miss hmiss ih
    · exact eff_cons_hit hs hsh hd ih

end Pf.C06
