import PfVerif.Model.C13_bounds2
import PfVerif.Proofs.C13_bounds
import PfVerif.Proofs.C14
import PfVerif.Proofs.C08Strahler
/-! Lemmas for `Props/C13_bounds2.lean`: the rules by which `InB` and `CellTr` (both of the form
`∀ e ∈ log, P e`) are computed along a log, and loop invariants of the generic logging folds. -/
namespace Pf.C13b2
open Pf

@[simp] theorem InB_nil : InB [] := fun _ h => nomatch h

@[simp] theorem InB_cons (e : Acc) (l : List Acc) : InB (e :: l) ↔ e.idx < e.size ∧ InB l :=
  List.forall_mem_cons

@[simp] theorem InB_append (l1 l2 : List Acc) : InB (l1 ++ l2) ↔ InB l1 ∧ InB l2 :=
  List.forall_mem_append

@[simp] theorem acc_idx {α : Type} (a : Arr) (xs : Array α) (i : Nat) : (acc a xs i).idx = i := rfl
@[simp] theorem acc_size {α : Type} (a : Arr) (xs : Array α) (i : Nat) : (acc a xs i).size = xs.size := rfl

theorem foldlL_fst {σ : Type} (step : σ → Nat → σ) (tr : Nat → σ → List Acc) (seq : List Nat) (st : σ × List Acc) :
    (foldlL step tr seq st).1 = seq.foldl step st.1 :=
  C13b.foldl_fst _ _ (fun _ _ => rfl) _ _

theorem foldrL_fst {σ : Type} (step : Nat → σ → σ) (tr : Nat → σ → List Acc) (seq : List Nat) (st : σ × List Acc) :
    (foldrL step tr seq st).1 = seq.foldr step st.1 := by
  unfold foldrL
  induction seq with
  | nil => rfl
  | cons x l ih => simp only [List.foldr_cons]; rw [ih]

theorem foldlL_inv {σ : Type} (step : σ → Nat → σ) (tr : Nat → σ → List Acc) (I : σ → Prop) (P : Acc → Prop)
    (seq : List Nat) (hstep : ∀ s, ∀ i ∈ seq, I s → I (step s i) ∧ ∀ e ∈ tr i s, P e)
    (st : σ × List Acc) (h0 : I st.1) (hl : ∀ e ∈ st.2, P e) :
    I (foldlL step tr seq st).1 ∧ ∀ e ∈ (foldlL step tr seq st).2, P e :=
  foldl_inv _ (fun st => I st.1 ∧ ∀ e ∈ st.2, P e) seq
    (fun st i hi h => ⟨(hstep st.1 i hi h.1).1, List.forall_mem_append.2 ⟨(hstep st.1 i hi h.1).2, h.2⟩⟩) st ⟨h0, hl⟩

theorem foldrL_inv {σ : Type} (step : Nat → σ → σ) (tr : Nat → σ → List Acc) (I : σ → Prop) (P : Acc → Prop)
    (seq : List Nat) (hstep : ∀ s, ∀ i ∈ seq, I s → I (step i s) ∧ ∀ e ∈ tr i s, P e)
    (st : σ × List Acc) (h0 : I st.1) (hl : ∀ e ∈ st.2, P e) :
    I (foldrL step tr seq st).1 ∧ ∀ e ∈ (foldrL step tr seq st).2, P e := by
  unfold foldrL
  induction seq with
  | nil => exact ⟨h0, hl⟩
  | cons x l ih =>
    obtain ⟨h1, h2⟩ := ih fun s i hi => hstep s i (List.mem_cons_of_mem _ hi)
    obtain ⟨h3, h4⟩ := hstep _ x (List.mem_cons_self ..) h1
    exact ⟨h3, List.forall_mem_append.2 ⟨h4, h2⟩⟩

/-! ### cell-shaped traces

A body trace is shown cell-shaped by `simp` with the four rules below: which branch of the body was taken
never matters. -/

@[simp] theorem CellTr_nil (ds : Array Nat) (n i : Nat) : CellTr ds n i [] := fun _ h => nomatch h

@[simp] theorem CellTr_cons (ds : Array Nat) (n i : Nat) (e : Acc) (l : List Acc) :
    CellTr ds n i (e :: l) ↔ (e.size = n ∧ (e.idx = i ∨ e.idx = ds[i]!)) ∧ CellTr ds n i l :=
  List.forall_mem_cons

@[simp] theorem CellTr_append (ds : Array Nat) (n i : Nat) (l1 l2 : List Acc) :
    CellTr ds n i (l1 ++ l2) ↔ CellTr ds n i l1 ∧ CellTr ds n i l2 :=
  List.forall_mem_append

@[simp] theorem CellTr_ite (ds : Array Nat) (n i : Nat) (p : Prop) [Decidable p] (l1 l2 : List Acc) :
    CellTr ds n i (if p then l1 else l2) ↔ if p then CellTr ds n i l1 else CellTr ds n i l2 :=
  Iff.of_eq (apply_ite ..)

theorem CellTr_accOpt {α : Type} (ds : Array Nat) (n i : Nat) (a : Arr) (xs : Option (Array α))
    (h : ∀ m, xs = some m → m.size = n) : CellTr ds n i (accOpt a xs i) := by
  cases xs with
  | none => exact CellTr_nil ds n i
  | some m => simp [accOpt, h m rfl]

/-- an access of cell shape at a cell that lies, with its downstream cell, below `n` is in bounds -/
theorem cell_lt {ds : Array Nat} {n i : Nat} {e : Acc} (h : e.size = n ∧ (e.idx = i ∨ e.idx = ds[i]!))
    (hi : i < n ∧ ds[i]! < n) : e.idx < e.size := by
  rcases h.2 with h2 | h2 <;> omega

theorem CellTr.inb {ds : Array Nat} {n i : Nat} {l : List Acc} (h : CellTr ds n i l) (hi : i < n ∧ ds[i]! < n) :
    InB l :=
  fun e he => cell_lt (h e he) hi

theorem inb_of_touch {ds : Array Nat} {n : Nat} {seq : List Nat} {log : List Acc} (hcl : Closed ds n seq)
    (h : ∀ e ∈ log, e.size = n ∧ ∃ i ∈ seq, e.idx = i ∨ e.idx = ds[i]!) : InB log := by
  intro e he
  obtain ⟨h1, i, hi, h2⟩ := h e he
  exact cell_lt ⟨h1, h2⟩ (hcl i hi)

theorem trLink_cell (ds : Array Nat) (data : Array Int) (nodata : Int) (i : Nat) (body : List Acc)
    (hd : data.size = ds.size) (hb : CellTr ds ds.size i body) : CellTr ds ds.size i (trLink ds data nodata i body) := by
  simp [trLink, hd, hb]

theorem trStrahler_cell (ds : Array Nat) (mask : Option (Array Bool)) (hm : ∀ m, mask = some m → m.size = ds.size)
    (i : Nat) (st : Array Nat × Array Nat) (hs : st.1.size = ds.size ∧ st.2.size = ds.size) :
    CellTr ds ds.size i (trStrahler ds mask i st) := by
  simp [trStrahler, apply_ite Array.size, hs, CellTr_accOpt ds ds.size i Arr.mask mask hm]

/-- `arithmetics.upstream_sum` visits the cells outside the network too; the guard `idx_ds != mv` comes first and
behind it the trace is cell-shaped -/
theorem trUpsum_inb (ds : Array Nat) (hwf : WF ds) (data : Array Int) (nodata : Int) (hd : data.size = ds.size)
    (i : Nat) (hi : i < ds.size) (arr : Array Int) (ha : arr.size = ds.size) : InB (trUpsum ds data nodata i arr) := by
  by_cases hg : ds[i]! = ds.size ∨ ds[i]! = i
  · simp only [trUpsum, hg, if_true, InB_cons, InB_nil, acc_idx, acc_size, hi, and_self]
  · have hc : CellTr ds ds.size i (trUpsum ds data nodata i arr) := by simp [trUpsum, hg, hd, ha]
    exact hc.inb ⟨hi, (C13b.IdxArr.of_wf hwf).lt hi fun h => hg (Or.inl h)⟩

end Pf.C13b2
