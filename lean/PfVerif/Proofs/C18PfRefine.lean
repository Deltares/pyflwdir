import PfVerif.Proofs.C18PfSimLoop
/-! Pfafstetter refinement across depths: the worklist loop of the run for `depth + 1` simulates the one
for `depth` until the latter ends (`pfLoop_sim`); what it does afterwards (level `depth + 1` only) changes
the last digit only (`pfLoop_ref`); result for the seeds of the two runs (`pfBranch_refine`). -/
namespace Pf.C18
open Pf

variable {ds usMain : Array Nat} {seq : List Nat} {uparea : Array Int}

/-- relation between the states of the two worklist loops: same outlets, codes related by `phi`, the worklist of the
deeper run is the image of the other followed by entries `extra` of level `D + 1`; entries are queued one level
below the popped one, so `extra` is empty until the shallower run pops level `D` -/
structure SimL (D : Nat) (stA stB : PfSt × Bool × Bool) : Prop where
  br : SimBr stA.1.1 stB.1.1
  idxs : stB.1.2.1 = stA.1.2.1
  labs : ∃ extra, stB.1.2.2 = stA.1.2.2.map (fun e => (phi e.1, e.2)) ++ extra ∧
    (∀ e ∈ extra, e.2 = D + 1) ∧ (extra = [] ∨ ∀ e ∈ stA.1.2.2, D ≤ e.2)

theorem pfLoop_sim (c : PfCtx ds usMain seq uparea) (mask : Option (Array Bool)) (D : Nat) :
    ∀ (fA : Nat) (stA rA : PfSt × Bool × Bool),
      pfLoop ds usMain (pfStrord ds seq usMain mask D) uparea
        (tributaries ds seq (pfStrord ds seq usMain mask D)) D fA stA = some rA →
      PfAll ds usMain (pfStrord ds seq usMain mask D) D stA.1.1 stA.1.2.1 stA.1.2.2 →
      PfOrd (streamOrderClassic ds seq usMain mask) stA.1.1 stA.1.2.2 →
      ∀ (fB : Nat) (stB rB : PfSt × Bool × Bool),
      pfLoop ds usMain (pfStrord ds seq usMain mask (D + 1)) uparea
        (tributaries ds seq (pfStrord ds seq usMain mask (D + 1))) (D + 1) fB stB = some rB →
      PfAll ds usMain (pfStrord ds seq usMain mask (D + 1)) (D + 1) stB.1.1 stB.1.2.1 stB.1.2.2 →
      SimL D stA stB →
      ∃ (fB' : Nat) (stB' : PfSt × Bool × Bool),
        pfLoop ds usMain (pfStrord ds seq usMain mask (D + 1)) uparea
          (tributaries ds seq (pfStrord ds seq usMain mask (D + 1))) (D + 1) fB' stB' = some rB ∧
        PfAll ds usMain (pfStrord ds seq usMain mask (D + 1)) (D + 1) stB'.1.1 stB'.1.2.1 stB'.1.2.2 ∧
        SimBr rA.1.1 stB'.1.1 ∧ stB'.1.2.1 = rA.1.2.1 ∧ (∀ e ∈ stB'.1.2.2, e.2 = D + 1) := by
  have htribA := tributaries_nonmain ds seq usMain mask D c.topo c.hb
  have htribB := tributaries_nonmain ds seq usMain mask (D + 1) c.topo c.hb
  have hndA := tributaries_nodup c.topo (pfStrord ds seq usMain mask D)
  have hndB := tributaries_nodup c.topo (pfStrord ds seq usMain mask (D + 1))
  have hmainS := soraw_main c mask
  have hnn := soraw_nonneg ds seq usMain mask c.topo c.hb
  have hstep : ∀ t ∈ seq, ds[t]! ≠ t → (streamOrderClassic ds seq usMain mask)[t]! ≤
      (streamOrderClassic ds seq usMain mask)[ds[t]!]! + 1 := by
    intro t ht hp
    have := hnn ds[t]!
    rcases soraw_step ds seq usMain mask c.topo c.hb t ht hp with h | h | h <;> omega
  intro fA stA rA hA allA ordA fB stB rB hB allB hsim
  refine pfLoop_induct (r := rA)
    (fun stA => PfAll ds usMain (pfStrord ds seq usMain mask D) D stA.1.1 stA.1.2.1 stA.1.2.2 →
      PfOrd (streamOrderClassic ds seq usMain mask) stA.1.1 stA.1.2.2 →
      ∀ (fB : Nat) (stB : PfSt × Bool × Bool),
      pfLoop ds usMain (pfStrord ds seq usMain mask (D + 1)) uparea
        (tributaries ds seq (pfStrord ds seq usMain mask (D + 1))) (D + 1) fB stB = some rB →
      PfAll ds usMain (pfStrord ds seq usMain mask (D + 1)) (D + 1) stB.1.1 stB.1.2.1 stB.1.2.2 →
      SimL D stA stB →
      ∃ (fB' : Nat) (stB' : PfSt × Bool × Bool),
        pfLoop ds usMain (pfStrord ds seq usMain mask (D + 1)) uparea
          (tributaries ds seq (pfStrord ds seq usMain mask (D + 1))) (D + 1) fB' stB' = some rB ∧
        PfAll ds usMain (pfStrord ds seq usMain mask (D + 1)) (D + 1) stB'.1.1 stB'.1.2.1 stB'.1.2.2 ∧
        SimBr rA.1.1 stB'.1.1 ∧ stB'.1.2.1 = rA.1.2.1 ∧ (∀ e ∈ stB'.1.2.2, e.2 = D + 1))
    ?_ ?_ ?_ fA stA hA allA ordA fB stB hB allB hsim
  · -- the shallower run has ended: the deeper worklist holds the entries of level `D + 1`
    intro hnil _ _ fB stB hB allB hsim
    obtain ⟨sbr, sidx, extra, hlabs, hext, _⟩ := hsim
    refine ⟨fB, stB, hB, allB, sbr, sidx, ?_⟩
    rw [hnil] at hlabs
    simp only [List.map_nil, List.nil_append] at hlabs
    rw [hlabs]; exact hext
  · -- no tributaries in the shallower run, hence none in the deeper one
    intro brA idxsA pfaf0 d0 labsA tieA okA hempty ih allA ordA fB stB hB allB hsim
    obtain ⟨⟨brB, idxsB, labsB⟩, tieB, okB⟩ := stB
    obtain ⟨sbr, sidx, extra, hlabs, hext, hcase⟩ := hsim
    simp only at sbr sidx hlabs hcase allA allB ordA
    subst sidx
    simp only [List.map_cons, List.cons_append] at hlabs
    subst hlabs
    obtain ⟨_, hlev2, _⟩ := allA.q.lev (pfaf0, d0) (by simp)
    have hfeq := trib_filter_eq c mask D sbr (pfaf0 := pfaf0) fun s hs => by
      have := ordA (pfaf0, d0) (by simp) s hs
      simp only at this hlev2
      omega
    obtain ⟨fB', _, ⟨_, hB'⟩ | ⟨hne, _⟩⟩ := pfLoop_cons hB
    · refine ih allA.tail (fun en hen => ordA en (List.mem_cons_of_mem _ hen)) fB' _ hB' allB.tail
        ⟨sbr, rfl, extra, rfl, hext, hcase.imp id fun h e he => h e (List.mem_cons_of_mem _ he)⟩
    · rw [hfeq] at hne; exact absurd hempty hne
  · -- one pop with tributaries: the same selection, `pfInner` simulated
    intro brA idxsA pfaf0 d0 labsA tieA tieA' okA stA' x okA' hne hinA ih allA ordA fB stB hB allB hsim
    obtain ⟨⟨brB, idxsB, labsB⟩, tieB, okB⟩ := stB
    obtain ⟨sbr, sidx, extra, hlabs, hext, hcase⟩ := hsim
    simp only at sbr sidx hlabs hcase allA allB ordA
    subst sidx
    simp only [List.map_cons, List.cons_append] at hlabs
    subst hlabs
    obtain ⟨_, hlev2, _⟩ := allA.q.lev (pfaf0, d0) (by simp)
    simp only at hlev2
    have hfeq := trib_filter_eq c mask D sbr (pfaf0 := pfaf0) fun s hs => by
      have := ordA (pfaf0, d0) (by simp) s hs
      simp only at this
      omega
    obtain ⟨fB', _, ⟨he, _⟩ | ⟨_, stB', xB, okB', tieB', hinB0, hB'⟩⟩ := pfLoop_cons hB
    · rw [hfeq] at he; exact absurd he hne
    · obtain ⟨hmemS, _, _, _⟩ := pfSel_props ds uparea brA
        (tributaries ds seq (pfStrord ds seq usMain mask D)) pfaf0 hndA
      obtain ⟨rB', hinB, simIn⟩ := pfInner_sim (ds := ds) (usMain := usMain)
        (pfStrord ds seq usMain mask D) (pfStrord ds seq usMain mask (D + 1))
        (streamOrderClassic ds seq usMain mask) D pfaf0 d0
        (fun u hu h => so_agree ds seq usMain mask D u hu h) hmainS
        (allA.lp (pfaf0, d0) (by simp)) hlev2 _ 0 ((brA, idxsB, labsA), pfaf0, okA)
        ((brB, idxsB, labsA.map (fun e => (phi e.1, e.2)) ++ extra), phi pfaf0, okB) (stA', x, okA')
        (fun t ht => trib_order ds seq usMain mask D c.hb t (hmemS t ht).1) hinA
        ⟨sbr, rfl, ⟨extra, rfl, hext, fun hlt => by
          rcases hcase with h | h
          · exact h
          · have := h (pfaf0, d0) (by simp)
            simp only at this
            omega⟩, rfl⟩
      have hinB' : pfInner ds usMain (pfStrord ds seq usMain mask (D + 1)) (D + 1) (phi pfaf0) d0
          (pfSel ds uparea brB (tributaries ds seq (pfStrord ds seq usMain mask (D + 1))) (phi pfaf0)) 0
          ((brB, idxsB, labsA.map (fun e => (phi e.1, e.2)) ++ extra), phi pfaf0, okB) = some rB' := by
        unfold pfSel; rw [hfeq]; exact hinB
      obtain rfl : rB' = (stB', xB, okB') := Option.some.inj (hinB'.symm.trans hinB0)
      obtain ⟨allA', _, ordA', _, hlevA, _⟩ := pfPop_all c _ D htribA hndA True
        (streamOrderClassic ds seq usMain mask)
        (fun _ => ⟨fun s hs => pfStrord_ne_zero ds seq usMain mask D s hs, hmainS⟩)
        (fun _ => hstep) allA (fun _ => ordA) hinA
      obtain ⟨allB', _, _, _, _, _⟩ := pfPop_all c _ (D + 1) htribB hndB False
        (streamOrderClassic ds seq usMain mask) (fun w => w.elim) (fun w => w.elim) allB
        (fun w => w.elim) hinB'
      obtain ⟨s1, s2, ⟨extra', s3, s4, s5⟩, _⟩ := simIn
      simp only at s1 s2 s3 s5 allA' ordA' hlevA
      refine ih allA' (ordA' trivial) fB' _ hB' allB' ⟨s1, s2, extra', s3, s4, ?_⟩
      by_cases hlt : d0 < D
      · exact Or.inl (s5 hlt)
      · right
        intro e he
        have := hlevA e he
        omega

/-! ### after the simulated part: only the last digit changes -/

/-- after the simulated part: against `br0`, a coded cell stays coded and keeps everything above its last digit, a
newly coded cell agrees with its downstream cell above the last digit -/
structure PfRef (ds : Array Nat) (br0 br : Array Int) : Prop where
  r1 : ∀ s : Nat, br0[s]! ≠ 0 → br[s]! ≠ 0 ∧ br[s]! / 10 = br0[s]! / 10
  r2 : ∀ s : Nat, br0[s]! = 0 → br[s]! ≠ 0 → ds[s]! ≠ s ∧ br[s]! / 10 = br[ds[s]!]! / 10

theorem PfRef.refl (ds : Array Nat) (br : Array Int) : PfRef ds br br :=
  ⟨fun _ h => ⟨h, rfl⟩, fun _ h0 h1 => absurd h0 h1⟩

theorem PfRef.step {br0 br br' : Array Int} {pfaf0 : Int} (h : PfRef ds br0 br)
    (ev : PfEvo ds br br' pfaf0 (pfaf0 + 9)) (hm : pfaf0 % 10 = 1)
    (hdn : ∀ s : Nat, br[s]! ≠ 0 → br[ds[s]!]! ≠ 0) : PfRef ds br0 br' := by
  have hq : ∀ x : Int, pfaf0 ≤ x → x < pfaf0 + 9 → x / 10 = pfaf0 / 10 ∧ x ≠ 0 := by
    intro x h1 h2; omega
  have hkeep : ∀ s : Nat, br[s]! ≠ 0 → br'[s]! ≠ 0 ∧ br'[s]! / 10 = br[s]! / 10 := by
    intro s hs
    rcases ev.e1 s hs with h1 | h1
    · rw [h1]; exact ⟨hs, rfl⟩
    · have a := hq _ h1.1 h1.2.1
      have b := hq _ h1.2.2.1 h1.2.2.2
      exact ⟨b.2, by omega⟩
  refine ⟨fun s hs => ?_, fun s h0 h1 => ?_⟩
  · obtain ⟨a, b⟩ := h.r1 s hs
    obtain ⟨a', b'⟩ := hkeep s a
    exact ⟨a', by omega⟩
  · by_cases hb : br[s]! = 0
    · obtain ⟨a1, a2, a3, a4, a5⟩ := ev.e2 s hb h1
      have x := hq _ a1 a2
      have y := hq _ a4 a5
      exact ⟨a3, by omega⟩
    · obtain ⟨a, b⟩ := h.r2 s h0 hb
      have x := hkeep s hb
      have y := hkeep _ (hdn s hb)
      exact ⟨a, by omega⟩

theorem pfLoop_ref {so : Array Int} (c : PfCtx ds usMain seq uparea) (trib : List Nat) (depth : Nat)
    (htrib : ∀ t ∈ trib, t ∈ seq ∧ ds[t]! ≠ t ∧ usMain[ds[t]!]! ≠ t) (hnd : trib.Nodup) :
    ∀ (f : Nat) (st r : PfSt × Bool × Bool),
      pfLoop ds usMain so uparea trib depth f st = some r →
      PfAll ds usMain so depth st.1.1 st.1.2.1 st.1.2.2 → (∀ e ∈ st.1.2.2, e.2 = depth) →
      ∀ br0, PfRef ds br0 st.1.1 →
      PfRef ds br0 r.1.1 ∧ PfG ds usMain so r.1.1 r.1.2.1 := by
  intro f st r h all hlev br0 href
  obtain ⟨all', _, href'⟩ := pfLoop_induction ds usMain so uparea trib depth
    (P := fun s => PfAll ds usMain so depth s.1.1 s.1.2.1 s.1.2.2 ∧ (∀ e ∈ s.1.2.2, e.2 = depth) ∧
      PfRef ds br0 s.1.1)
    (fun _ _ _ _ _ _ _ ⟨a, hl, hr⟩ => ⟨a.tail, fun e he => hl e (List.mem_cons_of_mem _ he), hr⟩)
    (fun br idxs pfaf0 d0 labs tie ok st' x ok' tie' ⟨a, hl, hr⟩ hin => by
      have hd0 : d0 = depth := hl (pfaf0, d0) (by simp)
      obtain ⟨all', _, _, hev, hlev', _, _, hbase, _⟩ := pfPop_all c trib depth htrib hnd False so
        (fun w => w.elim) (fun w => w.elim) a (fun w => w.elim) hin
      subst hd0
      simp only [Nat.sub_self, Int.pow_zero, Int.mul_one, Nat.zero_add, Int.pow_one] at hev hbase
      have hm : pfaf0 % 10 = 1 := by rw [hbase]; simp [R1]
      refine ⟨all', fun e he => ?_, hr.step hev hm (fun s hs => a.g.dn s (a.g.lt hs) hs)⟩
      have h1 := hlev' e he
      have h2 := (all'.q.lev e he).2.1
      omega)
    f st r h ⟨all, hlev, href⟩
  exact ⟨href', all'.g⟩

/-! ### the seeds of the two runs -/

/-- the seeds of the run for `depth + 1`, divided by 10, are those of the run for `depth` where these are coded;
a cell coded only by the deeper run agrees with its downstream cell above the last digit -/
theorem pfBranch_refine (pits : List Nat) (ds : Array Nat) (seq : List Nat) (usMain : Array Nat)
    (uparea : Array Int) (mask : Option (Array Bool)) (D : Nat) (hD : 1 ≤ D)
    (c : PfCtx ds usMain seq uparea) (hpn : pits.Nodup) (hpits : ∀ q ∈ pits, q ∈ seq ∧ ds[q]! = q)
    (brA brB : Array Int) (idxsA idxsB : List Nat) (tieA okA tieB okB : Bool)
    (hA : pfBranch pits ds seq usMain uparea mask D = some (brA, idxsA, tieA, okA))
    (hB : pfBranch pits ds seq usMain uparea mask (D + 1) = some (brB, idxsB, tieB, okB)) :
    (∀ s : Nat, brA[s]! ≠ 0 → brB[s]! ≠ 0 ∧ brB[s]! / 10 = brA[s]!) ∧
    (∀ s : Nat, brA[s]! = 0 → brB[s]! ≠ 0 → ds[s]! ≠ s ∧ brB[s]! / 10 = brB[ds[s]!]! / 10) ∧
    PfG ds usMain (pfStrord ds seq usMain mask (D + 1)) brB idxsB ∧ brA.size = ds.size := by
  have hmainS := soraw_main c mask
  obtain ⟨st0A, labsA, hpA, hlA⟩ := pfBranch_some hA
  obtain ⟨st0B', labsB, hpB', hlB⟩ := pfBranch_some hB
  have hpit1 : ∀ q ∈ pits, (streamOrderClassic ds seq usMain mask)[q]! ≤ 1 := by
    intro q hq
    obtain ⟨h1, h2⟩ := hpits q hq
    rcases soraw_pit ds seq usMain mask c.topo c.hb q h1 h2 with h | h <;> omega
  -- the pit loop of the deeper run simulates that of the shallower run
  obtain ⟨st0B, hpB, sp1, sp2, sp3⟩ := pfPits_sim usMain ds.size (pfStrord ds seq usMain mask D)
    (pfStrord ds seq usMain mask (D + 1)) (streamOrderClassic ds seq usMain mask) D hD
    (fun u hu h => so_agree ds seq usMain mask D u hu h) hmainS pits 0
    (Array.replicate ds.size 0, [], []) (Array.replicate ds.size 0, [], []) st0A
    (fun q hq => ⟨c.hb q (hpits q hq).1, by have := hpit1 q hq; omega⟩) hpA
    ⟨rfl, fun s => by rw [get!_replicate (a := (0 : Int)) _ s (.inr rfl), phi_zero]⟩ rfl rfl
  obtain rfl : st0B' = st0B := Option.some.inj (hpB'.symm.trans hpB)
  obtain ⟨allA, ordA⟩ := pfPits_all c D hD True (streamOrderClassic ds seq usMain mask)
    (fun _ => ⟨fun s hs => pfStrord_ne_zero ds seq usMain mask D s hs, hmainS⟩) pits hpn hpits
    (fun _ => hpit1) hpA
  obtain ⟨allB, _⟩ := pfPits_all c (D + 1) (by omega) False (pfStrord ds seq usMain mask (D + 1))
    (fun w => w.elim) pits hpn hpits (fun w => w.elim) hpB
  obtain ⟨fB', stB', hrun, allB', sbr, _, hlevB⟩ := pfLoop_sim c mask D _ _ _ hlA allA (ordA trivial)
    _ _ _ hlB allB ⟨sp1, sp2, ⟨[], by simp [sp3], nofun, Or.inl rfl⟩⟩
  have htribB := tributaries_nonmain ds seq usMain mask (D + 1) c.topo c.hb
  obtain ⟨href, gB⟩ := pfLoop_ref c _ (D + 1) htribB (tributaries_nodup c.topo _) fB' stB' _ hrun allB' hlevB stB'.1.1
    (PfRef.refl ds _)
  simp only at sbr href gB
  refine ⟨fun s hs => ?_, fun s hs hb => ?_, gB, pfBranch_size _ _ _ _ _ _ _ _ _ _ _ hA⟩
  · have h1 : stB'.1.1[s]! ≠ 0 := by
      rw [sbr.val]; exact fun h => hs (phi_eq_zero.1 h)
    obtain ⟨a, b⟩ := href.r1 s h1
    refine ⟨a, ?_⟩
    rw [b, sbr.val, phi_div]
  · have h1 : stB'.1.1[s]! = 0 := by rw [sbr.val, hs, phi_zero]
    exact href.r2 s h1 hb

/-! ### from the seeds to the filled maps -/

/-- the filled seeds of the deeper run, divided by 10, are the filled seeds of the shallower run -/
theorem fill_refine (ds : Array Nat) (seq : List Nat) (brA brB : Array Int) (htopo : Topo ds seq)
    (hbA : ∀ i ∈ seq, i < brA.size) (hbB : ∀ i ∈ seq, i < brB.size)
    (k1 : ∀ s : Nat, brA[s]! ≠ 0 → brB[s]! ≠ 0 ∧ brB[s]! / 10 = brA[s]!)
    (k2 : ∀ s : Nat, brA[s]! = 0 → brB[s]! ≠ 0 → ds[s]! ≠ s ∧ brB[s]! / 10 = brB[ds[s]!]! / 10)
    (hdn : ∀ s : Nat, brB[s]! ≠ 0 → brB[ds[s]!]! ≠ 0) :
    ∀ i ∈ seq, (fillnodataUpstream ds seq brB 0)[i]! / 10 = (fillnodataUpstream ds seq brA 0)[i]! := by
  refine htopo.induction _ (fun i hi ih => ?_)
  by_cases hA : brA[i]! = 0
  · by_cases hB : brB[i]! = 0
    · by_cases hp : ds[i]! = i
      · rw [fill_pit htopo hbA hi hA hp, fill_pit htopo hbB hi hB hp]; rfl
      · rw [fill_down htopo hbA hi hA hp, fill_down htopo hbB hi hB hp]; exact (ih hp).2
    · obtain ⟨hp, hq⟩ := k2 i hA hB
      obtain ⟨hdm, hih⟩ := ih hp
      rw [fill_of_ne htopo hbB hB, fill_down htopo hbA hi hA hp, ← hih, fill_of_ne htopo hbB (hdn i hB)]
      exact hq
  · obtain ⟨hB, hq⟩ := k1 i hA
    rw [fill_of_ne htopo hbA hA, fill_of_ne htopo hbB hB]
    exact hq

end Pf.C18
