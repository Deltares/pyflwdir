import PfVerif.Model.C11
import PfVerif.Core.Folds
/-! Invariant of the loop of `core.main_upstream`. -/
namespace Pf.C11
open Pf

/-- what slot `j` of `(idxs_us_main, upa_main)` holds after the cells `< k` have been visited: the initial
content, or the lowest-index cell `u` among the inflowing cells `< k` of largest area, that area `a`
being above `upaMin`; in both cases no inflowing cell `< k` has an area above `a` -/
def MainCell (ds : Array Nat) (uparea : Array Int) (upaMin : Int) (k j u : Nat) (a : Int) : Prop :=
  (u = ds.size ∧ a = upaMin ∨
    u < k ∧ ds[u]! = j ∧ u ≠ j ∧ a = uparea[u]! ∧ upaMin < a ∧
      ∀ i, i < u → ds[i]! = j → i ≠ j → uparea[i]! < a) ∧
  ∀ i, i < k → ds[i]! = j → i ≠ j → uparea[i]! ≤ a

variable {ds : Array Nat} {uparea : Array Int} {upaMin : Int} {k j u : Nat} {a : Int}

/-- cell `k` does not flow into `j`, or does not beat the holder -/
theorem MainCell.keep (h : MainCell ds uparea upaMin k j u a)
    (hk : ds[k]! = j → k ≠ j → uparea[k]! ≤ a) : MainCell ds uparea upaMin (k+1) j u a :=
  ⟨h.1.imp_right fun ⟨hu, r⟩ => ⟨Nat.lt_succ_of_lt hu, r⟩, fun i hi hd hne =>
    (Nat.lt_succ_iff_lt_or_eq.1 hi).elim (fun hi => h.2 i hi hd hne) fun e => by subst e; exact hk hd hne⟩

/-- cell `k` flows into `j` and beats the holder -/
theorem MainCell.update (h : MainCell ds uparea upaMin k j u a)
    (hd : ds[k]! = j) (hne : k ≠ j) (hgt : a < uparea[k]!) :
    MainCell ds uparea upaMin (k+1) j k uparea[k]! := by
  have hmin : upaMin ≤ a := h.1.elim (fun h => Int.le_of_eq h.2.symm) fun h => Int.le_of_lt h.2.2.2.2.1
  refine ⟨Or.inr ⟨Nat.lt_succ_self k, hd, hne, rfl, Int.lt_of_le_of_lt hmin hgt, fun i hi hd' hne' =>
    Int.lt_of_le_of_lt (h.2 i hi hd' hne') hgt⟩, fun i hi hd' hne' => ?_⟩
  rcases Nat.lt_succ_iff_lt_or_eq.1 hi with hi | rfl
  · exact Int.le_of_lt (Int.lt_of_le_of_lt (h.2 i hi hd' hne') hgt)
  · exact Int.le_refl _

/-- state of `main_upstream` after the cells `< k` have been processed -/
def MainInv (ds : Array Nat) (uparea : Array Int) (upaMin : Int) (k : Nat) (st : Array Nat × Array Int) : Prop :=
  st.1.size = ds.size ∧ st.2.size = ds.size ∧
    ∀ j, j < ds.size → MainCell ds uparea upaMin k j st.1[j]! st.2[j]!

theorem MainInv.step {um : Array Nat} {upa : Array Int}
    (h : MainInv ds uparea upaMin k (um, upa)) :
    MainInv ds uparea upaMin (k+1)
      (if ds[k]! = k ∨ ds[k]! = ds.size then (um, upa)
       else if uparea[k]! > upa[ds[k]!]! then (um.setIfInBounds ds[k]! k, upa.setIfInBounds ds[k]! uparea[k]!)
       else (um, upa)) := by
  obtain ⟨hs1, hs2, hc⟩ := h
  split
  · next hp =>
    exact ⟨hs1, hs2, fun j hj => (hc j hj).keep fun hd hne =>
      (hp.elim (fun e => hne (e.symm.trans hd)) fun e => Nat.ne_of_lt hj (hd.symm.trans e)).elim⟩
  split
  · next hp hgt =>
    refine ⟨Array.size_setIfInBounds.trans hs1, Array.size_setIfInBounds.trans hs2, fun j hj => ?_⟩
    show MainCell _ _ _ _ _ (um.setIfInBounds ds[k]! k)[j]! (upa.setIfInBounds ds[k]! uparea[k]!)[j]!
    rw [get!_setIfInBounds, get!_setIfInBounds, hs1, hs2]
    by_cases hdj : ds[k]! = j
    · rw [if_pos ⟨hdj, hdj ▸ hj⟩, if_pos ⟨hdj, hdj ▸ hj⟩]
      exact (hc j hj).update hdj (fun e => hp (Or.inl (hdj.trans e.symm))) (hdj ▸ hgt)
    · rw [if_neg (hdj ·.1), if_neg (hdj ·.1)]
      exact (hc j hj).keep fun hd => absurd hd hdj
  · next hp hgt =>
    exact ⟨hs1, hs2, fun j hj => (hc j hj).keep fun hd _ => by subst hd; exact Int.not_lt.1 hgt⟩

/-- `main_upstream` ends in a state satisfying the invariant for all cells (`upa` is the final `upa_main`) -/
theorem mainUpstream_inv (ds : Array Nat) (uparea : Array Int) (upaMin : Int) :
    ∃ upa, MainInv ds uparea upaMin ds.size (mainUpstream ds uparea upaMin, upa) := by
  unfold mainUpstream
  refine ⟨_, foldl_range_inv (MainInv ds uparea upaMin) _ _ ⟨Array.size_replicate, Array.size_replicate,
    fun j hj => ⟨Or.inl ?_, fun i hi => absurd hi (Nat.not_lt_zero i)⟩⟩ ds.size fun k hk st hst => MainInv.step hst⟩
  simp [hj]

/-! ### the certificate `isMainArgmax` -/

theorem inflow_iff {ds : Array Nat} {i j : Nat} : inflow ds i j = true ↔ i < ds.size ∧ ds[i]! = j ∧ i ≠ j := by
  simp only [inflow, Bool.and_eq_true, decide_eq_true_eq, beq_iff_eq, bne_iff_ne, and_assoc]

theorem inflow_all_le {ds : Array Nat} {uparea : Array Int} {j : Nat} {b : Int}
    (h : ((List.range ds.size).all fun i => !inflow ds i j || decide (uparea[i]! ≤ b)) = true) :
    ∀ i, i < ds.size → ds[i]! = j → i ≠ j → uparea[i]! ≤ b := by
  intro i hi hd hne
  have := List.all_eq_true.1 h i (List.mem_range.2 hi)
  rw [inflow_iff.2 ⟨hi, hd, hne⟩] at this
  simpa using this

end Pf.C11
