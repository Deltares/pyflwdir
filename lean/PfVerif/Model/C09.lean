import PfVerif.Model.Core
/-! Models of `pyflwdir/upscale.py` (C09), loop for loop. Core Lean only.

Conventions
* fine network `ds : Array Nat` of size `subn = subnrow * subncol`, missing value `subn`;
* per-coarse-cell pixel arrays (`rep`, `out`) have size `ncell = nrow * ncol`, missing value `subn`;
* coarse network `cds : Array Nat` of size `ncell`, missing value `ncell`;
* `upa : Array Int` upstream area (the harness passes integer-valued areas, so `>` on float64 is exact);
* `ea : Array Bool` is the implementation's own `effective_area(subidx, subncol, cellsize, 0.5)` per pixel
  (its `x ** 0.5` float test is a *parameter* of the model, see DESIGN §5.5);
* every `while True` is a structural recursion on fuel returning `Option`; a kernel returns `none`
  iff one of its traces ran out of fuel (`collect`).

Modelled: `subidx_2_idx`, `in_d8`, `cell_edge`, `map_celledge`, `map_effare` (as a relabelling of `ea`),
`dmm_exitcell`, `dmm_nextidx`, `dmm`, `eam_repcell`, `eam_nextidx`, `eam`, `ihu_outlets`, `ihu_nextidx`,
`eam_plus` (= `ihu(niter=0)`), `upscale_error`, `upscale_check`.
The iterative stages of `ihu` (`ihu_relocate_outlets`, `ihu_optimize_rivlen`, `ihu_minimize_error`, `new_outlet`,
`outlet_pix`) are modelled in `Model/C09_ihu.lean`; their output is still validated per run by `upscaleOK` below,
because loop-freeness of the network they return is not a theorem. -/
namespace Pf

/-! ### shapes -/

/-- `int(np.ceil(a / s))` -/
def ceilDiv (a s : Nat) : Nat := (a + s - 1) / s

/-- fine shape and scale factor; the coarse shape is derived exactly as in `dmm`/`eam`/`ihu` -/
structure Geo where
  subnrow : Nat
  subncol : Nat
  cs : Nat
  deriving Repr, DecidableEq

def Geo.nrow (g : Geo) : Nat := ceilDiv g.subnrow g.cs
def Geo.ncol (g : Geo) : Nat := ceilDiv g.subncol g.cs
def Geo.ncell (g : Geo) : Nat := g.nrow * g.ncol
def Geo.subn (g : Geo) : Nat := g.subnrow * g.subncol

/-! ### generic convenience functions -/

/-- `subidx_2_idx(subidx, subncol, cellsize, ncol)` -/
def subidx2idx (subidx subncol cs ncol : Nat) : Nat :=
  (subidx / subncol / cs) * ncol + (subidx % subncol) / cs

/-- the coarse cell of a pixel -/
def Geo.cell (g : Geo) (p : Nat) : Nat := subidx2idx p g.subncol g.cs g.ncol

def absDiff (a b : Nat) : Nat := (a - b) + (b - a)

/-- `in_d8(idx0, idx_ds, ncol)` -/
def inD8 (idx0 idxds ncol : Nat) : Bool :=
  decide (absDiff (idxds % ncol) (idx0 % ncol) ≤ 1) && decide (absDiff (idxds / ncol) (idx0 / ncol) ≤ 1)

/-- `cell_edge(subidx, subncol, cellsize)` -/
def cellEdge (subidx subncol cs : Nat) : Bool :=
  let ri := (subidx / subncol) % cs
  let ci := (subidx % subncol) % cs
  ri == 0 || ci == 0 || ri + 1 == cs || ci + 1 == cs

/-- `map_celledge` / `map_effare`: `-1` on missing pixels, else `1`/`0` -/
def mapFlag (ds : Array Nat) (flag : Nat → Bool) : Array Int :=
  ((List.range ds.size).map fun p =>
    if ds[p]! = ds.size then (-1 : Int) else if flag p then 1 else 0).toArray

def mapCellEdge (ds : Array Nat) (subncol cs : Nat) : Array Int :=
  mapFlag ds fun p => cellEdge p subncol cs

def mapEffare (ds : Array Nat) (ea : Array Bool) : Array Int :=
  mapFlag ds fun p => ea[p]!

/-- run `f` for `c = 0 … n-1`; `none` iff some run failed (ran out of fuel) -/
def collect {α : Type} [Inhabited α] (n : Nat) (f : Nat → Option α) : Option (Array α) :=
  let rs := (List.range n).map f
  if rs.all Option.isSome then some (rs.map fun o => o.getD default).toArray else none

/-! ### representative / exit pixel (`dmm_exitcell`, `eam_repcell`) -/

/-- one iteration of the pixel loop shared by `dmm_exitcell` (`cand = cell_edge`) and `eam_repcell`
(`cand = effective_area`); state = (`subidxs_rep`, `uparea`) -/
def repStep (ds : Array Nat) (upa : Array Int) (cand : Nat → Bool) (cell : Nat → Nat)
    (st : Array Nat × Array Int) (p : Nat) : Array Nat × Array Int :=
  if ds[p]! = ds.size then st
  else if ds[p]! = p ∨ cand p = true then
    if upa[p]! > st.2[cell p]! then (st.1.setIfInBounds (cell p) p, st.2.setIfInBounds (cell p) upa[p]!)
    else st
  else st

def repFold (ds : Array Nat) (upa : Array Int) (cand : Nat → Bool) (cell : Nat → Nat) (ncell k : Nat) :
    Array Nat × Array Int :=
  (List.range k).foldl (repStep ds upa cand cell) (Array.replicate ncell ds.size, Array.replicate ncell 0)

def repCells (ds : Array Nat) (upa : Array Int) (cand : Nat → Bool) (cell : Nat → Nat) (ncell : Nat) :
    Array Nat :=
  (repFold ds upa cand cell ncell ds.size).1

/-- `dmm_exitcell(subidxs_ds, subuparea, subshape, shape, cellsize)` -/
def dmmExitcell (ds : Array Nat) (upa : Array Int) (subncol cs ncol ncell : Nat) : Array Nat :=
  repCells ds upa (fun p => cellEdge p subncol cs) (fun p => subidx2idx p subncol cs ncol) ncell

/-- `eam_repcell(subidxs_ds, subuparea, subshape, shape, cellsize)` -/
def eamRepcell (ds : Array Nat) (upa : Array Int) (ea : Array Bool) (subncol cs ncol ncell : Nat) :
    Array Nat :=
  repCells ds upa (fun p => ea[p]!) (fun p => subidx2idx p subncol cs ncol) ncell

/-! ### `dmm_nextidx` -/

/-- `abs(subr - subr0) > R0 or abs(subc - subc0) > R0`, everything multiplied by two:
`c2r = 2*subr0`, `thr = 2*R0` -/
def dmmOutside (subncol thr : Nat) (c2r c2c : Int) (p : Nat) : Bool :=
  decide ((2 * Int.ofNat (p / subncol) - c2r).natAbs > thr) ||
  decide ((2 * Int.ofNat (p % subncol) - c2c).natAbs > thr)

/-- the `while True` of `dmm_nextidx`; state (`subidx`, `idx`) -/
def dmmTrace (ds : Array Nat) (cell : Nat → Nat) (outside : Nat → Bool) (idx0 : Nat) :
    Nat → Nat → Nat → Option Nat
  | 0, _, _ => none
  | fuel+1, p, idx =>
    let p1 := ds[p]!
    let idx1 := cell p1
    if p1 = p then some idx
    else if idx1 ≠ idx0 ∧ outside p = true then some idx
    else dmmTrace ds cell outside idx0 fuel p1 idx1

/-- offset-cell centre and radius (both times two) of `dmm_nextidx`: `dr = ri // (cs/2) = ⌊2 ri / cs⌋`,
`subr0 = (r0+dr)*cs - 0.5`, `R0 = cs/2`; for `cellsize == 1` the window is the cell itself
(`subr0 = r0`, `R0 = 0`) -/
def dmmCentre (subncol cs ncol idx0 p : Nat) : Int × Int × Nat :=
  if cs = 1 then (2 * Int.ofNat (idx0 / ncol), 2 * Int.ofNat (idx0 % ncol), 0)
  else
    let dr := (2 * ((p / subncol) % cs)) / cs
    let dc := (2 * ((p % subncol) % cs)) / cs
    (2 * Int.ofNat ((idx0 / ncol + dr) * cs) - 1, 2 * Int.ofNat ((idx0 % ncol + dc) * cs) - 1, cs)

/-- `dmm_nextidx(subidxs_rep, subidxs_ds, subshape, shape, cellsize)` -/
def dmmNextidx (ds rep : Array Nat) (subncol cs ncol : Nat) : Option (Array Nat) :=
  collect rep.size fun idx0 =>
    let p := rep[idx0]!
    if p = ds.size then some rep.size
    else
      let c := dmmCentre subncol cs ncol idx0 p
      dmmTrace ds (fun q => subidx2idx q subncol cs ncol) (dmmOutside subncol c.2.2 c.1 c.2.1) idx0
        (ds.size + 1) p idx0

/-- `dmm(subidxs_ds, subuparea, subshape, cellsize)` → (`idxs_ds`, `subidxs_out`) -/
def dmmModel (ds : Array Nat) (upa : Array Int) (g : Geo) : Option (Array Nat × Array Nat) :=
  let rep := dmmExitcell ds upa g.subncol g.cs g.ncol g.ncell
  (dmmNextidx ds rep g.subncol g.cs g.ncol).map fun cds => (cds, rep)

/-! ### `eam_nextidx` -/

/-- the `while True` of `eam_nextidx`; returns `idx1` -/
def eamTrace (ds : Array Nat) (ea : Array Bool) (cell : Nat → Nat) (idx0 : Nat) : Nat → Nat → Option Nat
  | 0, _ => none
  | fuel+1, p =>
    let p1 := ds[p]!
    let idx1 := cell p1
    if p1 = p then some idx1
    else if idx1 ≠ idx0 ∧ ea[p1]! = true then some idx1
    else eamTrace ds ea cell idx0 fuel p1

def eamNextidx (ds rep : Array Nat) (ea : Array Bool) (subncol cs ncol : Nat) : Option (Array Nat) :=
  collect rep.size fun idx0 =>
    let p := rep[idx0]!
    if p = ds.size then some rep.size
    else eamTrace ds ea (fun q => subidx2idx q subncol cs ncol) idx0 (ds.size + 1) p

/-- `eam(subidxs_ds, subuparea, subshape, cellsize)` → (`idxs_ds`, `subidxs_rep`) -/
def eamModel (ds : Array Nat) (upa : Array Int) (ea : Array Bool) (g : Geo) :
    Option (Array Nat × Array Nat) :=
  let rep := eamRepcell ds upa ea g.subncol g.cs g.ncol g.ncell
  (eamNextidx ds rep ea g.subncol g.cs g.ncol).map fun cds => (cds, rep)

/-! ### `ihu_outlets`, `ihu_nextidx`, `eam_plus` -/

/-- the `while True` of `ihu_outlets`: follow the stream to the last pixel inside coarse cell `idx0` -/
def ihuOutTrace (ds : Array Nat) (cell : Nat → Nat) (idx0 : Nat) : Nat → Nat → Option Nat
  | 0, _ => none
  | fuel+1, p =>
    let p1 := ds[p]!
    if idx0 ≠ cell p1 ∨ p1 = p then some p
    else ihuOutTrace ds cell idx0 fuel p1

def ihuOutlets (ds rep : Array Nat) (subncol cs ncol : Nat) : Option (Array Nat) :=
  collect rep.size fun idx0 =>
    let p := rep[idx0]!
    if p = ds.size then some ds.size
    else ihuOutTrace ds (fun q => subidx2idx q subncol cs ncol) idx0 (ds.size + 1) p

/-- the `while True` of `ihu_nextidx`; state (`subidx`, `subidx_ds`); returns (`subidx_ds`, flagged) -/
def ihuNextTrace (ds out : Array Nat) (ea : Array Bool) (cell : Nat → Nat) (ncol idx0 : Nat) :
    Nat → Nat → Option Nat → Option (Option Nat × Bool)
  | 0, _, _ => none
  | fuel+1, p, sd =>
    let p1 := ds[p]!
    let idx1 := cell p1
    if out[idx1]! = p1 ∨ p1 = p then
      if inD8 idx0 idx1 ncol = false then some (sd, true)
      else some (some p1, decide (out[idx1]! ≠ p1))
    else
      ihuNextTrace ds out ea cell ncol idx0 fuel p1 (if sd.isNone ∧ ea[p1]! = true then some p1 else sd)

/-- `ihu_nextidx(subidxs_out, subidxs_ds, subshape, shape, cellsize)` → (`idxs_ds`, `idxs_fix`).
`subidx_2_idx(mv, …)` (no effective-area pixel met before a non-adjacent outlet) is the missing value. -/
def ihuNextidx (ds out : Array Nat) (ea : Array Bool) (subncol cs ncol : Nat) :
    Option (Array Nat × List Nat) :=
  let cell := fun q => subidx2idx q subncol cs ncol
  (collect out.size fun idx0 =>
    let p := out[idx0]!
    if p = ds.size then some (out.size, false)
    else (ihuNextTrace ds out ea cell ncol idx0 (ds.size + 1) p none).map fun r =>
      (match r.1 with
        | some q => cell q
        | none => out.size, r.2)).map fun a =>
    (a.map (·.1), (List.range a.size).filter fun c => a[c]!.2)

/-- `eam_plus` = `ihu(niter=0)` → (`idxs_ds`, `subidxs_out`, `idxs_fix`) -/
def eamPlusModel (ds : Array Nat) (upa : Array Int) (ea : Array Bool) (g : Geo) :
    Option (Array Nat × Array Nat × List Nat) :=
  let rep := eamRepcell ds upa ea g.subncol g.cs g.ncol g.ncell
  match ihuOutlets ds rep g.subncol g.cs g.ncol with
  | none => none
  | some out => (ihuNextidx ds out ea g.subncol g.cs g.ncol).map fun r => (r.1, out, r.2)

/-! ### `upscale_error`, `upscale_check` -/

/-- the boolean `outlets` array of `upscale_error` -/
def outletMask (subn : Nat) (out : Array Nat) : Array Bool :=
  out.toList.foldl (fun m p => if p = subn then m else m.setIfInBounds p true) (Array.replicate subn false)

/-- the `while True` of `upscale_error`: the first pixel strictly downstream of `p` that is an outlet
pixel or a pit -/
def errWalk (ds : Array Nat) (isOut : Nat → Bool) : Nat → Nat → Option Nat
  | 0, _ => none
  | fuel+1, p =>
    let p1 := ds[p]!
    if isOut p1 = true ∨ p1 = p then some p1 else errWalk ds isOut fuel p1

/-- `upscale_error(subidxs_out, idxs_ds, subidxs_ds)[0]`: 1 connected, 0 erroneous, 255 missing -/
def upscaleError (ds out cds : Array Nat) : Option (Array Nat) :=
  let mask := outletMask ds.size out
  collect cds.size fun idx0 =>
    if cds[idx0]! ≠ cds.size ∧ out[idx0]! ≠ ds.size then
      (errWalk ds (fun q => mask[q]!) (ds.size + 1) out[idx0]!).map fun q =>
        if q ≠ out[cds[idx0]!]! then 0 else 1
    else some 255

/-- second output of `upscale_error`: the erroneous cells in increasing order -/
def upscaleErrorFix (flags : Array Nat) : List Nat :=
  (List.range flags.size).filter fun c => flags[c]! == 0

/-- initial `streams` array of `upscale_check` -/
def streamsInit (subn : Nat) (out : Array Nat) : Array Int :=
  (List.range out.size).foldl (fun (s : Array Int) (idx : Nat) =>
    if out[idx]! = subn then s else s.setIfInBounds out[idx]! (Int.ofNat idx)) (Array.replicate subn (-9))

/-- the `while True` of `upscale_check` for one coarse cell; state (`subidx`, `d`, `streams`);
returns (reached pixel, `d`, `streams`) -/
def checkWalk (ds : Array Nat) : Nat → Nat → Nat → Array Int → Option (Nat × Nat × Array Int)
  | 0, _, _, _ => none
  | fuel+1, p, d, streams =>
    let p1 := ds[p]!
    if streams[p1]! ≥ 0 ∨ p1 = p then some (p1, d, streams)
    else checkWalk ds fuel p1 (d + 1) (streams.setIfInBounds p (max streams[p]! (-1)))

/-- `upscale_check(subidxs_out, idxs_ds, subidxs_ds, minlen)` with `minlen = minNum / minDen`;
returns (`valid`, `streams`, `idxs_fix`, `idxs_short`) -/
def upscaleCheck (ds out cds : Array Nat) (minNum minDen : Nat) :
    Option (Array Bool × Array Int × List Nat × List Nat) :=
  (List.range cds.size).foldlM (fun (st : Array Bool × Array Int × List Nat × List Nat) idx0 =>
    let (valid, streams, fix, short) := st
    if cds[idx0]! = cds.size then some st
    else match checkWalk ds (ds.size + 1) out[idx0]! 0 streams with
      | none => none
      | some (q, d, streams) =>
        if q ≠ out[cds[idx0]!]! then some (valid.setIfInBounds idx0 false, streams, fix ++ [idx0], short)
        else if minNum > 0 ∧ (d + 1) * minDen ≤ minNum then some (valid, streams, fix, short ++ [idx0])
        else some (valid, streams, fix, short))
    (Array.replicate cds.size true, streamsInit ds.size out, [], [])

/-! ### pieces of the iterative stages of `ihu`: `outlet_pix`, `new_outlet` (modelled for correspondence only) -/

/-- `outlet_pix(idx, subidxs_ds, ncol, subncol, cellsize, all)`: pits of the coarse cell and edge pixels whose
downstream pixel lies outside it, column by column. `subidx_2_idx(mv, …)` (a missing pixel on the edge) is never the
cell itself for the signed index types the library uses. -/
def outletPix (ds : Array Nat) (idx ncol subncol cs : Nat) (all : Bool) : List Nat :=
  let subnrow := ds.size / subncol
  let cul := (idx % ncol) * cs
  let rul := (idx / ncol) * cs
  (List.range cs).foldl (fun acc ci =>
    if cul + ci ≥ subncol then acc else
    (List.range cs).foldl (fun acc ri =>
      if rul + ri ≥ subnrow then acc else
      let p := (rul + ri) * subncol + cul + ci
      let p1 := ds[p]!
      let edge := ci == 0 || ci + 1 == cs || ri == 0 || ri + 1 == cs
      if p = p1 then acc ++ [p]
      else if edge && (all || p1 == ds.size || subidx2idx p1 subncol cs ncol != idx) then acc ++ [p]
      else acc) acc) []

/-- the `while True` of `new_outlet`: follow the stream from a candidate pixel to the next outlet pixel or pit;
returns (`path`, last `subidx`, `subidx_ds`) -/
def newOutletWalk (ds : Array Nat) (streams : Array Int) : Nat → Nat → List Nat → Option (List Nat × Nat × Nat)
  | 0, _, _ => none
  | fuel+1, p, path =>
    let p1 := ds[p]!
    if streams[p1]! ≥ 0 ∨ p = p1 then some (path ++ [p1], p, p1)
    else newOutletWalk ds streams fuel p1 (path ++ [p1])

/-- `new_outlet(idx0, subidx0, streams, idxs_ds, subidxs_out, subidxs_ds, subuparea, ncol, subncol, cellsize,
minlen, minupa, subidx1)` with `minlen = minNum/minDen`; `upa` and `minupa` are scaled by the same factor.
Returns (`streams`, `idxs_ds`, `subidxs_out`, found). -/
def newOutlet (ds : Array Nat) (upa : Array Int) (idx0 subidx0 : Nat) (streams : Array Int)
    (cds out : Array Nat) (ncol subncol cs minNum minDen : Nat) (minupa : Int) (target : Option Nat) :
    Option (Array Int × Array Nat × Array Nat × Bool) :=
  let streams := streams.setIfInBounds subidx0 (-1)
  let cands := outletPix ds idx0 ncol subncol cs false
  -- state: upa0, subidx_out, idx_ds, path0 (`none` = nothing found yet)
  let res := cands.foldlM (fun (st : Int × Option (Nat × Nat × List Nat)) cand =>
    if streams[cand]! ≠ -9 ∨ upa[cand]! ≤ st.1 then some st
    else match newOutletWalk ds streams (ds.size + 1) cand [] with
      | none => none
      | some (path, last, pds) =>
        let n := path.length
        let idx1 := subidx2idx pds subncol cs ncol
        let outlet1 := match target with
          | none => true
          | some t => t == pds
        let outlet := decide (n * minDen > minNum) && inD8 idx0 idx1 ncol && idx0 != idx1
        let pit := n == 1 && last == path.head! && idx0 == idx1
        if outlet1 && (outlet || pit) then some (upa[cand]!, some (cand, idx1, path)) else some st)
    (minupa, none)
  match res with
  | none => none
  | some (_, none) => some (streams.setIfInBounds subidx0 (Int.ofNat idx0), cds, out, false)
  | some (_, some (pout, idxds, path0)) =>
    let streams := streams.setIfInBounds pout (Int.ofNat idx0)
    let streams := path0.foldl (fun s p => s.setIfInBounds p (max s[p]! (-1))) streams
    some (streams, cds.setIfInBounds idx0 idxds, out.setIfInBounds idx0 pout, true)

/-! ### specification side: certificate checker `UpscaleOK` and the declarative connection check -/

/-- witnesses handed to the checker (computed by unverified code in the driver):
`rk` rank of every coarse cell, `inv` pixel → coarse cell reporting it, `wit` coarse cell → a valid pixel in it -/
structure UpCert where
  rk : Array Int
  inv : Array Nat
  wit : Array Nat

def allCells (n : Nat) (p : Nat → Bool) : Bool := (List.range n).all p

/-- every coarse link stays inside the raster and the 3×3 neighbourhood -/
def okD8 (cds : Array Nat) (ncol : Nat) : Bool :=
  allCells cds.size fun c => cds[c]! == cds.size || (decide (cds[c]! < cds.size) && inD8 c cds[c]! ncol)

/-- diagnostic part of `okRank`: every valid coarse cell points to a valid coarse cell -/
def okTarget (cds : Array Nat) : Bool :=
  allCells cds.size fun c => cds[c]! == cds.size ||
    (decide (cds[c]! < cds.size) && cds[cds[c]!]! != cds.size)

/-- local rank conditions: rank 0 at pits, else the downstream cell is valid with rank one less -/
def okRank (cds : Array Nat) (rk : Array Int) : Bool :=
  allCells cds.size fun c => cds[c]! == cds.size ||
    (decide (cds[c]! < cds.size) &&
      (if cds[c]! = c then rk[c]! == 0
       else decide (cds[cds[c]!]! < cds.size) && decide (0 ≤ rk[cds[c]!]!) && rk[c]! == rk[cds[c]!]! + 1))

/-- a coarse cell is valid exactly where an outlet pixel is reported -/
def okValidIff (cds out : Array Nat) (subn : Nat) : Bool :=
  out.size == cds.size && allCells cds.size fun c => (cds[c]! != cds.size) == (out[c]! != subn)

/-- outlet pixels are valid fine cells, pairwise distinct (`inv` is a left inverse) -/
def okOutlets (ds out inv : Array Nat) : Bool :=
  allCells out.size fun c => out[c]! == ds.size ||
    (decide (out[c]! < ds.size) && ds[out[c]!]! != ds.size && inv[out[c]!]! == c)

/-- every coarse cell with an outlet contains a valid fine cell (`wit`) -/
def okCellValid (ds out wit : Array Nat) (cell : Nat → Nat) : Bool :=
  allCells out.size fun c => out[c]! == ds.size ||
    (decide (wit[c]! < ds.size) && ds[wit[c]!]! != ds.size && cell wit[c]! == c)

/-- every outlet pixel lies in its own coarse cell (claimed for dmm, eam, eam_plus only) -/
def okOwnCell (ds out : Array Nat) (cell : Nat → Nat) : Bool :=
  allCells out.size fun c => out[c]! == ds.size || cell out[c]! == c

/-- the decidable certificate predicate evaluated on the implementation's output -/
def upscaleOK (ds : Array Nat) (g : Geo) (cds out : Array Nat) (w : UpCert) : Bool :=
  cds.size == g.ncell && okD8 cds g.ncol && okRank cds w.rk && okValidIff cds out ds.size &&
    okOutlets ds out w.inv && okCellValid ds out w.wit g.cell

/-- witnesses for a given output -/
def mkCert (ds : Array Nat) (g : Geo) (cds out : Array Nat) : UpCert where
  rk := match rank cds with
    | some (r, _) => r
    | none => Array.replicate cds.size (-1)
  inv := (List.range out.size).foldl (fun a c => a.setIfInBounds out[c]! c) (Array.replicate ds.size out.size)
  wit := (List.range ds.size).foldl (fun a p =>
    if ds[p]! = ds.size then a else a.setIfInBounds (g.cell p) p) (Array.replicate out.size ds.size)

/-! ### executable checks of the hypotheses of the by-construction theorems (evaluated by the driver on every case) -/

def centreAxB (cs x : Nat) : Bool := decide (cs ≤ 2 * (x % cs) + 2) && decide (2 * (x % cs) ≤ cs)

/-- the effective-area map contains the centre cross of every coarse cell -/
def chkEaCross (g : Geo) (ea : Array Bool) (n : Nat) : Bool :=
  allCells n fun p => !(centreAxB g.cs (p / g.subncol) || centreAxB g.cs (p % g.subncol)) || ea[p]!

/-- fine links join 8-neighbours -/
def chkFineD8 (ds : Array Nat) (subncol : Nat) : Bool :=
  allCells ds.size fun p => ds[p]! == ds.size || inD8 p ds[p]! subncol

/-- valid fine cells point to valid fine cells -/
def chkFineWF (ds : Array Nat) : Bool :=
  allCells ds.size fun p => ds[p]! == ds.size || (decide (ds[p]! < ds.size) && ds[ds[p]!]! != ds.size)

/-- the upstream area strictly increases downstream -/
def chkUpaMono (ds : Array Nat) (upa : Array Int) : Bool :=
  allCells ds.size fun p => ds[p]! == ds.size || ds[p]! == p || decide (upa[p]! < upa[ds[p]!]!)

/-- declarative version of the connection check for one coarse cell: the walk decides membership in the
outlet list directly (no mask array) -/
def errSpec (ds out cds : Array Nat) (c : Nat) : Nat :=
  if cds[c]! = cds.size ∨ out[c]! = ds.size then 255
  else match errWalk ds (fun q => out.toList.contains q) (ds.size + 1) out[c]! with
    | some q => if q = out[cds[c]!]! then 1 else 0
    | none => 2

end Pf
