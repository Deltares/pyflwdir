import PfVerif.Proofs.C19Feat
import PfVerif.Proofs.C19Inv
import PfVerif.Proofs.C19Seg
/-! # C19 — stream vectorisation covers every link exactly once, split at confluences

Groups of theorems, each for ALL inputs (no bound on network size, stream length or
`max_len`):

* the split rule (`split_arith`, `split_cover`, `split_chain`, `split_size`, `split_concat`, `split_none`) — about
  the model `splitPieces` of the slicing code, from the two roundings `k = round(l/m)`, `n = round(l/k)`;
* the decidable certificate `StreamsOK` (evaluated by the driver on the IMPLEMENTATION's index
  arrays in every case) is sound for the global statement (`streamsOK_sound`, `streamsOK_ends`);
* algorithm-level facts about the model `streamsModel` of `streams.streams` itself, for any order and mask
  (`walk_spec`, `nup_is_inflow_count`, `streams_model_linked`, `streams_model_flowpath`, `streams_model_size`,
  `streams_model_emits`);
* `streams_model_ok` — for every downstream-first order that contains the stream cells and every
  downstream-closed mask the model returns (fuel suffices: `walk_total`, `streams_model_total`) and its output
  satisfies the certificate `StreamsOK`; hence `streams_model_cover` (every link exactly once), `streams_model_pits`;
* the closed forms of `gis_utils.features` / `core.flwdir_tuples` (`features_props`, `vectorize_per_cell`);
* `subgrid.segment_indices`: what the returned segments are (`segment_indices_spec`), and that the model returns on every
  loop-free network in both directions (`segment_walk_total`, `segment_walk_total_up`, `segment_indices_total(_up)`). -/
namespace Pf.C19
open Pf

/-! ## the split rule -/

/-- for a stream of `l` vertices and a maximum length `m` with `l / m > 1.5`,
`k = round_half_even(l/m) ≥ 2` pieces of `n = round_half_even(l/k) ≥ 1` links are cut; the last piece
starts inside the stream (`(k-1)·n < l`, so it is non-empty and every earlier slice is complete, hence
ends at the vertex where the next one starts); a non-final piece has `n + 1` vertices with
`2·(n+1) ≤ 3·m + 1`, the final piece `l - (k-1)·n` vertices with `2·(l - (k-1)·n) ≤ 3·m`. -/
theorem split_arith (l m : Nat) (hm : 0 < m) (hlm : 3 * m < 2 * l) :
    let k := roundHalfEven l m
    let n := roundHalfEven l k
    2 ≤ k ∧ 1 ≤ n ∧ (k - 1) * n < l ∧ 2 * (n + 1) ≤ 3 * m + 1 ∧ 2 * (l - (k - 1) * n) ≤ 3 * m := by
  intro k n
  obtain ⟨h1, h2, h3, h4, h5⟩ := split_arith_rhe l m hm hlm
  refine ⟨h1, h2, h3, ?_, h5⟩
  have h4' : 2 * roundHalfEven l (roundHalfEven l m) + 1 ≤ 3 * m := h4
  show 2 * (roundHalfEven l (roundHalfEven l m) + 1) ≤ 3 * m + 1
  omega

/-- the bound `2·vertices ≤ 3·m + 1` is attained (l = 2, m = 1) -/
example : splitPieces [7, 8] 1 = [[7, 8], [8]] ∧ 2 * [7, 8].length = 3 * 1 + 1 := by decide
example : splitNK 7 2 = (2, 4) ∧ splitPieces [8, 7, 6, 5, 4, 3, 1] 2 = [[8, 7, 6], [6, 5, 4], [4, 3, 1], [1]] := by
  decide

/-- for every vertex list and every `max_len`, the pieces appended for a stream contain
every link of the stream exactly once and in order (concatenating the consecutive pairs of the
pieces gives the consecutive pairs of the stream). -/
theorem split_cover (idxs : List Nat) (m : Nat) :
    (splitPieces idxs m).flatMap pairsOf = pairsOf idxs :=
  splitPieces_pairs idxs m

example : (splitPieces [9, 8, 7, 6, 5, 4, 3] 2).flatMap pairsOf = [(9, 8), (8, 7), (7, 6), (6, 5), (5, 4), (4, 3)] ∧
    (splitPieces [9, 8, 7, 6, 5, 4, 3] 2).length = 4 := by decide

/-- consecutive pieces share a vertex — piece `i+1` starts where piece `i` ends. -/
theorem split_chain (idxs : List Nat) (m : Nat) (i : Nat) (hi : i + 1 < (splitPieces idxs m).length) :
    ∃ p q v, (splitPieces idxs m)[i]? = some p ∧ (splitPieces idxs m)[i + 1]? = some q ∧
      p.getLast? = some v ∧ q.head? = some v := by
  obtain ⟨n, k, he, hn, _, hk1, _⟩ := splitPieces_eq_loop idxs m
  rw [he, splitLoop_length] at hi
  rw [he]
  obtain ⟨p, q, v, hp, hq, hpv, hqv, _⟩ :=
    splitLoop_joint idxs n k i hn (hk1 (Nat.lt_of_le_of_lt (Nat.le_add_left 1 i) hi)).2 hi
  exact ⟨p, q, v, hp, hq, hpv, hqv⟩

example : splitPieces [9, 8, 7, 6, 5] 2 = [[9, 8, 7], [7, 6, 5]] := by decide

/-- with a maximum length `m > 0` no piece has more than `(3·m + 1) / 2` vertices
("not exceeding about 1.5 times that maximum"). -/
theorem split_size (idxs : List Nat) (m : Nat) (hm : 0 < m) :
    ∀ p ∈ splitPieces idxs m, 2 * p.length ≤ 3 * m + 1 :=
  splitPieces_size idxs m hm

/-- at vertex level, for every vertex list and EVERY `max_len`, 0 included: gluing the pieces
back together - the first piece, then every later piece without its first vertex, which by `split_chain`
is the last vertex of the piece before (`joinPieces`) - gives back the unsplit stream. -/
theorem split_concat (idxs : List Nat) (m : Nat) : joinPieces (splitPieces idxs m) = idxs := by
  obtain ⟨n, k, he, _, hk, _⟩ := splitPieces_eq_loop idxs m
  rw [he]
  exact splitLoop_join n k idxs hk

example : splitPieces [6, 5, 4, 3, 2, 1, 0] 2 = [[6, 5, 4], [4, 3, 2], [2, 1, 0], [0]] ∧
    joinPieces [[6, 5, 4], [4, 3, 2], [2, 1, 0], [0]] = [6, 5, 4, 3, 2, 1, 0] := by decide
/-- the size bound of `split_size`, `(3·m + 1) / 2` vertices, cannot be improved to `m + 1` vertices: a stream
of 7 vertices with `max_len = 3` is cut into `k = round(7/3) = 2` pieces of `n = round(7/2) = 4` links, the
first piece has 5 vertices (the code returns `[6,5,4,3,2], [2,1,0]` on the chain 6→…→0). -/
example : splitPieces [6, 5, 4, 3, 2, 1, 0] 3 = [[6, 5, 4, 3, 2], [2, 1, 0]] ∧ 2 * 5 = 3 * 3 + 1 := by decide

/-- without a maximum length the stream is kept whole -/
theorem split_none (idxs : List Nat) : splitPieces idxs 0 = [idxs] := by
  simp [splitPieces]

/-! ## the certificate -/

/-- certificate soundness (about any list of index arrays the decidable check accepts,
in particular the implementation's output, on which the driver evaluates it in every case).
If `StreamsOK ds mask m feats` then
1. every link `(i, ds i)` of a stream cell occurs exactly once among the consecutive vertex pairs
   of the stream features, and nothing else occurs there;
2. every stream feature is the flow path of its first cell (`f[k] = ds^k (f[0])`): consecutive
   vertices are linked cells;
3. no interior vertex of a stream feature has more than one inflowing stream cell;
4. every pit of the stream network has exactly one zero-length feature `[p, p]`, and every
   zero-length feature is one of these;
5. with `m > 0` no stream feature has more than `(3m+1)/2` vertices. -/
theorem streamsOK_sound (ds : Array Nat) (mask : Option (Array Bool)) (m : Nat) (feats : List (List Nat))
    (h : StreamsOK ds mask m feats = true) :
    (∀ i, inStream ds mask i = true → ds[i]! ≠ i → (allPairs feats).count (i, ds[i]!) = 1) ∧
    (∀ p ∈ allPairs feats, inStream ds mask p.1 = true ∧ ds[p.1]! = p.2 ∧ p.1 ≠ p.2) ∧
    (∀ f ∈ streamFeats feats, ∀ k, k < f.length → f[k]? = some (iterA ds k f.head!)) ∧
    (∀ f ∈ streamFeats feats, ∀ v ∈ interior f, nupM ds mask v ≤ 1) ∧
    (∀ p, inStream ds mask p = true → ds[p]! = p → feats.count [p, p] = 1) ∧
    (∀ f ∈ feats, isPitFeat f = true → ∃ p, f = [p, p] ∧ inStream ds mask p = true ∧ ds[p]! = p) ∧
    (0 < m → ∀ f ∈ streamFeats feats, 2 * f.length ≤ 3 * m + 1) := by
  obtain ⟨hl, ho, hc, hi, _, hp, hs⟩ := streamsOK_iff.mp h
  exact ⟨count_link_eq_one hl ho hc, okLinked_iff.mp hl,
    fun f hf => path_of_pairs ds f fun p hpf => (okLinked_iff.mp hl p (mem_allPairs_of_mem hf hpf)).2.1,
    okInterior_iff.mp hi, count_pit_eq_one hp, pit_feat_is_pit hp, okSize_iff.mp hs⟩

/-- the start/end clause of the certificate, spelled out: a stream feature starts at a headwater or
confluence (or, with a maximum length, where another stream feature ends) and ends at a confluence
or pit (or where another one starts). -/
theorem streamsOK_ends (ds : Array Nat) (mask : Option (Array Bool)) (m : Nat) (feats : List (List Nat))
    (h : StreamsOK ds mask m feats = true) :
    ∀ f ∈ streamFeats feats, ∃ s e, f.head? = some s ∧ f.getLast? = some e ∧ inStream ds mask s = true ∧
      (nupM ds mask s ≠ 1 ∨ (0 < m ∧ ∃ g ∈ streamFeats feats, 2 ≤ g.length ∧ g.getLast? = some s)) ∧
      (1 < nupM ds mask e ∨ ds[e]! = e ∨ (0 < m ∧ ∃ g ∈ streamFeats feats, 2 ≤ g.length ∧ g.head? = some e)) :=
  okEnds_iff.mp (streamsOK_iff.mp h).2.2.2.2.1

/-- non-vacuity: the certificate accepts the model's output on a network with a confluence
(8→7→…→3→1, 2→1, 1→0 pit) with and without a maximum length, and rejects a list that misses a link -/
example : streamsModel #[0, 0, 1, 1, 3, 4, 5, 6, 7] [0, 1, 2, 3, 4, 5, 6, 7, 8] none 0 =
    some [[8, 7, 6, 5, 4, 3, 1], [2, 1], [1, 0], [0, 0]] := by decide
example : StreamsOK #[0, 0, 1, 1, 3, 4, 5, 6, 7] none 0 [[8, 7, 6, 5, 4, 3, 1], [2, 1], [1, 0], [0, 0]] = true := by
  decide
example : StreamsOK #[0, 0, 1, 1, 3, 4, 5, 6, 7] none 2
    [[8, 7, 6], [6, 5, 4], [4, 3, 1], [1], [2, 1], [1, 0], [0, 0]] = true := by decide
example : StreamsOK #[0, 0, 1, 1, 3, 4, 5, 6, 7] none 0 [[8, 7, 6, 5, 4, 3, 1], [1, 0], [0, 0]] = false := by decide
example : StreamsOK #[0, 0, 1, 1, 3, 4, 5, 6, 7] none 0 [[8, 7, 6, 5, 4, 3, 1, 0], [2, 1], [1, 0], [0, 0]] = false := by
  decide

/-! ## the algorithm (model of `streams.streams`), all inputs -/

/-- the inner `while True` started at `s` returns a vertex list that starts at `s`,
whose consecutive vertices are linked, different cells, none of whose interior vertices has more than one
inflowing stream cell (`upstream_count` with the mask), and which ends at a pit (then `pit` is set and the
zero-length feature is appended) or at a cell with more than one inflowing stream cell. -/
theorem walk_spec (ds : Array Nat) (nup : Array Int) (fuel s : Nat) (done : Array Bool) (w : WalkRes)
    (h : streamWalk ds nup fuel s [s] done = some w) :
    w.idxs.head? = some s ∧
    (∀ p ∈ pairsOf w.idxs, ds[p.1]! = p.2 ∧ p.1 ≠ p.2) ∧
    (∀ v ∈ interior w.idxs, nup[v]! ≤ 1) ∧
    w.idxs.getLast? = some w.last ∧
    (if w.pit = true then ds[w.last]! = w.last else nup[w.last]! > 1) := by
  obtain ⟨tail, hw, hi⟩ := streamWalk_spec ds nup fuel s [s] done w h
  have hi' : w.idxs = s :: tail := by simpa using hi
  rw [hi']
  refine ⟨rfl, hw.linked, ?_, hw.ends.1, hw.ends.2⟩
  intro v hv
  have := hw.interior v hv
  omega

/-- `upstream_count` with a mask counts the inflowing stream cells: on every valid cell the array
`nup` used by `streams` (and in `walk_spec`) equals the declarative count `nupM` used by the certificate. -/
theorem nup_is_inflow_count (ds : Array Nat) (mask : Option (Array Bool)) (v : Nat)
    (hv : isValid ds v = true) : (upstreamCount ds mask)[v]! = (nupM ds mask v : Int) :=
  upstreamCount_spec ds mask v hv

example : upstreamCount #[0, 0, 1, 1, 3, 6] (some #[true, true, false, true, true, true]) = #[1, 1, 0, 1, 0, -9] ∧
    nupM #[0, 0, 1, 1, 3, 6] (some #[true, true, false, true, true, true]) 1 = 1 ∧
    nupM #[0, 0, 1, 1, 3, 6] none 1 = 2 := by decide

/-- consecutive vertices are always linked cells (algorithm level, every network, order, mask and
`max_len`): every index array returned by the model is the zero-length feature of a pit or a polyline
whose consecutive vertices are a cell and its (different) downstream cell.
 No hypothesis on order or mask is needed for this clause
(the full certificate for the model is `streams_model_ok` below). -/
theorem streams_model_linked (ds : Array Nat) (seq : List Nat) (mask : Option (Array Bool)) (m : Nat)
    (feats : List (List Nat)) (h : streamsModel ds seq mask m = some feats) :
    ∀ f ∈ feats, (∃ p, f = [p, p] ∧ ds[p]! = p) ∨ (∀ q ∈ pairsOf f, ds[q.1]! = q.2 ∧ q.1 ≠ q.2) :=
  model_linked ds seq mask m feats h

/-- every feature is a flow path: vertex `k` of a returned index array is the `k`-fold downstream
cell of its first vertex. -/
theorem streams_model_flowpath (ds : Array Nat) (seq : List Nat) (mask : Option (Array Bool)) (m : Nat)
    (feats : List (List Nat)) (h : streamsModel ds seq mask m = some feats) :
    ∀ f ∈ feats, ∀ k, k < f.length → f[k]? = some (iterA ds k f.head!) := by
  intro f hf
  apply path_of_pairs
  rcases streams_model_linked ds seq mask m feats h f hf with ⟨p, rfl, hp⟩ | hl
  · intro q hq
    simp [pairsOf] at hq
    subst hq
    exact hp
  · exact fun q hq => (hl q hq).1

/-- with a maximum length `m > 0` no returned index array has more than `(3m+1)/2` vertices. -/
theorem streams_model_size (ds : Array Nat) (seq : List Nat) (mask : Option (Array Bool)) (m : Nat)
    (hm : 0 < m) (feats : List (List Nat)) (h : streamsModel ds seq mask m = some feats) :
    ∀ f ∈ feats, 2 * f.length ≤ 3 * m + 1 :=
  model_size ds seq mask m hm feats h

/-- emitted at least once, for ANY mask and ANY order (no `Topo`, no closedness): the link of every
selected non-pit cell of the sequence occurs in some returned index array, and every selected pit of
the sequence has its zero-length feature. ("Exactly once" needs the hypotheses of `streams_model_ok`;
see `streams_model_cover`.) -/
theorem streams_model_emits (ds : Array Nat) (seq : List Nat) (mask : Option (Array Bool)) (m : Nat)
    (feats : List (List Nat)) (h : streamsModel ds seq mask m = some feats)
    (hb : ∀ i ∈ seq, i < ds.size) (i : Nat) (hi : i ∈ seq) (hm : maskAt mask i = true) :
    (ds[i]! ≠ i → ∃ f ∈ feats, (i, ds[i]!) ∈ pairsOf f) ∧ (ds[i]! = i → [i, i] ∈ feats) := by
  rcases streamsModel_cover ds seq mask m feats h hb i hi hm with ⟨h1, h2⟩ | ⟨f, hf, h2⟩
  · exact ⟨fun hne => absurd h1 hne, fun _ => h2⟩
  · refine ⟨fun _ => ⟨f, hf, h2⟩, fun hp => ?_⟩
    -- a pit has no link `(i, ds i)` with `i ≠ ds i`, so `f` is its zero-length feature
    rcases streams_model_linked ds seq mask m feats h f hf with ⟨p, rfl, _⟩ | hl
    · have : i = p ∧ ds[i]! = p := by simpa [pairsOf] using h2
      exact this.1 ▸ hf
    · exact absurd hp.symm (hl _ h2).2

example : streamsModel #[0, 0, 1, 1, 3, 4, 5, 6, 7] [0, 1, 2, 3, 4, 5, 6, 7, 8] none 2 =
    some [[8, 7, 6], [6, 5, 4], [4, 3, 1], [1], [2, 1], [1, 0], [0, 0]] := by decide
-- a stream mask (cells 0,1,3,4): cell 2 is not a stream cell, so 1 is no confluence of the stream network
example : streamsModel #[0, 0, 1, 1, 3, 4, 5, 6, 7] [0, 1, 2, 3, 4, 5, 6, 7, 8]
    (some #[true, true, false, true, true, false, false, false, false]) 0 = some [[4, 3, 1, 0], [0, 0]] := by decide

/-! ## the model satisfies the certificate -/

/-- on a downstream-first order whose cells are in range, the inner
`while True` started at any cell of the order returns within the `ds.size + 1` steps of fuel the model
uses (so `none` = "fuel exhausted" never occurs on loop-free networks). -/
theorem walk_total (ds : Array Nat) (nup : Array Int) (seq : List Nat) (htopo : Topo ds seq)
    (hb : ∀ i ∈ seq, i < ds.size) (c : Nat) (hc : c ∈ seq) (acc : List Nat) (done : Array Bool) :
    ∃ w, streamWalk ds nup (ds.size + 1) c acc done = some w :=
  streamWalk_total_topo ds nup seq htopo hb c hc acc done

/-- for every network `ds`, every
downstream-first order `seq` (`Topo`) of cells in range that contains all stream cells, every
downstream-closed stream mask and every `max_len`, the model of `streams.streams` returns (its fuel
suffices) and its output satisfies every clause of the certificate `StreamsOK`: links of stream cells
exactly once and nothing else, no interior confluence, starts at a headwater / confluence / previous piece
end, ends at a confluence / pit / next piece start, one zero-length feature per pit, bounded size.
Proof: invariant of the `done` flags over the order processed from its end (`Inv`, `inv_walk`): flagged
cells are exactly the upstream ends of emitted pairs and the pits with an emitted zero-length feature;
a flagged cell that is still to be visited was entered from a flagged cell; a flagged cell draining into
a non-confluence has a flagged downstream cell; so a walk never enters a flagged cell (uniqueness of the
inflow of a non-confluence) and an unflagged selected cell at its visit is a headwater or confluence. -/
theorem streams_model_ok (ds : Array Nat) (seq : List Nat) (mask : Option (Array Bool)) (m : Nat)
    (htopo : Topo ds seq) (hb : ∀ i ∈ seq, i < ds.size)
    (hcov : ∀ i, inStream ds mask i = true → i ∈ seq) (hcl : dsClosed ds mask = true) :
    ∃ feats, streamsModel ds seq mask m = some feats ∧ StreamsOK ds mask m feats = true := by
  obtain ⟨st', hfold, hinv⟩ := fold_inv ds mask m hcl seq htopo hb _ (inv_init ds mask m seq hcov)
  have hmodel : streamsModel ds seq mask m = some st'.1 := by
    unfold streamsModel; rw [hfold]; rfl
  exact ⟨st'.1, hmodel, streamsOK_of_inv ds mask m seq st' hinv hmodel⟩

/-- cover, exactly once (algorithm level): under the hypotheses of `streams_model_ok` every link
`(i, ds i)` of a stream cell occurs exactly once among the consecutive vertex pairs of the stream
features returned by the model, and every consecutive pair is such a link. -/
theorem streams_model_cover (ds : Array Nat) (seq : List Nat) (mask : Option (Array Bool)) (m : Nat)
    (htopo : Topo ds seq) (hb : ∀ i ∈ seq, i < ds.size)
    (hcov : ∀ i, inStream ds mask i = true → i ∈ seq) (hcl : dsClosed ds mask = true) :
    ∃ feats, streamsModel ds seq mask m = some feats ∧
      (∀ i, inStream ds mask i = true → ds[i]! ≠ i → (allPairs feats).count (i, ds[i]!) = 1) ∧
      (∀ p ∈ allPairs feats, inStream ds mask p.1 = true ∧ ds[p.1]! = p.2 ∧ p.1 ≠ p.2) := by
  obtain ⟨feats, h1, h2⟩ := streams_model_ok ds seq mask m htopo hb hcov hcl
  have hs := streamsOK_sound ds mask m feats h2
  exact ⟨feats, h1, hs.1, hs.2.1⟩

/-- one zero-length feature per pit (algorithm level): under the hypotheses of `streams_model_ok`
every pit of the stream network has exactly one feature `[p, p]` in the model's output. -/
theorem streams_model_pits (ds : Array Nat) (seq : List Nat) (mask : Option (Array Bool)) (m : Nat)
    (htopo : Topo ds seq) (hb : ∀ i ∈ seq, i < ds.size)
    (hcov : ∀ i, inStream ds mask i = true → i ∈ seq) (hcl : dsClosed ds mask = true) :
    ∃ feats, streamsModel ds seq mask m = some feats ∧
      ∀ p, inStream ds mask p = true → ds[p]! = p → feats.count [p, p] = 1 := by
  obtain ⟨feats, h1, h2⟩ := streams_model_ok ds seq mask m htopo hb hcov hcl
  exact ⟨feats, h1, (streamsOK_sound ds mask m feats h2).2.2.2.2.1⟩

/-- non-vacuity of the hypotheses: the example network is a `Topo` order, the all-cells mask is closed -/
example : Topo #[0, 0, 1, 1, 3] [0, 1, 2, 3, 4] := by
  have h0 : Topo #[0, 0, 1, 1, 3] [] := Topo.nil
  have h1 : Topo #[0, 0, 1, 1, 3] ([] ++ [0]) := Topo.snoc h0 (by simp) (Or.inl (by decide))
  have h2 : Topo #[0, 0, 1, 1, 3] ([0] ++ [1]) := Topo.snoc h1 (by simp) (Or.inr (by decide))
  have h3 : Topo #[0, 0, 1, 1, 3] ([0, 1] ++ [2]) := Topo.snoc h2 (by simp) (Or.inr (by decide))
  have h4 : Topo #[0, 0, 1, 1, 3] ([0, 1, 2] ++ [3]) := Topo.snoc h3 (by simp) (Or.inr (by decide))
  exact Topo.snoc h4 (by simp) (Or.inr (by decide))
example : dsClosed #[0, 0, 1, 1, 3] none = true ∧
    dsClosed #[0, 0, 1, 1, 3] (some #[true, true, false, true, false]) = true ∧
    dsClosed #[0, 0, 1, 1, 3] (some #[true, false, false, true, false]) = false := by decide
example : streamsModel #[0, 0, 1, 1, 3] [0, 1, 2, 3, 4] none 0 = some [[4, 3, 1], [2, 1], [1, 0], [0, 0]] ∧
    StreamsOK #[0, 0, 1, 1, 3] none 0 [[4, 3, 1], [2, 1], [1, 0], [0, 0]] = true := by decide

/-! ## features and per-cell vectorisation -/

/-- `gis_utils.features` returns, in order, one feature per flow path with at
least two vertices; its coordinates are the coordinates of the path's cells, `idx` is the first and
`idx_ds` the last cell, the extra maps are sampled at the first cell, and `pit` says that the last two
vertices coincide. -/
theorem features_props (paths : List (List Nat)) (coord : Nat → Int × Int) (maps : List (Array Int)) :
    (featuresModel paths coord maps).map (·.cells) = paths.filter (fun p => decide (2 ≤ p.length)) ∧
    ∀ ft ∈ featuresModel paths coord maps,
      ft.cells ∈ paths ∧ 2 ≤ ft.cells.length ∧
      ft.coords = ft.cells.map coord ∧ ft.idx = ft.cells.head! ∧ ft.idxDs = ft.cells.getLast! ∧
      ft.props = maps.map (·[ft.cells.head!]!) ∧
      (ft.pit = true ↔ ft.cells.getLast! = (ft.cells.dropLast).getLast!) := by
  rw [featuresModel_eq]
  constructor
  · rw [List.map_map]
    have : ((fun (x : Feat) => x.cells) ∘ mkFeat coord maps) = id := by funext p; rfl
    rw [this, List.map_id]
  · intro ft hft
    rw [List.mem_map] at hft
    obtain ⟨p, hp, rfl⟩ := hft
    rw [List.mem_filter] at hp
    refine ⟨hp.1, (by simpa using hp.2 : 2 ≤ p.length), rfl, rfl, rfl, rfl, ?_⟩
    simp [mkFeat]

example : (featuresModel [[4, 3, 1], [1], [0, 0], []] (fun i => (i, -i)) [#[10, 11, 12, 13, 14]]) =
    [⟨[4, 3, 1], [(4, -4), (3, -3), (1, -1)], 4, 1, false, [14]⟩, ⟨[0, 0], [(0, 0), (0, 0)], 0, 0, true, [10]⟩] := by
  decide

/-- `flwdir_tuples` lists exactly the pairs `(i, nxt i)` of the valid cells
selected by the mask, each cell once, and `features` turns every one of them into a two-vertex
feature (none is dropped). -/
theorem vectorize_per_cell (nxt : Array Nat) (mask : Option (Array Bool)) (coord : Nat → Int × Int)
    (maps : List (Array Int)) :
    (∀ p, p ∈ flwdirTuples nxt mask ↔
      p.1 < nxt.size ∧ nxt[p.1]! ≠ nxt.size ∧ maskAt mask p.1 = true ∧ p.2 = nxt[p.1]!) ∧
    ((flwdirTuples nxt mask).map (·.1)).Nodup ∧
    (featuresModel ((flwdirTuples nxt mask).map fun p => [p.1, p.2]) coord maps).map (·.cells) =
      (flwdirTuples nxt mask).map fun p => [p.1, p.2] := by
  refine ⟨flwdirTuples_mem nxt mask, flwdirTuples_nodup nxt mask, ?_⟩
  rw [(features_props _ coord maps).1, List.filter_eq_self]
  intro a ha
  rw [List.mem_map] at ha
  obtain ⟨p, _, rfl⟩ := ha
  simp

example : flwdirTuples #[0, 0, 1, 4, 4] (some #[true, true, false, true, true]) = [(0, 0), (1, 0), (3, 4), (4, 4)] := by decide

/-! ## `streams(idxs_out=...)`: `subgrid.segment_indices` -/

/-- segments between outlets (every next-cell array — `idxs_ds` or the main-upstream array —, outlet
list, mask and `max_len`): every index array returned by the model of `segment_indices` is either the
zero-length feature `[p, p]` of a pit, or a segment with at least two vertices that
* starts at a listed outlet,
* is the path of its first cell along `nxt` (`f[k] = nxt^k (f[0])`), consecutive vertices being a cell and
  its different, existing next cell that the mask selects,
* has no listed outlet among its interior vertices,
* has at most `max_len` vertices when `max_len > 0`,
* ends where the loop breaks (no next cell, pit, next cell masked out, `max_len` vertices reached) or at
  the next listed outlet. -/
theorem segment_indices_spec (idxsOut : List Nat) (nxt : Array Nat) (mask : Option (Array Bool)) (maxLen : Nat)
    (out : List (List Nat)) (h : segmentIndices idxsOut nxt mask maxLen = some out) :
    ∀ f ∈ out, (∃ p, f = [p, p] ∧ nxt[p]! = p) ∨
      (2 ≤ f.length ∧ (∃ s ∈ idxsOut, s ≠ nxt.size ∧ f.head? = some s) ∧
       (∀ q ∈ pairsOf f, nxt[q.1]! = q.2 ∧ q.1 ≠ q.2 ∧ q.2 ≠ nxt.size ∧ maskAt mask q.2 = true) ∧
       (∀ k, k < f.length → f[k]? = some (iterA nxt k f.head!)) ∧
       (∀ v ∈ interior f, v < nxt.size → v ∉ idxsOut) ∧
       (0 < maxLen → f.length ≤ maxLen) ∧
       (∃ e, f.getLast? = some e ∧
         (segStop nxt mask maxLen e f.length = true ∨ (e ∈ idxsOut ∧ e < nxt.size)))) := by
  refine segmentIndices_forall idxsOut nxt mask maxLen _ ?_ out h
  intro idx0 r hmem0 hne hr f hf
  obtain ⟨tail, hS, hidx⟩ := segWalk_spec nxt _ mask maxLen _ idx0 [idx0] r hr
  have hidx' : r.1 = idx0 :: tail := by simpa using hidx
  have hlen : (idx0 :: tail).length = [idx0].length + tail.length := by
    rw [List.length_cons, Nat.add_comm]; rfl
  unfold segFeatures at hf
  rcases List.mem_append.mp hf with hf | hf
  · right
    by_cases hl : r.1.length > 1
    · simp only [hl, if_true, List.mem_singleton] at hf
      subst hf
      rw [hidx'] at hl ⊢
      have hlink := hS.linked
      refine ⟨hl, ?_, hlink, ?_, ?_, ?_, ?_⟩
      · exact ⟨idx0, hmem0, hne, rfl⟩
      · exact path_of_pairs nxt _ (fun q hq => (hlink q hq).1)
      · intro v hv hvlt hmem
        have := hS.interior v hv
        have h2 := (segOutlets_get idxsOut nxt.size v).mpr ⟨hmem, hvlt⟩
        rw [h2] at this; cases this
      · exact fun hm => hlen ▸ hS.length hm hm
      · obtain ⟨e, he, hcase⟩ := hS.ends
        refine ⟨e, he, ?_⟩
        rcases hcase with ⟨h1, _, _⟩ | ⟨_, h2, _, _⟩
        · exact Or.inl (hlen ▸ h1)
        · exact Or.inr ((segOutlets_get idxsOut nxt.size e).mp h2)
    · simp [hl] at hf
  · left
    by_cases hp : r.2.1 = true
    · simp only [hp, if_true, List.mem_singleton] at hf
      exact ⟨r.2.2, hf, hS.pit_last hp⟩
    · simp [hp] at hf

example : segmentIndices [4, 1] #[0, 0, 1, 1, 3] none 0 = some [[4, 3, 1], [1, 0], [0, 0]] := by decide
example : segmentIndices [4] #[0, 0, 1, 1, 3] none 2 = some [[4, 3]] := by decide

/-! ### totality of the segment walk -/

/-- fuel totality of the segment walk, direction "down" (`idxs_nxt = idxs_ds`): on a downstream-first
order (`Topo`, i.e. a loop-free network) whose cells are in range, the inner `while True` of
`subgrid.segment_indices` started at any cell of the order - with any outlet flags, mask, `max_len` and any
vertices already collected - returns within the `n + 1` steps of fuel the model uses: `none` ("fuel
exhausted") never occurs. -/
theorem segment_walk_total (ds : Array Nat) (seq : List Nat) (htopo : Topo ds seq)
    (hb : ∀ i ∈ seq, i < ds.size) (outlets : Array Bool) (mask : Option (Array Bool)) (maxLen : Nat)
    (c : Nat) (hc : c ∈ seq) (acc : List Nat) :
    ∃ r, segWalk ds outlets mask maxLen (ds.size + 1) c acc = some r := by
  obtain ⟨ht, h1, h2⟩ := htopo.exists_height
  have hlen := nodup_length_le htopo.nodup hb
  refine segWalk_total_measure ds outlets mask maxLen (fun x => seq.length - ht x) (· ∈ seq) ?_ _ c acc hc
    (by show seq.length - ht c < ds.size + 1; omega)
  intro x len hx hs
  have hne : ds[x]! ≠ x := (segStop_false hs).2.1
  have hd := htopo.ds_mem x hx
  have := h2 x hx hne
  have := h1 _ hd
  exact ⟨hd, by show seq.length - ht ds[x]! < seq.length - ht x; omega⟩

/-- fuel totality of the segment walk, direction "up" (`idxs_nxt = idxs_us_main`): the same along any
upstream-link array `us` of a loop-free network `ds` (per cell the missing value or an inflowing cell other
than the cell itself - `core.main_upstream` returns such an array, C11 `mainUpstream_argmax`), from every
cell in range, when the order contains every valid cell. -/
theorem segment_walk_total_up (ds us : Array Nat) (seq : List Nat) (htopo : Topo ds seq)
    (hb : ∀ i ∈ seq, i < ds.size) (hall : ∀ i, i < ds.size → ds[i]! ≠ ds.size → i ∈ seq)
    (hsz : us.size = ds.size)
    (hlink : ∀ c, c < ds.size → us[c]! = ds.size ∨ (us[c]! < ds.size ∧ ds[us[c]!]! = c ∧ us[c]! ≠ c))
    (outlets : Array Bool) (mask : Option (Array Bool)) (maxLen : Nat)
    (c : Nat) (hc : c < ds.size) (acc : List Nat) :
    ∃ r, segWalk us outlets mask maxLen (us.size + 1) c acc = some r := by
  obtain ⟨ht, h1, h2⟩ := htopo.exists_height
  have hlen := nodup_length_le htopo.nodup hb
  by_cases hnx : us[c]! = us.size
  · exact segWalk_offnet us outlets mask maxLen _ c acc hnx
  · -- `c` has an inflowing cell, so it is a valid cell and lies in the order
    have hstep : ∀ x, x < ds.size → us[x]! ≠ us.size →
        us[x]! < ds.size ∧ us[x]! ∈ seq ∧ x ∈ seq ∧ ht us[x]! < ht x := by
      intro x hx hne
      rcases hlink x hx with h | ⟨hlt, hds, hnex⟩
      · rw [hsz] at hne; exact absurd h hne
      · have hmem : us[x]! ∈ seq := hall _ hlt (by rw [hds]; omega)
        have hxm : x ∈ seq := by have := htopo.ds_mem _ hmem; rwa [hds] at this
        have := h2 _ hmem (by rw [hds]; exact fun h => hnex h.symm)
        rw [hds] at this
        exact ⟨hlt, hmem, hxm, this⟩
    have hcs : c ∈ seq := (hstep c hc hnx).2.2.1
    -- measure: the height of the cell in the order (it strictly decreases going upstream)
    refine segWalk_total_measure us outlets mask maxLen ht (fun x => x ∈ seq) ?_ _ c acc hcs ?_
    · intro x len hx hs
      have hne : us[x]! ≠ us.size := (segStop_false hs).1
      obtain ⟨_, hm, _, hlt⟩ := hstep x (hb x hx) hne
      exact ⟨hm, hlt⟩
    · have := h1 c hcs
      omega

/-- `segment_indices` returns, direction "down": for every loop-free network with an order containing
every valid cell, every list of outlet pixels (missing entries `= n` and pixels outside the network
included), every mask and every `max_len`, the model of `subgrid.segment_indices` returns a list of index
arrays - no fuel hypothesis (what the list consists of is `segment_indices_spec`). -/
theorem segment_indices_total (ds : Array Nat) (seq : List Nat) (htopo : Topo ds seq)
    (hb : ∀ i ∈ seq, i < ds.size) (hall : ∀ i, i < ds.size → ds[i]! ≠ ds.size → i ∈ seq)
    (idxsOut : List Nat) (hout : ∀ c ∈ idxsOut, c ≤ ds.size) (mask : Option (Array Bool)) (maxLen : Nat) :
    ∃ out, segmentIndices idxsOut ds mask maxLen = some out := by
  unfold segmentIndices
  refine foldlM_seg_total ds _ mask maxLen idxsOut [] ?_
  intro c hc hne
  have hlt : c < ds.size := by have := hout c hc; omega
  by_cases hv : ds[c]! = ds.size
  · exact segWalk_offnet ds _ mask maxLen _ c [c] hv
  · exact segment_walk_total ds seq htopo hb _ mask maxLen c (hall c hlt hv) [c]

/-- `segment_indices` returns, direction "up" (the default of `FlwdirRaster.streams(idxs_out=...)`):
the same along an upstream-link array of the network. -/
theorem segment_indices_total_up (ds us : Array Nat) (seq : List Nat) (htopo : Topo ds seq)
    (hb : ∀ i ∈ seq, i < ds.size) (hall : ∀ i, i < ds.size → ds[i]! ≠ ds.size → i ∈ seq)
    (hsz : us.size = ds.size)
    (hlink : ∀ c, c < ds.size → us[c]! = ds.size ∨ (us[c]! < ds.size ∧ ds[us[c]!]! = c ∧ us[c]! ≠ c))
    (idxsOut : List Nat) (hout : ∀ c ∈ idxsOut, c ≤ ds.size) (mask : Option (Array Bool)) (maxLen : Nat) :
    ∃ out, segmentIndices idxsOut us mask maxLen = some out := by
  unfold segmentIndices
  refine foldlM_seg_total us _ mask maxLen idxsOut [] ?_
  intro c hc hne
  have hlt : c < ds.size := by have := hout c hc; rw [hsz] at hne; omega
  exact segment_walk_total_up ds us seq htopo hb hall hsz hlink _ mask maxLen c hlt [c]

/-- the model of `streams.streams` needs no fuel hypothesis either: under the hypotheses of
`streams_model_ok` (loop-free order containing the stream cells, downstream-closed mask) the model never
returns `none`. -/
theorem streams_model_total (ds : Array Nat) (seq : List Nat) (mask : Option (Array Bool)) (m : Nat)
    (htopo : Topo ds seq) (hb : ∀ i ∈ seq, i < ds.size)
    (hcov : ∀ i, inStream ds mask i = true → i ∈ seq) (hcl : dsClosed ds mask = true) :
    streamsModel ds seq mask m ≠ none := by
  obtain ⟨feats, h, _⟩ := streams_model_ok ds seq mask m htopo hb hcov hcl
  rw [h]; exact fun h => nomatch h

/-- non-vacuity: the theorems applied to the network 4→3→1→0, 2→1 with cell 5 outside the network, outlet
list with a missing entry (6 = n) and an off-network pixel (5); in direction "up" along the main-upstream
array `[1, 3, 6, 4, 6, 6]` -/
example : ∃ out, segmentIndices [4, 6, 1, 5] #[0, 0, 1, 1, 3, 6] none 0 = some out := by
  have h0 : Topo #[0, 0, 1, 1, 3, 6] [] := Topo.nil
  have h1 : Topo #[0, 0, 1, 1, 3, 6] ([] ++ [0]) := Topo.snoc h0 (by simp) (Or.inl (by decide))
  have h2 : Topo #[0, 0, 1, 1, 3, 6] ([0] ++ [1]) := Topo.snoc h1 (by simp) (Or.inr (by decide))
  have h3 : Topo #[0, 0, 1, 1, 3, 6] ([0, 1] ++ [2]) := Topo.snoc h2 (by simp) (Or.inr (by decide))
  have h4 : Topo #[0, 0, 1, 1, 3, 6] ([0, 1, 2] ++ [3]) := Topo.snoc h3 (by simp) (Or.inr (by decide))
  have h5 : Topo #[0, 0, 1, 1, 3, 6] ([0, 1, 2, 3] ++ [4]) := Topo.snoc h4 (by simp) (Or.inr (by decide))
  exact segment_indices_total _ [0, 1, 2, 3, 4] h5 (by decide) (by decide) _ (by decide) none 0
example : segmentIndices [4, 6, 1, 5] #[0, 0, 1, 1, 3, 6] none 0 = some [[4, 3, 1], [1, 0], [0, 0]] ∧
    segmentIndices [0, 6, 3, 5] #[1, 3, 6, 4, 6, 6] none 0 = some [[0, 1, 3], [3, 4]] ∧
    segmentIndices [0, 6, 3, 5] #[1, 3, 6, 4, 6, 6] none 2 = some [[0, 1], [3, 4]] := by decide
example : ∃ out, segmentIndices [0, 6, 3, 5] #[1, 3, 6, 4, 6, 6] none 2 = some out := by
  have h0 : Topo #[0, 0, 1, 1, 3, 6] [] := Topo.nil
  have h1 : Topo #[0, 0, 1, 1, 3, 6] ([] ++ [0]) := Topo.snoc h0 (by simp) (Or.inl (by decide))
  have h2 : Topo #[0, 0, 1, 1, 3, 6] ([0] ++ [1]) := Topo.snoc h1 (by simp) (Or.inr (by decide))
  have h3 : Topo #[0, 0, 1, 1, 3, 6] ([0, 1] ++ [2]) := Topo.snoc h2 (by simp) (Or.inr (by decide))
  have h4 : Topo #[0, 0, 1, 1, 3, 6] ([0, 1, 2] ++ [3]) := Topo.snoc h3 (by simp) (Or.inr (by decide))
  have h5 : Topo #[0, 0, 1, 1, 3, 6] ([0, 1, 2, 3] ++ [4]) := Topo.snoc h4 (by simp) (Or.inr (by decide))
  exact segment_indices_total_up #[0, 0, 1, 1, 3, 6] #[1, 3, 6, 4, 6, 6] [0, 1, 2, 3, 4] h5 (by decide) (by decide)
    rfl (by decide) _ (by decide) none 2
example : ∀ c, c < 6 → (#[1, 3, 6, 4, 6, 6] : Array Nat)[c]! = 6 ∨
    ((#[1, 3, 6, 4, 6, 6] : Array Nat)[c]! < 6 ∧
      (#[0, 0, 1, 1, 3, 6] : Array Nat)[(#[1, 3, 6, 4, 6, 6] : Array Nat)[c]!]! = c ∧
      (#[1, 3, 6, 4, 6, 6] : Array Nat)[c]! ≠ c) := by decide

end Pf.C19
