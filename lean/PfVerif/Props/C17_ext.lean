import PfVerif.Proofs.C17_ext
import PfVerif.Generated.Tables
/-! # C17 extension — the remaining geo-reference helpers of `gis_utils.py`

Theorems about `Model/C17_ext.lean` (`reggrid_dx / reggrid_dy / reggrid_area`, `get_edge` with any 3x3
structuring element, sums over `area_grid`) and about further helpers of `Model/C17.lean` (`affine_to_coords`,
`transform_from_bounds` / `array_bounds` round trips, units of `area_grid`).
All statements quantify over every rational transform of the stated class (resolutions of either sign: north-up,
south-up, flipped x), every shape, every coordinate vector; `degree_metres_x/y` and the sine are arbitrary
functions `Rat → Rat`. -/
namespace Pf.C17x
open Pf.C17

/-! ## 1. resolution of a coordinate vector -/

/-- `|mean(diff(v))|` is undefined iff `v` has fewer than two
entries (the single-row / single-column case; `area_grid` does not go through it). -/
theorem res_nan_iff (v : List Rat) : resOf v = none ↔ v.length ≤ 1 := by
  simp only [resOf, meanL, Option.map_eq_none_iff, List.isEmpty_iff]
  rw [← diffL_eq_nil_iff]
  constructor
  · intro h; split at h
    · assumption
    · cases h
  · intro h; rw [if_pos h]

/-- the resolution telescopes: for any vector with at least two entries (regular or not, ascending or
descending) it is `|last - first| / (n - 1)`. -/
theorem res_telescope (a : Rat) (l : List Rat) (h : l ≠ []) :
    resOf (a :: l) = some (absQ (((a :: l).getLast (by simp) - a) / (l.length : Rat))) := by
  have hne : diffL (a :: l) ≠ [] := by
    intro h'; rw [diffL_eq_nil_iff] at h'
    cases l with
    | nil => exact h rfl
    | cons b r => simp at h'
  simp only [resOf, meanL, List.isEmpty_iff, hne, if_false, Option.map_some, diffL_sum, diffL_length,
    List.length_cons, Nat.add_sub_cancel]

example : resOf [10, 9, 7, 4] = some 2 ∧ resOf [5] = none ∧ resOf [] = none ∧ resOf [3, 7] = some 4 := by
  decide +kernel

/-- coordinate vectors of a raster: the resolution of the x (y) vector of `affine_to_coords` is `|xres|`
(`|yres|`) as soon as the raster has two columns (rows) - for every affine transform, either sign. -/
theorem res_axes (t : Aff) (nrow ncol : Nat) :
    (2 ≤ ncol → resOf (affineToCoords t nrow ncol).1 = some (absQ t.a)) ∧
    (2 ≤ nrow → resOf (affineToCoords t nrow ncol).2 = some (absQ t.e)) := by
  constructor
  · refine resOf_const_step _ _ fun i => ?_
    simp only [Aff.app]; push_cast; grind
  · refine resOf_const_step _ _ fun i => ?_
    simp only [Aff.app]; push_cast; grind

example : resOf (affineToCoords ⟨-1/2, 0, 3, 0, 1/4, -60⟩ 3 4).1 = some (1/2) ∧
    resOf (affineToCoords ⟨-1/2, 0, 3, 0, 1/4, -60⟩ 3 4).2 = some (1/4) ∧
    resOf (affineToCoords ⟨-1/2, 0, 3, 0, 1/4, -60⟩ 1 4).2 = none := by decide +kernel

/-! ## 2. `affine_to_coords` -/

/-- consistent with `xy` (every affine transform): the x vector is the x coordinate of the centres of row 0,
the y vector the y coordinate of the centres of column 0. -/
theorem affine_to_coords_xy (t : Aff) (height width : Nat) :
    affineToCoords t height width =
      ((List.range width).map fun (j : Nat) => (xyM t centre 0 (j : Int)).1,
       (List.range height).map fun (i : Nat) => (xyM t centre (i : Int) 0).2) := by
  simp only [affineToCoords, xy_app, centre, Aff.app, Rat.intCast_natCast, Rat.intCast_zero]

/-- cell centres (no rotation): the centre of cell `(i, j)` is `(x_coords[j], y_coords[i])`, and these are
`xoff + (j+½)·xres`, `yoff + (i+½)·yres`. -/
theorem affine_to_coords_centres (t : Aff) (hb : t.b = 0) (hd : t.d = 0) (height width i j : Nat)
    (hi : i < height) (hj : j < width) :
    (affineToCoords t height width).1[j]? = some (xyM t centre (i : Int) (j : Int)).1 ∧
    (affineToCoords t height width).2[i]? = some (xyM t centre (i : Int) (j : Int)).2 ∧
    xyM t centre (i : Int) (j : Int) = specCentre t (i : Int) (j : Int) := by
  refine ⟨?_, ?_, xyM_centre t hb hd _ _⟩
  · simp only [affineToCoords, List.getElem?_map, List.getElem?_range hj, Option.map_some, xy_app, centre,
      Aff.app, hb, Rat.intCast_natCast, Rat.mul_zero]
  · simp only [affineToCoords, List.getElem?_map, List.getElem?_range hi, Option.map_some, xy_app, centre,
      Aff.app, hd, Rat.intCast_natCast, Rat.mul_zero]

example : affineToCoords ⟨-1/2, 0, 3, 0, 1/4, -60⟩ 2 3 = ([11/4, 9/4, 7/4], [-479/8, -477/8]) ∧
    xyM ⟨-1/2, 0, 3, 0, 1/4, -60⟩ centre 1 2 = (7/4, -477/8) := by decide +kernel

/-! ## 3. `reggrid_dx`, `reggrid_dy`, `reggrid_area` -/

/-- `reggrid_dx` on the coordinate vectors of a raster with at least two columns: every cell of row `r` gets
`degree_metres_x(latitude of the row's centres) · |xres|`. -/
theorem reggrid_dx_axes (dmx : Rat → Rat) (t : Aff) (hd : t.d = 0) (nrow ncol : Nat) (hc : 2 ≤ ncol) :
    reggridDx dmx (affineToCoords t nrow ncol).2 (affineToCoords t nrow ncol).1 =
      some ((List.range nrow).map fun (r : Nat) =>
        List.replicate ncol (dmx (specCentre t (r : Int) 0).2 * absQ t.a)) := by
  simp only [reggridDx, (res_axes t nrow ncol).1 hc]
  simp only [affineToCoords_lat t hd, affineToCoords_length, List.map_map, Function.comp_def, Rat.mul_one]

/-- `reggrid_dy` with at least two rows: `degree_metres_y(latitude of the row's centres) · |yres|`. -/
theorem reggrid_dy_axes (dmy : Rat → Rat) (t : Aff) (hd : t.d = 0) (nrow ncol : Nat) (hr : 2 ≤ nrow) :
    reggridDy dmy (affineToCoords t nrow ncol).2 (affineToCoords t nrow ncol).1 =
      some ((List.range nrow).map fun (r : Nat) =>
        List.replicate ncol (dmy (specCentre t (r : Int) 0).2 * absQ t.e)) := by
  simp only [reggridDy, (res_axes t nrow ncol).2 hr]
  simp only [affineToCoords_lat t hd, affineToCoords_length, List.map_map, Function.comp_def, Rat.mul_one]

example : reggridDx (fun l => 100 - l) [59, 57] [1, 3, 5] = some [[82, 82, 82], [86, 86, 86]] ∧
    reggridDy (fun l => 100 + l) [59, 57] [1, 3, 5] = some [[318, 318, 318], [314, 314, 314]] := by
  decide +kernel

/-- `reggrid_area` = `area_grid(latlon=True)` on the coordinate vectors of a raster with at least two rows and
two columns (every affine transform, either orientation): the same per-row values, repeated over the columns. -/
theorem reggrid_area_eq_area_grid (R2 pi180 : Rat) (sinD : Rat → Rat) (t : Aff) (nrow ncol : Nat)
    (hr : 2 ≤ nrow) (hc : 2 ≤ ncol) :
    ∃ rows, areaGrid (cellareaM R2 pi180 sinD) t nrow ncol true false (some 1) = .ok rows ∧
      reggridArea (cellareaM R2 pi180 sinD) (affineToCoords t nrow ncol).2 (affineToCoords t nrow ncol).1 =
        some (expandRows ncol rows) := by
  refine ⟨_, rfl, ?_⟩
  simp only [reggridArea, (res_axes t nrow ncol).1 hc, (res_axes t nrow ncol).2 hr, affineToCoords_length,
    expandRows, List.map_map, Function.comp_def, cellareaM, absQ_absQ, Rat.mul_one, div_one]

/-- hence: the spherical area between the latitudes of the row's two edges, `|xres|` degrees wide -/
theorem reggrid_area_rows (R2 pi180 : Rat) (sinD : Rat → Rat) (t : Aff) (hd : t.d = 0) (nrow ncol : Nat)
    (hr : 2 ≤ nrow) (hc : 2 ≤ ncol) :
    reggridArea (cellareaM R2 pi180 sinD) (affineToCoords t nrow ncol).2 (affineToCoords t nrow ncol).1 =
      some (expandRows ncol ((List.range nrow).map fun r => specRowArea R2 pi180 sinD t r)) := by
  obtain ⟨rows, h1, h2⟩ := reggrid_area_eq_area_grid R2 pi180 sinD t nrow ncol hr hc
  rw [areaGrid_geo_rows R2 pi180 1 sinD t hd nrow ncol] at h1
  injection h1 with h1
  simp only [h2, ← h1, div_one]

/-- single row / single column: all three functions return NaN in every cell exactly when the coordinate
vector they take the resolution from has fewer than two entries (behaviour of the code as it is). -/
theorem reggrid_nan_iff (dm : Rat → Rat) (cell : Rat → Rat → Rat → Rat) (lats lons : List Rat) :
    (reggridDx dm lats lons = none ↔ lons.length ≤ 1) ∧
    (reggridDy dm lats lons = none ↔ lats.length ≤ 1) ∧
    (reggridArea cell lats lons = none ↔ lons.length ≤ 1 ∨ lats.length ≤ 1) := by
  refine ⟨?_, ?_, ?_⟩
  · rw [← res_nan_iff]; unfold reggridDx; split <;> simp_all
  · rw [← res_nan_iff]; unfold reggridDy; split <;> simp_all
  · rw [← res_nan_iff, ← res_nan_iff]; unfold reggridArea
    cases resOf lons <;> cases resOf lats <;> simp

example : reggridArea (cellareaM 7 (1/10) (fun l => l * l)) [117/2, 111/2] [1, 3, 5, 7] =
      some [[2457/5, 2457/5, 2457/5, 2457/5], [2331/5, 2331/5, 2331/5, 2331/5]] ∧
    areaGrid (cellareaM 7 (1/10) (fun l => l * l)) ⟨2, 0, 0, 0, -3, 60⟩ 2 4 true false (some 1) =
      .ok [2457/5, 2331/5] ∧
    affineToCoords ⟨2, 0, 0, 0, -3, 60⟩ 2 4 = ([1, 3, 5, 7], [117/2, 111/2]) ∧
    reggridArea (cellareaM 7 (1/10) (fun l => l * l)) [117/2] [1, 3, 5, 7] = none := by decide +kernel

/-! ## 4. `transform_from_bounds`, `array_bounds`, `transform_from_origin` -/

/-- `array_bounds ∘ transform_from_bounds = id` for every non-empty shape and every bounds (also
`east < west`, `north < south`: flipped axes). -/
theorem bounds_of_from_bounds (west south east north : Rat) (width height : Nat)
    (hw : 0 < width) (hh : 0 < height) :
    arrayBounds height width (transformFromBounds west south east north width height) =
      (west, south, east, north) := by
  simp only [transformFromBounds, translation_matmul_scale, arrayBounds_mk, Rat.mul_comm (height : Rat),
    Rat.mul_comm (width : Rat), Rat.div_mul_cancel (natCast_ne_zero hh), Rat.div_mul_cancel (natCast_ne_zero hw),
    Rat.sub_add_cancel]

/-- `transform_from_bounds ∘ array_bounds = id` on the transforms without rotation, for every non-empty
shape and resolutions of either sign (zero included). -/
theorem from_bounds_of_bounds (t : Aff) (hb : t.b = 0) (hd : t.d = 0) (width height : Nat)
    (hw : 0 < width) (hh : 0 < height) :
    let b := arrayBounds height width t
    transformFromBounds b.1 b.2.1 b.2.2.1 b.2.2.2 width height = t := by
  obtain ⟨a, b, c, d, e, f⟩ := t
  simp only at hb hd
  subst hb hd
  simp only [arrayBounds_mk, transformFromBounds, translation_matmul_scale, Rat.add_sub_cancel,
    Rat.mul_comm (height : Rat), Rat.mul_comm (width : Rat), Rat.mul_div_cancel (natCast_ne_zero hh),
    Rat.mul_div_cancel (natCast_ne_zero hw)]

example : arrayBounds 3 4 (transformFromBounds (-3) (237/4) (-1) 60 4 3) = (-3, 237/4, -1, 60) ∧
    transformFromBounds (-3) (237/4) (-1) 60 4 3 = ⟨1/2, 0, -3, 0, -1/4, 60⟩ ∧
    transformFromBounds 5 1 2 (-1) 6 4 = ⟨-1/2, 0, 5, 0, 1/2, -1⟩ := by decide +kernel

/-- bounds of `transform_from_origin`: `(west, north − height·ysize, west + width·xsize, north)`. -/
theorem bounds_of_from_origin (west north xsize ysize : Rat) (width height : Nat) :
    arrayBounds height width (transformFromOrigin west north xsize ysize) =
      (west, north - (height : Rat) * ysize, west + (width : Rat) * xsize, north) := by
  simp only [transformFromOrigin, translation_matmul_scale, arrayBounds_mk, Rat.mul_neg,
    Rat.add_comm _ north, Rat.add_comm _ west, ← Rat.sub_eq_add_neg]

/-- `FlwdirRaster.extent` is `bounds` reordered to `[xmin, xmax, ymin, ymax]` -/
theorem extent_of_from_bounds (west south east north : Rat) (width height : Nat)
    (hw : 0 < width) (hh : 0 < height) :
    extentOf (arrayBounds height width (transformFromBounds west south east north width height)) =
      (west, east, south, north) := by
  rw [bounds_of_from_bounds west south east north width height hw hh]; rfl

/-! ## 5. `area_grid`: units and the sum over the grid -/

/-- for every unit other than `cell` the grid is the `m2` grid divided by the unit's factor -/
theorem area_unit_scaling (cell : Rat → Rat → Rat → Rat) (t : Aff) (nrow ncol : Nat) (latlon : Bool) (fac : Rat) :
    ∃ rows, areaGrid cell t nrow ncol latlon false (some 1) = .ok rows ∧
      areaGrid cell t nrow ncol latlon false (some fac) = .ok (rows.map (· / fac)) := by
  cases latlon
  · refine ⟨_, rfl, ?_⟩
    simp only [areaGrid, Bool.false_eq_true, if_false, List.map_replicate, div_one]
  · refine ⟨_, rfl, ?_⟩
    simp only [areaGrid, Bool.false_eq_true, if_false, if_true, List.map_map, div_one]
    rfl

/-- the units the code knows (table regenerated from `/repo`): exactly `m2`, `ha`, `km2`, `cell`; an unknown
unit is a `ValueError` whatever the other arguments -/
theorem area_units (cell : Rat → Rat → Rat → Rat) (t : Aff) (nrow ncol : Nat) (latlon isCell : Bool) :
    Pf.Generated.areaFactors.map (·.1) = ["m2", "ha", "km2", "cell"] ∧
    Pf.Generated.areaFactors.lookup "acre" = none ∧
    areaGrid cell t nrow ncol latlon isCell none = .error .valueError := ⟨by decide, by decide, rfl⟩

/-- the 2-D grid sums to `areaTotal` of its rows -/
theorem gridSum_expand (ncol : Nat) (rows : List Rat) : gridSum (expandRows ncol rows) = areaTotal ncol rows := by
  simp only [gridSum, expandRows, areaTotal, List.map_map]
  congr 1
  apply List.map_congr_left
  intro v _
  simp only [Function.comp, sum_replicate]

/-- projected grid: the cell areas add up to the area of the bounding box `|east − west|·|north − south|`
(divided by the unit factor), for every shape and resolutions of either sign. -/
theorem area_proj_sum_bbox (cell : Rat → Rat → Rat → Rat) (t : Aff) (hb : t.b = 0) (hd : t.d = 0)
    (nrow ncol : Nat) (fac : Rat) (rows : List Rat)
    (h : areaGrid cell t nrow ncol false false (some fac) = .ok rows) :
    let b := arrayBounds nrow ncol t
    gridSum (expandRows ncol rows) = absQ (b.2.2.1 - b.1) * absQ (b.2.2.2 - b.2.1) / fac := by
  simp only [areaGrid, Bool.false_eq_true, if_false] at h
  injection h with h
  subst h
  rw [gridSum_expand]
  simp only [areaTotal, List.map_replicate, sum_replicate, arrayBounds_axis t hb hd, Rat.add_sub_cancel]
  rw [← absQ_neg (t.f - _), Rat.neg_sub, Rat.add_sub_cancel, absQ_mul, absQ_mul, absQ_mul, absQ_natCast, absQ_natCast,
    Rat.div_def, Rat.div_def]
  grind

example : areaGrid (fun _ _ _ => 0) ⟨2, 0, 1, 0, -3, 5⟩ 2 4 false false (some 10) = .ok [3/5, 3/5] ∧
    gridSum (expandRows 4 [3/5, 3/5]) = 24/5 ∧ arrayBounds 2 4 ⟨2, 0, 1, 0, -3, 5⟩ = (1, -1, 9, 5) := by
  decide +kernel

/-- geographic grid: the 2-D result sums to the telescoped spherical area of the bounding box (`sphere_sum`) -/
theorem area_geo_sum_bbox (R2 pi180 fac : Rat) (sinD : Rat → Rat) (t : Aff) (hb : t.b = 0) (hd : t.d = 0)
    (nrow ncol : Nat) (rows : List Rat)
    (h : areaGrid (cellareaM R2 pi180 sinD) t nrow ncol true false (some fac) = .ok rows) :
    let b := arrayBounds nrow ncol t
    gridSum (expandRows ncol rows) =
      R2 * (pi180 * absQ (b.2.2.1 - b.1)) *
        (sinD (if t.e < 0 then b.2.2.2 else b.2.1) - sinD (if t.e < 0 then b.2.1 else b.2.2.2)) / fac := by
  rw [gridSum_expand, sphere_rows_sum R2 pi180 fac sinD t hd nrow ncol rows h]
  simp only [arrayBounds_axis t hb hd, Rat.add_sub_cancel, absQ_mul, absQ_natCast, Rat.add_comm _ t.f]
  rw [mul_left_comm (ncol : Rat) R2, mul_left_comm (ncol : Rat) pi180]

/-! ## 6. `get_edge(a, structure)` -/

/-- for every raster, every validity mask and every 3x3 structuring element (8-connectivity
`ones((3,3))`, 4-connectivity cross, anything else), `get_edge` marks exactly the valid cells that lie on the
border of the raster or have an invalid cell among the window positions selected by the structuring element. -/
theorem get_edge_spec (nrow ncol : Nat) (a st : Array Bool) (r c : Nat) (hr : r < nrow) (hc : c < ncol) :
    (getEdgeS nrow ncol a st)[r * ncol + c]? = some true ↔ IsEdgeS nrow ncol a st r c := by
  have hn : 0 < ncol := Nat.lt_of_le_of_lt (Nat.zero_le c) hc
  have hlt : r * ncol + c < nrow * ncol :=
    Nat.lt_of_lt_of_le (Nat.add_lt_add_left hc _) (Nat.succ_mul r ncol ▸ Nat.mul_le_mul_right _ hr)
  have hq : (r * ncol + c) / ncol = r := by
    rw [Nat.add_comm, Nat.add_mul_div_right _ _ hn, Nat.div_eq_of_lt hc, Nat.zero_add]
  have hm : (r * ncol + c) % ncol = c := by
    rw [Nat.add_comm, Nat.add_mul_mod_self_right, Nat.mod_eq_of_lt hc]
  simp only [getEdgeS, List.getElem?_map, List.getElem?_range hlt, Option.map_some, Option.some.injEq, hq, hm]
  exact edgeCell_spec nrow ncol a st r c hr hc

/-- an edge cell is valid; the result has one entry per cell -/
theorem get_edge_subset (nrow ncol : Nat) (a st : Array Bool) :
    (getEdgeS nrow ncol a st).length = nrow * ncol ∧
    ∀ r c, r < nrow → c < ncol → (getEdgeS nrow ncol a st)[r * ncol + c]? = some true → at2 ncol a r c = true :=
  ⟨by simp [getEdgeS], fun r c hr hc h => ((get_edge_spec nrow ncol a st r c hr hc).1 h).1⟩

-- 4 x 4 raster, one invalid cell at (0,1): with the full structure the interior cells (1,1) and (1,2) both see it
-- (edge), (2,1) and (2,2) are cleared; with the cross only (1,1) sees it, (1,2) is cleared as well
example : getEdgeS 4 4 #[true, false, true, true, true, true, true, true, true, true, true, true, true, true, true, true]
      #[true, true, true, true, true, true, true, true, true] =
      [true, false, true, true, true, true, true, true, true, false, false, true, true, true, true, true] ∧
    getEdgeS 4 4 #[true, false, true, true, true, true, true, true, true, true, true, true, true, true, true, true]
      #[false, true, false, true, true, true, false, true, false] =
      [true, false, true, true, true, true, false, true, true, false, false, true, true, true, true, true] := by
  decide +kernel

end Pf.C17x
