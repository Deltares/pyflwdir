import PfVerif.Proofs.C17
import PfVerif.Proofs.C17Real
import PfVerif.Generated.Tables
/-! # C17 — cell indices, coordinates, distances and areas are mutually consistent

Theorems about the executable model `PfVerif/Model/C17.lean` of `gis_utils.xy / rowcol / idxs_to_coords /
coords_to_idxs / array_bounds / affine_to_coords / distance / area_grid / cellarea` (what
`FlwdirRaster.xy / index / bounds / area` call).  Every theorem quantifies over all transforms of the
stated class (rational coefficients, either sign, equal or unequal resolutions, any origin), all raster
shapes, all cells / points / pairs of cells: no size bound anywhere.  `rowcol` / `coords_to_idxs` are treated for
`op = floor`, `precision = None`, `xy` for the centre offset.  In sections 1-5 numbers are exact rationals and the
transcendental functions (`degree_metres_x/y`, sine) are arbitrary functions `Rat → Rat`, so those statements hold in
particular for the floating-point functions the code uses; section 6 is over ℝ with Mathlib's `Real.sin`, `Real.sqrt`. -/
namespace Pf.C17

/-! ## 1. coordinates of a cell are its centre; mapping back gives the same cell -/

/-- on a raster without rotation the coordinates returned for pixel `(r, c)` are
`(xoff + (c+½)·xres, yoff + (r+½)·yres)`. -/
theorem xy_centre (t : Aff) (hb : t.b = 0) (hd : t.d = 0) (r c : Int) :
    xyM t centre r c = specCentre t r c := xyM_centre t hb hd r c

example : xyM ⟨2, 0, 10, 0, -3, 5⟩ centre 1 2 = (15, 1/2) := by decide +kernel

/-- for any affine transform the returned point is the midpoint of the pixel's upper-left and
lower-right corners (offsets `ul`, `lr` of the same function). -/
theorem xy_centre_midpoint (t : Aff) (r c : Int) :
    (xyM t centre r c).1 = ((xyM t (0, 0) r c).1 + (xyM t (1, 1) r c).1) / 2 ∧
    (xyM t centre r c).2 = ((xyM t (0, 0) r c).2 + (xyM t (1, 1) r c).2) / 2 := by
  simp only [xy_app, centre, Aff.app]
  exact ⟨affine_midpoint .., affine_midpoint ..⟩

example : xyM ⟨2, 1, 10, -1, -3, 5⟩ centre 1 2 = (33/2, -2) ∧ xyM ⟨2, 1, 10, -1, -3, 5⟩ (0, 0) 1 2 = (15, 0) ∧
    xyM ⟨2, 1, 10, -1, -3, 5⟩ (1, 1) 1 2 = (18, -4) := by decide +kernel

/-- round trip for every invertible affine transform (in particular every axis-aligned one, whatever the
signs of the resolutions): `rowcol(xy(r, c)) = (r, c)` for every integer pixel, inside the raster or not. -/
theorem rowcol_xy_affine (t : Aff) (hdet : t.det ≠ 0) (r c : Int) :
    rowcolM t .floor none (xyM t centre r c).1 (xyM t centre r c).2 = some (r, c) := by
  obtain ⟨inv, hinv⟩ := exists_inv hdet
  simp only [rowcolM, hinv, rowcolInv_xy hinv]

-- a rotated/sheared transform
example : rowcolM ⟨2, 1, 10, -1, -3, 5⟩ .floor none (33/2) (-2) = some (1, 2) := by decide +kernel

/-- round trip for the class the property names: axis-aligned, non-zero resolutions of either sign. -/
theorem rowcol_xy (t : Aff) (h : t.AxisAligned) (r c : Int) :
    rowcolM t .floor none (xyM t centre r c).1 (xyM t centre r c).2 = some (r, c) :=
  rowcol_xy_affine t h.det_ne_zero r c

-- south-up raster with negative x-resolution and unequal cell sizes, a pixel outside the raster
example : rowcolM ⟨-3, 0, 7, 0, 1/4, -2⟩ .floor none (xyM ⟨-3, 0, 7, 0, 1/4, -2⟩ centre (-5) 9).1
    (xyM ⟨-3, 0, 7, 0, 1/4, -2⟩ centre (-5) 9).2 = some (-5, 9) := by decide +kernel
example : (⟨-3, 0, 7, 0, 1/4, -2⟩ : Aff).AxisAligned := by decide +kernel

/-- `rowcol` returns `(r, c)` exactly when the point lies in the half-open cell `(r, c)`
(own edge inclusive, next pixel's edge exclusive, in the direction of increasing index). -/
theorem rowcol_contains (t : Aff) (h : t.AxisAligned) (x y : Rat) (r c : Int) :
    rowcolM t .floor none x y = some (r, c) ↔ specContains t r c x y = true := by
  obtain ⟨inv, hinv⟩ := exists_inv h.det_ne_zero
  simp only [rowcolM, hinv, Option.some.injEq]
  exact rowcolInv_contains h hinv x y r c

-- a point on the shared edge of two cells of a north-up raster belongs to the lower/right one
example : rowcolM ⟨2, 0, 10, 0, -3, 5⟩ .floor none 14 2 = some (1, 2) ∧
    specContains ⟨2, 0, 10, 0, -3, 5⟩ 1 2 14 2 = true ∧ specContains ⟨2, 0, 10, 0, -3, 5⟩ 0 1 14 2 = false := by
  decide +kernel

/-- round trip of the vectorised API (`FlwdirRaster.xy` then `FlwdirRaster.index`): every list of
in-range linear indices is mapped to coordinates without error and back to the same list. -/
theorem index_xy_roundtrip (t : Aff) (hdet : t.det ≠ 0) (nrow ncol : Nat) (idxs : List Int)
    (hin : ∀ i ∈ idxs, 0 ≤ i ∧ i < (nrow : Int) * (ncol : Int)) :
    ∃ pts, idxsToCoords t nrow ncol centre idxs = .ok pts ∧
      coordsToIdxs t nrow ncol .floor none pts = .ok idxs := by
  obtain ⟨inv, hinv⟩ := exists_inv hdet
  have hcell := fun i hi => cell_in_raster nrow ncol i (hin i hi).1 (hin i hi).2
  have hany : (idxs.any fun i => decide (i < 0) || decide ((nrow : Int) * (ncol : Int) ≤ i)) = false :=
    List.any_eq_false.mpr fun i hi => by
      have := hin i hi
      simp only [Bool.or_eq_true, decide_eq_true_eq]; omega
  have hall : (idxs.map fun i : Int => (i / (ncol : Int), i % (ncol : Int))).all (inRaster nrow ncol) = true :=
    List.all_eq_true.mpr fun rc hrc => by
      obtain ⟨i, hi, rfl⟩ := List.mem_map.mp hrc
      exact (hcell i hi).1
  refine ⟨_, by simp only [idxsToCoords, hany]; rfl, ?_⟩
  simp only [coordsToIdxs, hinv, List.map_map, Function.comp_def, rowcolInv_xy hinv, if_pos hall]
  rw [List.map_congr_left (g := id) fun i hi => (hcell i hi).2, List.map_id]

example : idxsToCoords ⟨1/2, 0, -3, 0, -1/4, 60⟩ 3 4 centre [0, 5, 11] =
      .ok [(-11/4, 479/8), (-9/4, 477/8), (-5/4, 475/8)] ∧
    coordsToIdxs ⟨1/2, 0, -3, 0, -1/4, 60⟩ 3 4 .floor none [(-11/4, 479/8), (-9/4, 477/8), (-5/4, 475/8)] =
      .ok [0, 5, 11] := by decide +kernel

/-- the index returned for a point is in range and is the cell that contains the point -/
theorem index_containing_cell (t : Aff) (h : t.AxisAligned) (nrow ncol : Nat) (p : Rat × Rat) (i : Int)
    (hok : coordsToIdxs t nrow ncol .floor none [p] = .ok [i]) :
    0 ≤ i ∧ i < (nrow : Int) * (ncol : Int) ∧
      specContains t (i / (ncol : Int)) (i % (ncol : Int)) p.1 p.2 = true := by
  obtain ⟨inv, hinv⟩ := exists_inv h.det_ne_zero
  simp only [coordsToIdxs, hinv, List.map_cons, List.map_nil, List.all_cons, List.all_nil,
    Bool.and_true] at hok
  split at hok
  · rename_i hin
    obtain ⟨h0, h1, hq, hm⟩ := index_of_cell nrow ncol _ hin
    simp only [Except.ok.injEq, List.cons.injEq, and_true] at hok
    subst hok
    rw [hq, hm]
    exact ⟨h0, h1, (rowcolInv_contains h hinv _ _ _ _).mp rfl⟩
  · cases hok

example : coordsToIdxs ⟨1/2, 0, -3, 0, -1/4, 60⟩ 3 4 .floor none [(-2, 239/4)] = .ok [6] := by decide +kernel

/-! ## 2. outside the raster ⇒ `IndexError` -/

/-- a point is inside the raster: some raster cell contains it -/
def InsideRaster (t : Aff) (nrow ncol : Nat) (p : Rat × Rat) : Prop :=
  ∃ r c : Int, inRaster nrow ncol (r, c) = true ∧ specContains t r c p.1 p.2 = true

/-- `coords_to_idxs` raises `IndexError` iff some point lies in no
raster cell (`index_containing_cell` says what a successful call on a single point returns). -/
theorem index_raises_iff (t : Aff) (h : t.AxisAligned) (nrow ncol : Nat) (pts : List (Rat × Rat)) :
    coordsToIdxs t nrow ncol .floor none pts = .error .indexError ↔
      ∃ p ∈ pts, ¬ InsideRaster t nrow ncol p := by
  obtain ⟨inv, hinv⟩ := exists_inv h.det_ne_zero
  simp only [coordsToIdxs, hinv, InsideRaster, inside_iff_inRaster h hinv]
  split
  · rename_i hall
    refine ⟨nofun, fun ⟨p, hp, hout⟩ => ?_⟩
    exact absurd (List.all_eq_true.mp hall _ (List.mem_map.mpr ⟨p, hp, rfl⟩)) hout
  · rename_i hall
    obtain ⟨rc, hrc, hout⟩ := List.all_eq_false.mp (Bool.eq_false_iff.mpr hall)
    obtain ⟨p, hp, rfl⟩ := List.mem_map.mp hrc
    exact ⟨fun _ => ⟨p, hp, hout⟩, fun _ => rfl⟩

example : coordsToIdxs ⟨1/2, 0, -3, 0, -1/4, 60⟩ 3 4 .floor none [(-2, 239/4), (-1, 60 + 1/8)] =
    .error .indexError := by decide +kernel

/-- `idxs_to_coords` raises `IndexError` iff some index is negative
or `≥ nrow·ncol`. -/
theorem idxs_raises_iff (t : Aff) (nrow ncol : Nat) (off : Rat × Rat) (idxs : List Int) :
    idxsToCoords t nrow ncol off idxs = .error .indexError ↔
      ∃ i ∈ idxs, i < 0 ∨ (nrow : Int) * (ncol : Int) ≤ i := by
  have hany : (idxs.any fun i => decide (i < 0) || decide ((nrow : Int) * (ncol : Int) ≤ i)) = true ↔
      ∃ i ∈ idxs, i < 0 ∨ (nrow : Int) * (ncol : Int) ≤ i := by
    simp only [List.any_eq_true, Bool.or_eq_true, decide_eq_true_eq]
  rw [idxsToCoords, ← hany]
  split
  · rename_i h; simp only [h]
  · rename_i h; simp only [h, reduceCtorEq]

example : idxsToCoords ⟨1/2, 0, -3, 0, -1/4, 60⟩ 3 4 centre [0, 12] = .error .indexError ∧
    idxsToCoords ⟨1/2, 0, -3, 0, -1/4, 60⟩ 3 4 centre [-1] = .error .indexError := by decide +kernel

/-- north-up: a point is in some raster cell iff
`west ≤ x < east` and `south < y ≤ north` for the `array_bounds` of the raster. -/
theorem inside_iff_bounds (t : Aff) (h : t.NorthUp) (nrow ncol : Nat) (p : Rat × Rat) :
    InsideRaster t nrow ncol p ↔
      (arrayBounds nrow ncol t).1 ≤ p.1 ∧ p.1 < (arrayBounds nrow ncol t).2.2.1 ∧
      (arrayBounds nrow ncol t).2.1 < p.2 ∧ p.2 ≤ (arrayBounds nrow ncol t).2.2.2 := by
  have hax := h.axisAligned
  obtain ⟨inv, hinv⟩ := exists_inv hax.det_ne_zero
  rw [InsideRaster, inside_iff_inRaster hax hinv, arrayBounds_axis t h.1 h.2.1]
  simp only [rowcolInv_floor, inv_app_axis hax hinv, inRaster, Bool.and_eq_true, decide_eq_true_eq]
  -- the raster is the block of cells `0 ≤ · < n` on either axis
  rw [and_assoc, floor_div_mem_pos h.2.2.1, floor_div_mem_neg h.2.2.2]
  simp only [Rat.intCast_zero, Rat.zero_mul, Rat.add_zero, Rat.intCast_natCast]
  rw [Rat.add_comm t.f, Rat.add_comm t.c, and_comm, and_assoc]

/-- north-up corollary: any point outside the reported bounds makes `index` raise `IndexError` -/
theorem outside_bounds_raises (t : Aff) (h : t.NorthUp) (nrow ncol : Nat) (pts : List (Rat × Rat))
    (p : Rat × Rat) (hp : p ∈ pts)
    (hout : p.1 < (arrayBounds nrow ncol t).1 ∨ (arrayBounds nrow ncol t).2.2.1 ≤ p.1 ∨
            p.2 ≤ (arrayBounds nrow ncol t).2.1 ∨ (arrayBounds nrow ncol t).2.2.2 < p.2) :
    coordsToIdxs t nrow ncol .floor none pts = .error .indexError := by
  rw [index_raises_iff t h.axisAligned]
  refine ⟨p, hp, ?_⟩
  rw [inside_iff_bounds t h]
  rintro ⟨h1, h2, h3, h4⟩
  rcases hout with h' | h' | h' | h'
  · exact Rat.not_lt.mpr h1 h'
  · exact Rat.not_lt.mpr h' h2
  · exact Rat.not_lt.mpr h' h3
  · exact Rat.not_lt.mpr h4 h'

example : arrayBounds 3 4 ⟨1/2, 0, -3, 0, -1/4, 60⟩ = (-3, 237/4, -1, 60) := by decide +kernel
example : (⟨1/2, 0, -3, 0, -1/4, 60⟩ : Aff).NorthUp := by decide +kernel

/-! ## 3. cell centres lie strictly inside the reported bounds -/

/-- north-up: `west < x < east` and `south < y < north` for every cell centre. -/
theorem centres_in_bounds (t : Aff) (h : t.NorthUp) (nrow ncol : Nat) (r c : Nat)
    (hr : r < nrow) (hc : c < ncol) :
    let b := arrayBounds nrow ncol t
    let p := xyM t centre r c
    b.1 < p.1 ∧ p.1 < b.2.2.1 ∧ b.2.1 < p.2 ∧ p.2 < b.2.2.2 := by
  obtain ⟨hb, hd, ha, he⟩ := h
  simp only [arrayBounds_axis t hb hd, xy_app, app_axis t hb hd, centre, Rat.intCast_natCast]
  exact ⟨(centre_inside_pos ha hc t.c).1, (centre_inside_pos ha hc t.c).2, (centre_inside_neg he hr t.f).1,
    (centre_inside_neg he hr t.f).2⟩

example : xyM ⟨1/2, 0, -3, 0, -1/4, 60⟩ centre 2 3 = (-5/4, 475/8) := by decide +kernel

/-- `transform_from_origin(west, north, xsize, ysize)` has exactly the coefficients
`(xsize, 0, west, 0, -ysize, north)`. -/
theorem transform_from_origin_coeffs (west north xsize ysize : Rat) :
    transformFromOrigin west north xsize ysize = ⟨xsize, 0, west, 0, -ysize, north⟩ :=
  translation_matmul_scale west north xsize (-ysize)

example : transformFromOrigin (-3) 60 (1/2) (1/4) = ⟨1/2, 0, -3, 0, -1/4, 60⟩ := by decide +kernel

/-! ## 4. distances -/

/-- symmetric in its two arguments, projected and geographic, any pair of cells -/
theorem distance_symm (dmy dmx : Rat → Rat) (t : Aff) (ncol : Nat) (latlon : Bool) (i j : Nat) :
    distLegs dmy dmx t ncol latlon i j = distLegs dmy dmx t ncol latlon j i := by
  unfold distLegs
  simp only []
  rw [absI_sub_comm ((j / ncol : Nat) : Int), absI_sub_comm ((j % ncol : Nat) : Int),
    Int.add_comm ((i / ncol : Nat) : Int)]

example : distLegs (fun l => 100 + l) (fun l => 50 - l) ⟨2, 0, 0, 0, -3, 60⟩ 4 true 1 6 = (-471, -14) ∧
    distLegs (fun l => 100 + l) (fun l => 50 - l) ⟨2, 0, 0, 0, -3, 60⟩ 4 true 6 1 = (-471, -14) := by
  decide +kernel

/-- east–west step on a projected grid: the length is `|xres|` -/
theorem distance_ew (dmy dmx : Rat → Rat) (t : Aff) (ncol : Nat) (i j : Nat)
    (hrow : i / ncol = j / ncol) (hcol : absI (((j % ncol : Nat) : Int) - ((i % ncol : Nat) : Int)) = 1)
    (d : Rat) (hd : IsHypot d (distLegs dmy dmx t ncol false i j).1 (distLegs dmy dmx t ncol false i j).2) :
    d = absQ t.a := by
  rw [distLegs_ew dmy dmx t ncol i j hrow hcol] at hd
  exact isHypot_zero_left hd

/-- north–south step on a projected grid: the length is `|yres|` -/
theorem distance_ns (dmy dmx : Rat → Rat) (t : Aff) (ncol : Nat) (i j : Nat)
    (hcol : i % ncol = j % ncol) (hrow : absI (((j / ncol : Nat) : Int) - ((i / ncol : Nat) : Int)) = 1)
    (d : Rat) (hd : IsHypot d (distLegs dmy dmx t ncol false i j).1 (distLegs dmy dmx t ncol false i j).2) :
    d = absQ t.e := by
  rw [distLegs_ns dmy dmx t ncol i j hcol hrow] at hd
  exact isHypot_zero_right hd

/-- diagonal step on a projected grid: the length is the hypotenuse of `|xres|` and `|yres|` -/
theorem distance_diag (dmy dmx : Rat → Rat) (t : Aff) (ncol : Nat) (i j : Nat)
    (hrow : absI (((j / ncol : Nat) : Int) - ((i / ncol : Nat) : Int)) = 1)
    (hcol : absI (((j % ncol : Nat) : Int) - ((i % ncol : Nat) : Int)) = 1)
    (d : Rat) (hd : IsHypot d (distLegs dmy dmx t ncol false i j).1 (distLegs dmy dmx t ncol false i j).2) :
    IsHypot d (absQ t.a) (absQ t.e) := by
  rw [distLegs_diag dmy dmx t ncol i j hrow hcol] at hd
  exact ⟨hd.1, by rw [hd.2, absQ_sq, absQ_sq, Rat.add_comm]⟩

-- cells 3×4 (Pythagorean): E–W 3, N–S 4, diagonal 5, on a 5-column raster; 7 → 8 (E), 7 → 2 (N), 7 → 13 (SE)
example : distLegs id id ⟨3, 0, 0, 0, -4, 0⟩ 5 false 7 8 = (0, 3) ∧ IsHypot 3 0 3 ∧
    distLegs id id ⟨3, 0, 0, 0, -4, 0⟩ 5 false 7 2 = (-4, 0) ∧ IsHypot 4 (-4) 0 ∧
    distLegs id id ⟨3, 0, 0, 0, -4, 0⟩ 5 false 7 13 = (-4, 3) ∧ IsHypot 5 (-4) 3 := by decide +kernel

/-- projected, any two cells, not only neighbours:
the squared length equals the squared distance between the cell-centre coordinates of section 1. -/
theorem distance_centres (dmy dmx : Rat → Rat) (t : Aff) (ncol : Nat) (i j : Nat) :
    dist2 (distLegs dmy dmx t ncol false i j) = specCentreDist2 t ncol i j := by
  simp only [dist2, distLegs_proj, specCentreDist2, specCentre, centre_sub, mul_absI_sq]
  exact Rat.add_comm _ _

example : dist2 (distLegs id id ⟨3, 0, 1, 0, -4, 2⟩ 5 false 0 13) = 145 ∧
    specCentreDist2 ⟨3, 0, 1, 0, -4, 2⟩ 5 0 13 = 145 := by decide +kernel

/-- geographic: the squared length equals that of the two metric legs
`|degree_metres_y(φ)·Δy|`, `|degree_metres_x(φ)·Δx|` where `Δx, Δy` are the coordinate differences of the
two cell centres and `φ` is the mean latitude of the two centres - for any two cells and any
`degree_metres_x/y`. -/
theorem distance_geo (dmy dmx : Rat → Rat) (t : Aff) (ncol : Nat) (i j : Nat) :
    dist2 (distLegs dmy dmx t ncol true i j) = dist2 (specGeoLegs dmy dmx t ncol i j) := by
  simp only [dist2, distLegs_geo, specGeoLegs, absQ_sq, specCentre, centre_sub, mul_absI_sq]
  rw [mul_left_comm (dmx _), mul_left_comm (dmy _)]

/-- the ideal `math.hypot` values of model and specification therefore coincide -/
theorem distance_geo_hypot (dmy dmx : Rat → Rat) (t : Aff) (ncol : Nat) (i j : Nat) (d : Rat) :
    IsHypot d (distLegs dmy dmx t ncol true i j).1 (distLegs dmy dmx t ncol true i j).2 ↔
    IsHypot d (specGeoLegs dmy dmx t ncol i j).1 (specGeoLegs dmy dmx t ncol i j).2 := by
  have h := distance_geo dmy dmx t ncol i j
  simp only [dist2] at h
  simp only [IsHypot, h]

-- rows 0 and 1 of a 3-degree north-up raster from 60N: centres at 58.5 and 55.5, mean latitude 57
example : specMeanLat ⟨2, 0, 0, 0, -3, 60⟩ 4 1 6 = 57 ∧
    specGeoLegs (fun l => 100 + l) (fun l => 50 - l) ⟨2, 0, 0, 0, -3, 60⟩ 4 1 6 = (471, 14) ∧
    distLegs (fun l => 100 + l) (fun l => 50 - l) ⟨2, 0, 0, 0, -3, 60⟩ 4 true 1 6 = (-471, -14) := by
  decide +kernel

/-! ## 5. areas -/

/-- projected cell area is `|xres·yres|` (divided by the unit factor) in every cell -/
theorem area_proj (cell : Rat → Rat → Rat → Rat) (t : Aff) (nrow ncol : Nat) (fac : Rat) :
    areaGrid cell t nrow ncol false false (some fac) = .ok (List.replicate nrow (absQ (t.a * t.e) / fac)) := rfl

/-- ... and `|xres·yres|` is the area of the rectangle spanned by the cell's corner coordinates -/
theorem area_proj_rectangle (t : Aff) (hb : t.b = 0) (hd : t.d = 0) (r c : Int) :
    absQ (t.a * t.e) = absQ ((xyM t (1, 0) r c).1 - (xyM t (0, 0) r c).1) *
                       absQ ((xyM t (0, 1) r c).2 - (xyM t (0, 0) r c).2) := by
  simp only [absQ_mul, xy_app, app_axis t hb hd, edge_sub]

/-- unit `cell`: every cell has area 1 -/
theorem area_cell (cell : Rat → Rat → Rat → Rat) (t : Aff) (nrow ncol : Nat) (latlon : Bool) (fac : Rat) :
    areaGrid cell t nrow ncol latlon true (some fac) = .ok (List.replicate nrow 1) := rfl

example : areaGrid (fun _ _ _ => 0) ⟨2, 0, 0, 0, -3, 60⟩ 2 4 false false (some 10000) = .ok [3/5000, 3/5000] := by
  decide +kernel

/-- the unit table and the earth radius of the code (regenerated from `/repo` on every run) are the
documented ones: 1 ha = 10⁴ m², 1 km² = 10⁶ m², R = 6371 km -/
theorem area_constants_ok :
    Pf.Generated.areaFactors = [("m2", 1), ("ha", 10000), ("km2", 1000000), ("cell", 1)] ∧
    Pf.Generated.earthRadius = 6371000 := by decide

/-- row `r` of `area_grid(latlon=True)` is the spherical
area between the latitudes of the row's two edges, `|xres|` degrees wide - for every shape (also a single
row or column), either orientation. -/
theorem area_geo_rows (R2 pi180 fac : Rat) (sinD : Rat → Rat) (t : Aff) (hd : t.d = 0) (nrow ncol : Nat) :
    areaGrid (cellareaM R2 pi180 sinD) t nrow ncol true false (some fac) =
      .ok ((List.range nrow).map fun r => specRowArea R2 pi180 sinD t r / fac) :=
  areaGrid_geo_rows R2 pi180 fac sinD t hd nrow ncol

/-- ... which is `cellarea` evaluated at the latitude of the row's cell centres (section 1) -/
theorem area_geo_at_centre (R2 pi180 fac : Rat) (sinD : Rat → Rat) (t : Aff) (nrow ncol : Nat) :
    areaGrid (cellareaM R2 pi180 sinD) t nrow ncol true false (some fac) =
      .ok ((List.range nrow).map fun (r : Nat) =>
        cellareaM R2 pi180 sinD (xyM t centre (r : Int) (0 : Int)).2 t.a t.e / fac) := by
  simp only [areaGrid, affineToCoords, List.map_map, Bool.false_eq_true, if_false, if_true, Function.comp_def,
    xy_app, centre, Aff.app, Rat.intCast_natCast, Rat.intCast_zero]

example : areaGrid (cellareaM 7 (1/10) (fun l => l * l)) ⟨2, 0, 0, 0, -3, 60⟩ 2 4 true false (some 1) =
    .ok [2457/5, 2331/5] := by decide +kernel

/-- the areas of all cells add up to
`R²·(π/180)·(ncol·|xres|)·(sin(top) − sin(bottom)) / factor` for every sine table. -/
theorem sphere_sum (R2 pi180 fac : Rat) (sinD : Rat → Rat) (t : Aff) (hd : t.d = 0) (nrow ncol : Nat)
    (rows : List Rat)
    (h : areaGrid (cellareaM R2 pi180 sinD) t nrow ncol true false (some fac) = .ok rows) :
    areaTotal ncol rows =
      (ncol : Rat) * (R2 * (pi180 * absQ t.a)) *
        (sinD (if t.e < 0 then t.f else t.f + (nrow : Rat) * t.e) -
         sinD (if t.e < 0 then t.f + (nrow : Rat) * t.e else t.f)) / fac :=
  sphere_rows_sum R2 pi180 fac sinD t hd nrow ncol rows h

/-- if the columns span 360 degrees and the rows span from +90 to -90 (either
orientation), then for every sine table with `sin 90° = 1`, `sin(-90°) = -1` and `pi = 180·(π/180)` the
areas of all cells add up to `4·pi·R²`. -/
theorem sphere_sum_global (R2 pi180 pi : Rat) (sinD : Rat → Rat) (t : Aff) (hd : t.d = 0) (nrow ncol : Nat)
    (rows : List Rat)
    (h : areaGrid (cellareaM R2 pi180 sinD) t nrow ncol true false (some 1) = .ok rows)
    (hcols : (ncol : Rat) * absQ t.a = 360)
    (hrows : (t.e < 0 ∧ t.f = 90 ∧ t.f + (nrow : Rat) * t.e = -90) ∨
             (0 < t.e ∧ t.f = -90 ∧ t.f + (nrow : Rat) * t.e = 90))
    (hs1 : sinD 90 = 1) (hs2 : sinD (-90) = -1) (hpi : pi = 180 * pi180) :
    areaTotal ncol rows = 4 * pi * R2 := by
  have hs : sinD (if t.e < 0 then t.f else t.f + (nrow : Rat) * t.e) -
      sinD (if t.e < 0 then t.f + (nrow : Rat) * t.e else t.f) = 1 - -1 := by
    rcases hrows with ⟨he, h1, h2⟩ | ⟨he, h1, h2⟩
    · rw [if_pos he, if_pos he, h2, h1, hs1, hs2]
    · rw [if_neg (Rat.not_lt.mpr (Rat.le_of_lt he)), if_neg (Rat.not_lt.mpr (Rat.le_of_lt he)), h2, h1, hs1, hs2]
  rw [sphere_sum R2 pi180 1 sinD t hd nrow ncol rows h, hs, div_one, mul_left_comm (ncol : Rat) R2,
    mul_left_comm (ncol : Rat) pi180, hcols, hpi]
  grind

-- a 4 x 8 global grid of 45-degree cells with the (rational) sine table sin(l) := l/90 on the edges
example : areaGrid (cellareaM 1 (1/60) (fun l => l / 90)) ⟨45, 0, -180, 0, -45, 90⟩ 4 8 true false (some 1) =
      .ok [3/8, 3/8, 3/8, 3/8] ∧ areaTotal 8 [3/8, 3/8, 3/8, 3/8] = 4 * 3 * 1 := by decide +kernel

/-! ## 6. over ℝ: the real sine, π and `Real.sqrt` (Mathlib)

Sections 1-5 treat sine, π, `degree_metres_x/y` and `math.hypot` as parameters of a rational model.  Here
the same formulas are instantiated with Mathlib's `Real.sin`, `Real.pi`, `Real.cos`, `Real.sqrt`
(definitions in `Proofs/C17Real.lean`: `radians x = x·π/180`, `cellareaR` = `gis_utils.cellarea` verbatim,
`rowLat yoff yres r = yoff + (r+½)·yres` = the row latitude of section 1, `hypotR p q = √(p²+q²)`,
`dmyR/dmxR` = `degree_metres_y/x` verbatim). -/

/-- two instances of the one formula `cellareaG`: `cellareaM` for any `s : ℝ → ℝ` that agrees with the sine table
`sinD` on every rational, `cellareaR` for `R²`, `π/180` and `sin ∘ radians`.  The two cannot be chained: the real sine
agrees with no rational table on all rationals. -/
theorem cellarea_model_real (R2 pi180 : ℚ) (sinD : ℚ → ℚ) (s : ℝ → ℝ) (hs : ∀ q : ℚ, s q = sinD q)
    (lat xres yres : ℚ) (R lat' xres' yres' : ℝ) :
    ((cellareaM R2 pi180 sinD lat xres yres : ℚ) : ℝ) = cellareaG R2 pi180 s lat xres yres ∧
    cellareaR R lat' xres' yres' =
      cellareaG (R ^ 2) (Real.pi / 180) (fun d => Real.sin (radians d)) lat' xres' yres' :=
  ⟨cellareaM_cast R2 pi180 sinD s hs lat xres yres, cellareaR_eq R lat' xres' yres'⟩

/-- the rows of the model's `area_grid(latlon=True)` are `cellareaG` at `rowLat yoff yres r` with the
transform's resolutions, for any `s` that agrees with `sinD` on every rational (the summand of
`sphere_sum_real_global` is the same formula with the real sine instead of `s`) -/
theorem area_rows_real (R2 pi180 fac : ℚ) (sinD : ℚ → ℚ) (s : ℝ → ℝ) (hs : ∀ q : ℚ, s q = sinD q)
    (t : Aff) (hd : t.d = 0) (nrow ncol : Nat) (rows : List ℚ)
    (h : areaGrid (cellareaM R2 pi180 sinD) t nrow ncol true false (some fac) = .ok rows)
    (r : Nat) (hr : r < nrow) :
    ∃ v, rows[r]? = some v ∧
      (v : ℝ) = cellareaG R2 pi180 s (rowLat t.f t.e r) t.a t.e / fac := by
  rw [areaGrid_geo _ fac t hd] at h
  injection h with h
  subst h
  refine ⟨_, by rw [List.getElem?_map, List.getElem?_range hr]; rfl, ?_⟩
  rw [Rat.cast_div, cellareaM_cast R2 pi180 sinD s hs, specCentre, rowLat]
  push_cast; rfl

/-- over ℝ: for every `nrow, ncol, xres, yres` with `ncol·|xres| = 360` and
`nrow·|yres| = 180`, rows running from latitude 90 to -90 (north-up, `yres < 0`, `yoff = 90`) or from -90 to
90 (south-up), the sum over all cells of `cellarea` - with the real sine and `radians` exactly as in
`gis_utils.cellarea`, evaluated at each row's centre latitude - is `4·π·R²`. -/
theorem sphere_sum_real_global (R xres yres yoff : ℝ) (nrow ncol : ℕ)
    (hcols : (ncol : ℝ) * |xres| = 360) (hrows : (nrow : ℝ) * |yres| = 180)
    (htop : (yres < 0 ∧ yoff = 90) ∨ (0 < yres ∧ yoff = -90)) :
    ∑ r ∈ Finset.range nrow, ∑ _c ∈ Finset.range ncol, cellareaR R (rowLat yoff yres r) xres yres =
      4 * Real.pi * R ^ 2 :=
  sphere_sum_real R xres yres yoff nrow ncol hcols hrows htop

/-- any geographic raster: the cell areas telescope to `R²·radians(ncol·|xres|)·(sin top − sin bottom)` -/
theorem sphere_sum_real_telescope (R xres yres yoff : ℝ) (nrow ncol : ℕ) :
    ∑ r ∈ Finset.range nrow, ∑ _c ∈ Finset.range ncol, cellareaR R (rowLat yoff yres r) xres yres =
      R ^ 2 * radians ((ncol : ℝ) * |xres|) *
        (if yres < 0 then Real.sin (radians yoff) - Real.sin (radians (yoff + nrow * yres))
         else Real.sin (radians (yoff + nrow * yres)) - Real.sin (radians yoff)) :=
  sphere_sum_real_general R xres yres yoff nrow ncol

-- non-vacuity: a 1-degree global grid (180 x 360) meets the hypotheses
example : ((360 : ℕ) : ℝ) * |(1 : ℝ)| = 360 ∧ ((180 : ℕ) : ℝ) * |(-1 : ℝ)| = 180 ∧ ((-1 : ℝ) < 0 ∧ (90 : ℝ) = 90) := by
  norm_num
example (R : ℝ) : ∑ r ∈ Finset.range 180, ∑ _c ∈ Finset.range 360, cellareaR R (rowLat 90 (-1) r) 1 (-1) =
    4 * Real.pi * R ^ 2 :=
  sphere_sum_real_global R 1 (-1) 90 180 360 (by norm_num) (by norm_num) (Or.inl ⟨by norm_num, rfl⟩)

/-- a rational `d` satisfies the model's `IsHypot d p q` iff it is
`√(p² + q²)`; over ℝ the predicate has exactly one solution, `hypotR p q`. -/
theorem hypot_is_sqrt (d p q : ℚ) (d' p' q' : ℝ) :
    (IsHypot d p q ↔ (d : ℝ) = Real.sqrt ((p : ℝ) ^ 2 + (q : ℝ) ^ 2)) ∧
    (IsHypotR d' p' q' ↔ d' = Real.sqrt (p' ^ 2 + q' ^ 2)) :=
  ⟨isHypot_cast d p q, isHypotR_iff d' p' q'⟩

/-- projected, any two cells: the real value
`√(leg₁² + leg₂²)` of the model's legs is `√((x₁−x₀)² + (y₁−y₀)²)` for the centre coordinates of section 1 -/
theorem distance_centres_real (dmy dmx : ℚ → ℚ) (t : Aff) (ncol : Nat) (i j : Nat) :
    distR (distLegs dmy dmx t ncol false i j) = Real.sqrt ((specCentreDist2 t ncol i j : ℚ) : ℝ) := by
  rw [← distance_centres dmy dmx]
  simp only [distR, hypotR, dist2, Rat.cast_add, Rat.cast_mul, sq]

/-- the projected distance between diagonal neighbours is `√(xres² + yres²)` -/
theorem distance_diag_real (dmy dmx : ℚ → ℚ) (t : Aff) (ncol : Nat) (i j : Nat)
    (hrow : absI (((j / ncol : Nat) : Int) - ((i / ncol : Nat) : Int)) = 1)
    (hcol : absI (((j % ncol : Nat) : Int) - ((i % ncol : Nat) : Int)) = 1) :
    distR (distLegs dmy dmx t ncol false i j) = Real.sqrt ((t.a : ℝ) ^ 2 + (t.e : ℝ) ^ 2) := by
  rw [distLegs_diag dmy dmx t ncol i j hrow hcol, distR, hypotR, add_comm]

/-- east–west / north–south steps over ℝ: `|xres|`, `|yres|` -/
theorem distance_ew_real (dmy dmx : ℚ → ℚ) (t : Aff) (ncol : Nat) (i j : Nat)
    (hrow : i / ncol = j / ncol) (hcol : absI (((j % ncol : Nat) : Int) - ((i % ncol : Nat) : Int)) = 1) :
    distR (distLegs dmy dmx t ncol false i j) = |(t.a : ℝ)| := by
  rw [distLegs_ew dmy dmx t ncol i j hrow hcol, distR, Rat.cast_zero, hypotR_zero_left]

theorem distance_ns_real (dmy dmx : ℚ → ℚ) (t : Aff) (ncol : Nat) (i j : Nat)
    (hcol : i % ncol = j % ncol) (hrow : absI (((j / ncol : Nat) : Int) - ((i / ncol : Nat) : Int)) = 1) :
    distR (distLegs dmy dmx t ncol false i j) = |(t.e : ℝ)| := by
  rw [distLegs_ns dmy dmx t ncol i j hcol hrow, distR, Rat.cast_zero, hypotR_zero_right]

/-- geographic: the real length of the model's legs is the hypotenuse of the metric
legs at the mean latitude of the two centres -/
theorem distance_geo_real (dmy dmx : ℚ → ℚ) (t : Aff) (ncol : Nat) (i j : Nat) :
    distR (distLegs dmy dmx t ncol true i j) = distR (specGeoLegs dmy dmx t ncol i j) := by
  have h := distance_geo dmy dmx t ncol i j
  simp only [dist2] at h
  simp only [distR]
  apply hypotR_congr
  exact_mod_cast h

-- 3 x 4 cells: the real diagonal is √25 = 5
example : distR (distLegs id id ⟨3, 0, 0, 0, -4, 0⟩ 5 false 7 13) = 5 := by
  rw [distance_diag_real _ _ _ _ _ _ (by decide +kernel) (by decide +kernel)]
  rw [show (((⟨3, 0, 0, 0, -4, 0⟩ : Aff).a : ℚ) : ℝ) ^ 2 + (((⟨3, 0, 0, 0, -4, 0⟩ : Aff).e : ℚ) : ℝ) ^ 2 = 5 ^ 2 by
    norm_num]
  exact Real.sqrt_sq (by norm_num)

/-- `degree_metres_y/x` as real functions: both are even in the latitude (the two hemispheres are
treated alike), a degree of latitude has positive length everywhere, a degree of longitude has
non-negative length for `|lat| ≤ 90` and length 0 at the poles. -/
theorem degree_metres_real (lat : ℝ) :
    dmyR (-lat) = dmyR lat ∧ dmxR (-lat) = dmxR lat ∧ 0 < dmyR lat ∧ (|lat| ≤ 90 → 0 ≤ dmxR lat) ∧
    dmxR 90 = 0 ∧ dmxR (-90) = 0 :=
  ⟨dmyR_even lat, dmxR_even lat, dmyR_pos lat, dmxR_nonneg lat, dmxR_pole.1, dmxR_pole.2⟩

/-- hence the metric legs of `distance_geo` need no absolute value around the degree lengths: an
east–west step at latitude `φ` (`|φ| ≤ 90`) is `degree_metres_x(φ)·|Δx|` long, a north–south step
`degree_metres_y(φ)·|Δy|`, and both are the same at `-φ`. -/
theorem geo_step_lengths_real (lat dx dy : ℝ) (h : |lat| ≤ 90) :
    hypotR (dmyR lat * 0) (dmxR lat * dx) = dmxR lat * |dx| ∧
    hypotR (dmyR lat * dy) (dmxR lat * 0) = dmyR lat * |dy| ∧
    hypotR (dmyR (-lat) * dy) (dmxR (-lat) * dx) = hypotR (dmyR lat * dy) (dmxR lat * dx) := by
  refine ⟨geo_step_ew lat dx h, geo_step_ns lat dy, ?_⟩
  rw [dmyR_even, dmxR_even]

end Pf.C17
