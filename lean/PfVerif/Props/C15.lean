import PfVerif.Proofs.C15Adjust
import PfVerif.Proofs.C15Dig
import PfVerif.Proofs.C15Fix1d
import PfVerif.Proofs.C15Last
import PfVerif.Proofs.C15Mono
/-! # C15 — elevation conditioning makes elevation non-increasing downstream

The `adjust` theorems quantify over every network `ds`, every downstream-first order `seq` (`Topo`, what C03
establishes for the library's orders and what the harness re-checks with `isTopo` on the order
actually used), and every elevation field; the `dig_d4` theorems need no hypothesis on the order. No bound on
sizes. -/
namespace Pf.C15
open Pf

section compose
variable (f : List Int → List Int) (ds : Array Nat) (seq : List Nat) (elev : Array Int)
  (htopo : Topo ds seq) (hbd : ∀ i ∈ seq, i < ds.size) (hb : ∀ i ∈ seq, i < elev.size)
include htopo hbd hb

/-- the confluence argument: if the 1-D streamline fixer
returns a non-increasing profile of the same length and keeps its last (most downstream) value,
then after `adjust_elevation` no cell of the network is lower than its downstream cell. -/
theorem streamline_compose (hlen : LenKept f) (hmono : MonoOut f) (hlast : LastKept f) :
    ∀ i ∈ seq, (adjustWith f ds seq elev).1[ds[i]!]! ≤ (adjustWith f ds seq elev).1[i]! :=
  fun i hi =>
    have ⟨inv, hm⟩ := adjust_inv f ds seq elev htopo hbd hb hlen hmono hlast
    inv.mono i (hm i hi)

/-- every cell of the network is visited (masked) exactly by the end of the loop -/
theorem all_checked (hlen : LenKept f) (hmono : MonoOut f) (hlast : LastKept f) :
    ∀ i, (adjustWith f ds seq elev).2[i]! = true ↔ i ∈ seq :=
  fun i =>
    have ⟨inv, hm⟩ := adjust_inv f ds seq elev htopo hbd hb hlen hmono hlast
    ⟨inv.msub i, hm i⟩

/-- cells outside the order are never written -/
theorem only_network_cells (hlen : LenKept f) :
    ∀ c, c ∉ seq → (adjustWith f ds seq elev).1[c]! = elev[c]! :=
  adjust_elev f ds seq elev htopo hbd hb hlen (fun a => ∀ c, c ∉ seq → a[c]! = elev[c]!) (fun _ _ => rfl)
    fun a a' m i p _ _ hP ok hout _ c hc => by rw [hout c fun h => hc (ok.sub c h)]; exact hP c hc

/-- an elevation that does not rise downstream anywhere on the network is returned unchanged (as an array) -/
theorem conforming_unchanged (hlen : LenKept f) (hid : IdOnNonInc f)
    (hconf : ∀ c ∈ seq, elev[ds[c]!]! ≤ elev[c]!) : (adjustWith f ds seq elev).1 = elev :=
  adjust_elev f ds seq elev htopo hbd hb hlen (· = elev) rfl fun a a' m i p hsz hsz' hP ok hout hin => by
    subst hP
    -- the profile read along the streamline is non-increasing, so the fixer returns it
    have hni : ∀ j, j + 1 < (p.map (a[·]!)).length → (p.map (a[·]!))[j+1]! ≤ (p.map (a[·]!))[j]! := by
      intro j hj
      have hj' : j + 1 < p.length := by simpa using hj
      rw [get!_map _ _ _ hj', get!_map _ _ _ (Nat.lt_of_succ_lt hj'), (ok.link j hj').2.2]
      exact hconf _ (ok.sub _ (get!_mem p j (Nat.lt_of_succ_lt hj')))
    rw [hid _ hni] at hin
    refine array_ext_get! hsz' fun c _ => ?_
    by_cases hcp : c ∈ p
    · obtain ⟨j, hj, rfl⟩ := mem_get! hcp
      rw [hin j hj, get!_map _ _ _ hj]
    · exact hout c hcp

/-- values on the network stay within every interval containing the input values
on the network -/
theorem range_kept (hlen : LenKept f) (hrange : RangeKept f) (lo hi : Int)
    (hin : ∀ c ∈ seq, lo ≤ elev[c]! ∧ elev[c]! ≤ hi) :
    ∀ c ∈ seq, lo ≤ (adjustWith f ds seq elev).1[c]! ∧ (adjustWith f ds seq elev).1[c]! ≤ hi :=
  adjust_elev f ds seq elev htopo hbd hb hlen (fun a => ∀ c ∈ seq, lo ≤ a[c]! ∧ a[c]! ≤ hi) hin
    fun a a' m i p _ _ hP ok hout hin c hc => by
      by_cases hcp : c ∈ p
      · obtain ⟨j, hj, rfl⟩ := mem_get! hcp
        rw [hin j hj]
        refine hrange _ lo hi (fun x hx => ?_) _ (get!_mem _ j (by rw [hlen, List.length_map]; exact hj))
        obtain ⟨d, hd, rfl⟩ := List.mem_map.1 hx
        exact hP d (ok.sub d hd)
      · rw [hout c hcp]; exact hP c hc

omit htopo hbd hb in
theorem adjustWith_size : (adjustWith f ds seq elev).1.size = elev.size := by
  have := fold_pres (fun st : Array Int × Array Bool => st.1.size = elev.size)
    (fun st i => adjStep f ds seq.length st i) seq (elev, Array.replicate elev.size false) rfl
    (fun st i _ h => by rw [(adjStep_sizes f ds seq.length st i).1]; exact h) seq (fun _ h => h)
  exact this

/-- adjusting an adjusted elevation changes nothing -/
theorem idempotent (hlen : LenKept f) (hmono : MonoOut f) (hlast : LastKept f) (hid : IdOnNonInc f) :
    (adjustWith f ds seq (adjustWith f ds seq elev).1).1 = (adjustWith f ds seq elev).1 := by
  have hsz := adjustWith_size f ds seq elev
  exact conforming_unchanged f ds seq _ htopo hbd (fun i hi => by rw [hsz]; exact hb i hi) hlen hid
    (streamline_compose f ds seq elev htopo hbd hb hlen hmono hlast)

end compose

/-! ## `dem_adjust` = `adjustWith` instantiated with the model of `_adjust_elevation`

All five components of the contract of the streamline fixer are proved for the real 1-D fixer `adjust1d`, for
every profile: `adjust1d_length` (length kept), `adjust1d_range` (range kept), `adjust1d_id` (identity
on non-increasing profiles), `adjust1d_last` (the last, most downstream, value is kept) and
`adjust1d_mono` (the output profile is non-increasing; `Proofs/C15Mono.lean`: scan invariant "finished
prefix non-increasing up to `imin`, open hump non-decreasing up to `imax` and non-increasing after it",
each of the three candidate modifications dig / fill / dig & fill yields a non-increasing prefix).
Hence the theorems below carry no hypothesis on the fixer. -/
theorem fix1d_ok :
    LenKept adjust1d ∧ MonoOut adjust1d ∧ LastKept adjust1d ∧ IdOnNonInc adjust1d ∧ RangeKept adjust1d :=
  ⟨adjust1d_length, adjust1d_mono, adjust1d_last, adjust1d_id, adjust1d_range⟩

/-- `adjust1d_mono` in list form: every element of the output of `_adjust_elevation` is at most its
predecessor -/
theorem adjust1d_nonincreasing (v : List Int) (j : Nat) (hj : j + 1 < v.length) :
    (adjust1d v)[j+1]! ≤ (adjust1d v)[j]! := adjust1d_mono v j hj

section real
variable (ds : Array Nat) (seq : List Nat) (elev : Array Int)
  (htopo : Topo ds seq) (hbd : ∀ i ∈ seq, i < ds.size) (hb : ∀ i ∈ seq, i < elev.size)
include htopo hbd hb

/-- after `dem_adjust` no cell of the network is lower than its downstream cell -/
theorem dem_adjust_monotone :
    ∀ i ∈ seq, (adjustElevation ds seq elev)[ds[i]!]! ≤ (adjustElevation ds seq elev)[i]! :=
  streamline_compose adjust1d ds seq elev htopo hbd hb adjust1d_length adjust1d_mono adjust1d_last

/-- `dem_adjust` writes no cell outside the order -/
theorem dem_adjust_only_network : ∀ c, c ∉ seq → (adjustElevation ds seq elev)[c]! = elev[c]! :=
  only_network_cells adjust1d ds seq elev htopo hbd hb adjust1d_length

/-- `dem_adjust` returns an elevation unchanged that does not rise downstream anywhere on the network -/
theorem dem_adjust_conforming_unchanged (hconf : ∀ c ∈ seq, elev[ds[c]!]! ≤ elev[c]!) :
    adjustElevation ds seq elev = elev :=
  conforming_unchanged adjust1d ds seq elev htopo hbd hb adjust1d_length adjust1d_id hconf

/-- `dem_adjust` keeps the values on the network within every interval containing the input values on the network -/
theorem dem_adjust_range_kept (lo hi : Int) (hin : ∀ c ∈ seq, lo ≤ elev[c]! ∧ elev[c]! ≤ hi) :
    ∀ c ∈ seq, lo ≤ (adjustElevation ds seq elev)[c]! ∧ (adjustElevation ds seq elev)[c]! ≤ hi :=
  range_kept adjust1d ds seq elev htopo hbd hb adjust1d_length adjust1d_range lo hi hin

/-- `dem_adjust` applied twice is `dem_adjust` applied once -/
theorem dem_adjust_idempotent :
    adjustElevation ds seq (adjustElevation ds seq elev) = adjustElevation ds seq elev :=
  idempotent adjust1d ds seq elev htopo hbd hb adjust1d_length adjust1d_mono adjust1d_last adjust1d_id

end real

/-! ### non-vacuity -/
-- chain 4 → 3 → 2 → 1 → 0 (pit) with tributary 5 → 2; a hump at cell 1 and a pit at cell 2
example : Topo #[0, 0, 1, 2, 3, 2] [0, 1, 2, 3, 4, 5] := by
  have h0 : Topo #[0, 0, 1, 2, 3, 2] [] := Topo.nil
  have h1 : Topo #[0, 0, 1, 2, 3, 2] ([] ++ [0]) := Topo.snoc h0 (by simp) (Or.inl (by decide))
  have h2 : Topo #[0, 0, 1, 2, 3, 2] ([0] ++ [1]) := Topo.snoc h1 (by simp) (Or.inr (by decide))
  have h3 : Topo #[0, 0, 1, 2, 3, 2] ([0, 1] ++ [2]) := Topo.snoc h2 (by simp) (Or.inr (by decide))
  have h4 : Topo #[0, 0, 1, 2, 3, 2] ([0, 1, 2] ++ [3]) := Topo.snoc h3 (by simp) (Or.inr (by decide))
  have h5 : Topo #[0, 0, 1, 2, 3, 2] ([0, 1, 2, 3] ++ [4]) := Topo.snoc h4 (by simp) (Or.inr (by decide))
  exact Topo.snoc h5 (by simp) (Or.inr (by decide))
example : adjustElevation #[0, 0, 1, 2, 3, 2] [0, 1, 2, 3, 4, 5] #[0, 5, 2, 4, 1, 7] = #[0, 2, 2, 2, 2, 7] := by decide +kernel
-- a later streamline (from cell 2) ends on the already fixed cell 1 and is raised to it
example : adjustElevation #[0, 0, 1, 1] [0, 1, 2, 3] #[1, 3, 2, 5] = #[1, 3, 3, 5] := by decide +kernel
example : adjust1d [4, 2, 5, 0, 3, 1, 2] = [4, 2, 2, 2, 2, 2, 2] := by decide +kernel

/-! ## the D4 digging variant (`dig_4connectivity`) -/
section dig
variable (digf : Int → Int → Int) (ds : Array Nat) (seq : List Nat) (nrow ncol : Nat)
  (mask : Option (Array Bool)) (nodata : Int) (elv : Array Int)

/-- `dig_4connectivity` raises no cell, for every dig rule that does not raise its first argument -/
theorem dig_d4_never_raises (hdig : ∀ e z, digf e z ≤ e) :
    ∀ c : Nat, (digD4 digf ds seq nrow ncol mask nodata elv)[c]! ≤ elv[c]! :=
  (digD4_spec digf ds seq nrow ncol mask nodata elv).le hdig

/-- the dig rule of the code does not raise: `min(e - dz_min, z0)` with `dz_min ≥ 0` -/
theorem digExact_le (dz : Int) (hdz : 0 ≤ dz) : ∀ e z, digExact dz e z ≤ e := by
  intro e z; unfold digExact; omega
/-- nor does its truncating integer-dtype version -/
theorem digTrunc_le : ∀ e z, digTrunc e z ≤ e := by
  intro e z; unfold digTrunc; split
  · omega
  · split <;> omega

/-- nodata cells are never altered -/
theorem dig_d4_nodata_unchanged :
    ∀ c : Nat, elv[c]! = nodata → (digD4 digf ds seq nrow ncol mask nodata elv)[c]! = elv[c]! :=
  (digD4_spec digf ds seq nrow ncol mask nodata elv).keep

/-- a changed cell is a side neighbour (index arithmetic `±1`, `±ncol`, exact on a D8
network) of a considered river cell `i` (in the order, selected by the mask), or of the pit directly
downstream of one -/
theorem dig_d4_local :
    ∀ c : Nat, (digD4 digf ds seq nrow ncol mask nodata elv)[c]! ≠ elv[c]! →
      ∃ i ∈ seq, maskAt mask i = true ∧
        (c ∈ d4nbrs ncol i ∨ (ds[ds[i]!]! = ds[i]! ∧ c ∈ d4nbrs ncol ds[i]!)) :=
  (digD4_spec digf ds seq nrow ncol mask nodata elv).within

theorem dig_d4_size : (digD4 digf ds seq nrow ncol mask nodata elv).size = elv.size :=
  (digD4_spec digf ds seq nrow ncol mask nodata elv).size

end dig

/-! ### non-vacuity (3×3 raster, every cell drains to the central pit) -/
example : digD4 (digExact 1) #[4, 4, 4, 4, 4, 4, 4, 4, 4] [4, 0, 1, 2, 3, 5, 6, 7, 8] 3 3 none (-9999)
    #[5, 5, 5, 5, 1, 5, 5, 5, 5] = #[5, -1, 5, 1, 1, 1, 5, 0, 5] := by decide
example : digD4 digTrunc #[4, 4, 4, 4, 4, 4, 4, 4, 4] [4, 0, 1, 2, 3, 5, 6, 7, 8] 3 3
    (some #[false, false, false, false, false, false, false, false, true]) (-9999)
    #[5, -9999, 5, 5, 1, 5, 5, 5, 5] ≠ #[5, -9999, 5, 5, 1, 5, 5, 5, 5] := by decide

end Pf.C15
