import PfVerif.Proofs.C09Cert
import PfVerif.Proofs.C09Scale1
import PfVerif.Proofs.C09Loop
import PfVerif.Core.Folds
import PfVerif.Proofs.C03Topo
/-! # C09 — upscaling yields a valid coarse D8 network anchored on fine-grid outlet pixels

All theorems are about the executable model `PfVerif/Model/C09.lean` of `pyflwdir/upscale.py` and quantify over
every fine network `ds`, every fine shape and scale factor `g : Geo`, every upstream-area array and every
effective-area map; no bound on sizes. `g.OK ds` says the fine array has the fine shape's size and `s ≥ 1`;
`FineWF ds` says valid fine cells point to valid fine cells. -/
namespace Pf.C09
open Pf

/-! ## shapes and the coarse cell of a pixel -/

/-- the coarse shape is `ceil(rows/s) × ceil(cols/s)`: the least numbers of coarse rows / columns
that cover the fine raster -/
theorem shape_ceil (g : Geo) (hs : 0 < g.cs) :
    g.subnrow ≤ g.nrow * g.cs ∧ g.nrow * g.cs < g.subnrow + g.cs ∧
    g.subncol ≤ g.ncol * g.cs ∧ g.ncol * g.cs < g.subncol + g.cs :=
  ⟨ceilDiv_le_mul _ _ hs, ceilDiv_mul_lt _ _ hs, ceilDiv_le_mul _ _ hs, ceilDiv_mul_lt _ _ hs⟩

/-- the coarse cell of a pixel lies inside the coarse raster and has row `⌊row/s⌋`, column `⌊col/s⌋` -/
theorem cell_of_pixel (g : Geo) (ds : Array Nat) (hg : g.OK ds) (p : Nat) (hp : p < ds.size) :
    g.cell p < g.ncell ∧ g.cell p / g.ncol = (p / g.subncol) / g.cs ∧
    g.cell p % g.ncol = (p % g.subncol) / g.cs :=
  ⟨g.cell_lt ds hg p hp, g.cell_row ds hg p hp, g.cell_col ds hg p hp⟩

/-- with scale factor 1 the coarse cell of a pixel is the pixel -/
theorem cell_scale_one (g : Geo) (h1 : g.cs = 1) (p : Nat) : g.cell p = p :=
  g.cell_one h1 p

/-! ## the representative / exit pixel -/

/-- `dmm_exitcell`: the exit pixel of a coarse cell is a valid fine cell of that coarse cell
which is a pit or lies on the cell edge, has positive and maximal upstream area among all such pixels of the cell,
and is the first such pixel in index order; a cell gets no exit pixel iff it has no such pixel with positive
upstream area -/
theorem exit_in_cell (ds : Array Nat) (upa : Array Int) (g : Geo) :
    let cand := fun p => cellEdge p g.subncol g.cs
    let rep := dmmExitcell ds upa g.subncol g.cs g.ncol g.ncell
    rep.size = g.ncell ∧ ∀ c, c < g.ncell →
      (rep[c]! = ds.size ∧ ∀ j, j < ds.size → IsCand ds cand j → g.cell j = c → upa[j]! ≤ 0) ∨
      (rep[c]! < ds.size ∧ IsCand ds cand rep[c]! ∧ g.cell rep[c]! = c ∧ 0 < upa[rep[c]!]! ∧
        (∀ j, j < ds.size → IsCand ds cand j → g.cell j = c → upa[j]! ≤ upa[rep[c]!]!) ∧
        (∀ j, j < rep[c]! → IsCand ds cand j → g.cell j = c → upa[j]! < upa[rep[c]!]!)) :=
  repCells_spec ds upa _ _ g.ncell

/-- `eam_repcell`: the same with "inside the effective area" in place of "on the cell edge" -/
theorem rep_in_cell (ds : Array Nat) (upa : Array Int) (ea : Array Bool) (g : Geo) :
    let cand := fun p => ea[p]!
    let rep := eamRepcell ds upa ea g.subncol g.cs g.ncol g.ncell
    rep.size = g.ncell ∧ ∀ c, c < g.ncell →
      (rep[c]! = ds.size ∧ ∀ j, j < ds.size → IsCand ds cand j → g.cell j = c → upa[j]! ≤ 0) ∨
      (rep[c]! < ds.size ∧ IsCand ds cand rep[c]! ∧ g.cell rep[c]! = c ∧ 0 < upa[rep[c]!]! ∧
        (∀ j, j < ds.size → IsCand ds cand j → g.cell j = c → upa[j]! ≤ upa[rep[c]!]!) ∧
        (∀ j, j < rep[c]! → IsCand ds cand j → g.cell j = c → upa[j]! < upa[rep[c]!]!)) :=
  repCells_spec ds upa _ _ g.ncell

/-- what the later stages need from a representative-pixel array -/
def RepOK (ds : Array Nat) (g : Geo) (rep : Array Nat) : Prop :=
  rep.size = g.ncell ∧ ∀ c, c < g.ncell → rep[c]! ≠ ds.size → ValidPx ds rep[c]! ∧ g.cell rep[c]! = c

theorem repCells_ok (ds : Array Nat) (upa : Array Int) (cand : Nat → Bool) (g : Geo) :
    RepOK ds g (repCells ds upa cand g.cell g.ncell) :=
  ⟨(repCells_spec ds upa cand g.cell g.ncell).1, fun _ hc hv =>
    ⟨(repCells_some ds upa cand g.cell hc hv).1, (repCells_some ds upa cand g.cell hc hv).2.1⟩⟩

/-- `ihu_outlets`: the outlet pixel of a coarse cell is a valid fine cell inside
that coarse cell, downstream of the representative pixel, and the pixel downstream of it lies in another
coarse cell unless the outlet pixel is a pit; cells without representative pixel get no outlet -/
theorem outlet_in_cell (ds rep out : Array Nat) (g : Geo) (hwf : FineWF ds) (hrep : RepOK ds g rep)
    (h : ihuOutlets ds rep g.subncol g.cs g.ncol = some out) :
    out.size = g.ncell ∧ ∀ c, c < g.ncell →
      (rep[c]! = ds.size → out[c]! = ds.size) ∧
      (rep[c]! ≠ ds.size → ValidPx ds out[c]! ∧ g.cell out[c]! = c ∧
        (g.cell ds[out[c]!]! ≠ c ∨ ds[out[c]!]! = out[c]!) ∧ ∃ k, out[c]! = iterA ds k rep[c]!) := by
  obtain ⟨hs, hf⟩ := collect_ite_some h
  rw [hrep.1] at hs hf
  refine ⟨hs, fun c hc => ⟨(hf c hc).1, fun hv => ?_⟩⟩
  obtain ⟨⟨h1, h2⟩, h3⟩ := ihuOutTrace_rule ds g.cell c (fun p => ValidPx ds p ∧ g.cell p = c)
    (fun p hp _ hc' => ⟨hwf.next hp.1, hc'⟩) _ _ _ ((hf c hc).2 hv) (hrep.2 c hc hv)
  exact ⟨h1, h2, h3⟩

/-! ## the three modelled pipelines: sizes, outlets in their own cell, distinct, valid iff outlet -/

/-- the outlet part of the property for the non-iterative methods -/
structure OutletsOwnCell (ds : Array Nat) (g : Geo) (cds out : Array Nat) : Prop where
  size_cds : cds.size = g.ncell
  size_out : out.size = g.ncell
  /-- every outlet pixel is a valid fine cell inside its own coarse cell -/
  own : ∀ c, c < g.ncell → out[c]! ≠ ds.size → ValidPx ds out[c]! ∧ g.cell out[c]! = c
  /-- hence outlet pixels are pairwise distinct -/
  distinct : ∀ c c', c < g.ncell → c' < g.ncell → out[c]! ≠ ds.size → out[c]! = out[c']! → c = c'

theorem OutletsOwnCell.of_own {ds : Array Nat} {g : Geo} {cds out : Array Nat} (h1 : cds.size = g.ncell)
    (h2 : out.size = g.ncell)
    (h3 : ∀ c, c < g.ncell → out[c]! ≠ ds.size → ValidPx ds out[c]! ∧ g.cell out[c]! = c) :
    OutletsOwnCell ds g cds out :=
  ⟨h1, h2, h3, fun c c' hc hc' hv he => by
    have a := (h3 c hc hv).2
    have b := (h3 c' hc' (he ▸ hv)).2
    rw [← a, he, b]⟩

/-- `dmm`: every outlet (exit) pixel is a valid pixel of its own coarse cell -/
theorem dmm_outlets (ds : Array Nat) (upa : Array Int) (g : Geo) (cds out : Array Nat)
    (h : dmmModel ds upa g = some (cds, out)) : OutletsOwnCell ds g cds out :=
  have hl := dmmModel_some h
  OutletsOwnCell.of_own hl.size_cds hl.size_out fun _ hc hv => ⟨(hl.rep hc hv).1, (hl.rep hc hv).2.1⟩

/-- `eam`: every outlet (representative) pixel is a valid pixel of its own coarse cell -/
theorem eam_outlets (ds : Array Nat) (upa : Array Int) (ea : Array Bool) (g : Geo) (cds out : Array Nat)
    (h : eamModel ds upa ea g = some (cds, out)) : OutletsOwnCell ds g cds out :=
  have hl := eamModel_some h
  OutletsOwnCell.of_own hl.size_cds hl.size_out fun _ hc hv => ⟨(hl.rep hc hv).1, (hl.rep hc hv).2.1⟩

/-- `eam_plus` (`ihu` without iterations): every outlet pixel is a valid pixel of its own coarse cell -/
theorem eam_plus_outlets (ds : Array Nat) (upa : Array Int) (ea : Array Bool) (g : Geo) (cds out : Array Nat)
    (fix : List Nat) (hwf : FineWF ds) (h : eamPlusModel ds upa ea g = some (cds, out, fix)) :
    OutletsOwnCell ds g cds out := by
  obtain ⟨hout, hn⟩ := eamPlusModel_some h
  obtain ⟨hso, ho⟩ := outlet_in_cell ds _ out g hwf (repCells_ok ds upa _ g) hout
  refine OutletsOwnCell.of_own (ihuNextidx_some hn hso).1 hso fun c hc hv => ?_
  have := (ho c hc).2 fun hr => hv ((ho c hc).1 hr)
  exact ⟨this.1, this.2.1⟩

/-- `dmm`: a coarse cell is valid exactly where an exit pixel is reported, and valid cells
point inside the coarse raster -/
theorem dmm_valid_iff_outlet (ds : Array Nat) (upa : Array Int) (g : Geo) (cds out : Array Nat)
    (hg : g.OK ds) (hwf : FineWF ds) (h : dmmModel ds upa g = some (cds, out)) :
    ∀ c, c < g.ncell → (cds[c]! ≠ g.ncell ↔ out[c]! ≠ ds.size) ∧ cds[c]! ≤ g.ncell :=
  (dmmModel_some h).valid_iff fun c p r _ hp hcp htr => by
    obtain ⟨q, hq, hrq⟩ := dmmTrace_rule ds g.cell _ c (ValidPx ds) (fun p hp _ _ => hwf.next hp) _ _ _ _ htr hp
      hcp.symm
    exact hrq ▸ g.cell_lt ds hg q hq.1

/-- `eam`: a coarse cell is valid exactly where a representative pixel is reported, and valid cells point inside
the coarse raster -/
theorem eam_valid_iff_outlet (ds : Array Nat) (upa : Array Int) (ea : Array Bool) (g : Geo) (cds out : Array Nat)
    (hg : g.OK ds) (hwf : FineWF ds) (h : eamModel ds upa ea g = some (cds, out)) :
    ∀ c, c < g.ncell → (cds[c]! ≠ g.ncell ↔ out[c]! ≠ ds.size) ∧ cds[c]! ≤ g.ncell :=
  (eamModel_some h).valid_iff fun c p r _ hp _ htr => by
    obtain ⟨p', hv, hrq, _⟩ := eamTrace_rule ds ea g.cell c (ValidPx ds) (fun p hp _ _ => hwf.next hp) _ _ _ htr hp
    exact hrq ▸ g.cell_lt ds hg _ (hwf.next hv).1

/-- what `ihu_nextidx` guarantees for an unflagged cell (and the easy half of valid ⇔ outlet for `eam_plus`):
a coarse cell without outlet pixel is invalid, every link points inside the raster or is missing, and the link of a
cell that `ihu_nextidx` does not flag points inside the raster and the 3×3 neighbourhood, to a coarse cell that has
an outlet pixel (a valid pixel of that cell). The full equivalence is `eam_plus_valid_iff_outlet` below. -/
theorem eam_plus_unflagged (ds : Array Nat) (upa : Array Int) (ea : Array Bool) (g : Geo)
    (cds out : Array Nat) (fix : List Nat) (hg : g.OK ds) (hwf : FineWF ds)
    (h : eamPlusModel ds upa ea g = some (cds, out, fix)) :
    ∀ c, c < g.ncell →
      (out[c]! = ds.size → cds[c]! = g.ncell) ∧ cds[c]! ≤ g.ncell ∧
      (out[c]! ≠ ds.size → c ∉ fix →
        cds[c]! < g.ncell ∧ inD8 c cds[c]! g.ncol = true ∧ ValidPx ds out[cds[c]!]! ∧ g.cell out[cds[c]!]! = cds[c]!) := by
  have hown := eam_plus_outlets ds upa ea g cds out fix hwf h
  obtain ⟨_, hf⟩ := ihuNextidx_some (eamPlusModel_some h).2 hown.size_out
  intro c hc
  obtain ⟨h1, h2⟩ := hf c hc
  by_cases ho : out[c]! = ds.size
  · exact ⟨fun _ => (h1 ho).1, Nat.le_of_eq (h1 ho).1, fun hne => absurd ho hne⟩
  · obtain ⟨r, hr, hsome, hnone, hfix⟩ := h2 ho
    obtain ⟨hval, hd8⟩ := ihuNextTrace_valid ds out ea g.cell g.ncol c hwf hr (hown.own c hc ho).1
    refine ⟨fun e => absurd e ho, ?_, fun _ hnf => ?_⟩
    · cases hr1 : r.1 with
      | none => exact Nat.le_of_eq (hnone hr1)
      | some q => exact hsome q hr1 ▸ Nat.le_of_lt (g.cell_lt ds hg q (hval q hr1).1)
    · obtain ⟨q, hq1, hq2, hq3⟩ := hd8 (Bool.eq_false_iff.mpr fun e => hnf (hfix.mpr e))
      rw [hsome q hq1]
      exact ⟨g.cell_lt ds hg q (hval q hq1).1, hq2, hq3.symm ▸ hval q hq1, congrArg g.cell hq3⟩

/-! ## 8-neighbour adjacency by construction (dmm, eam, first pass of eam_plus / ihu)

Hypotheses: the fine network links 8-neighbours (`FineD8`, true of every D8/LDD raster) and the effective-area map
contains the centre cross of every coarse cell (`EaCross`: the `ri <= 0.5 or ci <= 0.5` clause of `effective_area`,
re-checked by the driver on the map the implementation actually used). -/

theorem inD8_self (c ncol : Nat) : inD8 c c ncol = true :=
  Pf.inD8_self c ncol

/-- `eam`: every coarse link joins 8-neighbours — the trace stops at the first effective-area pixel of another
cell, and a D8 path cannot get past the centre cross of a neighbouring cell without stepping on it -/
theorem eam_links_d8 (ds : Array Nat) (upa : Array Int) (ea : Array Bool) (g : Geo) (cds out : Array Nat)
    (hg : g.OK ds) (hwf : FineWF ds) (hd8 : FineD8 ds g.subncol) (hea : EaCross g ea ds.size)
    (h : eamModel ds upa ea g = some (cds, out)) :
    ∀ c, c < g.ncell → cds[c]! ≠ g.ncell → inD8 c cds[c]! g.ncol = true :=
  fun _ hc hv => (eamModel_some h).of_trace (fun c _ r => inD8 c r g.ncol = true)
    (fun c _ _ _ hp hcp htr => eamTrace_near ds ea g c hg hwf hd8 hea htr hp hcp) hc ((eamModel_some h).out_ne hc hv)

/-- `eam_plus`: valid ⇔ outlet and every coarse link joins 8-neighbours. A cell with an outlet pixel
always gets a downstream cell: if the next outlet pixel (or pit) downstream is outside the 3×3 neighbourhood, the
path has crossed an effective-area pixel before, and the first such pixel lies in the 3×3 neighbourhood. -/
theorem eam_plus_valid_iff_outlet (ds : Array Nat) (upa : Array Int) (ea : Array Bool) (g : Geo)
    (cds out : Array Nat) (fix : List Nat) (hg : g.OK ds) (hwf : FineWF ds) (hd8 : FineD8 ds g.subncol)
    (hea : EaCross g ea ds.size) (h : eamPlusModel ds upa ea g = some (cds, out, fix)) :
    ∀ c, c < g.ncell →
      (cds[c]! ≠ g.ncell ↔ out[c]! ≠ ds.size) ∧
      (out[c]! ≠ ds.size → cds[c]! < g.ncell ∧ inD8 c cds[c]! g.ncol = true) := by
  have hown := eam_plus_outlets ds upa ea g cds out fix hwf h
  obtain ⟨_, hf⟩ := ihuNextidx_some (eamPlusModel_some h).2 hown.size_out
  intro c hc
  obtain ⟨h1, h2⟩ := hf c hc
  have key : out[c]! ≠ ds.size → cds[c]! < g.ncell ∧ inD8 c cds[c]! g.ncol = true := fun ho => by
    obtain ⟨r, hr, hsome, _⟩ := h2 ho
    obtain ⟨q, hq1, hq2, hq3⟩ := ihuNextTrace_near ds out ea g c hg hwf hd8 hea hr (hown.own c hc ho).1
      (hown.own c hc ho).2
    rw [hsome q hq1]
    exact ⟨g.cell_lt ds hg q hq2.1, hq3⟩
  exact ⟨(valid_iff_of_link (fun ho => (h1 ho).1) fun ho => (key ho).1).1, key⟩

/-- `dmm`: every coarse link joins 8-neighbours — the trace ends at the first pixel outside the offset window
(a cell-sized window centred on a corner of the coarse cell; the cell itself for `cellsize == 1`), which is at most
one pixel beyond the window and therefore in a neighbouring coarse cell -/
theorem dmm_links_d8 (ds : Array Nat) (upa : Array Int) (g : Geo) (cds out : Array Nat)
    (hg : g.OK ds) (hwf : FineWF ds) (hd8 : FineD8 ds g.subncol)
    (h : dmmModel ds upa g = some (cds, out)) :
    ∀ c, c < g.ncell → cds[c]! ≠ g.ncell → inD8 c cds[c]! g.ncol = true :=
  fun _ hc hv => (dmmModel_some h).of_trace (fun c _ r => inD8 c r g.ncol = true)
    (fun c p _ _ hp hcp htr => dmmTrace_near ds g hg hwf hd8 c p htr hp hcp.symm hcp) hc
    ((dmmModel_some h).out_ne hc hv)

/-! ## loop-freeness by construction (dmm, eam, first pass of eam_plus / ihu)

Hypothesis `UpaMono`: the upstream area strictly increases along the fine network (true of the default upstream
area and of every accumulation of positive cell areas; re-checked by the driver on the array actually used).
With an arbitrary user array in place of an upstream area the coarse network of these methods can contain loops. -/

/-- `eam`: the coarse network is loop-free — a link that is not a self-link leads to a cell whose representative
pixel has strictly larger upstream area (the trace ends on a candidate pixel of that cell, downstream of the
representative pixel it started from) -/
theorem eam_loopfree (ds : Array Nat) (upa : Array Int) (ea : Array Bool) (g : Geo) (cds out : Array Nat)
    (hg : g.OK ds) (hwf : FineWF ds) (hm : UpaMono ds upa) (h : eamModel ds upa ea g = some (cds, out)) :
    ∀ c, c < g.ncell → cds[c]! ≠ g.ncell →
      ∃ k, iterA cds k c < g.ncell ∧ cds[iterA cds k c]! = iterA cds k c :=
  (eamModel_some h).loopfree hg fun c _ _ _ hp _ htr => Or.inr (eamTrace_meas ds ea g.cell c upa hwf hm htr hp)

/-- `dmm`: the coarse network is loop-free — the trace from an exit pixel ends in the start cell (self-link) or
in a cell that it entered through an edge pixel, downstream of the exit pixel; that cell's own exit pixel has at
least the upstream area of this edge pixel -/
theorem dmm_loopfree (ds : Array Nat) (upa : Array Int) (g : Geo) (cds out : Array Nat)
    (hg : g.OK ds) (hwf : FineWF ds) (hd8 : FineD8 ds g.subncol) (hm : UpaMono ds upa)
    (h : dmmModel ds upa g = some (cds, out)) :
    ∀ c, c < g.ncell → cds[c]! ≠ g.ncell →
      ∃ k, iterA cds k c < g.ncell ∧ cds[iterA cds k c]! = iterA cds k c :=
  (dmmModel_some h).loopfree hg fun c _ _ _ hp hcp htr => dmmTrace_meas ds g _ c upa hg hwf hd8 hm htr hp hcp

/-- `eam_plus` (first pass of `ihu`): the coarse network is loop-free — a link that is not a self-link leads to
a cell whose outlet pixel has strictly larger upstream area: the link is derived from the next outlet pixel
downstream, or from a pit / effective-area pixel downstream, which is a candidate of its cell's representative
pixel, and the outlet pixel of a cell lies downstream of its representative pixel -/
theorem eam_plus_loopfree (ds : Array Nat) (upa : Array Int) (ea : Array Bool) (g : Geo)
    (cds out : Array Nat) (fix : List Nat) (hg : g.OK ds) (hwf : FineWF ds) (hd8 : FineD8 ds g.subncol)
    (hea : EaCross g ea ds.size) (hm : UpaMono ds upa) (h : eamPlusModel ds upa ea g = some (cds, out, fix)) :
    ∀ c, c < g.ncell → cds[c]! ≠ g.ncell →
      ∃ k, iterA cds k c < g.ncell ∧ cds[iterA cds k c]! = iterA cds k c := by
  have hown := eam_plus_outlets ds upa ea g cds out fix hwf h
  have hvi := eam_plus_valid_iff_outlet ds upa ea g cds out fix hg hwf hd8 hea h
  obtain ⟨hout, hn⟩ := eamPlusModel_some h
  have hrep := repCells_ok ds upa (fun p => ea[p]!) g
  obtain ⟨hso, ho⟩ := outlet_in_cell ds _ out g hwf hrep hout
  obtain ⟨_, hf⟩ := ihuNextidx_some hn hso
  -- the outlet pixel of a cell lies downstream of its representative pixel
  have hup : ∀ c, c < g.ncell → (repCells ds upa (fun p => ea[p]!) g.cell g.ncell)[c]! ≠ ds.size →
      out[c]! ≠ ds.size ∧ upa[(repCells ds upa (fun p => ea[p]!) g.cell g.ncell)[c]!]! ≤ upa[out[c]!]! := by
    intro c hc hr
    obtain ⟨hv, _, _, k, hk⟩ := (ho c hc).2 hr
    exact ⟨Nat.ne_of_lt hv.1, hk ▸ (upa_iter_le ds upa hwf hm k _ (hrep.2 c hc hr).1).2⟩
  refine loopfree_of_links (upa := upa) (cand := fun p => ea[p]!) hg (fun c hc => (hvi c hc).1)
    (fun c hc hv => ?_) (fun q hq hcand hpos => ?_) fun c hc hv => ?_
  · have hrc := fun e => hv ((ho c hc).1 e)
    exact ⟨(hown.own c hc hv).2, Int.lt_of_lt_of_le (repCells_some ds upa _ g.cell hc hrc).2.2 (hup c hc hrc).2⟩
  · have hc1 := g.cell_lt ds hg q hq.1
    obtain ⟨h1, h2⟩ := repCells_max ds upa _ g.cell hc1 hq.1 hcand hpos
    exact ⟨(hup _ hc1 h1).1, Int.le_trans h2 (hup _ hc1 h1).2⟩
  · obtain ⟨r, hr, hsome, hnone, _⟩ := (hf c hc).2 hv
    cases hr1 : r.1 with
    | none => exact absurd (hnone hr1) (Nat.ne_of_lt ((hvi c hc).2 hv).1)
    | some q =>
      obtain ⟨hq, hkind, hl⟩ := ihuNextTrace_meas ds out ea g.cell g.ncol c upa hwf hm hr (hown.own c hc hv).1 hr1
      exact Or.inr ⟨q, hq, (hsome q hr1).symm, hkind, hl.imp_left And.left⟩

/-! ## the certificate checker evaluated on the implementation's output (all four methods) -/

/-- the part of the property that concerns the returned coarse network and its outlet pixels -/
structure UpscaleValid (ds : Array Nat) (g : Geo) (cds out : Array Nat) : Prop where
  size_cds : cds.size = g.ncell
  size_out : out.size = g.ncell
  /-- every coarse link stays inside the raster and inside the 3×3 neighbourhood (exportable as D8/LDD) -/
  d8 : ∀ c, c < g.ncell → cds[c]! ≠ g.ncell →
    cds[c]! < g.ncell ∧ absDiff (cds[c]! % g.ncol) (c % g.ncol) ≤ 1 ∧ absDiff (cds[c]! / g.ncol) (c / g.ncol) ≤ 1
  /-- loop-free: following the coarse links from any valid coarse cell ends in a coarse pit -/
  loopfree : ∀ c, c < g.ncell → cds[c]! ≠ g.ncell →
    ∃ k, iterA cds k c < g.ncell ∧ cds[iterA cds k c]! = iterA cds k c
  /-- a coarse cell is valid exactly where an outlet pixel is reported -/
  valid_iff : ∀ c, c < g.ncell → (cds[c]! ≠ g.ncell ↔ out[c]! ≠ ds.size)
  /-- every outlet pixel is a valid fine cell -/
  outlet_valid : ∀ c, c < g.ncell → out[c]! ≠ ds.size → ValidPx ds out[c]!
  /-- outlet pixels are pairwise distinct -/
  distinct : ∀ c c', c < g.ncell → c' < g.ncell → out[c]! ≠ ds.size → out[c]! = out[c']! → c = c'
  /-- a coarse cell with an outlet pixel contains a valid fine cell -/
  cell_valid : ∀ c, c < g.ncell → out[c]! ≠ ds.size → ∃ p, ValidPx ds p ∧ g.cell p = c

/-- certificate theorem: whatever witnesses `w` (ranks, inverse map, one pixel per cell) are
supplied, if the decidable local check accepts a coarse network and outlet array then the global property holds:
8-neighbour links, loop-free, valid ⇔ outlet, outlets distinct valid fine cells, in coarse cells with valid pixels. -/
theorem upscaleOK_sound (ds : Array Nat) (g : Geo) (cds out : Array Nat) (w : UpCert)
    (h : upscaleOK ds g cds out w = true) : UpscaleValid ds g cds out := by
  simp only [upscaleOK, Bool.and_eq_true, beq_iff_eq] at h
  obtain ⟨⟨⟨⟨⟨hsz, hd8⟩, hrk⟩, hvi⟩, hout⟩, hcv⟩ := h
  obtain ⟨hso, hvi'⟩ := okValidIff_sound _ _ _ hvi hsz
  obtain ⟨ho1, ho2⟩ := okOutlets_sound _ _ _ hout hso
  exact ⟨hsz, hso, okD8_sound cds g.ncol hd8 hsz, okRank_loopfree cds w.rk hrk hsz, hvi', ho1, ho2,
    okCellValid_sound _ _ _ _ hcv hso⟩

/-- assembling `UpscaleValid` from the by-construction facts of a non-iterative method -/
theorem UpscaleValid.of_parts {ds : Array Nat} {g : Geo} {cds out : Array Nat} (hown : OutletsOwnCell ds g cds out)
    (hvi : ∀ c, c < g.ncell → (cds[c]! ≠ g.ncell ↔ out[c]! ≠ ds.size) ∧ cds[c]! ≤ g.ncell)
    (hd8 : ∀ c, c < g.ncell → cds[c]! ≠ g.ncell → inD8 c cds[c]! g.ncol = true)
    (hlf : ∀ c, c < g.ncell → cds[c]! ≠ g.ncell →
      ∃ k, iterA cds k c < g.ncell ∧ cds[iterA cds k c]! = iterA cds k c) : UpscaleValid ds g cds out where
  size_cds := hown.size_cds
  size_out := hown.size_out
  d8 := fun c hc hv => by
    have h := hd8 c hc hv
    simp only [inD8, Bool.and_eq_true, decide_eq_true_eq] at h
    exact ⟨Nat.lt_of_le_of_ne (hvi c hc).2 hv, h.1, h.2⟩
  loopfree := hlf
  valid_iff := fun c hc => (hvi c hc).1
  outlet_valid := fun c hc hv => (hown.own c hc hv).1
  distinct := hown.distinct
  cell_valid := fun c hc hv => ⟨out[c]!, (hown.own c hc hv).1, (hown.own c hc hv).2⟩

/-- `eam` satisfies the property by construction (no per-run certificate needed): on a well-formed 8-neighbour
fine network with a strictly increasing upstream area, whenever the model of `eam` returns, the coarse network has
the right size, 8-neighbour links, no loops, a valid cell exactly where an outlet is reported, and distinct valid
outlet pixels each inside its own coarse cell -/
theorem eam_valid (ds : Array Nat) (upa : Array Int) (ea : Array Bool) (g : Geo) (cds out : Array Nat)
    (hg : g.OK ds) (hwf : FineWF ds) (hd8 : FineD8 ds g.subncol) (hea : EaCross g ea ds.size)
    (hm : UpaMono ds upa) (h : eamModel ds upa ea g = some (cds, out)) :
    UpscaleValid ds g cds out ∧ OutletsOwnCell ds g cds out :=
  ⟨UpscaleValid.of_parts (eam_outlets ds upa ea g cds out h) (eam_valid_iff_outlet ds upa ea g cds out hg hwf h)
    (eam_links_d8 ds upa ea g cds out hg hwf hd8 hea h) (eam_loopfree ds upa ea g cds out hg hwf hm h),
   eam_outlets ds upa ea g cds out h⟩

/-- `dmm` satisfies the property by construction (hypotheses and conclusion as for `eam`, without the
effective-area map) -/
theorem dmm_valid (ds : Array Nat) (upa : Array Int) (g : Geo) (cds out : Array Nat)
    (hg : g.OK ds) (hwf : FineWF ds) (hd8 : FineD8 ds g.subncol) (hm : UpaMono ds upa)
    (h : dmmModel ds upa g = some (cds, out)) :
    UpscaleValid ds g cds out ∧ OutletsOwnCell ds g cds out :=
  ⟨UpscaleValid.of_parts (dmm_outlets ds upa g cds out h) (dmm_valid_iff_outlet ds upa g cds out hg hwf h)
    (dmm_links_d8 ds upa g cds out hg hwf hd8 h) (dmm_loopfree ds upa g cds out hg hwf hd8 hm h),
   dmm_outlets ds upa g cds out h⟩

/-- `eam_plus` (= the first pass of `ihu`) satisfies the property by construction (as for `eam`) -/
theorem eam_plus_valid (ds : Array Nat) (upa : Array Int) (ea : Array Bool) (g : Geo) (cds out : Array Nat)
    (fix : List Nat) (hg : g.OK ds) (hwf : FineWF ds) (hd8 : FineD8 ds g.subncol) (hea : EaCross g ea ds.size)
    (hm : UpaMono ds upa) (h : eamPlusModel ds upa ea g = some (cds, out, fix)) :
    UpscaleValid ds g cds out ∧ OutletsOwnCell ds g cds out := by
  have hvi := eam_plus_valid_iff_outlet ds upa ea g cds out fix hg hwf hd8 hea h
  have hun := eam_plus_unflagged ds upa ea g cds out fix hg hwf h
  have hown := eam_plus_outlets ds upa ea g cds out fix hwf h
  exact ⟨UpscaleValid.of_parts hown (fun c hc => ⟨(hvi c hc).1, (hun c hc).2.1⟩)
    (fun c hc hv => ((hvi c hc).2 ((hvi c hc).1.mp hv)).2)
    (eam_plus_loopfree ds upa ea g cds out fix hg hwf hd8 hea hm h), hown⟩

/-- the Boolean checks of the hypotheses of the by-construction theorems are sound (accepted ⇒ the hypothesis holds);
the driver evaluates them on the inputs of every case (`hyp.*` outputs of the `upscale` op) -/
theorem hyp_checks_sound (ds : Array Nat) (upa : Array Int) (ea : Array Bool) (g : Geo) :
    (chkFineWF ds = true → FineWF ds) ∧ (chkFineD8 ds g.subncol = true → FineD8 ds g.subncol) ∧
    (chkEaCross g ea ds.size = true → EaCross g ea ds.size) ∧ (chkUpaMono ds upa = true → UpaMono ds upa) := by
  refine ⟨fun h p hp hv => ?_, fun h p hp hv => allCells_valid h hp hv, fun h p hp hc => ?_, fun h p hp hnp => ?_⟩
  · have := allCells_valid h hp hv
    simp only [Bool.and_eq_true, decide_eq_true_eq, bne_iff_ne, ne_eq] at this
    exact this
  · have := (allCells_iff _ _).mp h p hp
    have hcb : (centreAxB g.cs (p / g.subncol) || centreAxB g.cs (p % g.subncol)) = true := by
      rw [Bool.or_eq_true, centreAxB_iff, centreAxB_iff]; exact hc
    rw [hcb] at this
    exact this
  · have := (allCells_iff _ _).mp h p hp.1
    rw [Bool.or_eq_true, Bool.or_eq_true, beq_iff_eq, beq_iff_eq, decide_eq_true_eq] at this
    exact (this.resolve_left fun h0 => h0.elim hp.2 hnp)

/-- own-cell check (required of dmm, eam, eam_plus outputs): accepted ⇒ every outlet pixel lies in its own cell -/
theorem ownCell_sound (ds : Array Nat) (g : Geo) (out : Array Nat) (h : okOwnCell ds out g.cell = true) :
    ∀ c, c < out.size → out[c]! ≠ ds.size → g.cell out[c]! = c :=
  okOwnCell_sound ds out g.cell h

/-! ## the connection check `upscale_error` -/

/-- `q` is one of the reported outlet pixels -/
def IsOutlet (ds out : Array Nat) (q : Nat) : Prop := q < ds.size ∧ q ∈ out.toList

/-- the connection check `upscale_error` marks a coarse cell
* `1` exactly when the first outlet pixel (or terminal pit) met strictly downstream of the cell's own outlet pixel
  is the outlet pixel of the coarse cell it points to,
* `0` exactly when that first pixel is a different one,
* `255` exactly when the cell has no downstream cell or no outlet pixel. -/
theorem upscale_error_spec (ds out cds flags : Array Nat) (h : upscaleError ds out cds = some flags) :
    flags.size = cds.size ∧ ∀ c, c < cds.size →
      (flags[c]! = 255 ↔ (cds[c]! = cds.size ∨ out[c]! = ds.size)) ∧
      (flags[c]! = 1 ↔ (cds[c]! ≠ cds.size ∧ out[c]! ≠ ds.size ∧
        NextStop ds (IsOutlet ds out) out[c]! out[cds[c]!]!)) ∧
      (flags[c]! = 0 ↔ (cds[c]! ≠ cds.size ∧ out[c]! ≠ ds.size ∧
        ∃ q, NextStop ds (IsOutlet ds out) out[c]! q ∧ q ≠ out[cds[c]!]!)) := by
  obtain ⟨hs, hf⟩ := collect_some _ _ _ h
  refine ⟨hs, fun c hc => ?_⟩
  have hfc := hf c hc
  by_cases hv : cds[c]! ≠ cds.size ∧ out[c]! ≠ ds.size
  · rw [if_pos hv] at hfc
    obtain ⟨q, hq, hfl⟩ := Option.map_eq_some_iff.mp hfc
    exact errFlag_spec hfl.symm hv.1 hv.2
      (errWalk_flag (Q := IsOutlet ds out) (fun x => outletMask_spec _ _ x) hq out[cds[c]!]!)
  · rw [if_neg hv] at hfc
    rw [← Option.some.inj hfc]
    have hv' : cds[c]! = cds.size ∨ out[c]! = ds.size :=
      (Decidable.not_and_iff_not_or_not.mp hv).imp Decidable.of_not_not Decidable.of_not_not
    exact ⟨⟨fun _ => hv', fun _ => rfl⟩, ⟨fun e => absurd e (by decide), fun h => absurd ⟨h.1, h.2.1⟩ hv⟩,
      ⟨fun e => absurd e (by decide), fun h => absurd ⟨h.1, h.2.1⟩ hv⟩⟩

/-- the list of erroneous cells returned next to the map is exactly the cells flagged `0`, in increasing order -/
theorem upscale_error_fix (flags : Array Nat) (c : Nat) :
    c ∈ upscaleErrorFix flags ↔ c < flags.size ∧ flags[c]! = 0 := by
  simp [upscaleErrorFix, List.mem_filter, List.mem_range]

/-- the declarative oracle applied by the harness to the implementation's flags: its values `255` and `1` are
characterised as those of `upscale_error` (with membership in the outlet list decided directly); `2` means out of fuel,
`0` is the remaining case -/
theorem errSpec_spec (ds out cds : Array Nat) (c : Nat) (hfuel : errSpec ds out cds c ≠ 2) :
    (errSpec ds out cds c = 255 ↔ (cds[c]! = cds.size ∨ out[c]! = ds.size)) ∧
    (errSpec ds out cds c = 1 ↔ (cds[c]! ≠ cds.size ∧ out[c]! ≠ ds.size ∧
      NextStop ds (fun q => q ∈ out.toList) out[c]! out[cds[c]!]!)) := by
  unfold errSpec at hfuel ⊢
  split
  · rename_i hv
    exact ⟨⟨fun _ => hv, fun _ => rfl⟩, ⟨fun e => absurd e (by decide), fun h => absurd hv (not_or.mpr ⟨h.1, h.2.1⟩)⟩⟩
  · rename_i hv
    rw [if_neg hv] at hfuel
    have hv1 : cds[c]! ≠ cds.size := fun e => hv (Or.inl e)
    have hv2 : out[c]! ≠ ds.size := fun e => hv (Or.inr e)
    split
    · rename_i q hq
      have := errFlag_spec (ite_not ..).symm hv1 hv2
        (errWalk_flag (Q := fun q => q ∈ out.toList) (fun x => by simp) hq out[cds[c]!]!)
      exact ⟨this.1, this.2.1⟩
    · rename_i hq
      rw [hq] at hfuel; exact absurd rfl hfuel

/-! ## scale factor 1 reproduces the input network -/

/-- with scale factor 1 (where every pixel is in the effective area) and positive upstream
area, `eam` terminates and returns the input network with every valid pixel as its own outlet
(`identOut ds c = c` on valid pixels, missing elsewhere) -/
theorem scale_one_eam (ds : Array Nat) (upa : Array Int) (ea : Array Bool) (g : Geo) (hg : g.OK ds)
    (h1 : g.cs = 1) (hwf : FineWF ds)
    (hupa : ∀ p, p < ds.size → ds[p]! ≠ ds.size → 0 < upa[p]!)
    (hea : ∀ p, p < ds.size → ds[p]! ≠ ds.size → ea[p]! = true) :
    ∃ cds out, eamModel ds upa ea g = some (cds, out) ∧ cds.size = ds.size ∧ out.size = ds.size ∧
      ∀ c, c < ds.size → cds[c]! = ds[c]! ∧ out[c]! = identOut ds c := by
  have hrep := repCells_one ds upa (fun p => ea[p]!) g hg h1 hupa (fun p hp hv => Or.inr (hea p hp hv))
  have hrs : (eamRepcell ds upa ea g.subncol g.cs g.ncol g.ncell).size = ds.size :=
    (repCells_spec ds upa _ _ g.ncell).1.trans (g.ncell_one ds hg h1)
  obtain ⟨cds, h2, h3, h4⟩ := eamNextidx_one ds _ ea g h1 hwf hrs hrep hea
  exact ⟨cds, _, by unfold eamModel; simp only [h2, Option.map_some], h3, hrs, fun c hc => ⟨h4 c hc, hrep c hc⟩⟩

/-- `dmm` with scale factor 1 returns the input network (for `cellsize == 1` the window of `dmm_nextidx` is the cell
itself, repository commit 5cca295). `hno2` (no two-cycles) holds for every loop-free network. -/
theorem scale_one_dmm (ds : Array Nat) (upa : Array Int) (g : Geo) (hg : g.OK ds) (h1 : g.cs = 1)
    (hwf : FineWF ds) (hupa : ∀ p, p < ds.size → ds[p]! ≠ ds.size → 0 < upa[p]!)
    (hno2 : ∀ p, p < ds.size → ds[p]! ≠ ds.size → ds[p]! ≠ p → ds[ds[p]!]! ≠ p) :
    ∃ cds out, dmmModel ds upa g = some (cds, out) ∧ cds.size = ds.size ∧ out.size = ds.size ∧
      ∀ c, c < ds.size → cds[c]! = ds[c]! ∧ out[c]! = identOut ds c := by
  have hedge : ∀ p, cellEdge p g.subncol g.cs = true := fun p => by simp [cellEdge, h1, Nat.mod_one]
  have hrep := repCells_one ds upa (fun p => cellEdge p g.subncol g.cs) g hg h1 hupa
    (fun p _ _ => Or.inr (hedge p))
  have hrs : (dmmExitcell ds upa g.subncol g.cs g.ncol g.ncell).size = ds.size :=
    (repCells_spec ds upa _ _ g.ncell).1.trans (g.ncell_one ds hg h1)
  obtain ⟨cds, h2, h3, h4⟩ := dmmNextidx_one ds _ g h1 hrs hrep hno2
  exact ⟨cds, _, by unfold dmmModel; simp only [h2, Option.map_some], h3, hrs, fun c hc => ⟨h4 c hc, hrep c hc⟩⟩

/-- `eam_plus` (`ihu` first pass) with scale factor 1: on a fine network whose links stay in the 8-neighbourhood
(`in_d8` on pixel indices) `eam_plus` returns the input network and flags no cell -/
theorem scale_one_eam_plus (ds : Array Nat) (upa : Array Int) (ea : Array Bool) (g : Geo) (hg : g.OK ds)
    (h1 : g.cs = 1) (hwf : FineWF ds)
    (hupa : ∀ p, p < ds.size → ds[p]! ≠ ds.size → 0 < upa[p]!)
    (hea : ∀ p, p < ds.size → ds[p]! ≠ ds.size → ea[p]! = true)
    (hd8 : ∀ p, p < ds.size → ds[p]! ≠ ds.size → inD8 p ds[p]! g.subncol = true) :
    ∃ cds out, eamPlusModel ds upa ea g = some (cds, out, []) ∧ cds.size = ds.size ∧ out.size = ds.size ∧
      ∀ c, c < ds.size → cds[c]! = ds[c]! ∧ out[c]! = identOut ds c := by
  have hrep := repCells_one ds upa (fun p => ea[p]!) g hg h1 hupa (fun p hp hv => Or.inr (hea p hp hv))
  have hrs : (eamRepcell ds upa ea g.subncol g.cs g.ncol g.ncell).size = ds.size :=
    (repCells_spec ds upa _ _ g.ncell).1.trans (g.ncell_one ds hg h1)
  obtain ⟨out, ho1, ho2, ho3⟩ := ihuOutlets_one ds _ g h1 hrs hrep
  obtain ⟨cds, h2, h3, h4⟩ := ihuNextidx_one ds out ea g h1 hwf ho2 ho3 hd8
  exact ⟨cds, out, by unfold eamPlusModel; simp only [ho1, h2, Option.map_some], h3, ho2,
    fun c hc => ⟨h4 c hc, ho3 c hc⟩⟩

/-! ## termination: the fuel `ds.size + 1` of every trace suffices -/

/-- every valid fine cell reaches a pit within `ds.size` steps (true of every loop-free network; the rank of a
cell is such a `k`) -/
def ReachesPit (ds : Array Nat) : Prop := ∀ p, ValidPx ds p → ∃ k, k ≤ ds.size ∧ PitAt ds k p

/-- if the valid cells of the fine network are exactly covered by a
downstream-first order `seq` (`Topo`, what C03 establishes for the library's cell order), every valid cell reaches a
pit within `ds.size` steps — so the totality theorems below hold for every loop-free network -/
theorem reachesPit_of_topo (ds : Array Nat) (seq : List Nat) (htopo : Topo ds seq) (hb : ∀ i ∈ seq, i < ds.size)
    (hcover : ∀ p, ValidPx ds p → p ∈ seq) : ReachesPit ds := by
  intro p hp
  obtain ⟨k, hk, hpit⟩ := htopo.reaches_pit p (hcover p hp)
  exact ⟨k, Nat.le_trans (Nat.le_of_lt hk) (nodup_length_le htopo.nodup hb), hpit⟩

/-- executable form: the cell order the implementation used, accepted by `isTopo` (C03) and covering all valid
cells, yields `ReachesPit` -/
theorem reachesPit_of_isTopo (ds : Array Nat) (seq : List Nat) (h : isTopo ds seq = true)
    (hcover : ∀ p, ValidPx ds p → p ∈ seq) : ReachesPit ds :=
  reachesPit_of_topo ds seq (isTopo_sound' ds seq h).1 (isTopo_sound' ds seq h).2 hcover

/-- on a loop-free fine network no trace of `dmm` runs out of fuel -/
theorem dmm_total (ds : Array Nat) (upa : Array Int) (g : Geo) (hr : ReachesPit ds) :
    (dmmModel ds upa g).isSome = true := by
  have hrep := repCells_ok ds upa (fun p => cellEdge p g.subncol g.cs) g
  unfold dmmModel
  simp only [Option.isSome_map]
  refine collect_ite_isSome fun c hc hv => ?_
  obtain ⟨k, hk, hp⟩ := hr _ (hrep.2 c (hrep.1 ▸ hc) hv).1
  exact dmmTrace_total ds _ _ c k _ _ hp _ (Nat.lt_succ_of_le hk)

/-- on a loop-free fine network no trace of `eam` runs out of fuel -/
theorem eam_total (ds : Array Nat) (upa : Array Int) (ea : Array Bool) (g : Geo) (hr : ReachesPit ds) :
    (eamModel ds upa ea g).isSome = true := by
  have hrep := repCells_ok ds upa (fun p => ea[p]!) g
  unfold eamModel
  simp only [Option.isSome_map]
  refine collect_ite_isSome fun c hc hv => ?_
  obtain ⟨k, hk, hp⟩ := hr _ (hrep.2 c (hrep.1 ▸ hc) hv).1
  exact eamTrace_total ds ea _ c k _ hp _ (Nat.lt_succ_of_le hk)

/-- on a loop-free well-formed fine network no trace of `eam_plus` runs out of fuel -/
theorem eam_plus_total (ds : Array Nat) (upa : Array Int) (ea : Array Bool) (g : Geo) (hwf : FineWF ds)
    (hr : ReachesPit ds) : (eamPlusModel ds upa ea g).isSome = true := by
  have hrep := repCells_ok ds upa (fun p => ea[p]!) g
  have h1 : (ihuOutlets ds (eamRepcell ds upa ea g.subncol g.cs g.ncol g.ncell) g.subncol g.cs g.ncol).isSome = true := by
    refine collect_ite_isSome fun c hc hv => ?_
    obtain ⟨k, hk, hp⟩ := hr _ (hrep.2 c (hrep.1 ▸ hc) hv).1
    exact ihuOutTrace_total ds _ c k _ hp _ (Nat.lt_succ_of_le hk)
  obtain ⟨out, hout⟩ := Option.isSome_iff_exists.mp h1
  obtain ⟨hso, ho⟩ := outlet_in_cell ds _ out g hwf hrep hout
  unfold eamPlusModel
  simp only [hout, Option.isSome_map]
  unfold ihuNextidx
  simp only [Option.isSome_map]
  refine collect_ite_isSome fun c hc hv => ?_
  obtain ⟨k, hk, hp⟩ := hr _ ((ho c (hso ▸ hc)).2 fun e => hv ((ho c (hso ▸ hc)).1 e)).1
  simp only [Option.isSome_map]
  exact ihuNextTrace_total ds out ea _ g.ncol c k _ _ hp _ (Nat.lt_succ_of_le hk)

/-- the connection check terminates when the outlet pixels are valid cells of a loop-free network -/
theorem upscale_error_total (ds out cds : Array Nat) (hr : ReachesPit ds)
    (hout : ∀ c, c < cds.size → out[c]! ≠ ds.size → ValidPx ds out[c]!) :
    (upscaleError ds out cds).isSome = true := by
  refine collect_isSome _ _ fun c hc => ?_
  by_cases hv : cds[c]! ≠ cds.size ∧ out[c]! ≠ ds.size
  · obtain ⟨k, hk, hp⟩ := hr _ (hout c hc hv.2)
    rw [if_pos hv, Option.isSome_map]
    exact errWalk_total ds _ k _ hp _ (Nat.lt_succ_of_le hk)
  · rw [if_neg hv]; rfl

/-! ## non-vacuity: a concrete 5×5 raster, scale factor 2 (coarse 3×3, last row/column partial)

Pixels 4, 18, 19, 24 are nodata (coarse cell 8 has no valid pixel), pits at pixels 3 and 12; the three modelled
methods give three different coarse networks; `eam` has one erroneous link (cell 5), `dmm` another (cell 7). -/
def exDs : Array Nat := #[6, 6, 7, 3, 25, 6, 12, 12, 12, 3, 6, 16, 12, 12, 8, 16, 12, 16, 25, 25, 16, 22, 16, 17, 25]
def exUpa : Array Int :=
  #[1, 1, 1, 2, -9999, 1, 5, 2, 2, 1, 1, 1, 19, 1, 1, 1, 8, 2, -9999, -9999, 1, 1, 2, 1, -9999]
def exEa : Array Bool := Array.replicate 25 true
def exG : Geo := ⟨5, 5, 2⟩
def exOut : Array Nat := #[6, 3, 9, 16, 12, 14, 20, 22, 25]

-- hypotheses of the theorems are satisfiable
example : exG.OK exDs := ⟨by decide, by decide⟩
example : FineWF exDs := by unfold FineWF; decide +kernel
example : ReachesPit exDs := by
  have h : ∀ p, p < 25 → exDs[p]! ≠ 25 → ∃ k, k ≤ 25 ∧ exDs[iterA exDs k p]! = iterA exDs k p := by decide +kernel
  intro p hp
  exact h p hp.1 hp.2
example : ReachesPit exDs :=
  reachesPit_of_isTopo exDs [3, 12, 9, 6, 7, 8, 13, 16, 0, 1, 5, 10, 2, 14, 11, 15, 17, 20, 22, 23, 21]
    (by decide +kernel) (by
      have h : ∀ p, p < 25 → exDs[p]! ≠ 25 →
          p ∈ [3, 12, 9, 6, 7, 8, 13, 16, 0, 1, 5, 10, 2, 14, 11, 15, 17, 20, 22, 23, 21] := by decide +kernel
      exact fun p hp => h p hp.1 hp.2)
-- the hypotheses of the by-construction theorems (eam_valid, dmm_valid, eam_plus_valid) hold for this input
example : chkFineWF exDs = true ∧ chkFineD8 exDs exG.subncol = true ∧ chkEaCross exG exEa exDs.size = true ∧
    chkUpaMono exDs exUpa = true := by decide +kernel
-- and the centre-cross hypothesis is not vacuous: at scale 5 an all-false map is rejected, the real one has holes
example : chkEaCross ⟨5, 5, 5⟩ (Array.replicate 25 false) 25 = false := by decide +kernel
example : chkEaCross ⟨5, 5, 5⟩ #[false, false, true, false, false, false, true, true, true, false, true, true, true,
    true, true, false, true, true, true, false, false, false, true, false, false] 25 = true := by decide +kernel
-- shape_ceil / cell_of_pixel: 5×5 at scale 2 is 3×3; pixel 14 = (row 2, col 4) lies in coarse cell 5 = (1, 2)
example : exG.nrow = 3 ∧ exG.ncol = 3 ∧ exG.cell 14 = 5 ∧ exG.cell 24 = 8 := by decide
-- exit_in_cell / rep_in_cell: exit and representative pixels (cell 8 has none)
example : dmmExitcell exDs exUpa 5 2 3 9 = exOut := by decide +kernel
example : eamRepcell exDs exUpa exEa 5 2 3 9 = exOut := by decide +kernel
-- the three pipelines terminate with non-trivial, pairwise different coarse networks
example : dmmModel exDs exUpa exG = some (#[4, 1, 1, 4, 4, 4, 3, 4, 9], exOut) := by decide +kernel
example : eamModel exDs exUpa exEa exG = some (#[4, 1, 1, 4, 4, 1, 3, 3, 9], exOut) := by decide +kernel
example : eamPlusModel exDs exUpa exEa exG = some (#[4, 1, 1, 4, 4, 4, 3, 3, 9], exOut, []) := by decide +kernel
-- upscaleOK accepts the network returned by `ihu` on this input (with the witnesses the driver computes) …
example : upscaleOK exDs exG #[4, 1, 1, 4, 4, 4, 3, 3, 9] exOut
    (mkCert exDs exG #[4, 1, 1, 4, 4, 4, 3, 3, 9] exOut) = true := by decide +kernel
-- … and rejects a loop (4 → 3 → 4), a link outside the 8-neighbourhood (0 → 8) and a duplicated outlet pixel
example : upscaleOK exDs exG #[4, 1, 1, 4, 3, 4, 3, 3, 9] exOut
    (mkCert exDs exG #[4, 1, 1, 4, 3, 4, 3, 3, 9] exOut) = false := by decide +kernel
example : okD8 #[7, 1, 1, 4, 4, 4, 3, 3, 9] 3 = false := by decide +kernel
example : okOutlets exDs #[6, 3, 9, 16, 12, 14, 20, 20, 25]
    (mkCert exDs exG #[4, 1, 1, 4, 4, 4, 3, 3, 9] #[6, 3, 9, 16, 12, 14, 20, 20, 25]).inv = false := by decide +kernel
-- upscale_error_spec: all three flag values occur (eam's cell 5 points to cell 1 but its stream first meets the
-- outlet pixel 12 of cell 4; cell 8 is missing)
example : upscaleError exDs exOut #[4, 1, 1, 4, 4, 1, 3, 3, 9] = some #[1, 1, 1, 1, 1, 0, 1, 1, 255] := by
  decide +kernel
example : (List.range 9).map (errSpec exDs exOut #[4, 1, 1, 4, 4, 1, 3, 3, 9]) = [1, 1, 1, 1, 1, 0, 1, 1, 255] := by
  decide +kernel
-- scale_one: the hypotheses hold for this network at scale 1 and the three methods reproduce it
example : (∀ p, p < 25 → exDs[p]! ≠ 25 → (0 : Int) < exUpa[p]!) ∧
    (∀ p, p < 25 → exDs[p]! ≠ 25 → exDs[p]! ≠ p → exDs[exDs[p]!]! ≠ p) ∧
    (∀ p, p < 25 → exDs[p]! ≠ 25 → inD8 p exDs[p]! 5 = true) := by decide +kernel
example : (eamModel exDs exUpa exEa ⟨5, 5, 1⟩).map (·.1) = some exDs ∧
    (dmmModel exDs exUpa ⟨5, 5, 1⟩).map (·.1) = some exDs ∧
    (eamPlusModel exDs exUpa exEa ⟨5, 5, 1⟩).map (·.1) = some exDs := by decide +kernel

end Pf.C09
