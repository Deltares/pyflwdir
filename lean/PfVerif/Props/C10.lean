import PfVerif.Proofs.C10
import PfVerif.Proofs.C10Seg
import PfVerif.Proofs.C10Stat
import PfVerif.Props.C11
/-! # C10 — sub-grid products (`subgrid.py`): unit catchments partition the fine grid by nearest downstream
outlet pixel and their areas / volumes are sums over the labelled cells; derived outlet pixels lie in their
coarse cell; the river-segment kernels use exactly the cells of the flow path up to the next outlet pixel and
return on every loop-free network; median and least-squares slope against their definitions.

All theorems quantify over every network `ds`, every downstream-first order `seq` (`Topo`, what C03
establishes for the library's cell orders and what the harness re-checks with `isTopo` on the order
actually used), every outlet vector `outs` (missing entries = `ds.size`), every weight / area / hand /
depth / data field. No bound on sizes. -/
namespace Pf.C10
open Pf

/-! ## the unit catchment map -/

/-- every cell of the network carries `1 +` the position of the first listed outlet pixel on its
downstream path, `0` if a pit comes first -/
theorem ucat_label (ds : Array Nat) (seq outs : List Nat) (w : Nat → Int)
    (htopo : Topo ds seq) (hb : ∀ i ∈ seq, i < ds.size) :
    ∀ i ∈ seq, FirstOutlet ds outs i (ucatAccum ds seq outs w).1[i]! := by
  intro i hi
  rw [ucatAccum_fst]
  exact firstOutlet_iff_firstValid.mpr (fill_first_valid ds _ 0 seq htopo (by simpa using hb) i hi)

/-- the label agrees with the executable declarative walk (the oracle applied to the implementation's
output) wherever that walk terminates -/
theorem ucat_label_eq_walk (ds : Array Nat) (seq outs : List Nat) (w : Nat → Int)
    (htopo : Topo ds seq) (hb : ∀ i ∈ seq, i < ds.size) (fuel : Nat) :
    ∀ i ∈ seq, ∀ v, labelWalk ds outs fuel i = some v → (ucatAccum ds seq outs w).1[i]! = v := by
  intro i hi v hv
  rw [labelWalk_eq_walkValid] at hv
  rw [ucatAccum_fst]
  exact fill_eq_walk ds _ 0 seq htopo (by simpa using hb) fuel i hi v hv

/-- cells outside the network keep their seed: the position of the cell in the outlet vector if it
is listed, else 0 -/
theorem ucat_label_outside (ds : Array Nat) (seq outs : List Nat) (w : Nat → Int)
    (htopo : Topo ds seq) (hb : ∀ i ∈ seq, i < ds.size) :
    ∀ i, i ∉ seq → (ucatAccum ds seq outs w).1[i]! = if i < ds.size then lastPos1 outs i else 0 := by
  intro i hi
  rw [ucatAccum_fst, fill_untouched ds _ 0 seq htopo (by simpa using hb) i hi, mapSeed_get]

/-- `ucat_area` and `ucat_volume` produce the same map (it does not depend on the weights) -/
theorem ucat_map_indep (ds : Array Nat) (seq outs : List Nat) (w w' : Nat → Int) :
    (ucatAccum ds seq outs w).1 = (ucatAccum ds seq outs w').1 := by
  rw [ucatAccum_fst, ucatAccum_fst]

/-! ## areas and volumes are sums over exactly the labelled cells -/

theorem ucat_map_of_seed {ds : Array Nat} {seq outs : List Nat} {w : Nat → Int}
    (htopo : Topo ds seq) (hb : ∀ i ∈ seq, i < ds.size) {a : Nat}
    (h : (mapSeed ds.size outs)[a]! ≠ 0) :
    (ucatAccum ds seq outs w).1[a]! = (mapSeed ds.size outs)[a]! := by
  obtain ⟨hrec, hout⟩ := sweepDown_rec ds (gFillNd 0) (mapSeed ds.size outs) seq htopo (by simpa using hb)
  rw [ucatAccum_fst]
  by_cases ha : a ∈ seq
  · rw [hrec a ha, gFillNd, if_neg fun h' => h h'.1]
  · exact hout a ha

/-- sum clause of `ucat_area` / `ucat_volume`: for an outlet pixel `o` whose LAST position in the
outlet vector is `k` (in particular: an outlet pixel listed once), the accumulated value is the sum of
the cell weights over exactly the cells of the raster that carry label `k + 1`. -/
theorem ucat_acc_sum (ds : Array Nat) (seq outs : List Nat) (w : Nat → Int)
    (htopo : Topo ds seq) (hb : ∀ i ∈ seq, i < ds.size)
    (k o : Nat) (hk : outs[k]? = some o) (ho : o < ds.size)
    (hlast : ∀ q : Nat, outs[q]? = some o → q ≤ k) :
    (ucatAccum ds seq outs w).2[k]! =
      sumIf (List.range ds.size) (fun i => (ucatAccum ds seq outs w).1[i]! == (k : Int) + 1) w :=
  (ucatAccum_inv ds seq outs w hb).acc_label (isLabel_succ_iff.mpr ⟨o, hk, ho, hlast⟩)

/-- a missing outlet keeps the initial `-9999` -/
theorem ucat_acc_missing (ds : Array Nat) (seq outs : List Nat) (w : Nat → Int)
    (htopo : Topo ds seq) (hb : ∀ i ∈ seq, i < ds.size)
    (k : Nat) (hk : outs[k]? = some ds.size) :
    (ucatAccum ds seq outs w).2[k]! = -9999 := by
  have hno : ¬ IsLabel ds.size outs ((k : Int) + 1) := fun h => by
    obtain ⟨c, hc, hlt, _⟩ := isLabel_succ_iff.mp h
    obtain rfl : ds.size = c := Option.some.inj (hk.symm.trans hc)
    omega
  rw [((ucatAccum_inv ds seq outs w hb).acc_not_label hno).1, accSeed_get _ _ _ k _ hk, if_neg fun h => h rfl]

/-- no cell carries the label of a missing outlet or of an outlet entry that is listed again later:
every label is `1 +` the LAST position of a listed, in-range outlet pixel -/
theorem ucat_label_range (ds : Array Nat) (seq outs : List Nat) (w : Nat → Int)
    (htopo : Topo ds seq) (hb : ∀ i ∈ seq, i < ds.size) (i : Nat) :
    (ucatAccum ds seq outs w).1[i]! = 0 ∨
    ∃ p c : Nat, outs[p]? = some c ∧ c < ds.size ∧ (ucatAccum ds seq outs w).1[i]! = (p : Int) + 1 ∧
      ∀ q : Nat, outs[q]? = some c → q ≤ p :=
  (ucatAccum_inv ds seq outs w hb).label i

/-- an outlet pixel listed twice (what the code does): the map keeps the LAST position (`ucat_acc_sum`
applies to that entry); an earlier entry `k` of the same pixel `o` reports the pixel's own weight
only, and no cell of the raster carries label `k + 1`. -/
theorem ucat_acc_shadowed (ds : Array Nat) (seq outs : List Nat) (w : Nat → Int)
    (htopo : Topo ds seq) (hb : ∀ i ∈ seq, i < ds.size)
    (k q o : Nat) (hk : outs[k]? = some o) (ho : o < ds.size) (hq : outs[q]? = some o) (hkq : k < q) :
    (ucatAccum ds seq outs w).2[k]! = w o ∧
    ∀ i : Nat, (ucatAccum ds seq outs w).1[i]! ≠ (k : Int) + 1 := by
  have hno : ¬ IsLabel ds.size outs ((k : Int) + 1) := fun h => by
    obtain ⟨c, hc, _, hmx⟩ := isLabel_succ_iff.mp h
    obtain rfl : o = c := Option.some.inj (hk.symm.trans hc)
    have := hmx q hq
    omega
  obtain ⟨hacc, hlab⟩ := (ucatAccum_inv ds seq outs w hb).acc_not_label hno
  exact ⟨by rw [hacc, accSeed_get _ _ _ k o hk, if_pos (Nat.ne_of_lt ho)], hlab⟩

/-- the 1-based last position of the pixel at entry `k` is `k + 1` iff no later entry lists it again -/
theorem lastPos1_eq_iff (outs : List Nat) (k o : Nat) (hk : outs[k]? = some o) :
    lastPos1 outs o = (k : Int) + 1 ↔ ∀ q : Nat, outs[q]? = some o → q ≤ k := by
  rw [lastPos1_eq_succ_iff]
  exact and_iff_right hk

/-- totals of `ucat_area`, duplicates allowed: the values reported for the non-missing outlet
entries that are the last entry of their pixel add up to the total weight of all labelled cells. -/
theorem ucat_acc_total (ds : Array Nat) (seq outs : List Nat) (w : Nat → Int)
    (htopo : Topo ds seq) (hb : ∀ i ∈ seq, i < ds.size)
    (hrange : ∀ o ∈ outs, o ≤ ds.size) :
    sumIf (List.range outs.length)
        (fun k => outs[k]! != ds.size && lastPos1 outs outs[k]! == (k : Int) + 1)
        (fun k => (ucatAccum ds seq outs w).2[k]!) =
      sumIf (List.range ds.size) (fun i => (ucatAccum ds seq outs w).1[i]! != 0) w := by
  have inv := ucatAccum_inv ds seq outs w hb
  rw [sumIf_range_classes (List.range ds.size) (fun i => (ucatAccum ds seq outs w).1[i]!) w _ _ outs.length
    ?_ outs.length (Nat.le_refl _)]
  · -- the labels are exactly the values 1 … `outs.length`
    refine sumIf_congr w fun i _ => ?_
    rcases inv.label i with h | ⟨p, c, hp, _, hv, _⟩
    · rw [h]; rfl
    · have hplt := (List.getElem?_eq_some_iff.mp hp).1
      rw [hv, decide_eq_true (by omega), bne_iff_ne.mpr (by omega)]
  · -- an entry counts iff its position is a label, and then it holds the weight of that label's cells
    intro k hk
    by_cases hl : IsLabel ds.size outs ((k : Int) + 1)
    · rw [if_pos ((lastEntry_iff_isLabel hrange hk).mpr hl)]
      exact inv.acc_label hl
    · rw [if_neg (mt (lastEntry_iff_isLabel hrange hk).mp hl),
        sumIf_false w fun i _ => beq_false_of_ne ((inv.acc_not_label hl).2 i)]

/-- totals of `ucat_area` for pairwise distinct outlet pixels: the values reported for all non-missing outlets add up
to the total weight of all labelled cells. -/
theorem ucat_acc_total_distinct (ds : Array Nat) (seq outs : List Nat) (w : Nat → Int)
    (htopo : Topo ds seq) (hb : ∀ i ∈ seq, i < ds.size)
    (hrange : ∀ o ∈ outs, o ≤ ds.size)
    (hdist : ∀ p q o : Nat, outs[p]? = some o → outs[q]? = some o → o < ds.size → p = q) :
    sumIf (List.range outs.length) (fun k => outs[k]! != ds.size) (fun k => (ucatAccum ds seq outs w).2[k]!) =
      sumIf (List.range ds.size) (fun i => (ucatAccum ds seq outs w).1[i]! != 0) w := by
  rw [← ucat_acc_total ds seq outs w htopo hb hrange]
  refine sumIf_congr _ fun k hk => ?_
  have hklt : k < outs.length := List.mem_range.mp hk
  have hget : outs[k]? = some outs[k] := List.getElem?_eq_getElem hklt
  rw [getElem!_pos outs k hklt]
  cases hne : outs[k] != ds.size
  · rfl
  · -- a non-missing pixel is listed once, so entry `k` is its last
    have hlt := Nat.lt_of_le_of_ne (hrange _ (List.getElem_mem hklt)) (bne_iff_ne.mp hne)
    rw [Bool.true_and, beq_iff_eq.mpr ((lastPos1_eq_iff outs k _ hget).mpr
      fun q hq => Nat.le_of_eq (hdist q k _ hq hget hlt))]

/-- `ucat_volume`: row `d` of the flood-volume table is the sum of `area * max 0 (depth_d - hand)` over
exactly the cells carrying the outlet's label -/
theorem ucat_volume_sum (ds : Array Nat) (seq outs : List Nat) (hand area : Array Int) (depths : List Int)
    (htopo : Topo ds seq) (hb : ∀ i ∈ seq, i < ds.size)
    (d : Nat) (hd : d < depths.length)
    (k o : Nat) (hk : outs[k]? = some o) (ho : o < ds.size)
    (hlast : ∀ q : Nat, outs[q]? = some o → q ≤ k) :
    ((ucatVolume ds seq outs hand area depths).2[d]!)[k]! =
      sumIf (List.range ds.size) (fun i => (ucatVolume ds seq outs hand area depths).1[i]! == (k : Int) + 1)
        (fun i => area[i]! * max 0 (depths[d] - hand[i]!)) := by
  have h1 : (ucatVolume ds seq outs hand area depths).2[d]! =
      (ucatAccum ds seq outs (volW area hand depths[d])).2 := by
    simp [ucatVolume, hd]
  have h2 : (ucatVolume ds seq outs hand area depths).1 =
      (ucatAccum ds seq outs (volW area hand depths[d])).1 := ucat_map_indep ..
  rw [h1, h2]
  exact ucat_acc_sum ds seq outs _ htopo hb k o hk ho hlast

/-! ### non-vacuity -/
-- chain 2 → 1 → 0 (pit), branch 3 → 1, 4 off the network; outlets: cell 1, a missing entry, pit 0
example : ucatArea #[0, 0, 1, 1, 5] [0, 1, 2, 3] [1, 5, 0] #[10, 20, 30, 40, 50] =
    (#[3, 1, 1, 1, 0], #[90, -9999, 10]) := by decide
example : ucatVolume #[0, 0, 1, 1, 5] [0, 1, 2, 3] [1, 5, 0] #[0, 1, 2, 5, 0] #[1, 1, 2, 1, 1] [2, 4] =
    (#[3, 1, 1, 1, 0], [#[1, -9999, 2], #[7, -9999, 4]]) := by decide
example : labelWalk #[0, 0, 1, 1, 5] [1, 5, 0] 6 3 = some 1 := by decide


/-! ## derived outlet pixels (`subgrid.outlets`) -/

/-- `dmm_exitcell` / `eam_repcell`: the pixel stored for coarse cell `c` is missing, or a valid pixel
of coarse cell `c` that is a pit or a candidate (cell edge resp. effective area) -/
theorem rep_in_cell (ds : Array Nat) (upa : Array Int) (cand : Nat → Bool)
    (subncol cellsize ncells ncol : Nat) :
    (repCell ds upa cand subncol cellsize ncells ncol).size = ncells ∧
    ∀ c, c < ncells → RepOK ds cand subncol cellsize ncol c (repCell ds upa cand subncol cellsize ncells ncol)[c]! :=
  foldl_inv (repStep ds upa cand subncol cellsize ncol)
    (fun st => st.1.size = ncells ∧ ∀ c, c < ncells → RepOK ds cand subncol cellsize ncol c st.1[c]!)
    (List.range ds.size)
    (fun st i hi h => repStep_inv ds upa cand subncol cellsize ncol ncells st i (List.mem_range.mp hi) h)
    (Array.replicate ncells ds.size, Array.replicate ncells 0)
    ⟨Array.size_replicate, fun c hc => Or.inl (get!_replicate _ c (Or.inl hc))⟩

/-- both methods return one entry per coarse cell, and the outlet pixel of a coarse cell is missing or lies
inside it -/
theorem outlets_in_cell (ds : Array Nat) (upa : Array Int) (effare : Array Bool) (dmm : Bool)
    (subncol cellsize nrowc ncolc : Nat) (l : List Nat)
    (h : outletsModel ds upa effare dmm subncol cellsize nrowc ncolc = some l) :
    l.length = nrowc * ncolc ∧
    ∀ c o, l[c]? = some o → o = ds.size ∨ cellOf subncol cellsize ncolc o = c := by
  cases dmm with
  | true =>
    obtain ⟨hsz, hrep⟩ := rep_in_cell ds upa (cellEdge subncol cellsize) subncol cellsize (nrowc * ncolc) ncolc
    obtain rfl : (repCell ds upa (cellEdge subncol cellsize) subncol cellsize (nrowc * ncolc) ncolc).toList = l :=
      Option.some.inj h
    refine ⟨by rw [Array.length_toList, hsz], fun c o hco => ?_⟩
    rw [Array.getElem?_toList] at hco
    obtain ⟨hc, rfl⟩ := Array.getElem?_eq_some_iff.mp hco
    rw [← getElem!_pos _ c hc]
    exact (hrep c (hsz ▸ hc)).imp_right fun h => h.2.2.1
  | false =>
    obtain ⟨hsz, hrep⟩ := rep_in_cell ds upa (fun i => effare[i]!) subncol cellsize (nrowc * ncolc) ncolc
    obtain ⟨hlen, hget⟩ := ihuOutlets_spec (fun c hc => hrep c (hsz ▸ hc)) h
    exact ⟨hlen.trans hsz, fun c o hco => (hget c o hco).imp_right And.left⟩

/-- default method: the pixel downstream of an outlet pixel lies in another coarse cell unless the
outlet is a pit -/
theorem outlet_leaves (ds : Array Nat) (upa : Array Int) (effare : Array Bool)
    (subncol cellsize nrowc ncolc : Nat) (l : List Nat)
    (h : outletsModel ds upa effare false subncol cellsize nrowc ncolc = some l) :
    ∀ c o, l[c]? = some o → o = ds.size ∨ ds[o]! = o ∨ cellOf subncol cellsize ncolc ds[o]! ≠ c := by
  obtain ⟨hsz, hrep⟩ := rep_in_cell ds upa (fun i => effare[i]!) subncol cellsize (nrowc * ncolc) ncolc
  exact fun c o hco => ((ihuOutlets_spec (fun c hc => hrep c (hsz ▸ hc)) h).2 c o hco).imp_right And.right

/-- the outlet pixel of the default method lies on the flow path of the representative pixel, and
the whole stretch in between stays inside the coarse cell -/
theorem ihu_outlet_on_path (ds : Array Nat) (subncol cellsize ncol idx0 fuel s o : Nat)
    (h : ihuTrace ds subncol cellsize ncol idx0 fuel s = some o)
    (hs : cellOf subncol cellsize ncol s = idx0) :
    ∃ j, o = iterA ds j s ∧ ∀ m, m < j → ds[iterA ds m s]! ≠ iterA ds m s ∧
      cellOf subncol cellsize ncol (iterA ds (m + 1) s) = idx0 :=
  (ihuTrace_spec ds subncol cellsize ncol idx0 fuel s o h hs).2.2

/-! ## river segments -/

/-- the temporary outlet flags mark exactly the listed in-range pixels -/
theorem outletFlags_get (n : Nat) (outs : List Nat) (j : Nat) :
    (outletFlags n outs)[j]! = decide (j ∈ outs ∧ j < n) := by
  rw [outletFlags, get!_foldl_setIf (· ≠ n) (fun _ => true), Array.size_replicate,
    get!_replicate n (a := false) j (Or.inr rfl)]
  by_cases h : j ∈ outs ∧ j < n
  · rw [if_pos ⟨⟨h.1, Nat.ne_of_lt h.2⟩, h.2⟩, decide_eq_true h]
  · rw [if_neg fun h' => h ⟨h'.1.1, h'.2⟩, decide_eq_false h]

/-- the cells of a segment for average / median / slope (exclusive end): the cells used are
the flow path `s, nxt s, nxt² s, …, nxtᴷ s` in the chosen direction (`nxt` = downstream or main
upstream array), where `K` is the least index whose cell has no admissible next cell or whose next
cell is an outlet pixel; that `K` is unique. -/
theorem segment_cells_excl (nxt : Array Nat) (isOut : Array Bool) (mask : Option (Array Bool))
    (fuel s : Nat) (cells : List Nat) (h : exclWalk nxt isOut mask fuel s = some cells) :
    ∃ K, cells = (List.range (K + 1)).map (fun j => iterA nxt j s) ∧
      (∀ j, j < K → stopExcl nxt isOut mask (iterA nxt j s) = false) ∧
      stopExcl nxt isOut mask (iterA nxt K s) = true ∧
      ∀ K', (∀ j, j < K' → stopExcl nxt isOut mask (iterA nxt j s) = false) →
        stopExcl nxt isOut mask (iterA nxt K' s) = true → K' = K := by
  rw [exclWalk_eq] at h
  obtain ⟨K, hc, hfa⟩ := firstStop_map_spec h
  exact ⟨K, hc, hfa.before, hfa.stop, fun K' hpre' hstop' => hfa.unique ⟨hpre', hstop'⟩⟩

/-- the walk agrees with the declarative segment found by search (the oracle applied to the
implementation's output) -/
theorem segment_cells_excl_eq_spec (nxt : Array Nat) (isOut : Array Bool) (mask : Option (Array Bool))
    (s : Nat) (cells : List Nat) (h : segExclSpec nxt isOut mask s = some cells) :
    exclWalk nxt isOut mask (nxt.size + 1) s = some cells := by
  simp only [segExclSpec, Option.map_eq_some_iff] at h
  obtain ⟨K, hK, rfl⟩ := h
  obtain ⟨hle, hfa⟩ := leastIdx_some hK
  rw [exclWalk_eq, (firstStop_eq_some ..).mpr ⟨by omega, hfa⟩]
  rfl

/-- the end of a segment for the river length (inclusive end): the walk ends in `nxtᴷ s` for the
unique least `K` such that (`K ≥ 1` and the cell is an outlet pixel) or the cell has no admissible
next cell -/
theorem segment_end_incl (nxt : Array Nat) (isOut : Array Bool) (mask : Option (Array Bool))
    (fuel s e : Nat) (h : lenWalk nxt isOut mask fuel s = some e) :
    ∃ K, e = iterA nxt K s ∧
      (∀ j, j < K → stopInclAt nxt isOut mask s j = false) ∧
      stopInclAt nxt isOut mask s K = true ∧
      ∀ K', (∀ j, j < K' → stopInclAt nxt isOut mask s j = false) →
        stopInclAt nxt isOut mask s K' = true → K' = K := by
  rw [lenWalk_eq] at h
  obtain ⟨K, hc, hex⟩ := firstStop_map_spec h
  have hfa := inclIdx_firstAt hex
  exact ⟨_, hc, hfa.before, hfa.stop, fun K' hpre' hstop' => hfa.unique ⟨hpre', hstop'⟩⟩

theorem segment_end_incl_eq_spec (nxt : Array Nat) (isOut : Array Bool) (mask : Option (Array Bool))
    (s e : Nat) (h : segInclEndSpec nxt isOut mask s = some e) :
    lenWalk nxt isOut mask (nxt.size + 1) s = some e := by
  simp only [segInclEndSpec, Option.map_eq_some_iff] at h
  obtain ⟨K, hK, rfl⟩ := h
  obtain ⟨hle, hfa⟩ := leastIdx_some hK
  -- the exclusive walk stops at `K` or one step earlier
  obtain ⟨J, hJ, hstop⟩ : ∃ J, J ≤ K ∧ stopExcl nxt isOut mask (iterA nxt J s) = true := by
    rcases Bool.or_eq_true_iff.mp hfa.stop with hK | hb
    · obtain ⟨h1, ho⟩ := Bool.and_eq_true_iff.mp hK
      obtain ⟨J, rfl⟩ := Nat.exists_eq_add_of_le' (of_decide_eq_true h1)
      rw [iterA_succ'] at ho
      exact ⟨J, Nat.le_succ J, by rw [stopExcl_eq, ho, Bool.or_true]⟩
    · exact ⟨K, Nat.le_refl _, by rw [stopExcl_eq, hb, Bool.true_or]⟩
  obtain ⟨K0, hK0, hex⟩ := FirstAt.exists_of (fun j => stopExcl nxt isOut mask (iterA nxt j s)) J hstop
  rw [lenWalk_eq, (firstStop_eq_some ..).mpr ⟨by omega, hex⟩, Option.map_some, hfa.unique (inclIdx_firstAt hex)]

/-- `rivlen`: a missing outlet keeps nodata; otherwise the value is
`|distnc end − distnc start|` with `end` the inclusive segment end -/
theorem segment_length_spec (nxt : Array Nat) (outs : List Nat) (distnc : Array Int)
    (mask : Option (Array Bool)) (res : PerOutlet Int)
    (h : segLength nxt outs distnc mask = some res) (k s : Nat) (hk : outs[k]? = some s) :
    (s = nxt.size ∧ res[k]? = some none) ∨
    (s ≠ nxt.size ∧ ∃ e, lenWalk nxt (outletFlags nxt.size outs) mask (nxt.size + 1) s = some e ∧
      res[k]? = some (some ((distnc[e]! - distnc[s]!).natAbs : Int))) :=
  perOutlet_map_get _ _ _ outs res h k s hk

/-- average over the exclusive segment: `(Σ w·v, Σ w)` over the segment cells with `v ≠ nodata`;
nodata when the outlet is missing or the weights sum to zero -/
theorem segment_average_spec (nxt : Array Nat) (outs : List Nat) (data weights : Array Int) (nodata : Int)
    (mask : Option (Array Bool)) (res : PerOutlet (Int × Int))
    (h : segAverage nxt outs data weights nodata mask = some res) (k s : Nat) (hk : outs[k]? = some s) :
    (s = nxt.size ∧ res[k]? = some none) ∨
    (s ≠ nxt.size ∧ ∃ cells, exclWalk nxt (outletFlags nxt.size outs) mask (nxt.size + 1) s = some cells ∧
      res[k]? = some (if (avgNumDen cells data weights nodata).2 ≠ 0
        then some (avgNumDen cells data weights nodata) else none)) :=
  perOutlet_map_get _ _ _ outs res h k s hk

/-- `avgNumDen` is the pair of declarative sums over the non-nodata cells -/
theorem avgNumDen_eq (cells : List Nat) (data weights : Array Int) (nodata : Int) :
    avgNumDen cells data weights nodata =
      ((((cells.filter fun c => data[c]! != nodata).map fun c => weights[c]! * data[c]!).sum),
       (((cells.filter fun c => data[c]! != nodata).map fun c => weights[c]!).sum)) := by
  rw [avgNumDen, foldl_skip_pair (fun c => data[c]! = nodata), Int.zero_add, Int.zero_add]
  rfl

/-- `segment_median`: a missing outlet keeps nodata; otherwise twice the median (`median2`) of the values
`≠ nodata` over the exclusive segment -/
theorem segment_median_spec (nxt : Array Nat) (outs : List Nat) (data : Array Int) (nodata : Int)
    (mask : Option (Array Bool)) (res : PerOutlet (Option Int))
    (h : segMedian nxt outs data nodata mask = some res) (k s : Nat) (hk : outs[k]? = some s) :
    (s = nxt.size ∧ res[k]? = some none) ∨
    (s ≠ nxt.size ∧ ∃ cells, exclWalk nxt (outletFlags nxt.size outs) mask (nxt.size + 1) s = some cells ∧
      res[k]? = some (some (median2 ((cells.map fun c => data[c]!).filter (· ≠ nodata))))) :=
  perOutlet_map_get _ _ _ outs res h k s hk

/-- slope over the exclusive segment (same cells as average / median, river mask included) -/
theorem segment_slope_spec (nxt : Array Nat) (outs : List Nat) (elevtn distnc : Array Int) (lstsq : Bool)
    (mask : Option (Array Bool)) (res : PerOutlet (Int × Int))
    (h : segSlope nxt outs elevtn distnc lstsq mask = some res) (k s : Nat) (hk : outs[k]? = some s) :
    (s = nxt.size ∧ res[k]? = some none) ∨
    (s ≠ nxt.size ∧ ∃ cells, exclWalk nxt (outletFlags nxt.size outs) mask (nxt.size + 1) s = some cells ∧
      res[k]? = some (some (slopeNumDen cells elevtn distnc lstsq))) :=
  perOutlet_map_get _ _ _ outs res h k s hk

/-! ## totality: every walk of the model returns within its fuel on a loop-free network -/

/-- direction "down": on a loop-free network (`Topo`) the two downstream walks the four segment kernels
use (`exclWalk`, `lenWalk`) return within the model's fuel `n + 1`, whatever the outlets and the mask -/
theorem segment_down_total (ds : Array Nat) (seq : List Nat) (isOut : Array Bool) (mask : Option (Array Bool))
    (htopo : Topo ds seq) (hb : ∀ i ∈ seq, i < ds.size) (s : Nat) (hs : s ∈ seq) :
    (∃ cells, exclWalk ds isOut mask (ds.size + 1) s = some cells) ∧
    (∃ e, lenWalk ds isOut mask (ds.size + 1) s = some e) :=
  segWalks_isSome (firstStop_down_total htopo hb _ (fun _ h => (stopExcl_false h).1) s hs)

/-- the array `main_upstream` returns is an upstream-link array (from C11's `mainUpstream_argmax`) -/
theorem mainUpstream_usLink (ds : Array Nat) (uparea : Array Int) (upaMin : Int) :
    UsLink ds (mainUpstream ds uparea upaMin) := by
  obtain ⟨hsz, hmain, _⟩ := Pf.C11.mainUpstream_argmax ds uparea upaMin
  refine ⟨hsz, fun c hc => ?_⟩
  rcases hmain c hc with ⟨a, _⟩ | ⟨a, b, c', _, _⟩
  · exact Or.inl a
  · exact Or.inr ⟨a, b, c'⟩

/-- direction "up": on a loop-free network whose order contains every valid cell, the two walks the four
segment kernels use (`exclWalk`, `lenWalk`) return along an upstream-link array (`idxs_us_main`) within the
model's fuel `n + 1` from every cell of the raster, whatever the outlets and the mask -/
theorem segment_up_total (ds us : Array Nat) (seq : List Nat) (isOut : Array Bool) (mask : Option (Array Bool))
    (htopo : Topo ds seq) (hb : ∀ i ∈ seq, i < ds.size)
    (hall : ∀ i, i < ds.size → ds[i]! ≠ ds.size → i ∈ seq) (hlink : UsLink ds us)
    (s : Nat) (hs : s < ds.size) :
    (∃ cells, exclWalk us isOut mask (us.size + 1) s = some cells) ∧
    (∃ e, lenWalk us isOut mask (us.size + 1) s = some e) :=
  segWalks_isSome (firstStop_up_total htopo hb hall hlink _ (fun _ h => (stopExcl_false h).2) s hs)

/-- a start cell outside the network (no downstream cell) stops every downstream walk at once -/
theorem segment_offnet_total (nxt : Array Nat) (isOut : Array Bool) (mask : Option (Array Bool))
    (s : Nat) (hs : nxt[s]! = nxt.size) :
    exclWalk nxt isOut mask (nxt.size + 1) s = some [s] ∧ lenWalk nxt isOut mask (nxt.size + 1) s = some s := by
  simp [exclWalk, lenWalk, stopExcl, blocked, hs]

/-- the four segment kernels return a value for every outlet vector as soon as the two walks return
from every non-missing outlet pixel -/
theorem segment_ops_total (nxt : Array Nat) (outs : List Nat) (mask : Option (Array Bool))
    (h : ∀ s ∈ outs, s ≠ nxt.size →
      (∃ cells, exclWalk nxt (outletFlags nxt.size outs) mask (nxt.size + 1) s = some cells) ∧
      (∃ e, lenWalk nxt (outletFlags nxt.size outs) mask (nxt.size + 1) s = some e))
    (distnc data weights elevtn : Array Int) (nodata : Int) (lstsq : Bool) :
    (segLength nxt outs distnc mask).isSome = true ∧
    (segAverage nxt outs data weights nodata mask).isSome = true ∧
    (segMedian nxt outs data nodata mask).isSome = true ∧
    (segSlope nxt outs elevtn distnc lstsq mask).isSome = true := by
  have hE := fun s hs hm => (h s hs hm).1
  exact ⟨perOutlet_map_isSome _ _ _ _ fun s hs hm => (h s hs hm).2, perOutlet_map_isSome _ _ _ _ hE,
    perOutlet_map_isSome _ _ _ _ hE, perOutlet_map_isSome _ _ _ _ hE⟩

/-- `subgrid.outlets` returns: on a loop-free network whose order contains every valid cell both
outlet methods return (the `ihu_outlets` trace of every representative pixel ends within the fuel) -/
theorem outlets_total (ds : Array Nat) (seq : List Nat) (upa : Array Int) (effare : Array Bool) (dmm : Bool)
    (subncol cellsize nrowc ncolc : Nat)
    (htopo : Topo ds seq) (hb : ∀ i ∈ seq, i < ds.size)
    (hall : ∀ i, i < ds.size → ds[i]! ≠ ds.size → i ∈ seq) :
    (outletsModel ds upa effare dmm subncol cellsize nrowc ncolc).isSome = true := by
  cases dmm with
  | true => rfl
  | false =>
    obtain ⟨hsz, hrep⟩ := rep_in_cell ds upa (fun i => effare[i]!) subncol cellsize (nrowc * ncolc) ncolc
    refine mapM_option_isSome _ _ fun c hc => ?_
    by_cases hm : (repCell ds upa (fun i => effare[i]!) subncol cellsize (nrowc * ncolc) ncolc)[c]! = ds.size
    · rw [if_pos hm]; rfl
    · -- the trace of a representative pixel follows `ds` from a cell of the network
      rcases hrep c (hsz ▸ List.mem_range.mp hc) with h1 | ⟨h1, h2, _, _⟩
      · exact absurd h1 hm
      · rw [if_neg hm, ihuTrace_eq, Option.isSome_map]
        exact firstStop_down_total htopo hb _
          (fun c h => by simp only [ihuStop, decide_eq_false_iff_not, not_or] at h; exact h.2) _ (hall _ h1 h2)

/-- `fixed_length_slope` returns: both loops end within the fuel for every outlet pixel that is
missing, a cell of the network, or a raster cell outside the network -/
theorem fixed_length_slope_total (ds us : Array Nat) (seq outs : List Nat) (elevtn distnc : Array Int)
    (half : Int) (lstsq : Bool) (mask : Option (Array Bool))
    (htopo : Topo ds seq) (hb : ∀ i ∈ seq, i < ds.size)
    (hall : ∀ i, i < ds.size → ds[i]! ≠ ds.size → i ∈ seq) (hlink : UsLink ds us)
    (hout : ∀ o ∈ outs, o = ds.size ∨ o ∈ seq ∨ (o < ds.size ∧ ds[o]! = ds.size)) :
    (fixedLengthSlope ds us outs elevtn distnc half lstsq mask).isSome = true := by
  refine perOutlet_isSome _ _ _ fun s hs hm => ?_
  obtain ⟨d, hd, hdn⟩ := flsDown_total htopo hb distnc mask (distnc[s]! - half) s ((hout s hs).resolve_left hm)
  rw [hd]
  show ((flsUp us distnc mask _ _ d).map _).isSome = true
  rw [Option.isSome_map, flsUp_eq, Option.isSome_map, ← hlink.1]
  exact firstStop_up_total htopo hb hall hlink _ (fun c h => (upStop_false h).2.1) d hdn

/-! ## the statistics: median and least-squares slope characterised independently of the code -/

/-- `median2` is taken in THE non-decreasing rearrangement `s` of the values: NaN (`none`) for
no value, twice the middle element for an odd count, the sum of the two middle elements otherwise -/
theorem median2_def (vals s : List Int) (hperm : s.Perm vals) (hs : s.Pairwise (fun a b => a ≤ b)) :
    median2 vals = if s.length = 0 then none
                   else if s.length % 2 = 1 then some (2 * s[s.length / 2]!)
                   else some (s[s.length / 2 - 1]! + s[s.length / 2]!) := by
  simp only [median2, insSort_unique vals s hperm hs, List.size_toArray, List.getElem!_toArray]

/-- the sorted list exists for every input (the model's own sort), so `median2_def` always applies -/
theorem median2_sorted_exists (vals : List Int) :
    ∃ s : List Int, s.Perm vals ∧ s.Pairwise (fun a b => a ≤ b) :=
  ⟨insSort vals, insSort_perm vals, insSort_sorted vals⟩

/-- the least-squares slope solves the normal equations: for a segment of at least two cells the fraction `N / D`
returned for `lstsq = true` is the slope of the line `y = (N/D)·x + B/(n·D)`, `B = Σz·D − N·Σx`, whose
residuals against (distance, elevation) sum to zero and are orthogonal to the distances — the normal
equations of ordinary least squares (both scaled by `n·D`) -/
theorem slope_lstsq_normal (cells : List Nat) (elevtn distnc : Array Int) (hlen : cells.length > 1)
    (N D : Int) (h : slopeNumDen cells elevtn distnc true = (N, D)) :
    (cells.map fun c => (cells.length : Int) * D * elevtn[c]! - (cells.length : Int) * N * distnc[c]! -
        ((cells.map fun c => elevtn[c]!).sum * D - N * (cells.map fun c => distnc[c]!).sum)).sum = 0 ∧
    (cells.map fun c => distnc[c]! * ((cells.length : Int) * D * elevtn[c]! - (cells.length : Int) * N * distnc[c]! -
        ((cells.map fun c => elevtn[c]!).sum * D - N * (cells.map fun c => distnc[c]!).sum))).sum = 0 := by
  rw [slopeNumDen, if_pos hlen, if_pos rfl] at h
  exact lstsq_normal_eq cells (fun c => distnc[c]!) (fun c => elevtn[c]!) N D h

/-- mean slope: elevation difference over distance difference between the first and the last cell of
the segment; a single cell gives slope 0 for both methods -/
theorem slope_mean_def (cells : List Nat) (elevtn distnc : Array Int) (lstsq : Bool) :
    (cells.length > 1 → slopeNumDen cells elevtn distnc false =
      (elevtn[cells.head!]! - elevtn[cells.getLast!]!, distnc[cells.head!]! - distnc[cells.getLast!]!)) ∧
    (¬ cells.length > 1 → slopeNumDen cells elevtn distnc lstsq = (0, 1)) := by
  constructor
  · intro h; simp [slopeNumDen, h]
  · intro h; simp [slopeNumDen, h]

/-! ### the least-squares denominator -/

/-- Lagrange's identity: the denominator `n·Σx² − (Σx)²` of
`arithmetics.lstsq` equals the sum of the squared differences of all pairs of abscissae,
`Σ_{i<j} (x_i − x_j)²` (`pairSqSum`); in particular it is never negative. -/
theorem lstsq_den_identity (xs ys : List Int) :
    (lstsqNumDen xs ys).2 = pairSqSum xs ∧ 0 ≤ (lstsqNumDen xs ys).2 := by
  rw [lstsqNumDen_snd]
  exact ⟨rfl, pairSqSum_nonneg xs⟩

/-- the denominator is strictly positive unless all abscissae are equal (Cauchy-Schwarz with equality
case): `D > 0` as soon as two entries differ, and `D = 0` exactly when all entries are equal. -/
theorem lstsq_den_pos (xs ys : List Int) :
    ((∃ a ∈ xs, ∃ b ∈ xs, a ≠ b) → 0 < (lstsqNumDen xs ys).2) ∧
    ((lstsqNumDen xs ys).2 = 0 ↔ ∀ a ∈ xs, ∀ b ∈ xs, a = b) := by
  rw [lstsqNumDen_snd]
  refine ⟨fun ⟨a, ha, b, hb, hab⟩ => ?_, pairSqSum_eq_zero_iff xs⟩
  have := pairSqSum_nonneg xs
  have : pairSqSum xs ≠ 0 := fun h => hab ((pairSqSum_eq_zero_iff xs).mp h a ha b hb)
  omega

/-- a one-cell segment is not divided at all (`if len(idxs) > 1: ... else: rivslp[i] = 0.0` in
`segment_slope`, `if len(xs) >= 2` in `fixed_length_slope`): for at most one cell the model returns the
fraction `0 / 1` for both methods, whatever the elevations and distances. -/
theorem slope_single_cell (cells : List Nat) (elevtn distnc : Array Int) (lstsq : Bool)
    (h : cells.length ≤ 1) : slopeNumDen cells elevtn distnc lstsq = (0, 1) := by
  have : ¬ cells.length > 1 := by omega
  simp [slopeNumDen, this]

/-- the slope is never a division by zero: when the distances along the cells of the segment are
strictly monotone (they are along every flow path: `distnc` strictly increases upstream) the denominator
of the model's slope fraction is strictly positive for the least-squares method - for every number of
cells, the one-cell guard included - and non-zero for the mean method. -/
theorem slope_den_pos (cells : List Nat) (elevtn distnc : Array Int)
    (hmono : (cells.map fun c => distnc[c]!).Pairwise (· < ·) ∨ (cells.map fun c => distnc[c]!).Pairwise (· > ·)) :
    0 < (slopeNumDen cells elevtn distnc true).2 ∧ (slopeNumDen cells elevtn distnc false).2 ≠ 0 := by
  by_cases hlen : cells.length > 1
  · have hden : (slopeNumDen cells elevtn distnc true).2 =
        (lstsqNumDen (cells.map fun c => distnc[c]!) (cells.map fun c => elevtn[c]!)).2 := by
      rw [slopeNumDen, if_pos hlen, if_pos rfl]
    obtain ⟨hends, hne⟩ := strictMono_ends_ne (fun c => distnc[c]!) cells hlen hmono
    refine ⟨hden ▸ (lstsq_den_pos _ _).1 hne, ?_⟩
    -- the mean method divides by the difference between the first and the last distance
    rw [slopeNumDen, if_pos hlen, if_neg Bool.false_ne_true]
    exact fun h0 => hends (Int.sub_eq_zero.mp h0)
  · rw [slope_single_cell cells elevtn distnc true (by omega),
      slope_single_cell cells elevtn distnc false (by omega)]
    exact ⟨by decide, by decide⟩

-- distances 5, 3, 2 (strictly decreasing downstream): D = 3·38 − 100 = 14 = 4 + 9 + 1
example : (lstsqNumDen [5, 3, 2] [7, 4, 4]).2 = 14 ∧ pairSqSum [5, 3, 2] = 14 ∧
    (lstsqNumDen [4, 4, 4] [1, 2, 3]).2 = 0 := by decide
example : slopeNumDen [2, 1, 0] #[0, 1, 3] #[2, 3, 5] true = (14, 14) ∧
    slopeNumDen [2] #[0, 1, 3] #[2, 3, 5] true = (0, 1) ∧ slopeNumDen [] #[0, 1, 3] #[2, 3, 5] false = (0, 1) := by
  decide
example : 0 < (slopeNumDen [2, 1, 0] #[0, 1, 3] #[2, 3, 5] true).2 :=
  (slope_den_pos [2, 1, 0] #[0, 1, 3] #[2, 3, 5] (Or.inr (by decide))).1

/-- slope around the outlet pixel (`fixed_length_slope`, `subgrid_rivslp(direction="both")`): the cells
used start at the first cell downstream of the outlet pixel that is a pit, has no downstream cell (an
outlet pixel outside the network), is masked out, or lies at least `half` below it, and follow the main upstream path up to the first cell that has no main upstream
cell, whose main upstream cell is masked out, or that lies at least `half` above the outlet pixel -/
theorem fixed_length_slope_spec (ds usMain : Array Nat) (outs : List Nat) (elevtn distnc : Array Int)
    (half : Int) (lstsq : Bool) (mask : Option (Array Bool)) (res : PerOutlet (Int × Int))
    (h : fixedLengthSlope ds usMain outs elevtn distnc half lstsq mask = some res) (k s : Nat)
    (hk : outs[k]? = some s) :
    (s = ds.size ∧ res[k]? = some none) ∨
    (s ≠ ds.size ∧ ∃ Kd Ku,
      (∀ j, j < Kd → distnc[iterA ds j s]! > distnc[s]! - half ∧ ds[iterA ds j s]! ≠ iterA ds j s ∧
        ds[iterA ds j s]! ≠ ds.size ∧ maskAt mask (iterA ds j s) = true) ∧
      (distnc[iterA ds Kd s]! ≤ distnc[s]! - half ∨ ds[iterA ds Kd s]! = iterA ds Kd s ∨
        ds[iterA ds Kd s]! = ds.size ∨ maskAt mask (iterA ds Kd s) = false) ∧
      (∀ j, j < Ku → distnc[iterA usMain j (iterA ds Kd s)]! < distnc[s]! + half ∧
        usMain[iterA usMain j (iterA ds Kd s)]! ≠ usMain.size ∧
        maskAt mask usMain[iterA usMain j (iterA ds Kd s)]! = true) ∧
      (distnc[s]! + half ≤ distnc[iterA usMain Ku (iterA ds Kd s)]! ∨
        usMain[iterA usMain Ku (iterA ds Kd s)]! = usMain.size ∨
        maskAt mask usMain[iterA usMain Ku (iterA ds Kd s)]! = false) ∧
      res[k]? = some (some (slopeNumDen ((List.range (Ku + 1)).map fun j => iterA usMain j (iterA ds Kd s))
        elevtn distnc lstsq))) := by
  rcases perOutlet_get _ _ outs res h k s hk with h | ⟨hs, r, hr, hres⟩
  · exact Or.inl h
  · cases hd : flsDown ds distnc mask (distnc[s]! - half) (ds.size + 1) s with
    | none => rw [hd] at hr; cases hr
    | some d =>
      rw [hd] at hr
      obtain ⟨cells, hu, rfl⟩ := Option.map_eq_some_iff.mp hr
      rw [flsDown_eq] at hd
      rw [flsUp_eq] at hu
      obtain ⟨Kd, rfl, hdn⟩ := firstStop_map_spec hd
      obtain ⟨Ku, rfl, hup⟩ := firstStop_map_spec hu
      exact Or.inr ⟨hs, Kd, Ku, fun j hj => downStop_false (hdn.before j hj), of_decide_eq_true hdn.stop,
        fun j hj => upStop_false (hup.before j hj), of_decide_eq_true hup.stop, hres⟩

/-! ### non-vacuity (segments, outlets) -/
-- an outlet pixel listed twice (cell 1 at positions 0 and 2): the last position labels, the first entry
-- keeps the pixel's own area
example : ucatArea #[0, 0, 1, 1, 5] [0, 1, 2, 3] [1, 0, 1] #[10, 20, 30, 40, 50] =
    (#[2, 3, 3, 3, 0], #[20, 10, 90]) := by decide
example : median2 [8, 5, 6] = some (2 * 6) := by
  rw [median2_def [8, 5, 6] [5, 6, 8] (by decide) (by decide)]; decide
example : median2 [8, 5, 6, 3] = some (5 + 6) := by
  rw [median2_def [8, 5, 6, 3] [3, 5, 6, 8] (by decide) (by decide)]; decide
example : slopeNumDen [2, 1, 0] #[0, 1, 3] #[0, 1, 2] true = (9, 6) := by decide
example : UsLink #[0, 0, 0, 1, 1] (mainUpstream #[0, 0, 0, 1, 1] #[5, 2, 2, 1, 1] 0) := mainUpstream_usLink ..
example : mainUpstream #[0, 0, 0, 1, 1] #[5, 2, 2, 1, 1] 0 = #[1, 3, 5, 5, 5] := by decide
-- chain 4 → 3 → 2 → 1 → 0, unit spacing, window of half-length 1 around cell 2: cells 1, 2, 3
example : fixedLengthSlope #[0, 0, 1, 2, 3] #[1, 2, 3, 4, 5] [2, 5] #[0, 1, 3, 6, 10] #[0, 1, 2, 3, 4] 1 false none =
    some [some (-5, -2), none] := by decide
-- with cell 3 masked out the window is cells 1, 2 only
example : fixedLengthSlope #[0, 0, 1, 2, 3] #[1, 2, 3, 4, 5] [2, 5] #[0, 1, 3, 6, 10] #[0, 1, 2, 3, 4] 1 false
    (some #[true, true, true, false, true]) = some [some (-2, -1), none] := by decide
-- chain 4 → 3 → 2 → 1 → 0 (pit), outlets at 4, 2 and a missing one; walking downstream
example : exclWalk #[0, 0, 1, 2, 3] (outletFlags 5 [4, 5, 2]) none 6 4 = some [4, 3] := by decide
example : lenWalk #[0, 0, 1, 2, 3] (outletFlags 5 [4, 5, 2]) none 6 4 = some 2 := by decide
example : segLength #[0, 0, 1, 2, 3] [4, 5, 2] #[0, 3, 7, 12, 16] none = some [some 9, none, some 7] := by decide
example : segAverage #[0, 0, 1, 2, 3] [4, 5, 2] #[5, -9999, 6, 2, 4] #[1, 1, 1, 3, 1] (-9999) none =
    some [some (10, 4), none, some (11, 2)] := by decide
example : segMedian #[0, 0, 1, 2, 3] [4, 5, 2] #[5, -9999, 6, 2, 4] (-9999) (some #[true, true, true, true, true]) =
    some [some (some 6), none, some (some 11)] := by decide
example : segSlope #[0, 0, 1, 2, 3] [4, 5, 2] #[0, 1, 3, 6, 10] #[0, 1, 2, 3, 4] true none =
    some [some (4, 1), none, some (9, 6)] := by decide
-- the river mask cuts the segment of outlet 2 before the masked-out cell 1: cells [2] only
example : segSlope #[0, 0, 1, 2, 3] [4, 5, 2] #[0, 1, 3, 6, 10] #[0, 1, 2, 3, 4] false
    (some #[true, false, true, true, true]) = some [some (4, 1), none, some (0, 1)] := by decide
-- 2×4 fine raster, cell size 2: both rows drain east to the pit 7; coarse cells 0 and 1
example : outletsModel #[1, 2, 3, 7, 5, 6, 7, 7] #[1, 2, 3, 4, 1, 2, 3, 8]
    #[true, true, true, true, true, true, true, true] false 4 2 1 2 = some [1, 7] := by decide
example : outletsModel #[1, 2, 3, 7, 5, 6, 7, 7] #[1, 2, 3, 4, 1, 2, 3, 8]
    #[true, true, true, true, true, true, true, true] true 4 2 1 2 = some [1, 7] := by decide

end Pf.C10
