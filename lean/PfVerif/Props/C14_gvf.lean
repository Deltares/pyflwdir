import PfVerif.Proofs.C14_gvf
import PfVerif.Proofs.C03Topo
/-! # C14, extension `gvf` — `rivers.rivdph_gvf`, the `method='gvf'` branch of `Flwdir.river_depth`

Theorems about the model of `lean/PfVerif/Model/C14_gvf.lean`. The ODE solver is an oracle: the model consumes
a list of recorded answers `(h1, success)` in call order. Every theorem of the first part quantifies over all
networks `ds`, all cell orders `seq` (assuming `Topo ds seq` only where the statement needs it), all initial
depths, all oracle sequences (of any length, also too short ones), all `n_iter`, and all loop bodies
(`Kernel`: eligibility test, acceptance test, stored value, bed-level update, solver arguments), hence in
particular for the binary64 instance `gvfKernel` of the second part. No size bounds anywhere.
The correspondence with the code is checked by `harness/props/c14_gvf.py`. -/
namespace Pf.C14g
open Pf

variable {α γ : Type} [Inhabited α]

/-! ## frame -/

theorem gvf_size (K : Kernel α γ) (ds : Array Nat) (seq : List Nat) (nIter : Nat) (rivdph : Array α)
    (orc : List (Ans α)) : (gvf K ds seq nIter rivdph orc).out.size = rivdph.size :=
  run_inv_call K ds seq (fun s => s.out.size = rivdph.size)
    (fun zb s i _ _ h => by rw [call_out_size]; exact h) nIter (start K rivdph orc) rfl

/-- a cell that is not in `seq`, or is a pit, or has `qbankfull <= 0` or `rivwth <= 0`
(`K.elig = false`) keeps its initial depth - whatever the oracle answers. -/
theorem gvf_frame (K : Kernel α γ) (ds : Array Nat) (seq : List Nat) (nIter : Nat) (rivdph : Array α)
    (orc : List (Ans α)) (j : Nat) (hj : j ∉ seq ∨ ds[j]! = j ∨ K.elig j = false) :
    (gvf K ds seq nIter rivdph orc).out[j]! = rivdph[j]! := by
  refine run_inv_call K ds seq (fun s => s.out[j]! = rivdph[j]!) ?_ nIter (start K rivdph orc) rfl
  intro zb s i hi hel h
  -- a cell that calls is in `seq`, no pit and eligible: it is not `j`
  have hij : i ≠ j := by
    rintro rfl
    simp only [eligible, Bool.and_eq_true, bne_iff_ne] at hel
    rcases hj with hj | hj | hj
    · exact hj hi
    · exact hel.2 hj
    · rw [hj] at hel; exact Bool.noConfusion hel.1
  rw [call_out_ne _ _ _ _ _ _ hij]; exact h

/-- `n_iter = 0` returns the input (and calls nothing). -/
theorem gvf_zero_iter (K : Kernel α γ) (ds : Array Nat) (seq : List Nat) (rivdph : Array α)
    (orc : List (Ans α)) :
    (gvf K ds seq 0 rivdph orc).out = rivdph ∧ (gvf K ds seq 0 rivdph orc).ev = [] ∧
      (gvf K ds seq 0 rivdph orc).orc = orc := ⟨rfl, rfl, rfl⟩

/-! ## which cells call the solver, in which order, with which answer -/

/-- in every iteration exactly the callers of `seq` - the cells of `seq` that are no pits and
have `qbankfull > 0`, `rivwth > 0` - call the solver, in the order of `seq`: the `k`-th call of an iteration is
for the `k`-th eligible cell of `seq`. -/
theorem gvf_calls (K : Kernel α γ) (ds : Array Nat) (seq : List Nat) (nIter : Nat) (rivdph : Array α)
    (orc : List (Ans α)) :
    (gvf K ds seq nIter rivdph orc).ev.map (·.cell) = repeatList nIter (callers K ds seq) := by
  obtain ⟨new, h1, h2, _, _⟩ := run_spec K ds seq nIter (start K rivdph orc)
  have : (gvf K ds seq nIter rivdph orc).ev = new := h1.trans (List.nil_append new)
  rw [this, h2]

/-- number of solver calls = `n_iter × #{eligible cells of seq}` - for every oracle, also an exhausted one. -/
theorem gvf_calls_count (K : Kernel α γ) (ds : Array Nat) (seq : List Nat) (nIter : Nat) (rivdph : Array α)
    (orc : List (Ans α)) :
    (gvf K ds seq nIter rivdph orc).ev.length = nIter * (callers K ds seq).length := by
  have := congrArg List.length (gvf_calls K ds seq nIter rivdph orc)
  simpa [repeatList_length] using this

theorem gvf_call_cells (K : Kernel α γ) (ds : Array Nat) (seq : List Nat) (nIter : Nat) (rivdph : Array α)
    (orc : List (Ans α)) : ∀ e ∈ (gvf K ds seq nIter rivdph orc).ev,
      e.cell ∈ seq ∧ ds[e.cell]! ≠ e.cell ∧ K.elig e.cell = true := by
  intro e he
  have hm : e.cell ∈ (gvf K ds seq nIter rivdph orc).ev.map (·.cell) := List.mem_map.2 ⟨e, he, rfl⟩
  rw [gvf_calls] at hm
  have := mem_repeatList _ _ _ hm
  simp only [callers, List.mem_filter] at this
  obtain ⟨h1, h2⟩ := this
  simp only [eligible, Bool.and_eq_true, bne_iff_ne, ne_eq] at h2
  exact ⟨h1, h2.2, h2.1⟩

/-- the `k`-th call overall consumes the `k`-th recorded answer (`none` where the
oracle has none), and what is left of the oracle afterwards is everything beyond the first
`n_iter × #eligible` answers. -/
theorem gvf_oracle_in_step (K : Kernel α γ) (ds : Array Nat) (seq : List Nat) (nIter : Nat) (rivdph : Array α)
    (orc : List (Ans α)) :
    (gvf K ds seq nIter rivdph orc).ev.map (·.ans) = takePad (nIter * (callers K ds seq).length) orc ∧
    (gvf K ds seq nIter rivdph orc).orc = orc.drop (nIter * (callers K ds seq).length) := by
  obtain ⟨new, h1, _, h3, h4⟩ := run_spec K ds seq nIter (start K rivdph orc)
  have : (gvf K ds seq nIter rivdph orc).ev = new := h1.trans (List.nil_append new)
  exact ⟨by rw [this, h3]; rfl, h4⟩

/-- pointwise reading of `gvf_oracle_in_step`. -/
theorem gvf_kth_answer (K : Kernel α γ) (ds : Array Nat) (seq : List Nat) (nIter : Nat) (rivdph : Array α)
    (orc : List (Ans α)) (k : Nat) (hk : k < nIter * (callers K ds seq).length) :
    ((gvf K ds seq nIter rivdph orc).ev.map (·.ans))[k]? = some orc[k]? := by
  rw [(gvf_oracle_in_step K ds seq nIter rivdph orc).1, takePad_getElem?]
  simp [hk]

theorem gvf_missing (K : Kernel α γ) (ds : Array Nat) (seq : List Nat) (nIter : Nat) (rivdph : Array α)
    (orc : List (Ans α)) :
    missing (gvf K ds seq nIter rivdph orc).ev = nIter * (callers K ds seq).length - orc.length := by
  have h := (gvf_oracle_in_step K ds seq nIter rivdph orc).1
  have := takePad_none_count (nIter * (callers K ds seq).length) orc
  rw [← h, List.filter_map, List.length_map] at this
  rw [← this]
  rfl

/-- given (at least) `n_iter × #eligible` answers the model never runs out of answers; given
exactly that many it consumes all of them. -/
theorem gvf_total (K : Kernel α γ) (ds : Array Nat) (seq : List Nat) (nIter : Nat) (rivdph : Array α)
    (orc : List (Ans α)) (h : nIter * (callers K ds seq).length ≤ orc.length) :
    missing (gvf K ds seq nIter rivdph orc).ev = 0 ∧
    (∀ e ∈ (gvf K ds seq nIter rivdph orc).ev, ∃ a ∈ orc, e.ans = some a) ∧
    (orc.length = nIter * (callers K ds seq).length → (gvf K ds seq nIter rivdph orc).orc = []) := by
  refine ⟨by rw [gvf_missing]; omega, ?_, ?_⟩
  · intro e he
    have hm : e.ans ∈ (gvf K ds seq nIter rivdph orc).ev.map (·.ans) := List.mem_map.2 ⟨e, he, rfl⟩
    rw [(gvf_oracle_in_step K ds seq nIter rivdph orc).1] at hm
    exact takePad_mem_some _ _ h _ hm
  · intro hlen
    rw [(gvf_oracle_in_step K ds seq nIter rivdph orc).2, ← hlen]
    simp

/-! ## what is stored -/

/-- the accepted flag of every call is the acceptance test applied to the call's own `h0` and answer; a call
without an answer is not accepted. -/
theorem gvf_acc (K : Kernel α γ) (ds : Array Nat) (seq : List Nat) (nIter : Nat) (rivdph : Array α)
    (orc : List (Ans α)) : ∀ e ∈ (gvf K ds seq nIter rivdph orc).ev,
      e.acc = (match e.ans with | some a => K.accept e.cell e.h0 a | none => false) := by
  refine run_inv_call K ds seq
    (fun s => ∀ e ∈ s.ev, e.acc = (match e.ans with | some a => K.accept e.cell e.h0 a | none => false))
    ?_ nIter (start K rivdph orc) (by simp [start])
  intro zb s i _ _ h
  obtain ⟨e, hev, hcell, hh0, _, hans, _, hacc, _⟩ := call_spec K ds zb s i
  rw [hev]
  intro e' he'
  simp only [List.mem_append, List.mem_singleton] at he'
  rcases he' with he' | rfl
  · exact h e' he'
  · rw [hacc, hans, hcell, hh0]
    cases s.orc.head? <;> rfl

/-- at the end every cell (inside the arrays) holds `max(min_rivdph, h1)`
(`K.store h1`) for the answer `h1` of its LAST accepted call, and its initial depth if none of its calls was
accepted. -/
theorem gvf_value (K : Kernel α γ) (ds : Array Nat) (seq : List Nat) (nIter : Nat) (rivdph : Array α)
    (orc : List (Ans α)) (j : Nat) (hj : j < rivdph.size) :
    (gvf K ds seq nIter rivdph orc).out[j]! = valueAfter K rivdph (gvf K ds seq nIter rivdph orc).ev j := by
  have := run_inv K ds seq (ValueInv K rivdph) (fun zb s i _ h => step_valueInv K ds rivdph zb s i h) nIter
    (start K rivdph orc) ⟨rfl, fun j _ => by simp [start, valueAfter_nil]⟩
  exact this.2 j hj

/-- every cell either keeps its initial depth or holds `K.store h1` for one of the oracle's answers. -/
theorem gvf_changed_holds_store (K : Kernel α γ) (ds : Array Nat) (seq : List Nat) (nIter : Nat)
    (rivdph : Array α) (orc : List (Ans α)) (j : Nat) :
    (gvf K ds seq nIter rivdph orc).out[j]! = rivdph[j]! ∨
      ∃ a ∈ orc, (gvf K ds seq nIter rivdph orc).out[j]! = K.store a.h1 := by
  by_cases hj : j < rivdph.size
  · rw [gvf_value K ds seq nIter rivdph orc j hj]
    unfold valueAfter
    cases hl : lastAcc (gvf K ds seq nIter rivdph orc).ev j with
    | none => exact Or.inl rfl
    | some e =>
      simp only []
      cases ha : e.ans with
      | none => exact Or.inl rfl
      | some a =>
        refine Or.inr ⟨a, ?_, rfl⟩
        have he : e ∈ (gvf K ds seq nIter rivdph orc).ev := by
          have := List.mem_of_find?_eq_some hl
          simpa using this
        have hm : e.ans ∈ (gvf K ds seq nIter rivdph orc).ev.map (·.ans) := List.mem_map.2 ⟨e, he, rfl⟩
        rw [(gvf_oracle_in_step K ds seq nIter rivdph orc).1, ha] at hm
        exact takePad_mem _ _ _ hm
  · left
    have h1 : ¬ j < (gvf K ds seq nIter rivdph orc).out.size := by rw [gvf_size]; exact hj
    simp [getElem!_def, Array.getElem?_eq_none (Nat.le_of_not_lt h1), Array.getElem?_eq_none (Nat.le_of_not_lt hj)]

/-- every answer rejected ⇒ result = input (the Manning depth). -/
theorem gvf_all_rejected (K : Kernel α γ) (ds : Array Nat) (seq : List Nat) (nIter : Nat) (rivdph : Array α)
    (orc : List (Ans α)) (hrej : ∀ a ∈ orc, ∀ i h0, K.accept i h0 a = false) :
    (gvf K ds seq nIter rivdph orc).out = rivdph := by
  have := run_inv_call K ds seq (fun s => s.out = rivdph ∧ ∀ a ∈ s.orc, a ∈ orc) ?_ nIter (start K rivdph orc)
    ⟨rfl, fun a h => h⟩
  · exact this.1
  intro zb s i _ _ ⟨h1, h2⟩
  obtain ⟨e, _, _, _, _, _, horc, _, hout⟩ := call_spec K ds zb s i
  refine ⟨?_, fun a ha => h2 a (by rw [horc] at ha; exact List.mem_of_mem_tail ha)⟩
  rw [hout]
  cases hh : s.orc.head? with
  | none => exact h1
  | some a =>
    have : a ∈ s.orc := List.mem_of_mem_head? hh
    simp [hrej a (h2 a this), h1]

/-! ## `h0` is the depth stored at the downstream cell at that moment -/

/-- the call a caller `c` makes after the cells `pre` of the sweep receives as `h0` the
depth stored at its downstream cell after exactly those cells, consumes the first answer that is left and
receives the solver arguments computed from this iteration's bed levels. -/
theorem sweep_call_moment (K : Kernel α γ) (ds : Array Nat) (zb : Array α) (pre : List Nat) (c : Nat)
    (s : St α γ) (hc : eligible K ds c = true) :
    ∃ e : Ev α γ, (sweep K ds zb (pre ++ [c]) s).ev = (sweep K ds zb pre s).ev ++ [e] ∧ e.cell = c ∧
      e.h0 = (sweep K ds zb pre s).out[ds[c]!]! ∧ e.ext = K.ext zb c ∧
      e.ans = (sweep K ds zb pre s).orc.head? := by
  rw [sweep_snoc, step_eligible K ds zb _ hc]
  obtain ⟨e, h1, h2, h3, h4, h5, _⟩ := call_spec K ds zb (sweep K ds zb pre s) c
  exact ⟨e, h1, h2, h3, h4, h5⟩

/-- the bed levels an iteration works with are `zs - rivdph_out` of the depths it starts from. -/
theorem run_zb (K : Kernel α γ) (ds : Array Nat) (seq : List Nat) (rivdph : Array α) (orc : List (Ans α)) :
    ∀ n, (run K ds seq n (start K rivdph orc)).1 = K.mkZb (run K ds seq n (start K rivdph orc)).2.out := by
  intro n
  cases n with
  | zero => rfl
  | succ n => rfl

/-- Under `Topo ds seq`, in iteration
`t + 1` exactly the callers of `seq` call, in order, and every call receives as `h0` the depth its downstream
cell holds at the END of that same iteration (the downstream cell was handled before and is not touched
again), together with the solver arguments computed from `zb = zs - (depths after iteration t)`. -/
theorem gvf_h0_topo (K : Kernel α γ) (ds : Array Nat) (seq : List Nat) (htopo : Topo ds seq) (rivdph : Array α)
    (orc : List (Ans α)) (t : Nat) :
    ∃ new, (gvf K ds seq (t + 1) rivdph orc).ev = (gvf K ds seq t rivdph orc).ev ++ new ∧
      new.map (·.cell) = callers K ds seq ∧
      ∀ e ∈ new, e.h0 = (gvf K ds seq (t + 1) rivdph orc).out[ds[e.cell]!]! ∧
        e.ext = K.ext (K.mkZb (gvf K ds seq t rivdph orc).out) e.cell := by
  obtain ⟨new, h1, h2, _, _, h5⟩ := sweep_spec K ds (run K ds seq t (start K rivdph orc)).1 seq
    (run K ds seq t (start K rivdph orc)).2
  obtain ⟨new', g1, g2⟩ := sweep_h0_topo K ds (run K ds seq t (start K rivdph orc)).1 htopo
    (run K ds seq t (start K rivdph orc)).2
  have hnn : new = new' := List.append_cancel_left (h1.symm.trans g1)
  subst hnn
  refine ⟨new, h1, h2, fun e he => ⟨(g2 e he).2.2, ?_⟩⟩
  rw [h5 e he, run_zb]
  rfl

/-! ## closed recursive form: one iteration is an instance of the shared `sweepDown` -/

/-- the depths after `n` iterations in the position-indexed form: iteration `t` is the shared down-to-upstream
sweep `sweepDown` whose loop body gives cell `i` the `(t·m + position of i among the callers)`-th answer -/
def recForm (K : Kernel α γ) (ds : Array Nat) (seq : List Nat) (orc : List (Ans α)) (n : Nat)
    (rivdph : Array α) : Array α :=
  (List.range n).foldl
    (fun out t => sweepDown ds (gStep K ds seq (orc.drop (t * (callers K ds seq).length))) seq out) rivdph

/-- the model equals the position-indexed `sweepDown` form (the driver's `spec.rec`). -/
theorem gvf_eq_rec (K : Kernel α γ) (ds : Array Nat) (seq : List Nat) (htopo : Topo ds seq) (rivdph : Array α)
    (orc : List (Ans α)) : ∀ nIter, (gvf K ds seq nIter rivdph orc).out = recForm K ds seq orc nIter rivdph := by
  intro nIter
  induction nIter with
  | zero => rfl
  | succ n ih =>
    unfold recForm
    rw [List.range_succ, List.foldl_append]
    exact (run_succ_out K ds htopo n (start K rivdph orc)).trans (congrArg _ ih)

/-- the same with the executable order check (what the driver reports as `topo`). -/
theorem gvf_eq_rec_checked (K : Kernel α γ) (ds : Array Nat) (seq : List Nat) (h : isTopo ds seq = true)
    (rivdph : Array α) (orc : List (Ans α)) (nIter : Nat) :
    (gvf K ds seq nIter rivdph orc).out = recForm K ds seq orc nIter rivdph :=
  gvf_eq_rec K ds seq (isTopo_sound' ds seq h).1 rivdph orc nIter

/-- recurrence of one iteration (no state threading left): with `R` the depths after iteration `t + 1`,
`R₀` those after iteration `t` and `a` the answer with index `t·m + (position of i among the callers)`:
a caller `i` holds `store a.h1` if `accept i R[ds i] a` - the test sees the downstream cell's value of the SAME
iteration - and `R₀[i]` otherwise; every other cell holds `R₀[i]`. -/
theorem gvf_rec (K : Kernel α γ) (ds : Array Nat) (seq : List Nat) (htopo : Topo ds seq) (rivdph : Array α)
    (orc : List (Ans α)) (hb : ∀ i ∈ seq, i < rivdph.size) (t : Nat) :
    let R := (gvf K ds seq (t + 1) rivdph orc).out
    let R₀ := (gvf K ds seq t rivdph orc).out
    (∀ i ∈ seq, eligible K ds i = true →
      R[i]! = (match (orc.drop (t * (callers K ds seq).length))[posOf K ds seq i]? with
               | some a => if K.accept i R[ds[i]!]! a then K.store a.h1 else R₀[i]!
               | none => R₀[i]!)) ∧
    (∀ i, i ∉ seq ∨ eligible K ds i = false → R[i]! = R₀[i]!) := by
  intro R R₀
  have hR : R = sweepDown ds (gStep K ds seq (orc.drop (t * (callers K ds seq).length))) seq R₀ :=
    run_succ_out K ds htopo t (start K rivdph orc)
  have hb' : ∀ i ∈ seq, i < R₀.size := fun i hi => by
    show i < (gvf K ds seq t rivdph orc).out.size
    rw [gvf_size]; exact hb i hi
  obtain ⟨h1, h2⟩ := sweepDown_rec ds (gStep K ds seq (orc.drop (t * (callers K ds seq).length))) R₀ seq htopo hb'
  rw [← hR] at h1 h2
  refine ⟨fun i hi hel => ?_, fun i hi => ?_⟩
  · rw [h1 i hi]
    have hp : ds[i]! ≠ i := eligible_not_pit K ds i hel
    simp only [gStep, hel, if_true, hp, if_false]
    cases (orc.drop (t * (callers K ds seq).length))[posOf K ds seq i]? <;> rfl
  · rcases hi with hi | hi
    · exact h2 i hi
    · by_cases hm : i ∈ seq
      · rw [h1 i hm]; simp [gStep, hi]
      · exact h2 i hm

/-! ## the binary64 instance -/

/-- eligibility spelled out: the cell is skipped iff `qbankfull <= 0` or `rivwth <= 0` (IEEE comparisons: a NaN
discharge or width does not skip). -/
theorem gvfKernel_elig (P : GvfParams) (ds : Array Nat) (i : Nat) :
    (gvfKernel P ds).elig i = true ↔ fLe P.qbankfull[i]! fZero = false ∧ fLe P.rivwth[i]! fZero = false := by
  simp [gvfKernel]

/-- the acceptance test spelled out: accepted iff the solver reports success, `h1 < 0` is false and
`abs((h1 - h0) / dx) > 1` is false (IEEE semantics: a NaN quotient, e.g. `0/0` for `dx = 0`, is not `> 1`). -/
theorem gvfAccept_iff (P : GvfParams) (ds : Array Nat) (i h0 : Nat) (a : Ans Nat) :
    gvfAccept P ds i h0 a = true ↔
      a.ok = true ∧ fLt a.h1 fZero = false ∧
      fGt (fAbs (fDiv (fSub a.h1 h0) (gvfDx P ds i))) fOne = false := by
  simp [gvfAccept]
  constructor
  · intro ⟨⟨h1, h2⟩, h3⟩; exact ⟨h3, h2, h1⟩
  · intro ⟨h1, h2, h3⟩; exact ⟨⟨h3, h2⟩, h1⟩

/-- an answer with `success = False` is rejected, and so is a negative `h1`. -/
theorem gvfAccept_rejects (P : GvfParams) (ds : Array Nat) (i h0 : Nat) (a : Ans Nat)
    (h : a.ok = false ∨ fLt a.h1 fZero = true) : gvfAccept P ds i h0 a = false := by
  rcases h with h | h <;> simp [gvfAccept, h]

/-- Python's `max(m, h)` is at least `m` in the IEEE order, unless `m` is NaN. -/
theorem pyMax_ge (m h : Nat) (hm : fIsNaN m = false) : fLe m (pyMax m h) = true := by
  unfold pyMax
  split
  · rename_i hgt
    simp only [fGt, fLt, Bool.and_eq_true, Bool.not_eq_true', decide_eq_true_eq] at hgt
    simp only [fLe, Bool.and_eq_true, Bool.not_eq_true', decide_eq_true_eq]
    exact ⟨⟨hgt.1.1, hgt.1.2⟩, Int.le_of_lt hgt.2⟩
  · simp [fLe, hm]

/-- `max(m, h)` is `h` or `m`: the stored depth is a copy, no arithmetic is involved. -/
theorem pyMax_cases (m h : Nat) : pyMax m h = h ∨ pyMax m h = m := by
  unfold pyMax; split <;> simp

/-- changed cells are ≥ `min_rivdph`: every cell of the result either keeps its initial (Manning) depth or
holds `max(min_rivdph, h1)` for an oracle answer `h1`, which is `>= min_rivdph`. -/
theorem rivdphGvf_ge_min (P : GvfParams) (ds : Array Nat) (seq : List Nat) (nIter : Nat) (rivdph : Array Nat)
    (orc : List (Ans Nat)) (hmin : fIsNaN P.minDph = false) (j : Nat) :
    (rivdphGvf P ds seq nIter rivdph orc).out[j]! = rivdph[j]! ∨
      (fLe P.minDph (rivdphGvf P ds seq nIter rivdph orc).out[j]! = true ∧
        ∃ a ∈ orc, (rivdphGvf P ds seq nIter rivdph orc).out[j]! = pyMax P.minDph a.h1) := by
  rcases gvf_changed_holds_store (gvfKernel P ds) ds seq nIter rivdph orc j with h | ⟨a, ha, h⟩
  · exact Or.inl h
  · refine Or.inr ⟨?_, a, ha, h⟩
    show fLe P.minDph (gvf (gvfKernel P ds) ds seq nIter rivdph orc).out[j]! = true
    rw [h]
    exact pyMax_ge _ _ hmin

/-- all solver calls failed (or returned negative depths) ⇒ the Manning depths are returned unchanged. -/
theorem rivdphGvf_all_failed (P : GvfParams) (ds : Array Nat) (seq : List Nat) (nIter : Nat) (rivdph : Array Nat)
    (orc : List (Ans Nat)) (h : ∀ a ∈ orc, a.ok = false ∨ fLt a.h1 fZero = true) :
    (rivdphGvf P ds seq nIter rivdph orc).out = rivdph :=
  gvf_all_rejected (gvfKernel P ds) ds seq nIter rivdph orc
    (fun a ha i h0 => gvfAccept_rejects P ds i h0 a (h a ha))

/-- frame of the instance: cells outside `seq`, pits and cells with `qbankfull <= 0` or `rivwth <= 0` keep
their depth bit for bit, and the array keeps its size. -/
theorem rivdphGvf_frame (P : GvfParams) (ds : Array Nat) (seq : List Nat) (nIter : Nat) (rivdph : Array Nat)
    (orc : List (Ans Nat)) :
    (rivdphGvf P ds seq nIter rivdph orc).out.size = rivdph.size ∧
    ∀ j, (j ∉ seq ∨ ds[j]! = j ∨ fLe P.qbankfull[j]! fZero = true ∨ fLe P.rivwth[j]! fZero = true) →
      (rivdphGvf P ds seq nIter rivdph orc).out[j]! = rivdph[j]! := by
  refine ⟨gvf_size _ ds seq nIter rivdph orc, fun j hj => gvf_frame _ ds seq nIter rivdph orc j ?_⟩
  rcases hj with hj | hj | hj | hj
  · exact Or.inl hj
  · exact Or.inr (Or.inl hj)
  · exact Or.inr (Or.inr (by show (!(fLe P.qbankfull[j]! fZero || fLe P.rivwth[j]! fZero)) = false; rw [hj]; rfl))
  · exact Or.inr (Or.inr (by
      show (!(fLe P.qbankfull[j]! fZero || fLe P.rivwth[j]! fZero)) = false; rw [hj, Bool.or_true]; rfl))

/-! ## non-vacuity: a concrete network, real binary64 values, a scripted oracle

Cells `1 → 0`, `2 → 1`, `3 → 1`; pits `0` and `4`; cell `3` has `qbankfull = 0`. Depths `[1.5, 1.25, 1.0, 2.0, 1.0]`,
`zs = [0, 0.5, 1, 1.25, 3]`, `rivdst = [0, 100, 250, 175, 0]`, `min_rivslp = 1e-5`, `min_rivdph = 1`, `n_iter = 2`.
The callers are `[1, 2]`; the oracle answers `1.5` (accepted), `-1.0` (negative: rejected), `0.25` (accepted, stored
as `max(1, 0.25) = 1.0`: the LAST accepted call of cell 1 wins over the `1.5` of the first iteration), `2.0` with
`success = False` (rejected). The fourth call receives `h0 = 1.0`, the value cell 1 got in the same iteration;
the slopes `0.0075, 0.005, 0.005, 0.00666…` are computed by the model's own binary64 arithmetic from the bed levels
of each iteration. The implementation returns exactly these bit patterns on this input (harness regression
`lean-example`). -/

def exDs : Array Nat := #[0, 0, 1, 1, 4]
def exSeq : List Nat := [0, 4, 1, 2, 3]
def exP : GvfParams where
  zs := #[0, 4602678819172646912, 4607182418800017408, 4608308318706860032, 4613937818241073152]
  rivdst := #[0, 4636737291354636288, 4643000109586448384, 4640361281679785984, 0]
  qbankfull := #[4635329916471083008, 4633641066610819072, 4626322717216342016, 0, 4617315517961601024]
  rivwth := #[4629137466983448576, 4627730092099895296, 4621819117588971520, 4621819117588971520, 4617315517961601024]
  manning := #[4584304132692975288, 4584304132692975288, 4584304132692975288, 4584304132692975288, 4584304132692975288]
  minSlp := 4532020583610935537
  minDph := 4607182418800017408
def exDph : Array Nat :=
  #[4609434218613702656, 4608308318706860032, 4607182418800017408, 4611686018427387904, 4607182418800017408]
def exOrc : List (Ans Nat) :=
  [⟨4609434218613702656, true⟩, ⟨13830554455654793216, true⟩, ⟨4598175219545276416, true⟩, ⟨4611686018427387904, false⟩]

example : isTopo exDs exSeq = true := by decide +kernel
example : callers (gvfKernel exP exDs) exDs exSeq = [1, 2] := by decide +kernel
example : (rivdphGvf exP exDs exSeq 2 exDph exOrc).out =
    #[4609434218613702656, 4607182418800017408, 4607182418800017408, 4611686018427387904, 4607182418800017408] := by
  decide +kernel
example : (rivdphGvf exP exDs exSeq 2 exDph exOrc).ev.map (·.cell) = [1, 2, 1, 2] := by decide +kernel
example : (rivdphGvf exP exDs exSeq 2 exDph exOrc).ev.map (·.acc) = [true, false, true, false] := by decide +kernel
example : (rivdphGvf exP exDs exSeq 2 exDph exOrc).ev.map (·.h0) =
    [4609434218613702656, 4609434218613702656, 4609434218613702656, 4607182418800017408] := by decide +kernel
example : (rivdphGvf exP exDs exSeq 2 exDph exOrc).ev.map (·.ext.slp) =
    [4575296933438234296, 4572414629676717179, 4572414629676717179, 4574336165517728591] := by decide +kernel
example : (rivdphGvf exP exDs exSeq 2 exDph exOrc).ev.map (·.ext.dx) =
    [4636737291354636288, 4639481672377565184, 4636737291354636288, 4639481672377565184] := by decide +kernel
/-- after ONE iteration cell 1 holds 1.5: the result of `n_iter = 2` above is not what one iteration gives -/
example : (rivdphGvf exP exDs exSeq 1 exDph exOrc).out[1]! = 4609434218613702656 := by decide +kernel
/-- an oracle that is one answer short: the fourth call finds none and is counted as missing -/
example : missing (rivdphGvf exP exDs exSeq 2 exDph (exOrc.take 3)).ev = 1 ∧
    (rivdphGvf exP exDs exSeq 2 exDph (exOrc.take 3)).ev.length = 4 := by decide +kernel
example : recForm (gvfKernel exP exDs) exDs exSeq exOrc 2 exDph =
    #[4609434218613702656, 4607182418800017408, 4607182418800017408, 4611686018427387904, 4607182418800017408] := by
  decide +kernel
/-- the binary64 layer on a few values: `1.0 - 0.25 = 0.75`, `1.0 / 3.0 = 0.333…` (rounded), `0.0 / 0.0 = NaN`,
`-1.0 < 0.0`, `NaN <= 0.0` is false, `max(1.0, 0.25) = 1.0`, `max(1.0, NaN) = 1.0` -/
example : fSub 4607182418800017408 4598175219545276416 = 4604930618986332160 ∧
    fDiv 4607182418800017408 4613937818241073152 = 4599676419421066581 ∧
    fDiv 0 0 = canonNaN ∧ fLt 13830554455654793216 0 = true ∧ fLe canonNaN 0 = false ∧
    pyMax 4607182418800017408 4598175219545276416 = 4607182418800017408 ∧
    pyMax 4607182418800017408 canonNaN = 4607182418800017408 := by decide +kernel

end Pf.C14g
