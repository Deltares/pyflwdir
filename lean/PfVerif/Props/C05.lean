import PfVerif.Proofs.C05
import PfVerif.Core.Folds
/-! # C05 — basin delineation partitions cells by the outlet they drain to

All theorems quantify over every network `ds`, every downstream-first order `seq` (`Topo`), every
outlet list and id vector; no bound on sizes. `Topo ds seq` is what C03 establishes for the
library's cell order and what the harness re-checks (`isTopo`) on the order actually used. -/
namespace Pf.C05
open Pf

theorem seedLabels_size (n : Nat) (outlets : List Nat) (ids : List Int) :
    (seedLabels n outlets ids).size = n :=
  foldl_inv _ (fun a : Array Int => a.size = n) _ (fun _ _ _ h => (Array.size_setIfInBounds ..).trans h) _
    Array.size_replicate

/-- every cell of the network gets the id of the first listed outlet met walking
downstream (0 if a pit is reached first). -/
theorem basins_first_outlet (ds : Array Nat) (seq outlets : List Nat) (ids : List Int)
    (htopo : Topo ds seq) (hb : ∀ i ∈ seq, i < ds.size) :
    ∀ i ∈ seq, FirstValid ds (seedLabels ds.size outlets ids) 0 i (basinsModel ds seq outlets ids)[i]! :=
  fill_first_valid ds _ 0 seq htopo (fun i hi => (seedLabels_size ..).symm ▸ hb i hi)

/-- the model agrees with the executable declarative walk (the oracle the harness applies to the
implementation's output) wherever the walk terminates -/
theorem basins_eq_spec (ds : Array Nat) (seq outlets : List Nat) (ids : List Int)
    (htopo : Topo ds seq) (hb : ∀ i ∈ seq, i < ds.size) :
    ∀ i ∈ seq, ∀ v, basinSpec ds outlets ids i = some v → (basinsModel ds seq outlets ids)[i]! = v :=
  fill_eq_walk ds _ 0 seq htopo (fun i hi => (seedLabels_size ..).symm ▸ hb i hi) _

/-- a cell that is not in the network keeps its seed (0 unless it was listed as
an outlet itself). -/
theorem basins_outside (ds : Array Nat) (seq outlets : List Nat) (ids : List Int)
    (htopo : Topo ds seq) (hb : ∀ i ∈ seq, i < ds.size) :
    ∀ i, i ∉ seq → (basinsModel ds seq outlets ids)[i]! = (seedLabels ds.size outlets ids)[i]! :=
  fill_untouched ds _ 0 seq htopo (fun i hi => (seedLabels_size ..).symm ▸ hb i hi)

/-- local recurrence of the basin map (the fact all closure properties follow from) -/
theorem basins_rec (ds : Array Nat) (seq outlets : List Nat) (ids : List Int)
    (htopo : Topo ds seq) (hb : ∀ i ∈ seq, i < ds.size) (i : Nat) (hi : i ∈ seq) :
    let lab := seedLabels ds.size outlets ids
    let M := basinsModel ds seq outlets ids
    M[i]! = if lab[i]! ≠ 0 then lab[i]! else if ds[i]! = i then 0 else M[ds[i]!]! := by
  exact fill_rec ds _ 0 seq htopo (fun i hi => (seedLabels_size ..).symm ▸ hb i hi) i hi

/-- if a labelled cell `i` receives flow from `j` then `j` is labelled too, with
`i`'s label unless `j` is itself a listed outlet. -/
theorem upstream_closed (ds : Array Nat) (seq outlets : List Nat) (ids : List Int)
    (htopo : Topo ds seq) (hb : ∀ i ∈ seq, i < ds.size) (i j : Nat) (hj : j ∈ seq)
    (hji : ds[j]! = i) (hne : j ≠ i) (hlab : (basinsModel ds seq outlets ids)[i]! ≠ 0) :
    (basinsModel ds seq outlets ids)[j]! ≠ 0 ∧
    ((seedLabels ds.size outlets ids)[j]! = 0 →
      (basinsModel ds seq outlets ids)[j]! = (basinsModel ds seq outlets ids)[i]!) := by
  have h := basins_rec ds seq outlets ids htopo hb j hj
  dsimp only at h
  have hp : ds[j]! ≠ j := hji ▸ Ne.symm hne
  by_cases h1 : (seedLabels ds.size outlets ids)[j]! = 0
  · rw [if_neg (not_not_intro h1), if_neg hp, hji] at h
    exact ⟨h ▸ hlab, fun _ => h⟩
  · rw [if_pos h1] at h
    exact ⟨h ▸ h1, fun h0 => absurd h0 h1⟩

/-- if the walk from `i` reaches a labelled cell after `k` steps through unlabelled non-pit cells, `i`
gets that cell's id; with the default call (outlets = all pits) the cell is the pit at which the flow
path ends. -/
theorem basins_pit_label (ds : Array Nat) (seq outlets : List Nat) (ids : List Int)
    (htopo : Topo ds seq) (hb : ∀ i ∈ seq, i < ds.size) :
    ∀ (k i : Nat), i ∈ seq →
      (∀ m, m < k → (seedLabels ds.size outlets ids)[iterA ds m i]! = 0 ∧ ds[iterA ds m i]! ≠ iterA ds m i) →
      (seedLabels ds.size outlets ids)[iterA ds k i]! ≠ 0 →
      (basinsModel ds seq outlets ids)[i]! = (seedLabels ds.size outlets ids)[iterA ds k i]! := by
  exact fun k i hi hpre hl =>
    (basins_first_outlet ds seq outlets ids htopo hb i hi).unique (FirstValid.of_path k i hpre hl)

/-- `region_outlets` (before sorting) reports exactly the cells of the network that carry a
positive label and whose downstream cell is itself or carries another label. -/
theorem region_outlets_char (ds : Array Nat) (seq : List Nat) (regions : Array Int) (l : Int) (idx : Nat) :
    (l, idx) ∈ regionOutletsRaw ds seq regions ↔
      idx ∈ seq ∧ regions[idx]! = l ∧ l > 0 ∧ (ds[idx]! = idx ∨ regions[ds[idx]!]! ≠ l) := by
  simp only [regionOutletsRaw, List.mem_map, List.mem_filter, List.mem_reverse, Bool.and_eq_true,
    decide_eq_true_eq, Bool.or_eq_true, beq_iff_eq, bne_iff_ne, ne_eq, Prod.mk.injEq]
  constructor
  · rintro ⟨a, ⟨ha, hpos, hout⟩, rfl, rfl⟩
    exact ⟨ha, rfl, hpos, hout⟩
  · rintro ⟨ha, rfl, hpos, hout⟩
    exact ⟨idx, ⟨ha, hpos, hout⟩, rfl, rfl⟩

/-- on a basin map whose seed labels are non-negative (`hpos`) and in which no listed outlet carries the
label its downstream cell ends up with (`hdist`), a cell of the network is reported by the outlet query
iff it is a listed outlet with a non-zero id, and it is reported with that id. -/
theorem outlet_query_exact (ds : Array Nat) (seq outlets : List Nat) (ids : List Int)
    (htopo : Topo ds seq) (hb : ∀ i ∈ seq, i < ds.size)
    -- ids are positive and a listed outlet never carries the id of the next outlet downstream
    (hpos : ∀ i ∈ seq, (seedLabels ds.size outlets ids)[i]! ≥ 0)
    (hdist : ∀ i ∈ seq, (seedLabels ds.size outlets ids)[i]! ≠ 0 → ds[i]! ≠ i →
      (basinsModel ds seq outlets ids)[ds[i]!]! ≠ (seedLabels ds.size outlets ids)[i]!)
    (l : Int) (idx : Nat) :
    (l, idx) ∈ regionOutletsRaw ds seq (basinsModel ds seq outlets ids) ↔
      idx ∈ seq ∧ (seedLabels ds.size outlets ids)[idx]! = l ∧ l ≠ 0 := by
  rw [region_outlets_char]
  refine and_congr_right fun hs => ?_
  have h := basins_rec ds seq outlets ids htopo hb idx hs
  dsimp only at h
  by_cases h1 : (seedLabels ds.size outlets ids)[idx]! = 0
  · -- not a listed outlet: the label is 0 at a pit and the label of the downstream cell elsewhere
    rw [if_neg (not_not_intro h1)] at h
    refine iff_of_false (fun ⟨hM, hl, hout⟩ => ?_) (fun ⟨hl, hne⟩ => hne (hl ▸ h1))
    by_cases h2 : ds[idx]! = idx
    · rw [if_pos h2] at h; exact Int.lt_irrefl 0 ((hM.symm.trans h) ▸ hl)
    · rw [if_neg h2] at h; exact hout.elim h2 fun ho => ho (h ▸ hM)
  · rw [if_pos h1] at h
    rw [h]
    refine and_congr_right fun hl => ⟨fun ⟨hp, _⟩ => Int.ne_of_gt hp, fun hne => ⟨?_, ?_⟩⟩
    · exact Int.lt_iff_le_and_ne.2 ⟨hl ▸ hpos idx hs, Ne.symm hne⟩
    · exact (Decidable.em (ds[idx]! = idx)).imp_right fun h2 => hl ▸ hdist idx hs h1 h2

/-! ### non-vacuity: a concrete network meets the hypotheses and the conclusions are non-trivial -/
-- chain 2 → 1 → 0 (pit), branch 3 → 1; outlets: pit 0 (id 7) and interior cell 1 (id 9)
example : Topo #[0, 0, 1, 1] [0, 1, 2, 3] := by
  have h0 : Topo #[0, 0, 1, 1] [] := Topo.nil
  have h1 : Topo #[0, 0, 1, 1] ([] ++ [0]) := Topo.snoc h0 (by decide) (Or.inl (by decide))
  have h2 : Topo #[0, 0, 1, 1] ([0] ++ [1]) := Topo.snoc h1 (by decide) (Or.inr (by decide))
  have h3 : Topo #[0, 0, 1, 1] ([0, 1] ++ [2]) := Topo.snoc h2 (by decide) (Or.inr (by decide))
  exact Topo.snoc h3 (by decide) (Or.inr (by decide))
example : basinsModel #[0, 0, 1, 1] [0, 1, 2, 3] [0, 1] [7, 9] = #[7, 9, 9, 9] := by decide
example : regionOutletsRaw #[0, 0, 1, 1] [0, 1, 2, 3] #[7, 9, 9, 9] = [(9, 1), (7, 0)] := by decide

end Pf.C05
