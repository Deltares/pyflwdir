import PfVerif.Proofs.C04_fn
import PfVerif.Model.C05
import PfVerif.Props.C04
/-! Translator tie for single-loop sweep kernels (extension `C04_fn`, hooked under C04; serves C05 / C14 too).
`harness/extract_fn.py` translates the kernels from the Python AST of /repo into `Generated/Sweeps.lean` on every
run; the obligations below state that the generated defs ARE the hand-written models the property theorems of
C04 / C05 / C14 / C08 are about - for all arrays, sequences and parameters (no domain hypothesis is needed: both
sides read with `[·]!` and write with `setIfInBounds`). Each obligation is split into a per-iteration `…_step_eq`
and the fold, so that a reordering of independent statements inside the loop body only touches the step proof. -/
namespace Pf.C04fn
open Pf Pf.SwBridge

/-! ### `streams.accuflux` -/
theorem gen_accuflux_step_eq (ds : Array Nat) (seq : List Nat) (data : Array Int) (nodata : Int)
    (accu : Array Int) (idx0 : Nat) :
    Generated.Sw.accuflux_step ds seq data nodata accu idx0 =
      stepUp ds (updAdd (linkOk ds data nodata)) idx0 accu := by
  simp only [Generated.Sw.accuflux_step, stepUp, updAdd, linkOk_iff, setIfInBounds_ite, setIfInBounds_self]
  grind

/-- the generated `accuflux` is the model the theorems of `Props/C04.lean` are about -/
theorem gen_accuflux_eq_model (ds : Array Nat) (seq : List Nat) (data : Array Int) (nodata : Int) :
    Generated.Sw.accuflux ds seq data nodata = Pf.accuflux ds seq data nodata := by
  simp only [Generated.Sw.accuflux, Pf.accuflux, sweepUp]
  exact foldl_reverse_eq_foldr _ _ (gen_accuflux_step_eq ds seq data nodata) seq data

/-! ### `streams.accuflux_ds` -/
theorem gen_accuflux_ds_step_eq (ds : Array Nat) (seq : List Nat) (data : Array Int) (nodata : Int)
    (accu : Array Int) (idx0 : Nat) :
    Generated.Sw.accuflux_ds_step ds seq data nodata accu idx0 =
      stepDown ds (gAddDown ds (linkOk ds data nodata)) accu idx0 := by
  simp only [Generated.Sw.accuflux_ds_step, stepDown, gAddDown, linkOk_iff, setIfInBounds_ite, setIfInBounds_self]
  grind

theorem gen_accuflux_ds_eq_model (ds : Array Nat) (seq : List Nat) (data : Array Int) (nodata : Int) :
    Generated.Sw.accuflux_ds ds seq data nodata = Pf.accufluxDs ds seq data nodata := by
  simp only [Generated.Sw.accuflux_ds, Pf.accufluxDs, sweepDown]
  exact foldl_congr_step _ _ (gen_accuflux_ds_step_eq ds seq data nodata) seq data

/-! ### `core.fillnodata_upstream` (C05: basins, C14) -/
theorem gen_fillnodata_upstream_step_eq (ds : Array Nat) (seq : List Nat) (data : Array Int) (nodata : Int)
    (out : Array Int) (idx0 : Nat) :
    Generated.Sw.fillnodata_upstream_step ds seq data nodata out idx0 = stepDown ds (gFillNd nodata) out idx0 := by
  simp only [Generated.Sw.fillnodata_upstream_step, stepDown, gFillNd, setIfInBounds_ite, setIfInBounds_self]
  grind

/-- the generated `fillnodata_upstream` is the model `fill_first_valid` (Core/FirstOutlet) and C05 are about -/
theorem gen_fillnodata_upstream_eq_model (ds : Array Nat) (seq : List Nat) (data : Array Int) (nodata : Int) :
    Generated.Sw.fillnodata_upstream ds seq data nodata = Pf.fillnodataUpstream ds seq data nodata := by
  simp only [Generated.Sw.fillnodata_upstream, Pf.fillnodataUpstream, sweepDown]
  exact foldl_congr_step _ _ (gen_fillnodata_upstream_step_eq ds seq data nodata) seq data

/-- `basins.basins` = seeding + the generated kernel (the seeding `basins[idxs_pit] = ids` is outside the fragment) -/
theorem gen_fillnodata_upstream_basins (ds : Array Nat) (seq outlets : List Nat) (ids : List Int) :
    Generated.Sw.fillnodata_upstream ds seq (seedLabels ds.size outlets ids) 0 = basinsModel ds seq outlets ids := by
  rw [gen_fillnodata_upstream_eq_model]; rfl

/-! ### `core.upstream_count` (the missing value `mv` is `ds.size` under the harness' canonicalisation) -/
theorem gen_upstream_count_step_eq (ds : Array Nat) (mask : Option (Array Bool)) (nup : Array Int) (idx0 : Nat) :
    Generated.Sw.upstream_count_step ds ds.size mask nup idx0 =
      (let d := ds[idx0]!
       if d ≠ ds.size then
         let nup := nup.setIfInBounds idx0 (max nup[idx0]! 0)
         if idx0 ≠ d ∧ maskAt mask idx0 then nup.setIfInBounds d (max nup[d]! 0 + 1) else nup
       else nup) := by
  simp only [Generated.Sw.upstream_count_step, mask_valid]
  grind

theorem gen_upstream_count_eq_model (ds : Array Nat) (mask : Option (Array Bool)) :
    Generated.Sw.upstream_count ds ds.size mask = Pf.upstreamCount ds mask := by
  simp only [Generated.Sw.upstream_count, Pf.upstreamCount]
  exact foldl_congr_step _ _ (gen_upstream_count_step_eq ds mask) _ _

/-! ### `arithmetics.upstream_sum` (C14) -/
theorem gen_upstream_sum_step_eq (ds : Array Nat) (data : Array Int) (nodata : Int) (arr : Array Int) (idx0 : Nat) :
    Generated.Sw.upstream_sum_step ds data nodata ds.size arr idx0 = upstreamSumStep ds data nodata arr idx0 := by
  simp only [Generated.Sw.upstream_sum_step, upstreamSumStep]
  grind

/-- sizes equal is the documented domain (`range(data.size)` in the code, `range ds.size` in the model) -/
theorem gen_upstream_sum_eq_model (ds : Array Nat) (data : Array Int) (nodata : Int) (hsz : data.size = ds.size) :
    Generated.Sw.upstream_sum ds data nodata ds.size = Pf.upstreamSumModel ds data nodata := by
  simp only [Generated.Sw.upstream_sum, Pf.upstreamSumModel, hsz]
  exact foldl_congr_step _ _ (gen_upstream_sum_step_eq ds data nodata) _ _

/-! ### `core.main_upstream` (C08 / C14 windows) -/
theorem gen_main_upstream_step_eq (ds : Array Nat) (uparea : Array Int) (upaMin : Int)
    (st : Array Nat × Array Int) (idx0 : Nat) :
    Generated.Sw.main_upstream_step ds uparea upaMin ds.size st idx0 =
      (let (um, upa) := st
       let d := ds[idx0]!
       if d = idx0 ∨ d = ds.size then st
       else if uparea[idx0]! > upa[d]! then (um.setIfInBounds d idx0, upa.setIfInBounds d uparea[idx0]!)
       else st) := by
  obtain ⟨um, upa⟩ := st
  simp only [Generated.Sw.main_upstream_step]
  grind

theorem gen_main_upstream_eq_model (ds : Array Nat) (uparea : Array Int) (upaMin : Int) :
    Generated.Sw.main_upstream ds uparea upaMin ds.size = Pf.mainUpstream ds uparea upaMin := by
  simp only [Generated.Sw.main_upstream, Pf.mainUpstream]
  exact congrArg Prod.fst (foldl_congr_step _ _ (gen_main_upstream_step_eq ds uparea upaMin) _ _)

/-! ### the property theorems, transported to the translated code -/

/-- C04 for the code as translated: on a loop-free network whose order covers the valid cells the GENERATED
`accuflux` computes the brute-force catchment sum (the oracle of the C04 harness) -/
theorem gen_accuflux_eq_spec (ds : Array Nat) (seq : List Nat) (data : Array Int) (nodata : Int)
    (htopo : Topo ds seq) (hcov : coversValid ds seq = true) (hd : data.size = ds.size)
    (fuel : Nat) (hf : seq.length ≤ fuel) (j : Nat) (hj : j ∈ seq) :
    (Generated.Sw.accuflux ds seq data nodata)[j]! = catchSumB ds (linkOk ds data nodata) data fuel j := by
  rw [gen_accuflux_eq_model]; exact Pf.C04.accuflux_eq_spec ds seq data nodata htopo hcov hd fuel hf j hj

/-- C05 / C14 for the code as translated: every cell of the order ends with the first valid value downstream -/
theorem gen_fillnodata_upstream_first_valid (ds : Array Nat) (seq : List Nat) (data : Array Int) (nd : Int)
    (htopo : Topo ds seq) (hb : ∀ i ∈ seq, i < data.size) :
    ∀ i ∈ seq, FirstValid ds data nd i (Generated.Sw.fillnodata_upstream ds seq data nd)[i]! := by
  rw [gen_fillnodata_upstream_eq_model]; exact fill_first_valid ds data nd seq htopo hb

/-! ### non-vacuity: the generated defs compute on a concrete network
`4 → 2 → 0 (pit)`, `3 → 2`, `1` missing (`ds[1] = 5 = n`); order `[0, 2, 3, 4]` -/
example : Generated.Sw.accuflux #[0, 5, 0, 2, 2] [0, 2, 3, 4] #[1, 7, 2, -9, 4] (-9) = #[7, 7, 6, -9, 4] := by decide
example : Generated.Sw.accuflux_ds #[0, 5, 0, 2, 2] [0, 2, 3, 4] #[1, 7, 2, -9, 4] (-9) = #[1, 7, 3, -9, 7] := by decide
example : Generated.Sw.fillnodata_upstream #[0, 5, 0, 2, 2] [0, 2, 3, 4] #[3, 0, 0, 8, 0] 0 = #[3, 0, 3, 8, 3] := by
  decide
example : Generated.Sw.upstream_count #[0, 5, 0, 2, 2] 5 none = #[1, -9, 2, 0, 0] := by decide
example : Generated.Sw.upstream_count #[0, 5, 0, 2, 2] 5 (some #[true, true, true, false, true]) = #[1, -9, 1, 0, 0] := by
  decide
example : Generated.Sw.upstream_sum #[0, 5, 0, 2, 2] #[1, 7, 2, -9, 4] (-9) 5 = #[2, 0, 4, -9, 0] := by decide
example : Generated.Sw.main_upstream #[0, 5, 0, 2, 2] #[9, 0, 5, 2, 2] 0 5 = #[2, 5, 3, 5, 5] := by decide
/-- the hypotheses of `gen_accuflux_eq_spec` are satisfiable on that network -/
example : isTopo #[0, 5, 0, 2, 2] [0, 2, 3, 4] = true ∧ coversValid #[0, 5, 0, 2, 2] [0, 2, 3, 4] = true := by decide

end Pf.C04fn
