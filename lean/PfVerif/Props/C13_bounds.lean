import PfVerif.Proofs.C13_boundsWalk
import PfVerif.Proofs.C13_boundsRank
import PfVerif.Props.C03
/-! # C13_bounds - the core kernels never index outside an array

`Model/Core.lean` reads arrays with `a[i]!`, which returns a default outside the array; "in bounds" is
therefore a *statement* about the models, made here. `Model/C13_bounds.lean` repeats every kernel model
of `pyflwdir/core.py` loop for loop with an access log: every scalar read / write `arr[i]` of the Python
source (in its short-circuit evaluation order) adds `(arr, i, size of arr at that moment)`.

For each kernel two theorems, for every input (no size bound):
* `…_log_eq`     the logging variant returns exactly the model the other properties use;
* `…_in_bounds`  on the documented domain - `WF ds` (entries are cell indices or the missing value `n`; a
  cell never points at a missing cell), start indices `< n`, masks / fields of size `n` - every logged index
  is `<` the size of the array it addresses (`InB`). In particular the missing value `n` is never used as an
  index (defect class F16c: `strord[idx_ds]` evaluated before `idx_ds == mv`).

The NEGATIVE side (kernel-checked examples at the end): the historical evaluation order does log an
out-of-range index on a network with a cell outside the network. -/
namespace Pf.C13b
open Pf

/-! ### `upstream_count` -/

theorem upstream_count_log_eq (ds : Array Nat) (mask : Option (Array Bool)) :
    (upstreamCountL ds mask).1 = upstreamCount ds mask := by
  unfold upstreamCountL upstreamCount
  refine foldl_fst _ (upstreamCountStepL ds mask) (fun st x => ?_) _ _
  simp only [upstreamCountStepL, apply_ite Prod.fst]

theorem upstream_count_in_bounds (ds : Array Nat) (hwf : WF ds) (mask : Option (Array Bool))
    (hm : ∀ m, mask = some m → m.size = ds.size) : InB (upstreamCountL ds mask).2 := by
  unfold upstreamCountL
  refine (foldl_inv (upstreamCountStepL ds mask) (fun st => st.1.size = ds.size ∧ InB st.2) _ ?_ _ ?_).2
  · intro st x hx h
    exact upstreamCountStepL_inv ds hwf mask hm st x (List.mem_range.1 hx) h
  · simp

/-! ### `main_upstream` -/

theorem main_upstream_log_eq (ds : Array Nat) (uparea : Array Int) (upaMin : Int) :
    (mainUpstreamL ds uparea upaMin).1 = mainUpstream ds uparea upaMin := by
  unfold mainUpstreamL mainUpstream
  refine congrArg Prod.fst (foldl_fst _ (mainUpstreamStepL ds uparea) (fun st x => ?_) _ _)
  simp only [mainUpstreamStepL, apply_ite Prod.fst]

theorem main_upstream_in_bounds (ds : Array Nat) (hwf : WF ds) (uparea : Array Int) (hu : uparea.size = ds.size)
    (upaMin : Int) : InB (mainUpstreamL ds uparea upaMin).2 := by
  unfold mainUpstreamL
  dsimp only
  refine (foldl_inv (mainUpstreamStepL ds uparea)
    (fun st => st.1.1.size = ds.size ∧ st.1.2.size = ds.size ∧ InB st.2) _ ?_ _ ?_).2.2
  · intro st x hx h
    exact mainUpstreamStepL_inv ds hwf uparea hu st x (List.mem_range.1 hx) h
  · simp

/-- the result of `main_upstream` is again an index array of size `n` (entries: cells or the missing value),
so it is a legal `idxs_nxt` of `_trace` and a legal `idxs_us_main` of `_window` -/
theorem main_upstream_idx_array (ds : Array Nat) (uparea : Array Int) (upaMin : Int) :
    (mainUpstream ds uparea upaMin).size = ds.size ∧ IdxArr (mainUpstream ds uparea upaMin) := by
  have key : (mainUpstream ds uparea upaMin).size = ds.size ∧
      ∀ i : Nat, (mainUpstream ds uparea upaMin)[i]! ≤ ds.size := by
    unfold mainUpstream
    apply foldl_inv (P := fun st : Array Nat × Array Int => st.1.size = ds.size ∧ ∀ i : Nat, st.1[i]! ≤ ds.size)
    · rintro ⟨um, upa⟩ x hx ⟨h1, h2⟩
      have hx' : x < ds.size := List.mem_range.1 hx
      dsimp only
      split
      · exact ⟨h1, h2⟩
      · split
        · refine ⟨by simp [h1], fun i => ?_⟩
          dsimp only
          rw [get!_setIfInBounds]
          split
          · omega
          · exact h2 i
        · exact ⟨h1, h2⟩
    · refine ⟨by simp, fun i => ?_⟩
      by_cases hi : i < ds.size
      · simp [hi]
      · simp [hi]
  exact ⟨key.1, fun i _ => key.1 ▸ key.2 i⟩

/-! ### `pit_indices` -/

theorem pit_indices_log_eq (ds : Array Nat) : (pitIndicesL ds).1 = pitIndices ds := by
  unfold pitIndicesL pitIndices
  induction List.range ds.size with
  | nil => rfl
  | cons i l ih => simp only [List.foldr_cons, List.filter_cons, ih]

/-- no hypothesis at all: `pit_indices` reads `idxs_ds[idx0]` for `idx0 in range(size)` only -/
theorem pit_indices_in_bounds (ds : Array Nat) : InB (pitIndicesL ds).2 := by
  unfold pitIndicesL
  have : ∀ l : List Nat, (∀ i ∈ l, i < ds.size) →
      InB (l.foldr (fun i (st : List Nat × List Acc) =>
        (if ds[i]! == i then i :: st.1 else st.1, acc Arr.ds ds i :: st.2)) ([], [])).2 := by
    intro l
    induction l with
    | nil => intro _; exact InB_nil
    | cons i l ih =>
      exact fun h => InB_acc _ _ _ _ (h i (List.mem_cons_self ..)) (ih fun j hj => h j (List.mem_cons_of_mem _ hj))
  exact this _ (fun i hi => List.mem_range.1 hi)

/-! ### `_trace` / `path` -/

theorem trace_log_eq (nxt : Array Nat) (mask : Option (Array Bool)) (maxLen : Option Int) (step : Nat → Nat → Int)
    (fuel idx0 : Nat) :
    (traceFromL nxt mask maxLen step fuel idx0).map Prod.fst = traceFrom nxt mask maxLen step fuel idx0 :=
  traceL_fst nxt mask maxLen step fuel idx0 [idx0] 0 []

/-- `_trace` over ANY index array (`idxs_ds` downstream, `idxs_us_main` upstream): entries are slots or the
missing value, the start is a slot, the mask has the size of the array -/
theorem trace_in_bounds (nxt : Array Nat) (hn : IdxArr nxt) (mask : Option (Array Bool))
    (hm : ∀ m, mask = some m → m.size = nxt.size) (maxLen : Option Int) (step : Nat → Nat → Int)
    (fuel idx0 : Nat) (hi : idx0 < nxt.size) (r : (List Nat × Int) × List Acc)
    (h : traceFromL nxt mask maxLen step fuel idx0 = some r) : InB r.2 :=
  traceL_inb nxt hn mask hm maxLen step fuel idx0 [idx0] 0 [] r hi InB_nil h

/-- downstream trace on a well-formed network -/
theorem trace_down_in_bounds (ds : Array Nat) (hwf : WF ds) (mask : Option (Array Bool))
    (hm : ∀ m, mask = some m → m.size = ds.size) (maxLen : Option Int) (step : Nat → Nat → Int)
    (fuel idx0 : Nat) (hi : idx0 < ds.size) (r : (List Nat × Int) × List Acc)
    (h : traceFromL ds mask maxLen step fuel idx0 = some r) : InB r.2 :=
  trace_in_bounds ds (IdxArr.of_wf hwf) mask hm maxLen step fuel idx0 hi r h

/-- upstream trace along `main_upstream` of any network (no well-formedness needed for the trace itself) -/
theorem trace_up_in_bounds (ds : Array Nat) (uparea : Array Int) (upaMin : Int) (mask : Option (Array Bool))
    (hm : ∀ m, mask = some m → m.size = ds.size) (maxLen : Option Int) (step : Nat → Nat → Int)
    (fuel idx0 : Nat) (hi : idx0 < ds.size) (r : (List Nat × Int) × List Acc)
    (h : traceFromL (mainUpstream ds uparea upaMin) mask maxLen step fuel idx0 = some r) : InB r.2 := by
  obtain ⟨hsz, hidx⟩ := main_upstream_idx_array ds uparea upaMin
  exact trace_in_bounds _ hidx mask (fun m hm' => (hm m hm').trans hsz.symm) maxLen step fuel idx0 (hsz ▸ hi) r h

/-! ### `_window` -/

theorem window_down_log_eq (ds : Array Nat) (strord : Option (Array Int)) (s0 : Int) (w k pos idx0 : Nat)
    (acc0 : List Nat) (log : List Acc) :
    (windowDownL ds strord s0 w k pos idx0 acc0 log).1 = windowDown ds strord s0 k idx0 acc0 := by
  induction k generalizing pos idx0 acc0 log with
  | zero => rfl
  | succ k ih =>
    simp only [windowDownL, windowDown, apply_ite Prod.fst, ih, ← or_assoc]
    -- the logging variant tests `idx_ds == idx0 or idx_ds == mv` and `strord[idx_ds] > strord0` one after the other
    by_cases h1 : ds[idx0]! = idx0 ∨ ds[idx0]! = ds.size
    · simp only [h1, true_or, if_true]
    · simp only [h1, false_or, if_false]
      rfl

theorem window_log_eq (ds usMain : Array Nat) (strord : Option (Array Int)) (n idx0 : Nat) :
    (windowL ds usMain strord n idx0).1 = window ds usMain strord n idx0 := by
  unfold windowL window
  dsimp only
  rw [window_down_log_eq, windowUpL_fst]
  cases strord <;> rfl

/-- the downstream half: the missing value is never used as an index of `strord` (nor of `idxs_ds`) -/
theorem window_down_in_bounds (ds : Array Nat) (hwf : WF ds) (strord : Option (Array Int))
    (hs : ∀ s, strord = some s → s.size = ds.size) (s0 : Int) (n idx0 : Nat) (hi : idx0 < ds.size) :
    InB (windowDownL ds strord s0 n n (n + 1) idx0 [] []).2 :=
  windowDownL_inb ds (IdxArr.of_wf hwf) strord hs s0 n n (n + 1) idx0 [] [] hi (by omega) InB_nil

/-- the whole `_window` (both halves, the `2n+1` result slots included) -/
theorem window_in_bounds (ds usMain : Array Nat) (hwf : WF ds) (hus : IdxArr usMain) (hsz : usMain.size = ds.size)
    (strord : Option (Array Int)) (hs : ∀ s, strord = some s → s.size = ds.size) (n idx0 : Nat)
    (hi : idx0 < ds.size) : InB (windowL ds usMain strord n idx0).2 := by
  unfold windowL
  dsimp only
  apply windowUpL_inb ds usMain hus hsz n n idx0 _ _ hi (Nat.le_refl _)
  simp only [InB_cons]
  refine ⟨by omega, ?_⟩
  apply windowDownL_inb ds (IdxArr.of_wf hwf) strord hs _ n n (n + 1) idx0 _ _ hi (by omega)
  apply InB_accOpt _ _ _ _ _ hs hi
  simp only [InB_cons, InB_nil, and_true]
  omega

/-- `_window` with the library's own `main_upstream` -/
theorem window_main_in_bounds (ds : Array Nat) (hwf : WF ds) (uparea : Array Int) (upaMin : Int)
    (strord : Option (Array Int)) (hs : ∀ s, strord = some s → s.size = ds.size) (n idx0 : Nat)
    (hi : idx0 < ds.size) : InB (windowL ds (mainUpstream ds uparea upaMin) strord n idx0).2 :=
  window_in_bounds ds _ hwf (main_upstream_idx_array ds uparea upaMin).2 (main_upstream_idx_array ds uparea upaMin).1
    strord hs n idx0 hi

/-! ### `rank`, `loop_indices` -/

theorem rank_log_eq (ds : Array Nat) : (rankL ds).map Prod.fst = rank ds := by
  unfold rankL rank
  refine foldlM_fst _ (rankStepL ds) (fun st x => ?_) _ _
  obtain ⟨⟨ranks, n⟩, log⟩ := st
  unfold rankStepL
  dsimp only
  by_cases h1 : ds[x]! = ds.size
  · rw [if_pos h1, if_pos (Or.inl h1)]; rfl
  · rw [if_neg h1]
    by_cases h2 : ranks[x]! ≠ -9999
    · rw [if_pos h2, if_pos (Or.inr h2)]; rfl
    · rw [if_neg h2, if_neg (by rintro (h | h); exact h1 h; exact h2 h)]
      rw [← rankWalkL_fst ds ranks (ds.size + 1) x ds[x]! [x] (acc Arr.ranks ranks x :: acc Arr.ds ds x :: log)]
      cases rankWalkL ds ranks (ds.size + 1) x ds[x]! [x] (acc Arr.ranks ranks x :: acc Arr.ds ds x :: log) <;> rfl

/-- every access of `rank` (outer loop, the `while True` walk, both pop loops) is in bounds on a well-formed
network, cycles included -/
theorem rank_in_bounds (ds : Array Nat) (hwf : WF ds) (r : (Array Int × Nat) × List Acc)
    (h : rankL ds = some r) : InB r.2 := (rankL_inb ds hwf r h).2

/-- and there is such a run (the logging variant returns whenever the model does: always, C13.rank_total) -/
theorem rank_log_total (ds : Array Nat) (hwf : WF ds) : (rankL ds).isSome = true := by
  have h := rank_log_eq ds
  obtain ⟨r, c, hr, _⟩ := C03.rank_cert ds hwf
  cases hl : rankL ds with
  | none => rw [hl, hr] at h; simp at h
  | some _ => rfl

theorem loop_indices_log_eq (ds : Array Nat) : (loopIndicesL ds).map Prod.fst = loopIndices ds := by
  unfold loopIndicesL loopIndices
  rw [← rank_log_eq ds]
  cases rankL ds <;> rfl

theorem loop_indices_in_bounds (ds : Array Nat) (hwf : WF ds) (r : List Nat × List Acc)
    (h : loopIndicesL ds = some r) : InB r.2 := by
  unfold loopIndicesL at h
  cases hr : rankL ds with
  | none => rw [hr] at h; simp at h
  | some rr =>
    rw [hr] at h
    simp only [Option.map_some, Option.some.injEq] at h
    subst h
    obtain ⟨hsz, hl⟩ := rankL_inb ds hwf rr hr
    simp only [InB_append, hl, and_true]
    intro e he
    obtain ⟨i, hi, rfl⟩ := List.mem_map.1 he
    simp only [acc_idx, acc_size, hsz]
    exact List.mem_range.1 hi

/-! ### `idxs_seq`

`idxs_seq[i]` is read at the start of iteration `i`, `idxs_seq[j]` is written for every enqueued cell; both stay
inside the `n` slots because processed + waiting cells are distinct cells (loop invariant `WalkInv` of
`Proofs/C03Walk.lean`). The 2-D `idxs_us` matrix of `upstream_matrix` is abstracted by `upsOf` in the model
(its accesses are explored by the harness only). -/

theorem idxs_seq_log_eq (ds : Array Nat) (pits : List Nat) : (idxsSeqL ds pits).1 = idxsSeq ds pits :=
  seqWalkLoopL_fst ds ds.size pits [] _

/-- `idxs_seq` from ANY start list satisfying the loop invariant (distinct pits of the network) -/
theorem idxs_seq_in_bounds_of_inv (ds : Array Nat) (pits : List Nat) (h : WalkInv ds ds.size pits []) :
    InB (idxsSeqL ds pits).2 := by
  unfold idxsSeqL
  have hlen := WalkInv.length_le h
  exact seqWalkLoopL_inb ds _ _ _ _ h (InB_enqLog _ _ _ _ (by simpa using hlen) InB_nil)

/-- the call the library makes, `idxs_seq(idxs_ds, pit_indices(idxs_ds))`: no hypothesis on the network at all
(loops, cells outside the network) -/
theorem idxs_seq_in_bounds (ds : Array Nat) : InB (idxsSeqL ds (pitIndices ds)).2 :=
  idxs_seq_in_bounds_of_inv ds _ (walkInv_init ds)

/-- a row of `upstream_matrix` is built by reading `idxs_ds` at every cell: in bounds without hypothesis -/
theorem ups_of_in_bounds (ds : Array Nat) (j : Nat) : (upsOfL ds j).1 = upsOf ds j ∧ InB (upsOfL ds j).2 := by
  refine ⟨rfl, ?_⟩
  intro e he
  obtain ⟨i, hi, rfl⟩ := List.mem_map.1 he
  exact List.mem_range.1 hi

/-! ### non-vacuity and the negative side

network of 10 cells with a 3-cycle (0,1,2), a pit (3), a confluence at 3 and at 5, a second pit (7) and a
cell outside the network (9, `ds = 10`) -/

def exDs : Array Nat := #[1, 2, 0, 3, 3, 6, 5, 7, 5, 10]
def exMask : Array Bool := #[false, false, true, false, false, false, false, false, false, false]
def exStr : Array Int := #[1, 1, 1, 2, 1, 2, 2, 1, 1, -1]

example : WF exDs := (C03.wfB_iff _).1 (by decide)
example : InB (upstreamCountL exDs (some exMask)).2 ∧ (upstreamCountL exDs (some exMask)).2.length > 20 := by
  decide +kernel
example : InB (mainUpstreamL exDs #[3, 3, 3, 2, 1, 3, 3, 1, 1, 0] 0).2 := by decide +kernel
example : (traceFromL exDs (some exMask) none (fun _ _ => 1) 11 4).map (·.1.1) = some [4, 3] := by decide +kernel
example : ∃ r, traceFromL exDs (some exMask) none (fun _ _ => 1) 11 0 = some r ∧ InB r.2 ∧ r.1.1 = [0, 1, 2] := by
  decide +kernel
example : ∃ r, rankL exDs = some r ∧ InB r.2 ∧ r.1.2 = 3 := by decide +kernel
example : InB (idxsSeqL exDs (pitIndices exDs)).2 ∧ (idxsSeqL exDs (pitIndices exDs)).1 = [3, 7, 4] := by decide +kernel
example : InB (windowL exDs (mainUpstream exDs #[3, 3, 3, 2, 1, 3, 3, 1, 1, 0] 0) (some exStr) 2 8).2 := by
  decide +kernel

/-! NEGATIVE side. `exDs` is well-formed and has a cell outside the network (cell 9, `ds[9] = 10 = n`). A start
index only has to be `< n`, so cell 9 is a legal start of `_window` / `_trace`: there `idx_ds` is the missing
value at the first iteration. -/

-- NEGATIVE 1 (F16c): testing `strord[d] > strord0` before `d = n` logs the access `strord[10]` of
-- a 10-slot array: out of range
example : ¬ InB (windowDownBadL exDs (some exStr) (-1) 2 2 3 9 [] []).2 := by decide +kernel
example : (⟨Arr.strord, 10, 10⟩ : Acc) ∈ (windowDownBadL exDs (some exStr) (-1) 2 2 3 9 [] []).2 := by decide +kernel
-- with the order of the code under verification (`d = n` first) the same input stays in bounds
-- (an instance of `window_down_in_bounds`)
example : InB (windowDownL exDs (some exStr) (-1) 2 2 3 9 [] []).2 := by decide +kernel
-- the defect is invisible in the result (`a[n]!` is a default value): both variants return the same cells,
-- here and from a start inside the network
example : (windowDownBadL exDs (some exStr) (-1) 2 2 3 9 [] []).1 = (windowDownL exDs (some exStr) (-1) 2 2 3 9 [] []).1 ∧
    (windowDownBadL exDs (some exStr) 2 2 2 3 8 [] []).1 = (windowDownL exDs (some exStr) 2 2 2 3 8 [] []).1 ∧
    (windowDownL exDs (some exStr) 2 2 2 3 8 [] []).1 = [5, 6] := by
  decide +kernel
-- away from cells outside the network the historical order is in bounds too (why tests never saw it)
example : InB (windowDownBadL exDs (some exStr) 2 2 2 3 8 [] []).2 := by decide +kernel

-- NEGATIVE 2: a trace that reads `mask[idx1]` before testing `idx1 == mv` logs `mask[10]` of a 10-slot mask
example : ∃ r, traceBadL exDs exMask 11 9 [9] [] = some r ∧ ¬ InB r.2 ∧ (⟨Arr.mask, 10, 10⟩ : Acc) ∈ r.2 := by
  decide +kernel
example : ∃ r, traceFromL exDs (some exMask) none (fun _ _ => 1) 11 9 = some r ∧ InB r.2 ∧ r.1.1 = [9] := by
  decide +kernel

end Pf.C13b
