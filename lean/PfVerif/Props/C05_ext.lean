import PfVerif.Proofs.C05_extOut
import PfVerif.Proofs.C05_extIn
import PfVerif.Proofs.C05_extInter
import PfVerif.Proofs.C05_extRegion
import PfVerif.Props.C05
import PfVerif.Props.C11
/-! # C05 extension — region and mask operations next to basin delineation

Theorems about the models of `Model/C05_ext.lean` (and `Pf.outflowIdxs` / `Pf.inflowIdxs` of
`Model/Core.lean`): `core.outflow_idxs`, `core.inflow_idxs`, `basins.interbasin_mask`,
`regions.region_sum / region_area / region_slices / region_bounds`, `FlwdirRaster.basin_bounds` and the
snapping path of `FlwdirRaster.basins(idxs|xy, streams=mask)`.

All theorems quantify over every network `ds`, every downstream-first order `seq` (`Topo`, established
by C03 and re-checked with `isTopo` on the order the implementation used), every region / stream /
label raster and every unrotated transform (both signs of the cell sizes); no bound on sizes.

Vocabulary: `exitCell i` = `i` is in the region and its downstream cell is itself or outside;
`enterCell i` = `i` is a non-pit cell outside the region whose downstream cell is inside;
`NoExit j` = no exit cell on the whole flow path from `j`; `firstKid seq j` = the first cell of `seq`
draining into `j`; `ChainClear j` = no entering cell on the chain of first kids above `j`;
`InterOK mask0 i` = the flow path from `i` never steps from outside the region into it and ends in a
pit whose start value `mask0` is true. -/
namespace Pf.C05x
open Pf

/-! ## 0. `_check_data` -/

/-- `_check_data(flatten=True)`: a size-1 array is broadcast, an array of the network size is taken
as it is, every other size is rejected (`ValueError`) -/
theorem checkData_spec {α : Type} [Inhabited α] (n : Nat) (data : Array α) :
    checkData n data =
      if data.size = 1 then some (Array.replicate n data[0]!)
      else if data.size = n then some data else none := by
  unfold checkData
  by_cases h1 : data.size = 1
  · have h0 : 0 < data.size := by omega
    simp [h1]
  · simp [h1]

theorem nodup_reverse' {l : List Nat} (h : l.Nodup) : l.reverse.Nodup :=
  Pf.nodup_reverse' h

/-! ## 1. `outflow_idxs` -/

/-- `outflow_idxs` reports exactly the cells of the network that lie in the region,
drain to a pit or out of the region, and have no such cell anywhere further down their flow path
("most downstream cells within region") -/
theorem outflow_mem_iff (ds : Array Nat) (seq : List Nat) (region : Array Bool) (htopo : Topo ds seq)
    (hb : ∀ i ∈ seq, i < ds.size) (x : Nat) :
    x ∈ outflowIdxs ds seq region ↔
      x ∈ seq ∧ exitCell ds region x = true ∧ (ds[x]! = x ∨ NoExit ds region ds[x]!) := by
  rw [outflowIdxs_eq_filter ds region seq htopo hb, List.mem_filter, outTest, Bool.and_eq_true,
    Bool.or_eq_true, beq_iff_eq]
  exact and_congr_right fun hx => and_congr_right fun _ =>
    or_congr_right (outflow_mask_iff ds region seq htopo _ (allTrue_start hb).1 (allTrue_start hb).2 _
      (htopo.ds_mem x hx))

/-- the reported cells come in the order of `seq`, each once -/
theorem outflow_sublist (ds : Array Nat) (seq : List Nat) (region : Array Bool) (htopo : Topo ds seq)
    (hb : ∀ i ∈ seq, i < ds.size) :
    (outflowIdxs ds seq region).Sublist seq ∧ (outflowIdxs ds seq region).Nodup := by
  rw [outflowIdxs_eq_filter ds region seq htopo hb]
  exact ⟨List.filter_sublist, List.filter_sublist.nodup htopo.nodup⟩

/-- no two reported outflow cells lie on one flow path -/
theorem outflow_antichain (ds : Array Nat) (seq : List Nat) (region : Array Bool) (htopo : Topo ds seq)
    (hb : ∀ i ∈ seq, i < ds.size) (x y : Nat) (k : Nat)
    (hx : x ∈ outflowIdxs ds seq region) (hy : y ∈ outflowIdxs ds seq region)
    (hxy : iterA ds (k+1) x = y) : ds[x]! = x := by
  obtain ⟨_, _, h3⟩ := (outflow_mem_iff ds seq region htopo hb x).1 hx
  obtain ⟨_, hy2, _⟩ := (outflow_mem_iff ds seq region htopo hb y).1 hy
  rcases h3 with h3 | h3
  · exact h3
  · have := h3 k
    simp only [iterA] at hxy
    rw [hxy, hy2] at this; cases this

/-- the order-independent walk the harness applies to the implementation's output decides the
condition of `outflow_mem_iff` wherever it ends -/
theorem outflow_walk_sound (ds : Array Nat) (region : Array Bool) (fuel j : Nat) (b : Bool)
    (h : walkClear ds region fuel j = some b) : b = true ↔ NoExit ds region j := by
  induction fuel generalizing j with
  | zero => cases h
  | succ f ih =>
    rw [NoExit_iff]
    simp only [walkClear] at h
    split at h
    · next he => cases h; exact iff_of_false Bool.false_ne_true fun hn => Bool.noConfusion (he.symm.trans hn.1)
    · next he =>
      have he := Bool.eq_false_iff.2 he
      split at h
      · next hp => cases h; exact iff_of_true rfl ⟨he, Or.inl hp⟩
      · next hp =>
        rw [ih _ h]
        exact ⟨fun hn => ⟨he, Or.inr hn⟩, fun hn => hn.2.resolve_left hp⟩

/-! ## 2. `inflow_idxs` -/

/-- `inflow_idxs` reports exactly the non-pit cells of the network outside
the region whose downstream cell is inside and above which the chain of first inflowing cells
(first in `seq`) contains no such cell. (The mask of the loop is overwritten, not and-ed, by each
inflowing cell, so the result depends on the order of the cells at confluences.) -/
theorem inflow_mem_iff (ds : Array Nat) (seq : List Nat) (region : Array Bool) (htopo : Topo ds seq)
    (hb : ∀ i ∈ seq, i < ds.size) (x : Nat) :
    x ∈ inflowIdxs ds seq region ↔
      x ∈ seq ∧ enterCell ds region x = true ∧ ChainClear ds seq region x := by
  rw [inflowIdxs_eq_filter ds region seq htopo, List.mem_filter, List.mem_reverse, Bool.and_eq_true]
  exact and_congr_right fun hx => and_congr_right fun _ =>
    inflow_mask_iff ds region seq htopo _ (allTrue_start hb).1 (allTrue_start hb).2 x hx

/-- the reported cells come in up- to downstream order (reversed `seq`), each once -/
theorem inflow_sublist (ds : Array Nat) (seq : List Nat) (region : Array Bool) (htopo : Topo ds seq)
    (hb : ∀ i ∈ seq, i < ds.size) :
    (inflowIdxs ds seq region).Sublist seq.reverse ∧ (inflowIdxs ds seq region).Nodup := by
  rw [inflowIdxs_eq_filter ds region seq htopo]
  exact ⟨List.filter_sublist, List.filter_sublist.nodup (nodup_reverse' htopo.nodup)⟩

/-- upper bound whatever the order: every reported cell is a non-pit cell outside the region that
drains into the region (so the reported cells are *not* "within region", unlike the docstring says) -/
theorem inflow_entering (ds : Array Nat) (seq : List Nat) (region : Array Bool) (htopo : Topo ds seq)
    (hb : ∀ i ∈ seq, i < ds.size) (x : Nat) (hx : x ∈ inflowIdxs ds seq region) :
    x ∈ seq ∧ ds[x]! ≠ x ∧ region[ds[x]!]! = true ∧ region[x]! = false := by
  obtain ⟨h1, h2, _⟩ := (inflow_mem_iff ds seq region htopo hb x).1 hx
  simp only [enterCell, Bool.and_eq_true, bne_iff_ne, ne_eq, Bool.not_eq_true'] at h2
  exact ⟨h1, h2.1.1, h2.1.2, h2.2⟩

/-- lower bound whatever the order: an entering cell with no entering cell anywhere upstream of it
is reported whatever the order of the cells -/
theorem inflow_must (ds : Array Nat) (seq : List Nat) (region : Array Bool) (htopo : Topo ds seq)
    (hb : ∀ i ∈ seq, i < ds.size) (x : Nat) (hx : x ∈ seq) (he : enterCell ds region x = true)
    (hup : ∀ y ∈ seq, ∀ k, iterA ds (k+1) y = x → enterCell ds region y = false) :
    x ∈ inflowIdxs ds seq region :=
  (inflow_mem_iff ds seq region htopo hb x).2
    ⟨hx, he, chainClear_of_no_enter_up ds region seq htopo x hup⟩

/-- the declarative list the harness compares the implementation with: wherever the chain walks end,
it has the members of `inflow_idxs` -/
theorem inflowSpec_mem (ds : Array Nat) (seq : List Nat) (region : Array Bool) (htopo : Topo ds seq)
    (hb : ∀ i ∈ seq, i < ds.size)
    (hfuel : ∀ x ∈ seq, (chainClear ds seq region (ds.size + 1) x).isSome = true) (x : Nat) :
    x ∈ inflowSpec ds seq region ↔ x ∈ inflowIdxs ds seq region := by
  rw [inflowSpec_eq ds seq region htopo hb hfuel]

/-! ## 3. `interbasin_mask` -/

theorem interbasin_size (ds : Array Nat) (seq : List Nat) (region : Array Bool) (stream : Option (Array Bool)) :
    (interbasinMask ds seq region stream).size = region.size := by
  simp [interbasinMask]

/-- the start mask of the second loop has the size of the region (no stream) / of the stream mask -/
theorem interMask0_size (ds : Array Nat) (seq : List Nat) (region : Array Bool) (stream : Option (Array Bool)) :
    (interMask0 ds seq region stream).size = match stream with | none => region.size | some s => s.size := by
  cases stream with
  | none => simp [interMask0]
  | some s => simp [interMask0, streamDown_eq]

/-- `np.logical_and(mask, region)` -/
theorem interbasin_get (ds : Array Nat) (seq : List Nat) (region : Array Bool) (stream : Option (Array Bool))
    (i : Nat) (hi : i < region.size) :
    (interbasinMask ds seq region stream)[i]! = ((interSweep ds seq region stream)[i]! && region[i]!) := by
  simp [interbasinMask, hi]

/-- a cell of the network is kept iff it lies in the region, its flow path never
steps from outside the region into the region ("only the most downstream contiguous area"), and the
path ends in a pit whose start value is true (always without `stream`; see `stream_mask0_iff`) -/
theorem interbasin_iff (ds : Array Nat) (seq : List Nat) (region : Array Bool) (stream : Option (Array Bool))
    (htopo : Topo ds seq) (hb : ∀ i ∈ seq, i < (interMask0 ds seq region stream).size)
    (i : Nat) (hi : i ∈ seq) (hir : i < region.size) :
    (interbasinMask ds seq region stream)[i]! = true ↔
      region[i]! = true ∧ InterOK ds region (interMask0 ds seq region stream) i := by
  rw [interbasin_get ds seq region stream i hir, Bool.and_eq_true, interSweep,
    interSweep_gen ds region _ seq htopo hb i hi]
  exact And.comm

/-- cells outside the network keep `mask0 ∧ region` -/
theorem interbasin_outside (ds : Array Nat) (seq : List Nat) (region : Array Bool) (stream : Option (Array Bool))
    (htopo : Topo ds seq) (hb : ∀ i ∈ seq, i < (interMask0 ds seq region stream).size)
    (i : Nat) (hi : i ∉ seq) (hir : i < region.size) :
    (interbasinMask ds seq region stream)[i]! = ((interMask0 ds seq region stream)[i]! && region[i]!) := by
  rw [interbasin_get ds seq region stream i hir, interSweep,
    (sweepDown_rec ds (gInter ds region) _ seq htopo hb).2 i hi]

/-- path form of the condition of `interbasin_iff` -/
theorem interOK_path (ds : Array Nat) (region mask0 : Array Bool) (i : Nat) :
    InterOK ds region mask0 i ↔
      ∃ m, ds[iterA ds m i]! = iterA ds m i ∧ mask0[iterA ds m i]! = true ∧
        ∀ k, k < m → ds[iterA ds k i]! ≠ iterA ds k i ∧ enterCell ds region (iterA ds k i) = false := by
  constructor
  · intro h
    induction h with
    | pit i h1 h2 => exact ⟨0, h1, h2, fun k hk => nomatch hk⟩
    | down i h1 h2 _ ih =>
      obtain ⟨m, hm1, hm2, hm3⟩ := ih
      refine ⟨m+1, hm1, hm2, fun k hk => ?_⟩
      cases k with
      | zero => exact ⟨h1, h2⟩
      | succ k => exact hm3 k (Nat.lt_of_succ_lt_succ hk)
  · rintro ⟨m, hm1, hm2, hm3⟩
    induction m generalizing i with
    | zero => exact .pit i hm1 hm2
    | succ m ih =>
      have h0 := hm3 0 (Nat.succ_pos m)
      exact .down i h0.1 h0.2 (ih ds[i]! hm1 hm2 fun k hk => hm3 (k+1) (Nat.succ_lt_succ hk))

/-- the `stream` argument: after the first loop a cell is flagged iff it was a stream cell or lies
downstream of a stream cell of the network. Together with `interbasin_iff` (only the value at the
*pit* is read): with `stream`, a region cell is kept iff its basin contains a stream cell anywhere -
not iff the cell itself drains to the stream, as the docstring says. -/
theorem stream_mask0_iff (ds : Array Nat) (seq : List Nat) (s : Array Bool) (htopo : Topo ds seq)
    (hb : ∀ i ∈ seq, i < s.size) (j : Nat) :
    (streamDown ds seq s)[j]! = true ↔
      s[j]! = true ∨ ∃ y ∈ seq, ∃ k, iterA ds k y = j ∧ s[y]! = true := by
  refine ⟨streamDown_sound ds seq htopo s hb j, ?_⟩
  have mono : ∀ x, s[x]! = true → (streamDown ds seq s)[x]! = true :=
    fun x hx => (streamDown_rec ds seq htopo s hb x).2 (Or.inl hx)
  rintro (h | ⟨y, hy, k, rfl, hs⟩)
  · exact mono j h
  · induction k with
    | zero => exact mono y hs
    | succ k ih =>
      rw [iterA_succ']
      by_cases hp : ds[iterA ds k y]! = iterA ds k y
      · rw [hp]; exact ih
      · exact (streamDown_rec ds seq htopo s hb _).2
          (Or.inr ⟨_, iterA_mem htopo hy k, rfl, fun e => hp e.symm, ih⟩)

/-- the order-independent walk the harness applies to the implementation's output decides `InterOK` -/
theorem interbasin_walk_sound (ds : Array Nat) (region mask0 : Array Bool) (pitOK : Nat → Bool)
    (hpit : ∀ p, ds[p]! = p → pitOK p = mask0[p]!) (fuel i : Nat) (b : Bool)
    (h : walkInter ds region pitOK fuel i = some b) : b = true ↔ InterOK ds region mask0 i := by
  induction fuel generalizing i with
  | zero => cases h
  | succ f ih =>
    rw [InterOK_iff]
    simp only [walkInter] at h
    split at h
    · next hp => cases h; rw [if_pos hp, hpit i hp]
    · next hp =>
      rw [if_neg hp]
      split at h
      · next he => cases h; exact iff_of_false Bool.false_ne_true fun hn => Bool.noConfusion (he.symm.trans hn.1)
      · next he =>
        rw [ih _ h]
        exact (and_iff_right (Bool.eq_false_iff.2 he)).symm

/-! ## 4. `region_sum`, `region_area` -/

/-- the labels are strictly increasing (sorted, no duplicates) -/
theorem uniquePos_sorted (regions : Array Int) : (uniquePos regions).Pairwise (· < ·) := by
  rw [uniquePos_eq]
  exact (foldl_insertAsc _ [] List.Pairwise.nil).1

/-- the labels are exactly the positive values that occur in the raster -/
theorem uniquePos_mem (regions : Array Int) (l : Int) :
    l ∈ uniquePos regions ↔ l > 0 ∧ ∃ i, i < regions.size ∧ regions[i]! = l := by
  rw [uniquePos_eq, (foldl_insertAsc _ [] List.Pairwise.nil).2, List.mem_filter, ← mem_toList_iff_get!]
  simp only [List.not_mem_nil, false_or, decide_eq_true_eq, and_comm]

/-- `region_sum`: labels = sorted positive labels, and the value of each label is the sum of the
data over the cells that carry it -/
theorem regionSum_spec (data regions : Array Int) :
    (regionSum data regions).1 = uniquePos regions ∧
    (regionSum data regions).2 = (uniquePos regions).map (labelSumSpec data regions) :=
  ⟨rfl, List.map_congr_left fun l _ => labelSum_eq_spec data regions l⟩

/-- the region sums add up to the sum of the data over all cells with a positive label -/
theorem regionSum_total (data regions : Array Int) :
    (regionSum data regions).2.sum =
      (((List.range regions.size).filter fun i => decide (regions[i]! > 0)).map fun i => data[i]!).sum := by
  rw [(regionSum_spec data regions).2]
  refine (sum_by_key (fun i => regions[i]!) (fun i => data[i]!) _
    ((uniquePos_sorted regions).imp Int.ne_of_lt) (List.range regions.size)).trans ?_
  congr 2
  refine List.filter_congr fun i hi => ?_
  rw [decide_eq_decide, uniquePos_mem]
  exact ⟨fun h => h.1, fun h => ⟨h, i, List.mem_range.1 hi, rfl⟩⟩

/-- `region_area` on a projected grid: area of a label = number of its cells × `|xres · yres|` -/
theorem regionAreaProj_count (xres yres : Int) (regions : Array Int) :
    (regionAreaProj xres yres regions).2 =
      (uniquePos regions).map fun l => (labelCount regions l : Int) * ((xres * yres).natAbs : Int) := by
  rw [regionAreaProj, (regionSum_spec _ regions).2]
  refine List.map_congr_left fun l _ => sum_map_const _ _ _ fun i hi => ?_
  have hi' : i < regions.size := List.mem_range.1 (List.mem_filter.1 hi).1
  simp [hi']

/-! ## 5. `region_slices`, `region_bounds`, `basin_bounds` -/

/-- `region_slices`: `ValueError` iff no positive label; otherwise one slice pair per label (in
label order), and it is the tight bounding box of the cells that carry the label -/
theorem regionSlices_spec (ncol : Nat) (regions : Array Int) :
    (regionSlices ncol regions = none ↔ ∀ i, i < regions.size → regions[i]! ≤ 0) ∧
    ∀ lbs boxes, regionSlices ncol regions = some (lbs, boxes) →
      lbs = uniquePos regions ∧ boxes.map some = lbs.map (labelBox ncol regions) ∧
      ∀ l ∈ lbs, ∃ b, labelBox ncol regions l = some b ∧
        TightBox ncol (fun i => i < regions.size ∧ regions[i]! = l) b := by
  have hsome : ∀ l ∈ uniquePos regions, ∃ b, labelBox ncol regions l = some b ∧
      TightBox ncol (fun i => i < regions.size ∧ regions[i]! = l) b := by
    intro l hl
    obtain ⟨_, i, hi⟩ := (uniquePos_mem regions l).1 hl
    have hinv := labelBox_inv ncol regions l
    cases hb : labelBox ncol regions l with
    | none => rw [hb] at hinv; exact absurd hi (hinv i)
    | some b => rw [hb] at hinv; exact ⟨b, rfl, hinv⟩
  have hnil : uniquePos regions = [] ↔ ∀ i, i < regions.size → regions[i]! ≤ 0 := by
    simp only [List.eq_nil_iff_forall_not_mem, uniquePos_mem, not_and, not_exists]
    exact ⟨fun h i hi => Int.not_lt.1 fun hp => h _ hp i hi rfl,
      fun h l hl i hi e => absurd (e ▸ h i hi) (Int.not_le.2 hl)⟩
  simp only [regionSlices]
  constructor
  · rw [← hnil]
    cases uniquePos regions <;> simp
  · intro lbs boxes h
    split at h
    · cases h
    · cases h
      exact ⟨rfl, filterMap_map_some _ _ fun l hl => (hsome l hl).imp fun _ h => h.1, hsome⟩

/-- for both signs of the cell sizes `[xmin, ymin, xmax, ymax]`
(doubled) is the hull of the outer cell edges `x0 + xres·c0`, `x0 + xres·c1`, `y0 + yres·r0`,
`y0 + yres·r1` -/
theorem boxBounds2_hull (x0 y0 xres yres : Int) (r0 r1 c0 c1 : Nat) (hr : r0 < r1) (hc : c0 < c1) :
    boxBounds2 x0 y0 xres yres (r0, r1, c0, c1) =
      (2 * min (x0 + xres * (c0 : Int)) (x0 + xres * (c1 : Int)),
       2 * min (y0 + yres * (r0 : Int)) (y0 + yres * (r1 : Int)),
       2 * max (x0 + xres * (c0 : Int)) (x0 + xres * (c1 : Int)),
       2 * max (y0 + yres * (r0 : Int)) (y0 + yres * (r1 : Int))) := by
  simp only [boxBounds2, axisBounds2_hull x0 xres c0 c1 hc, axisBounds2_hull y0 yres r0 r1 hr]

/-- every cell inside the slices has its rectangle `[x0 + xres·c, x0 + xres·(c+1)] × [y0 + yres·r,
y0 + yres·(r+1)]` inside the bounding box (so, by `regionSlices_spec`, every cell of the label) -/
theorem cell_in_bounds (ncol : Nat) (x0 y0 xres yres : Int) (b : Box) (i : Nat) (h : InBox ncol b i) :
    (boxBounds2 x0 y0 xres yres b).1 ≤
      2 * min (x0 + xres * ((i % ncol : Nat) : Int)) (x0 + xres * (((i % ncol : Nat) : Int) + 1)) ∧
    (boxBounds2 x0 y0 xres yres b).2.1 ≤
      2 * min (y0 + yres * ((i / ncol : Nat) : Int)) (y0 + yres * (((i / ncol : Nat) : Int) + 1)) ∧
    2 * max (x0 + xres * ((i % ncol : Nat) : Int)) (x0 + xres * (((i % ncol : Nat) : Int) + 1)) ≤
      (boxBounds2 x0 y0 xres yres b).2.2.1 ∧
    2 * max (y0 + yres * ((i / ncol : Nat) : Int)) (y0 + yres * (((i / ncol : Nat) : Int) + 1)) ≤
      (boxBounds2 x0 y0 xres yres b).2.2.2 := by
  obtain ⟨r0, r1, c0, c1⟩ := b
  obtain ⟨hr0, hr1, hc0, hc1⟩ := h
  rw [boxBounds2_hull x0 y0 xres yres r0 r1 c0 c1 (Nat.lt_of_le_of_lt hr0 hr1) (Nat.lt_of_le_of_lt hc0 hc1)]
  have hx := axis_cell_inside x0 xres c0 c1 (i % ncol) hc0 hc1
  have hy := axis_cell_inside y0 yres r0 r1 (i / ncol) hr0 hr1
  have two : (0 : Int) ≤ 2 := by decide
  exact ⟨Int.mul_le_mul_of_nonneg_left hx.1 two, Int.mul_le_mul_of_nonneg_left hy.1 two,
    Int.mul_le_mul_of_nonneg_left hx.2 two, Int.mul_le_mul_of_nonneg_left hy.2 two⟩

/-- the total box is the componentwise minimum of the lower and maximum of the upper corners; each
component is attained by one of the boxes -/
theorem totalBounds_spec (bbs : List BBox) (t : BBox) (h : totalBounds bbs = some t) :
    (∀ b ∈ bbs, t.1 ≤ b.1 ∧ t.2.1 ≤ b.2.1 ∧ b.2.2.1 ≤ t.2.2.1 ∧ b.2.2.2 ≤ t.2.2.2) ∧
    (∃ b ∈ bbs, b.1 = t.1) ∧ (∃ b ∈ bbs, b.2.1 = t.2.1) ∧
    (∃ b ∈ bbs, b.2.2.1 = t.2.2.1) ∧ (∃ b ∈ bbs, b.2.2.2 = t.2.2.2) := by
  match bbs, h with
  | b0 :: rest, h =>
    cases h
    obtain ⟨l1, a1⟩ := select_component (·.1) b0 rest (listMin_le _ _)
    obtain ⟨l2, a2⟩ := select_component (·.2.1) b0 rest (listMin_le _ _)
    obtain ⟨l3, a3⟩ := select_component (·.2.2.1) b0 rest (R := (· ≥ ·)) (listMax_ge _ _)
    obtain ⟨l4, a4⟩ := select_component (·.2.2.2) b0 rest (R := (· ≥ ·)) (listMax_ge _ _)
    exact ⟨fun b hb => ⟨l1 b hb, l2 b hb, l3 b hb, l4 b hb⟩, a1, a2, a3, a4⟩

/-- `region_bounds` = labels, the bounds of the slices, and their total box; `ValueError` exactly
when `region_slices` raises -/
theorem regionBounds_spec (ncol : Nat) (x0 y0 xres yres : Int) (regions : Array Int) :
    (regionBounds ncol x0 y0 xres yres regions = none ↔ regionSlices ncol regions = none) ∧
    ∀ lbs bbs t, regionBounds ncol x0 y0 xres yres regions = some (lbs, bbs, t) →
      ∃ boxes, regionSlices ncol regions = some (lbs, boxes) ∧
        bbs = boxes.map (boxBounds2 x0 y0 xres yres) ∧ totalBounds bbs = some t := by
  unfold regionBounds
  cases hs : regionSlices ncol regions with
  | none => exact ⟨⟨fun _ => rfl, fun _ => rfl⟩, fun _ _ _ h => nomatch h⟩
  | some p =>
    obtain ⟨lbs, boxes⟩ := p
    refine ⟨?_, fun lbs' bbs t h => ?_⟩
    · -- a label list that is not empty gives a box list that is not empty
      obtain ⟨rfl, hmap, _⟩ := (regionSlices_spec ncol regions).2 lbs boxes hs
      match boxes, hmap with
      | [], hmap =>
        rw [List.map_nil, eq_comm, List.map_eq_nil_iff] at hmap
        simp [regionSlices, hmap] at hs
      | b :: bs, _ => simp [totalBounds]
    · simp only [Option.map_eq_some_iff, Prod.mk.injEq] at h
      obtain ⟨t', ht, rfl, rfl, rfl⟩ := h
      exact ⟨boxes, rfl, rfl, ht⟩

/-- `basin_bounds` without a basin map is `region_bounds` of the default basin map (outlets = all
pits, ids `1..k`); a given map goes through `_check_data` -/
theorem basinBounds_spec (ds : Array Nat) (seq pits : List Nat) (ncol : Nat) (x0 y0 xres yres : Int) :
    basinBounds ds seq pits none ncol x0 y0 xres yres =
      regionBounds ncol x0 y0 xres yres (basinsModel ds seq pits (defaultIds pits.length)) ∧
    ∀ b, basinBounds ds seq pits (some b) ncol x0 y0 xres yres =
      (checkData ds.size b).bind (regionBounds ncol x0 y0 xres yres) := ⟨rfl, fun _ => rfl⟩

/-! ## 6. the snapping path of `basins(idxs | xy, streams=mask)` -/

/-- snapping an outlet = walking to the first cell that is flagged in `streams`, is a pit, or has no
downstream cell -/
theorem snapTo_eq_spec (ds : Array Nat) (streams : Array Bool) (fuel o : Nat) :
    snapTo ds streams fuel o = snapSpec ds streams fuel o := by
  simp only [snapTo, snapSpec, (C11.snap_last ds (some streams) none (stepConst 1) fuel o).1, specSnap,
    Option.map_map]
  have hp : (stopAt ds (some streams) none (stepConst 1) o) =
      (fun m => streams[iterA ds m o]! || ds[iterA ds m o]! == iterA ds m o ||
        ds[iterA ds m o]! == ds.size) := by
    funext m; simp [stopAt, maskHit, overLen]
  rw [hp]
  rfl

/-- characterisation of the snapped cell: the `m`-fold downstream cell for the least `m` at which the
walk must stop -/
theorem snapTo_char (ds : Array Nat) (streams : Array Bool) (fuel o c : Nat)
    (h : snapTo ds streams fuel o = some c) :
    ∃ m, m < fuel ∧ c = iterA ds m o ∧
      (streams[c]! = true ∨ ds[c]! = c ∨ ds[c]! = ds.size) ∧
      ∀ k, k < m → streams[iterA ds k o]! = false ∧ ds[iterA ds k o]! ≠ iterA ds k o ∧
        ds[iterA ds k o]! ≠ ds.size := by
  rw [snapTo_eq_spec, snapSpec] at h
  simp only [Option.map_eq_some_iff] at h
  obtain ⟨m, hm, rfl⟩ := h
  obtain ⟨_, h2, h3, h4⟩ := leastFrom_some _ _ _ _ hm
  refine ⟨m, by omega, rfl, ?_, fun k hk => ?_⟩
  · simp only [Bool.or_eq_true, beq_iff_eq] at h3
    rcases h3 with (h3 | h3) | h3
    · exact Or.inl h3
    · exact Or.inr (Or.inl h3)
    · exact Or.inr (Or.inr h3)
  · have := h4 k (Nat.zero_le _) hk
    simp only [Bool.or_eq_false_iff, beq_eq_false_iff_ne, ne_eq] at this
    exact ⟨this.1.1, this.1.2, this.2⟩

/-- on a loop-free network every outlet of the network snaps within `seq.length` iterations -/
theorem snapTo_total (ds : Array Nat) (seq : List Nat) (htopo : Topo ds seq) (streams : Array Bool)
    (fuel o : Nat) (ho : o ∈ seq) (hfuel : seq.length ≤ fuel) :
    (snapTo ds streams fuel o).isSome = true := by
  have := C11.trace_total_topo ds seq htopo (some streams) none (stepConst 1) fuel o ho hfuel
  simp only [snapTo, snapOne, Option.isSome_map]
  exact this

/-- basins with snapping = basins at the snapped cells: whenever
`basins(idxs=os, streams=s, ids=ids)` returns, it returns the basin map (C05) of the snapped outlets -
each outlet replaced by the first cell downstream of it (itself included) that is flagged in
`streams`, is a pit or has no downstream cell - with the same ids. -/
theorem basins_snap_eq (ds : Array Nat) (seq pits os : List Nat) (s : Array Bool) (ids : Option (List Int))
    (fuel : Nat) (M : Array Int)
    (h : basinsRaster ds seq pits (some os) (some s) ids fuel = .ok M) :
    ∃ s' sn ids', checkData ds.size s = some s' ∧ os.mapM (snapSpec ds s' fuel) = some sn ∧
      checkIds sn.length ids = .ok ids' ∧ M = basinsModel ds seq sn ids' := by
  simp only [basinsRaster] at h
  cases hc : checkData ds.size s with
  | none => rw [hc] at h; cases h
  | some s' =>
    simp only [hc, funext (snapTo_eq_spec ds s' fuel)] at h
    cases hm : os.mapM (snapSpec ds s' fuel) with
    | none => rw [hm] at h; cases h
    | some sn =>
      simp only [hm, pure_bind] at h
      cases hi : checkIds sn.length ids with
      | error e => rw [hi] at h; cases h
      | ok ids' =>
        rw [hi] at h
        cases h
        exact ⟨s', sn, ids', rfl, hm, hi, rfl⟩

/-- … and therefore every cell of the network carries the id of the first *snapped* outlet on its
downstream path (0 if a pit comes first) -/
theorem basins_snap_first_outlet (ds : Array Nat) (seq pits os : List Nat) (s : Array Bool)
    (ids : Option (List Int)) (fuel : Nat) (M : Array Int) (htopo : Topo ds seq)
    (hb : ∀ i ∈ seq, i < ds.size)
    (h : basinsRaster ds seq pits (some os) (some s) ids fuel = .ok M) :
    ∃ s' sn ids', checkData ds.size s = some s' ∧ os.mapM (snapSpec ds s' fuel) = some sn ∧
      ∀ i ∈ seq, FirstValid ds (seedLabels ds.size sn ids') 0 i M[i]! := by
  obtain ⟨s', sn, ids', h1, h2, _, rfl⟩ := basins_snap_eq ds seq pits os s ids fuel M h
  exact ⟨s', sn, ids', h1, h2, C05.basins_first_outlet ds seq sn ids' htopo hb⟩

/-- without `streams` the outlets are used as they are; without `idxs` the outlets are the pits and
`streams` is not looked at; by coordinates = by the cells containing the points (`IndexError` if a
point lies in no cell) -/
theorem basinsRaster_plain (ds : Array Nat) (seq pits os : List Nat) (s : Option (Array Bool))
    (ids : Option (List Int)) (fuel : Nat) :
    basinsRaster ds seq pits (some os) none ids fuel =
      (checkIds os.length ids).map (basinsModel ds seq os) ∧
    basinsRaster ds seq pits none s ids fuel =
      (checkIds pits.length ids).map (basinsModel ds seq pits) := by
  constructor
  · simp only [basinsRaster, bind, Except.bind, pure, Except.pure, Except.map]
  · simp only [basinsRaster, bind, Except.bind, pure, Except.pure, Except.map]

theorem basinsRasterXY_spec (nrow ncol : Nat) (x0 y0 xres yres : Int) (xs ys : List Int)
    (ds : Array Nat) (seq pits : List Nat) (s : Option (Array Bool)) (ids : Option (List Int)) (fuel : Nat) :
    basinsRasterXY nrow ncol x0 y0 xres yres xs ys ds seq pits s ids fuel =
      match (xs.zip ys).mapM (fun p => cellOf nrow ncol x0 y0 xres yres p.1 p.2) with
      | none => .error .indexError
      | some os => basinsRaster ds seq pits (some os) s ids fuel := rfl

/-! ## non-vacuity: concrete networks meet the hypotheses and the conclusions are non-trivial -/

-- 2×3 raster of finding F-X1a: 1 → 3 → 4 → 0 (pit), 2 → 4, 5 → 4; order of the implementation
example : Topo #[0, 3, 4, 4, 0, 4] [0, 4, 2, 3, 5, 1] := by
  have h0 : Topo #[0, 3, 4, 4, 0, 4] [] := Topo.nil
  have h1 : Topo #[0, 3, 4, 4, 0, 4] ([] ++ [0]) := Topo.snoc h0 (by decide) (Or.inl (by decide))
  have h2 : Topo #[0, 3, 4, 4, 0, 4] ([0] ++ [4]) := Topo.snoc h1 (by decide) (Or.inr (by decide))
  have h3 : Topo #[0, 3, 4, 4, 0, 4] ([0, 4] ++ [2]) := Topo.snoc h2 (by decide) (Or.inr (by decide))
  have h4 : Topo #[0, 3, 4, 4, 0, 4] ([0, 4, 2] ++ [3]) := Topo.snoc h3 (by decide) (Or.inr (by decide))
  have h5 : Topo #[0, 3, 4, 4, 0, 4] ([0, 4, 2, 3] ++ [5]) := Topo.snoc h4 (by decide) (Or.inr (by decide))
  exact Topo.snoc h5 (by decide) (Or.inr (by decide))
-- region = {0, 3}: cells 1 and 4 are reported although 1 lies upstream of 4 (first kid of 4 is 2)
example : inflowIdxs #[0, 3, 4, 4, 0, 4] [0, 4, 2, 3, 5, 1] #[true, false, false, true, false, false] = [1, 4] := by decide
-- another downstream-first order of the same network (3 before 2): cell 4 is no longer reported
example : inflowIdxs #[0, 3, 4, 4, 0, 4] [0, 4, 3, 2, 5, 1] #[true, false, false, true, false, false] = [1] := by decide
example : inflowSpec #[0, 3, 4, 4, 0, 4] [0, 4, 2, 3, 5, 1] #[true, false, false, true, false, false] = [1, 4] := by decide
example : inflowMust #[0, 3, 4, 4, 0, 4] #[true, false, false, true, false, false] = [1] := by decide
example : outflowIdxs #[0, 3, 4, 4, 0, 4] [0, 4, 2, 3, 5, 1] #[true, false, false, true, false, false] = [0] := by decide
-- region {3, 4, 1}: 4 leaves to 0 (outside), 3 is upstream of the exit cell 4
example : outflowIdxs #[0, 3, 4, 4, 0, 4] [0, 4, 2, 3, 5, 1] #[false, true, false, true, true, false] = [4] := by decide
example : outflowSpec #[0, 3, 4, 4, 0, 4] #[false, true, false, true, true, false] = some [4] := by decide
-- interbasin: region {0, 3, 1}: the flow leaves the region at 3 → 4 and re-enters at 4 → 0
example : (interbasinMask #[0, 3, 4, 4, 0, 4] [0, 4, 2, 3, 5, 1] #[true, true, false, true, false, false] none).toList
    = [true, false, false, false, false, false] := by decide +kernel
-- F-X1c: chain 2 → 1 → 0, 3 → 1; stream = {2}; everything is kept, also cell 3
example : (interbasinMask #[0, 0, 1, 1] [0, 1, 2, 3] #[true, true, true, true] (some #[false, false, true, false])).toList
    = [true, true, true, true] := by decide +kernel
example : (interbasinMask #[0, 0, 1, 1] [0, 1, 2, 3] #[true, true, true, true] (some #[false, false, false, false])).toList
    = [false, false, false, false] := by decide +kernel
-- regions on a 2×3 raster
example : regionSum #[0, 1, 2, 3, 4, 5] #[5, 0, 2, 0, 2, -3] = ([2, 5], [6, 0]) := by decide
example : regionSlices 3 #[5, 0, 2, 0, 2, -3] = some ([2, 5], [(0, 2, 1, 3), (0, 1, 0, 1)]) := by decide
example : regionSlices 3 #[0, 0, -1, 0, 0, 0] = none := by decide
-- transform (xres, yres) = (1/2, -1/2), origin (10, 20), scale 2: doubled boxes at scale 2
example : regionBounds 3 20 40 1 (-1) #[5, 0, 2, 0, 2, -3] =
    some ([2, 5], [(42, 76, 46, 80), (40, 78, 42, 80)], (40, 76, 46, 80)) := by rfl
-- negative xres, positive yres
example : regionBounds 3 20 40 (-1) 1 #[5, 0, 2, 0, 2, -3] =
    some ([2, 5], [(34, 80, 38, 84), (38, 80, 40, 82)], (34, 80, 40, 84)) := by rfl
example : regionAreaProj 1 (-2) #[5, 0, 2, 0, 2, -3] = ([2, 5], [4, 2]) := by decide
-- snapping: chain 4 → 3 → 2 → 1 → 0, stream = {1}: outlet 3 snaps to 1
example : basinsRaster #[0, 0, 1, 2, 3] [0, 1, 2, 3, 4] [0] (some [3])
    (some #[false, true, false, false, false]) (some [7]) 7 = .ok #[0, 7, 7, 7, 7] := by rfl
example : snapSpec #[0, 0, 1, 2, 3] #[false, true, false, false, false] 7 3 = some 1 := by decide
example : basinsRaster #[0, 0, 1, 2, 3] [0, 1, 2, 3, 4] [0] (some [3])
    (some #[false, true, false, false, false]) (some [0]) 7 = .error .valueError := by rfl

end Pf.C05x
