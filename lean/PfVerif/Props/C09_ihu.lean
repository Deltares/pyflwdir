import PfVerif.Proofs.C09_ihuInv
import PfVerif.Proofs.C09_ihuFuel
import PfVerif.Proofs.C09_ihuNew
import PfVerif.Props.C09
/-! # C09 extension — the iterative stages of IHU

Theorems about the loop-for-loop models of `Model/C09_ihu.lean`: `ihu_relocate_outlets`, `ihu_optimize_rivlen`,
`ihu_minimize_error`, `next_outlet` (`pyflwdir/upscale.py`). The models are tied to the code by exact comparison of
every output array on generated networks (`harness/props/c09_ihu.py`); the `np.argsort` results of the implementation
are an oracle parameter (`Sorts`) of the models, so every theorem below holds for EVERY order of ties.

All theorems quantify over every fine network, every coarse state and every oracle; no bound on sizes.

Vocabulary: `e.cell p` = coarse cell of pixel `p` (`subidx_2_idx`, the missing pixel mapped to the missing cell);
`Exit e p` = `p` is a pit or its downstream pixel lies in another coarse cell;
`PitAt ds k p` = the flow path from `p` is at a pit after `k` steps. -/
namespace Pf.C09ihu
open Pf

/-! ## 1. `ihu_relocate_outlets`: what a relocated outlet pixel is -/

/-- an entry of the outlet array that is acceptable for coarse cell `c`: missing, or a pixel of cell `c` that is a pit
or drains into another coarse cell -/
def OutletOf (e : Env) (c p : Nat) : Prop := p = e.ds.size ∨ (e.cell p = c ∧ Exit e p)

/-- relocation keeps outlet pixels at the exits of their own cells: if before `ihu_relocate_outlets` every coarse
cell's outlet pixel is missing or is a pixel of that cell whose downstream pixel lies in another cell (or a pit), the
same holds afterwards, whatever the flagged cells, the coarse links and the order of ties are; the array keeps its size -/
theorem relocate_outlets_exit (e : Env) (fix : List Nat) (cds out : Array Nat) (sorts : Sorts) (r : RelSt)
    (h : relocateOutlets e fix cds out sorts = some r) (ho : ∀ c, c < out.size → OutletOf e c out[c]!) :
    r.out.size = out.size ∧ ∀ c, c < r.out.size → OutletOf e c r.out[c]! :=
  (relocateOutlets_inv e (OutletOf e) fix cds out sorts r (fun _ hp _ => Or.inr ⟨rfl, hp⟩) h ho).2

/-- relocation never changes the size of the coarse network array -/
theorem relocate_links_size (e : Env) (fix : List Nat) (cds out : Array Nat) (sorts : Sorts) (r : RelSt)
    (h : relocateOutlets e fix cds out sorts = some r) : r.cds.size = cds.size :=
  (relocateOutlets_inv e (fun _ _ => True) fix cds out sorts r (fun _ _ _ => trivial) h fun _ _ => trivial).1

/-- the own-cell half alone needs only the own-cell half as hypothesis -/
theorem relocate_outlets_own_cell (e : Env) (fix : List Nat) (cds out : Array Nat) (sorts : Sorts) (r : RelSt)
    (h : relocateOutlets e fix cds out sorts = some r)
    (ho : ∀ c, c < out.size → out[c]! = e.ds.size ∨ e.cell out[c]! = c) :
    ∀ c, c < r.out.size → r.out[c]! = e.ds.size ∨ e.cell r.out[c]! = c :=
  (relocateOutlets_inv e (fun c p => p = e.ds.size ∨ e.cell p = c) fix cds out sorts r
    (fun _ _ _ => Or.inr rfl) h ho).2.2

/-- outlets stay distinct, one per cell (what the certificate `upscaleOK` needs of the outlet array): after
relocation two different coarse cells never report the same outlet pixel -/
theorem relocate_outlets_distinct (e : Env) (fix : List Nat) (cds out : Array Nat) (sorts : Sorts) (r : RelSt)
    (h : relocateOutlets e fix cds out sorts = some r)
    (ho : ∀ c, c < out.size → out[c]! = e.ds.size ∨ e.cell out[c]! = c)
    (c c' : Nat) (hc : c < r.out.size) (hc' : c' < r.out.size) (hv : r.out[c]! ≠ e.ds.size)
    (heq : r.out[c]! = r.out[c']!) : c = c' :=
  distinct_of_own_cell (relocate_outlets_own_cell e fix cds out sorts r h ho) hc hc' hv heq

/-- the decidable checks the driver evaluates on the implementation's arrays mean what the theorems say -/
theorem chkOwnCell_iff (e : Env) (out : Array Nat) :
    chkOwnCell e out = true ↔ ∀ c, c < out.size → out[c]! = e.ds.size ∨ (out[c]! < e.ds.size ∧ e.cell out[c]! = c) := by
  simp [chkOwnCell, allCells_iff]

theorem chkOutletPix_iff (e : Env) (out : Array Nat) :
    chkOutletPix e out = true ↔
      ∀ c, c < out.size → out[c]! = e.ds.size ∨ (out[c]! < e.ds.size ∧ Exit e out[c]!) := by
  simp [chkOutletPix, allCells_iff, Exit]

theorem cell_lt_imp (e : Env) (p n : Nat) (hn : n ≤ e.ncell) (h : e.cell p < n) : p < e.ds.size :=
  lt_of_cell_lt e p n hn h

/-- the checks of the driver imply the hypothesis `OutletOf` of the theorems of this file -/
theorem outletOf_of_checks (e : Env) (out : Array Nat) (h1 : chkOwnCell e out = true) (h2 : chkOutletPix e out = true) :
    ∀ c, c < out.size → OutletOf e c out[c]! := by
  rw [chkOwnCell_iff] at h1
  rw [chkOutletPix_iff] at h2
  intro c hc
  rcases h1 c hc with h | h
  · exact Or.inl h
  · rcases h2 c hc with h' | h'
    · exact Or.inl h'
    · exact Or.inr ⟨h.2, h'.2⟩

/-- on arrays of the coarse size `OutletOf` gives the checks `chkOwnCell`, `chkOutletPix` back (the `spec.*` bits of `c09ihu_rivlen`, and of
`c09ihu_minerr` with `poc = 0`) -/
theorem checks_of_outletOf (e : Env) (out : Array Nat) (hn : out.size ≤ e.ncell)
    (h : ∀ c, c < out.size → OutletOf e c out[c]!) : chkOwnCell e out = true ∧ chkOutletPix e out = true := by
  rw [chkOwnCell_iff, chkOutletPix_iff]
  constructor
  · intro c hc
    rcases h c hc with h | h
    · exact Or.inl h
    · exact Or.inr ⟨cell_lt_imp e _ out.size hn (by rw [h.1]; exact hc), h.1⟩
  · intro c hc
    rcases h c hc with h | h
    · exact Or.inl h
    · exact Or.inr ⟨cell_lt_imp e _ out.size hn (by rw [h.1]; exact hc), h.2⟩

/-- the checked form (the `pre.*` / `spec.*` bits of the driver op `c09ihu_relocate`): on arrays of the coarse
size, `chkOwnCell` and `chkOutletPix` are preserved by relocation -/
theorem relocate_outlets_checked (e : Env) (fix : List Nat) (cds out : Array Nat) (sorts : Sorts) (r : RelSt)
    (h : relocateOutlets e fix cds out sorts = some r) (hs : chkSizes e cds out = true)
    (h1 : chkOwnCell e out = true) (h2 : chkOutletPix e out = true) :
    r.out.size = e.ncell ∧ chkOwnCell e r.out = true ∧ chkOutletPix e r.out = true := by
  have hsz : out.size = e.ncell := by
    simp [chkSizes] at hs; exact hs.2
  obtain ⟨h3, h4⟩ := relocate_outlets_exit e fix cds out sorts r h (outletOf_of_checks e out h1 h2)
  exact ⟨h3.trans hsz, checks_of_outletOf e r.out (by rw [h3, hsz]; exact Nat.le_refl _) h4⟩

/-! ## 2. `ihu_optimize_rivlen` and `ihu_minimize_error`: outlet pixels picked by `new_outlet`

Both stages change outlet pixels only through `new_outlet` (a pixel of `outlet_pix(idx0)`: inside the raster, in coarse
cell `idx0`, a pit or draining to a missing pixel / another coarse cell), through the "undo" of `ihu_optimize_rivlen`
(the previous outlet pixel) and — `ihu_minimize_error` with `pit_out_of_cell > 0` only — by moving the outlet of a cell to
the pit its stream ends in, which may lie OUTSIDE the cell. -/

/-- `ihu_optimize_rivlen` keeps outlet pixels at the exits of their own cells and keeps the sizes of both coarse arrays -/
theorem optimize_rivlen_outlets_exit (e : Env) (par : Par) (short : List Nat) (valid : Array Bool)
    (streams streams' : Array Int) (cds out cds' out' : Array Nat)
    (h : optimizeRivlen e par short valid (streams, cds, out) = some (streams', cds', out'))
    (hn : out.size ≤ e.ncell) (ho : ∀ c, c < out.size → OutletOf e c out[c]!) :
    cds'.size = cds.size ∧ out'.size = out.size ∧ ∀ c, c < out'.size → OutletOf e c out'[c]! :=
  optimizeRivlen_inv e par (OutletOf e) out.size cds.size short valid _ _ (fun _ hp _ => Or.inr ⟨rfl, hp⟩) hn h
    ⟨rfl, rfl, ho⟩

/-- after `ihu_optimize_rivlen` two different coarse cells never report the same outlet pixel -/
theorem optimize_rivlen_outlets_distinct (e : Env) (par : Par) (short : List Nat) (valid : Array Bool)
    (streams streams' : Array Int) (cds out cds' out' : Array Nat)
    (h : optimizeRivlen e par short valid (streams, cds, out) = some (streams', cds', out'))
    (hn : out.size ≤ e.ncell) (ho : ∀ c, c < out.size → OutletOf e c out[c]!)
    (c c' : Nat) (hc : c < out'.size) (hc' : c' < out'.size) (hv : out'[c]! ≠ e.ds.size)
    (heq : out'[c]! = out'[c']!) : c = c' :=
  distinct_of_own_cell (fun c hc =>
    ((optimize_rivlen_outlets_exit e par short valid streams streams' cds out cds' out' h hn ho).2.2 c hc).imp id And.left)
    hc hc' hv heq

/-- an entry of the outlet array after `ihu_minimize_error`: missing, an exit pixel of its own cell, or a pit -/
def OutletOrPit (e : Env) (c p : Nat) : Prop := OutletOf e c p ∨ e.ds[p]! = p

/-- `ihu_minimize_error`: every outlet pixel stays an exit pixel of its own cell or becomes a pit (possibly of
another cell), for every `pit_out_of_cell`; sizes are kept -/
theorem minimize_error_outlets (e : Env) (par : Par) (poc : Nat) (fix : List Nat) (streams streams' : Array Int)
    (cds out cds' out' : Array Nat) (sorts sorts' : Sorts)
    (h : minimizeError e par poc fix (streams, cds, out) sorts = some ((streams', cds', out'), sorts'))
    (hn : out.size ≤ e.ncell) (ho : ∀ c, c < out.size → OutletOrPit e c out[c]!) :
    cds'.size = cds.size ∧ out'.size = out.size ∧ ∀ c, c < out'.size → OutletOrPit e c out'[c]! :=
  minimizeError_inv e par (OutletOrPit e) out.size cds.size poc fix _ _ sorts sorts'
    (fun _ hp _ => Or.inl (Or.inr ⟨rfl, hp⟩)) hn (fun _ _ _ hpit => Or.inr hpit) h ⟨rfl, rfl, ho⟩

theorem chkOutletOrPit_iff (e : Env) (out : Array Nat) :
    chkOutletOrPit e out = true ↔ ∀ c, c < out.size → OutletOrPit e c out[c]! := by
  simp [chkOutletOrPit, allCells_iff, OutletOrPit, OutletOf, Exit, or_assoc]

/-- with `pit_out_of_cell = 0` (every round of `ihu` but the last) outlet pixels stay at the exits of their own cells -/
theorem minimize_error_outlets_exit (e : Env) (par : Par) (fix : List Nat) (streams streams' : Array Int)
    (cds out cds' out' : Array Nat) (sorts sorts' : Sorts)
    (h : minimizeError e par 0 fix (streams, cds, out) sorts = some ((streams', cds', out'), sorts'))
    (hn : out.size ≤ e.ncell) (ho : ∀ c, c < out.size → OutletOf e c out[c]!) :
    cds'.size = cds.size ∧ out'.size = out.size ∧ ∀ c, c < out'.size → OutletOf e c out'[c]! :=
  minimizeError_inv e par (OutletOf e) out.size cds.size 0 fix _ _ sorts sorts'
    (fun _ hp _ => Or.inr ⟨rfl, hp⟩) hn (fun h0 => absurd h0 (Nat.lt_irrefl 0)) h ⟨rfl, rfl, ho⟩

/-! ## 3. The whole of `ihu`: first pass + `niter` rounds of the three stages -/

/-- outlet pixels of `ihu`: on a well-formed fine network, whatever `niter`, `opt_rivlen`, `min_error`,
`pit_out_of_cell` and the order of ties are, whenever the model of `ihu` returns, both coarse arrays have
`ceil(rows/s) * ceil(cols/s)` entries and every reported outlet pixel lies inside its own coarse cell or is a pit;
with `pit_out_of_cell = 0` every outlet pixel lies inside its own coarse cell, hence the outlets are pairwise distinct -/
theorem ihu_outlets (ds : Array Nat) (upa : Array Int) (ea : Array Bool) (g : Geo) (o : IhuOpt) (sorts sorts' : Sorts)
    (cds out : Array Nat) (hwf : FineWF ds) (h : ihuModel ds upa ea g o sorts = some (cds, out, sorts')) :
    cds.size = g.ncell ∧ out.size = g.ncell ∧
      (∀ c, c < g.ncell → out[c]! = ds.size ∨ (out[c]! < ds.size ∧ g.cell out[c]! = c) ∨ ds[out[c]!]! = out[c]!) ∧
      (o.poc = 0 → (∀ c, c < g.ncell → out[c]! = ds.size ∨ (out[c]! < ds.size ∧ g.cell out[c]! = c)) ∧
        ∀ c c', c < g.ncell → c' < g.ncell → out[c]! ≠ ds.size → out[c]! = out[c']! → c = c') := by
  unfold ihuModel at h
  split at h
  · cases h
  · rename_i cds0 out0 fix0 hfirst
    have h0 := Pf.C09.eam_plus_outlets ds upa ea g cds0 out0 fix0 hwf hfirst
    -- the environment of the stages
    generalize he : (⟨ds, upa, g.subncol, g.cs, g.nrow, g.ncol⟩ : Env) = e at h
    have hds : e.ds = ds := by rw [← he]
    have hncell : e.ncell = g.ncell := by rw [← he]; rfl
    have hcell : ∀ p, p < ds.size → e.cell p = g.cell p := by
      intro p hp; rw [← he]; simp [Env.cell, hp, Geo.cell]
    have hcellge : ∀ p, ¬ p < ds.size → e.cell p = g.ncell := by
      intro p hp; rw [← he]; simp [Env.cell, hp, Env.ncell, Geo.ncell]
    -- first-pass outlets lie in their own cells
    have hstart : ∀ c, c < out0.size → out0[c]! = e.ds.size ∨ (out0[c]! < e.ds.size ∧ e.cell out0[c]! = c) := by
      intro c hc
      by_cases hv : out0[c]! = ds.size
      · exact Or.inl (hds ▸ hv)
      · have := h0.own c (h0.size_out ▸ hc) hv
        exact Or.inr ⟨hds ▸ this.1.1, (hcell _ this.1.1).trans this.2⟩
    have back : ∀ p c, c < g.ncell → (p < e.ds.size ∧ e.cell p = c) → (p < ds.size ∧ g.cell p = c) := by
      intro p c _ hp
      have hlt : p < ds.size := hds ▸ hp.1
      exact ⟨hlt, (hcell p hlt).symm.trans hp.2⟩
    have hle : out0.size ≤ e.ncell := by rw [hncell, h0.size_out]; exact Nat.le_refl _
    have hA := ihuLoop_inv e _ o
      (fun c p => p = e.ds.size ∨ (p < e.ds.size ∧ e.cell p = c) ∨ e.ds[p]! = p) out0.size
      (fun p _ hlt => Or.inr (Or.inl ⟨cell_lt_imp e p out0.size hle hlt, rfl⟩)) hle
      (fun _ _ _ hp => Or.inr (Or.inr hp)) _ _ _ _ _ _ _ _ h rfl (fun c hc => (hstart c hc).imp id Or.inl)
    have hsz : out.size = g.ncell := hA.2.1.trans h0.size_out
    refine ⟨hA.1.trans h0.size_cds, hsz, fun c hc => ?_, fun hpoc => ?_⟩
    · rcases hA.2.2 c (by rw [hsz]; exact hc) with h | h | h
      · exact Or.inl (hds ▸ h)
      · exact Or.inr (Or.inl (back _ c hc h))
      · exact Or.inr (Or.inr (hds ▸ h))
    · have hB := ihuLoop_inv e _ o
        (fun c p => p = e.ds.size ∨ (p < e.ds.size ∧ e.cell p = c)) out0.size
        (fun p _ hlt => Or.inr ⟨cell_lt_imp e p out0.size hle hlt, rfl⟩) hle (fun hp => by omega)
        _ _ _ _ _ _ _ _ h rfl hstart
      have hown : ∀ c, c < g.ncell → out[c]! = ds.size ∨ (out[c]! < ds.size ∧ g.cell out[c]! = c) := by
        intro c hc
        rcases hB.2.2 c (by rw [hsz]; exact hc) with h | h
        · exact Or.inl (hds ▸ h)
        · exact Or.inr (back _ c hc h)
      exact ⟨hown, fun c c' hc hc' hv heq => distinct_of_own_cell (cell := g.cell) (mv := ds.size)
        (fun c hc => (hown c (by rw [← hsz]; exact hc)).imp id And.right) (by rw [hsz]; exact hc)
        (by rw [hsz]; exact hc') hv heq⟩

/-! ## 4. Fuel: every `while` of the stages that walks down the fine network stops at the latest at the pit

`PitAt e.ds k p` (the flow path from the start pixel is at a pit after `k` steps; `k ≤ ds.size` on every network covered
by a downstream-first order, `reachesPit_of_isTopo` of C09) makes every fuel above `k` equivalent and the result defined.
The models call the loops with fuel `ds.size + 1`. -/

/-- `next_outlet` stops at the latest at the pit -/
theorem next_outlet_fuel (e : Env) (out : Array Nat) (k p : Nat) (hp : PitAt e.ds k p) (fuel : Nat) (hf : k < fuel) :
    nextOutlet e out fuel p = nextOutlet e out (k + 1) p ∧ (nextOutlet e out (k + 1) p).isSome = true :=
  (nextOutlet_walk e out k).fuel (Nat.le_refl k) hp hf ()

/-- the downstream trace @1A of `ihu_relocate_outlets` -/
theorem reloc_trace_fuel (e : Env) (cds out : Array Nat) (k subidx : Nat) (hp : PitAt e.ds k subidx) (fuel : Nat)
    (hf : k < fuel) (idx0 idxds0 : Nat) (cells pixs : List Nat) :
    relocTrace e cds out fuel subidx idx0 idxds0 cells pixs = relocTrace e cds out (k + 1) subidx idx0 idxds0 cells pixs ∧
      (relocTrace e cds out (k + 1) subidx idx0 idxds0 cells pixs).isSome = true :=
  (relocTrace_walk e cds out k).fuel (Nat.le_refl k) hp hf (idx0, idxds0, cells, pixs)

/-- the connect loop @3B of `ihu_relocate_outlets` (its own guard `ii <= 10` only shortens it) -/
theorem reloc_connect_fuel (e : Env) (pixs : List Nat) (idx0 k subidx : Nat) (hp : PitAt e.ds k subidx) (fuel : Nat)
    (hf : k < fuel) (idx ii : Nat) (c : Conn) :
    connLoop e pixs idx0 fuel subidx idx ii c = connLoop e pixs idx0 (k + 1) subidx idx ii c ∧
      (connLoop e pixs idx0 (k + 1) subidx idx ii c).isSome = true :=
  (connLoop_walk e pixs idx0 k).fuel (Nat.le_refl k) hp hf (idx, ii, c)

/-- the tributary loop @4D of `ihu_relocate_outlets`, including the nested `next_outlet` (called with fuel
`ds.size + 1`, hence `k ≤ ds.size`) -/
theorem reloc_tributary_fuel (e : Env) (idx0 sds0 k subidx : Nat) (hp : PitAt e.ds k subidx) (hk : k ≤ e.ds.size)
    (fuel : Nat) (hf : k < fuel) (idxds0 : Nat) (path : List Nat) (s : S4) :
    tribLoop e idx0 sds0 fuel subidx idxds0 path s = tribLoop e idx0 sds0 (k + 1) subidx idxds0 path s ∧
      (tribLoop e idx0 sds0 (k + 1) subidx idxds0 path s).isSome = true :=
  (tribLoop_walk e idx0 sds0).fuel hk hp hf (idxds0, path, s)

/-- the first `while True` of `ihu_minimize_error` (cells with an outlet pixel downstream of the current one) -/
theorem minerr_path_fuel (e : Env) (streams : Array Int) (idx0 k subidx : Nat) (hp : PitAt e.ds k subidx) (fuel : Nat)
    (hf : k < fuel) (idxs : List Nat) :
    errPath e streams idx0 fuel subidx idxs = errPath e streams idx0 (k + 1) subidx idxs ∧
      (errPath e streams idx0 (k + 1) subidx idxs).isSome = true :=
  (errPath_walk e streams idx0 k).fuel (Nat.le_refl k) hp hf idxs

/-- the `while len(bottleneck) > nbottlenecks` of STEP 4: a result obtained with some fuel is obtained with every larger
fuel. (That `ncell + 2` rounds suffice needs a well-formed state and a loop-free fine network, since `step4` also returns
`none` when a tributary walk @4D runs out of fuel: `reloc_bottleneck_fuel` in `Props/C09_ihuTotal.lean`.) -/
theorem reloc_bottleneck_fuel_partial (e : Env) (idx00 : Nat) (cells pixs : List Nat) (tr : Tribs) (f1 f2 : Nat)
    (s r : S4) (h : step4 e idx00 cells pixs tr f1 s = some r) (hle : f1 ≤ f2) :
    step4 e idx00 cells pixs tr f2 s = some r := by
  induction f1 generalizing s f2 with
  | zero => simp [step4] at h
  | succ g ih =>
    obtain ⟨g2, rfl⟩ : ∃ g, f2 = g + 1 := ⟨f2 - 1, by omega⟩
    rw [step4] at h ⊢
    cases hfold : (List.range pixs.length).foldlM (step4A e cells pixs tr)
        { s with outEd := [], dsEd := [], idx0 := idx00, j0 := 0, k0 := 0, nextiter := false } with
    | none => rw [hfold] at h; cases h
    | some s1 =>
      rw [hfold] at h
      dsimp only at h ⊢
      by_cases hgt : s1.bott.length > s.bott.length
      · rw [if_pos hgt] at h ⊢; exact ih g2 s1 h (by omega)
      · rw [if_neg hgt] at h ⊢; exact h

/-! ## 5. Concrete inputs (non-vacuity) -/

/-- a 3×7 raster, scale 2 (coarse 2×4): first-pass state of `ihu`; coarse cell 3 is flagged -/
def exEnv : Env :=
  { ds := #[1, 9, 9, 9, 10, 4, 5, 8, 2, 9, 2, 3, 19, 5, 7, 8, 8, 11, 11, 18, 19],
    upa := #[1, 2, 11, 7, 4, 3, 1, 2, 5, 21, 5, 6, 1, 1, 1, 1, 1, 1, 4, 3, 1],
    subncol := 7, cs := 2, nrow := 2, ncol := 4 }
def exCds : Array Nat := #[1, 1, 1, 2, 0, 0, 2, 6]
def exOut : Array Nat := #[8, 9, 11, 6, 14, 16, 18, 20]
def exSorts : Sorts := ⟨[[0], [0, 1, 2]], 0⟩

/-- relocation moves the outlet pixel of coarse cell 2 from pixel 11 to pixel 4 and re-links coarse cell 6 -/
example : (relocateOutlets exEnv [3] exCds exOut exSorts).map (fun r => (r.cds, r.out, r.fixOut, r.sorts.bad)) =
    some (#[1, 1, 1, 2, 0, 0, 1, 6], #[8, 9, 4, 6, 14, 16, 18, 20], [], 0) := by decide +kernel

/-- the hypotheses of `relocate_outlets_checked` hold on it -/
example : chkSizes exEnv exCds exOut = true ∧ chkOwnCell exEnv exOut = true ∧ chkOutletPix exEnv exOut = true := by
  decide +kernel

/-- the conclusion of `relocate_outlets_checked` on the result, in which the outlet of coarse cell 2 has moved -/
example : chkOwnCell exEnv #[8, 9, 4, 6, 14, 16, 18, 20] = true ∧
    chkOutletPix exEnv #[8, 9, 4, 6, 14, 16, 18, 20] = true := by decide +kernel

/-- fuel: pixel 1 reaches the pit 9 in one step, pixel 0 in two steps -/
example : PitAt exEnv.ds 1 1 ∧ PitAt exEnv.ds 2 0 ∧ ¬ PitAt exEnv.ds 1 0 := by
  unfold PitAt; decide +kernel

/-- the whole of `ihu` (niter = 5, all options on) on the 3×7 raster above, upstream areas in quarter units: the first
pass flags coarse cell 3, the first round relocates the outlet of coarse cell 2 and ends the iteration -/
example : (ihuModel exEnv.ds (exEnv.upa.map (· * 4)) (Array.replicate 21 true) ⟨3, 7, 2⟩ ⟨5, true, true, 2⟩
      ⟨[[0], [0, 1, 2], []], 0⟩).map (fun r => (r.1, r.2.1, r.2.2.bad, r.2.2.q.length)) =
    some (#[1, 1, 1, 2, 0, 0, 1, 6], #[8, 9, 4, 6, 14, 16, 18, 20], 0, 0) := by decide +kernel

/-- hypothesis `FineWF` of `ihu_outlets` on it (as the executable check `chkFineWF`, sound by `hyp_checks_sound` of C09) -/
example : chkFineWF exEnv.ds = true := by decide +kernel

/-- a 5×3 raster, scale 4 (coarse 2×1), large user upstream areas: `ihu_optimize_rivlen` replaces the outlet pixel 11 of
coarse cell 0 (one pixel away from the outlet of cell 1: "short") by the pit 1 and makes cell 0 a pit -/
def exREnv : Env :=
  { ds := #[3, 1, 4, 1, 0, 2, 15, 15, 5, 13, 15, 13, 15, 13, 11],
    upa := #[2600, 4200, 1800, 3800, 2400, 1600, 0, 0, 400, 80000000200, 0, 80000002000, 0, 160000002600, 80000001400],
    subncol := 3, cs := 4, nrow := 2, ncol := 1 }
def exRStreams : Array Int := #[-9, -9, -9, -9, -9, -9, -9, -9, -9, -9, -9, 0, -9, 1, -9]

example : (optimizeRivlen exREnv ⟨4, 4, 16⟩ [0, 1] #[true, true] (exRStreams, #[1, 1], #[11, 13])).map
    (fun r => (r.2.1, r.2.2)) = some (#[0, 1], #[1, 13]) := by decide +kernel

/-- hypotheses and conclusion of `optimize_rivlen_outlets_exit` on it (through the checks) -/
example : chkOwnCell exREnv #[11, 13] = true ∧ chkOutletPix exREnv #[11, 13] = true ∧
    chkOwnCell exREnv #[1, 13] = true ∧ chkOutletPix exREnv #[1, 13] = true := by decide +kernel

/-- a 1×7 raster, scale 2 (coarse 1×4): `ihu_minimize_error` with `pit_out_of_cell = 2` moves the outlet of coarse cell 3
from pixel 6 to the pit 5, which lies in coarse cell 2 — the outlet is a pit (`OutletOrPit`) but no longer in its own
cell, and `chkOwnCell` is lost; with `pit_out_of_cell = 0` nothing moves -/
def exMEnv : Env :=
  { ds := #[7, 7, 2, 4, 4, 5, 5], upa := #[-9999, -9999, 1, 1, 2, 2, 1], subncol := 7, cs := 2, nrow := 1, ncol := 4 }
def exMStreams : Array Int := #[-9, -9, 1, -9, 2, -9, 3]

example : (minimizeError exMEnv ⟨2, 4, 1⟩ 2 [3] (exMStreams, #[4, 1, 2, 2], #[7, 2, 4, 6]) ⟨[[0]], 0⟩).map
    (fun r => (r.1.2.1, r.1.2.2, r.2.bad)) = some (#[4, 1, 2, 3], #[7, 2, 4, 5], 0) := by decide +kernel

example : chkOwnCell exMEnv #[7, 2, 4, 6] = true ∧ chkOutletPix exMEnv #[7, 2, 4, 6] = true ∧
    chkOwnCell exMEnv #[7, 2, 4, 5] = false ∧ exMEnv.ds[5]! = 5 ∧ exMEnv.cell 5 = 2 := by decide +kernel

example : (minimizeError exMEnv ⟨2, 4, 1⟩ 0 [3] (exMStreams, #[4, 1, 2, 2], #[7, 2, 4, 6]) ⟨[[0]], 0⟩).map
    (fun r => r.1.2.2) = some #[7, 2, 4, 6] := by decide +kernel

/-! ## 6. Open finding F09c reproduced by the model

`from_array(9×7 D8 raster of known_findings.json F09c).upscale(2, 'ihu')`: the state handed to the first call of
`ihu_minimize_error` (`pit_out_of_cell = 0`) is loop-free; the model of `ihu_minimize_error` — like the code — re-points
coarse cell 12 to 8 and coarse cell 15 to 14, which closes the coarse loop 8→13→18→15→14→17→16→12→8. -/

def f09cEnv : Env :=
  { ds := #[7, 0, 1, 4, 5, 12, 13, 8, 14, 2, 17, 10, 11, 20, 21, 9, 15, 17, 63, 63, 20, 28, 15, 31, 30, 63, 63, 34, 29,
            35, 22, 39, 38, 33, 41, 36, 44, 30, 45, 39, 32, 47, 50, 37, 51, 39, 54, 46, 40, 43, 56, 52, 60, 59, 53, 48,
            57, 49, 50, 58, 61, 55, 55],
    upa := #[25, 24, 23, 1, 2, 3, 1, 26, 27, 22, 6, 5, 4, 2, 28, 21, 1, 7, -9999, -9999, 3, 29, 19, 1, 1, -9999, -9999,
             1, 30, 31, 18, 2, 43, 1, 2, 32, 33, 16, 44, 48, 42, 3, 1, 15, 34, 45, 5, 4, 41, 14, 11, 35, 36, 7, 6, 40,
             12, 13, 9, 8, 37, 38, 1],
    subncol := 7, cs := 2, nrow := 5, ncol := 4 }
def f09cStreams : Array Int :=
  #[-1, -1, 1, -9, -9, -9, -9, -9, 0, -9, -9, 2, -9, 3, -9, -1, -9, 5, -9, -9, 7, 4, -1, -9, -9, -9, -9, -9, -1, -1, -1,
    -9, -9, -9, -9, -9, 8, -1, 9, 10, -1, 11, -9, 12, -1, -9, -1, -1, 15, -9, -1, -9, 13, 14, -9, -9, -9, 16, 17, -9,
    -9, 18, 19]
def f09cCds : Array Nat := #[4, 0, 5, 7, 8, 5, 20, 7, 13, 10, 10, 14, 9, 18, 17, 10, 12, 16, 15, 15]
def f09cOut : Array Nat := #[8, 2, 11, 13, 21, 17, 63, 20, 36, 38, 39, 41, 43, 52, 53, 48, 57, 58, 61, 62]
def f09cRes : Array Nat := #[4, 0, 5, 7, 8, 5, 20, 7, 13, 10, 10, 14, 8, 18, 17, 14, 12, 16, 15, 15]

/-- every valid coarse cell of the input state reaches a pit (within 20 steps): the input is loop-free -/
example : (List.range 20).all (fun c => f09cCds[c]! == 20 ||
    f09cCds[iterA f09cCds 20 c]! == iterA f09cCds 20 c) = true := by decide +kernel

/-- the model's output (`minlen = 2/4`, `minupa = 1`, `pit_out_of_cell = 0`, erroneous cells 12 and 15) … -/
example : (minimizeError f09cEnv ⟨2, 4, 1⟩ 0 [12, 15] (f09cStreams, f09cCds, f09cOut) ⟨[[0, 1]], 0⟩).map
    (fun r => (r.1.2.1, r.1.2.2)) = some (f09cRes, f09cOut) := by decide +kernel

/-- `f09cRes` contains a loop: eight steps from coarse cell 8 lead back to coarse cell 8, which is not a pit -/
example : iterA f09cRes 8 8 = 8 ∧ f09cRes[8]! ≠ 8 ∧
    [8, 13, 18, 15, 14, 17, 16, 12].map (fun c => f09cRes[c]!) = [13, 18, 15, 14, 17, 16, 12, 8] := by decide +kernel

end Pf.C09ihu
