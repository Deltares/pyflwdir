import PfVerif.Proofs.C14_rivEst
import PfVerif.Proofs.C14_rivSlope
import PfVerif.Proofs.C14_rivDem
/-! # C14, extension `riv` — estuary classification, Manning river depth, DEM slope

Theorems about the models of `lean/PfVerif/Model/C14_riv.lean` (`rivers.classify_estuary`, the
Manning branch of `Flwdir.river_depth`, `dem.slope`). Every theorem quantifies over all networks /
rasters, all cell orders satisfying `Topo` and all fields; no size bounds. The correspondence with
the code is checked by `harness/props/c14_riv.py`. -/
namespace Pf.C14x
open Pf

/-! ## `rivers.classify_estuary` -/

/-- outlets: the array the sweep starts from holds 1 exactly at the listed pits whose elevation is
at most `max_elevtn`, 0 elsewhere. -/
theorem estuary_init (n : Nat) (pits : List Nat) (elevtn : Array Int) (maxElev : Int) (j : Nat) :
    (estInit n pits elevtn maxElev).size = n ∧
    (estInit n pits elevtn maxElev)[j]! = if j ∈ pits ∧ elevtn[j]! ≤ maxElev ∧ j < n then 1 else 0 :=
  ⟨estInit_size n pits elevtn maxElev, estInit_get n pits elevtn maxElev j⟩

/-- the link test, spelled out: the downstream cell lies at distance 0 and the river does not widen
going downstream (`dw ≤ 0`), or the link has positive length and the width convergence `dw/dx`
exceeds `min_convergence = mcNum/mcDen` (cross-multiplied; `dw/dx` is evaluated only for `dx > 0`). -/
theorem estuary_link_test (P : EstParams) (ds : Array Nat) (i : Nat) :
    estCond P ds i = true ↔
      (P.rivdst[ds[i]!]! = 0 ∧ P.rivwth[ds[i]!]! - P.rivwth[i]! ≤ 0) ∨
      (P.rivdst[i]! - P.rivdst[ds[i]!]! > 0 ∧
        (P.rivwth[ds[i]!]! - P.rivwth[i]!) * P.mcDen > P.mcNum * (P.rivdst[i]! - P.rivdst[ds[i]!]!)) := by
  simp [estCond]

/-- After the sweep
* a cell is classified (`≠ 0`) iff it was an outlet, or it is a non-pit cell of the sequence whose
  downstream cell is classified and whose link passes the test;
* it is marked `2` iff it is classified and some inflowing link of the sequence fails the test;
* every value is 0, 1 or 2 (so a classified cell all of whose inflowing links pass - in particular a
  classified headwater - is 1). -/
theorem estuary_rec (ds : Array Nat) (cond : Nat → Bool) (init : Array Int) (seq : List Nat)
    (htopo : Topo ds seq) (hb : ∀ i ∈ seq, i < init.size) (h01 : ∀ j : Nat, init[j]! = 0 ∨ init[j]! = 1) :
    let R := estSweep ds cond seq init
    (∀ j : Nat, R[j]! ≠ 0 ↔ init[j]! ≠ 0 ∨ (j ∈ seq ∧ ds[j]! ≠ j ∧ R[ds[j]!]! ≠ 0 ∧ cond j = true)) ∧
    (∀ j : Nat, R[j]! = 2 ↔ R[j]! ≠ 0 ∧ ∃ c ∈ seq, ds[c]! = j ∧ c ≠ j ∧ cond c = false) ∧
    (∀ j : Nat, R[j]! = 0 ∨ R[j]! = 1 ∨ R[j]! = 2) := by
  obtain ⟨_, h1, h2, h3⟩ := estInv_sweep ds cond init seq htopo hb h01
  exact ⟨h1, h2, h3⟩

/-- `Est i`: walking downstream from `i` an outlet of an estuary is reached and every link passed on
the way satisfies the link test. -/
inductive Est (ds : Array Nat) (cond : Nat → Bool) (init : Array Int) : Nat → Prop
  | outlet (i : Nat) : init[i]! ≠ 0 → Est ds cond init i
  | link (i : Nat) : ds[i]! ≠ i → cond i = true → Est ds cond init ds[i]! → Est ds cond init i

/-- A cell of the sequence is classified iff its flow path reaches an estuary
outlet through links that all pass the test. -/
theorem estuary_path (ds : Array Nat) (cond : Nat → Bool) (init : Array Int) (seq : List Nat)
    (htopo : Topo ds seq) (hb : ∀ i ∈ seq, i < init.size) (h01 : ∀ j : Nat, init[j]! = 0 ∨ init[j]! = 1) :
    ∀ i ∈ seq, ((estSweep ds cond seq init)[i]! ≠ 0 ↔ Est ds cond init i) := by
  obtain ⟨hnz, _, _⟩ := estuary_rec ds cond init seq htopo hb h01
  have hfwd : ∀ i ∈ seq, (estSweep ds cond seq init)[i]! ≠ 0 → Est ds cond init i := by
    refine htopo.induction _ (fun j hj hd => ?_)
    intro h
    rcases (hnz j).1 h with h0 | ⟨_, hp, hd0, hc⟩
    · exact Est.outlet j h0
    · exact Est.link j hp hc ((hd hp).2 hd0)
  have hbwd : ∀ i, Est ds cond init i → i ∈ seq → (estSweep ds cond seq init)[i]! ≠ 0 := by
    intro i he
    induction he with
    | outlet i h0 => intro _; exact (hnz i).2 (Or.inl h0)
    | link i hp hc _ ih =>
      intro hi
      exact (hnz i).2 (Or.inr ⟨hi, hp, ih (Topo.ds_mem htopo i hi), hc⟩)
  exact fun i hi => ⟨hfwd i hi, fun h => hbwd i h hi⟩

/-- cells outside the sequence keep their initial value. -/
theorem estuary_outside (ds : Array Nat) (cond : Nat → Bool) (init : Array Int) (seq : List Nat)
    (htopo : Topo ds seq) (hb : ∀ i ∈ seq, i < init.size) (h01 : ∀ j : Nat, init[j]! = 0 ∨ init[j]! = 1) :
    ∀ j, j ∉ seq → (estSweep ds cond seq init)[j]! = init[j]! := by
  obtain ⟨hnz, htwo, hrng⟩ := estuary_rec ds cond init seq htopo hb h01
  intro j hj
  have h2 : (estSweep ds cond seq init)[j]! ≠ 2 := by
    intro h
    obtain ⟨_, c, hc, hd, _, _⟩ := (htwo j).1 h
    exact hj (hd ▸ Topo.ds_mem htopo c hc)
  have hz : (estSweep ds cond seq init)[j]! ≠ 0 ↔ init[j]! ≠ 0 := by
    rw [hnz j]
    constructor
    · rintro (h | ⟨h, _⟩)
      · exact h
      · exact absurd h hj
    · exact Or.inl
  rcases hrng j with h | h | h
  · rcases h01 j with h' | h'
    · rw [h, h']
    · exact absurd h (hz.2 (by rw [h']; decide))
  · rcases h01 j with h' | h'
    · exact absurd h' (hz.1 (by rw [h]; decide))
    · rw [h, h']
  · exact absurd h h2

/-- For every cell of the sequence the class is
`0` if the cell is not part of an estuary, `2` if it is and some inflowing link fails the test (the
estuary ends there on that branch), `1` otherwise; "part of an estuary" is the flow-path relation
`Est` whose outlets are the listed pits with `elevtn ≤ max_elevtn`. -/
theorem classify_estuary_def (ds : Array Nat) (seq pits : List Nat) (P : EstParams) (elevtn : Array Int)
    (maxElev : Int) (htopo : Topo ds seq) (hb : ∀ i ∈ seq, i < ds.size) :
    ∀ i ∈ seq, ∀ (_ : Decidable (Est ds (estCond P ds) (estInit ds.size pits elevtn maxElev) i))
      (_ : Decidable (∃ c ∈ seq, ds[c]! = i ∧ c ≠ i ∧ estCond P ds c = false)),
      (classifyEstuary ds seq pits P elevtn maxElev)[i]! =
        if Est ds (estCond P ds) (estInit ds.size pits elevtn maxElev) i then
          (if ∃ c ∈ seq, ds[c]! = i ∧ c ≠ i ∧ estCond P ds c = false then 2 else 1)
        else 0 := by
  intro i hi _ _
  have hb' : ∀ i ∈ seq, i < (estInit ds.size pits elevtn maxElev).size := by
    intro i hi; rw [estInit_size]; exact hb i hi
  have h01 := estInit_01 ds.size pits elevtn maxElev
  obtain ⟨_, htwo, hrng⟩ := estuary_rec ds (estCond P ds) _ seq htopo hb' h01
  have hpath := estuary_path ds (estCond P ds) _ seq htopo hb' h01 i hi
  unfold classifyEstuary
  by_cases he : Est ds (estCond P ds) (estInit ds.size pits elevtn maxElev) i
  · have hne := hpath.2 he
    rw [if_pos he]
    by_cases hx : ∃ c ∈ seq, ds[c]! = i ∧ c ≠ i ∧ estCond P ds c = false
    · rw [if_pos hx]; exact (htwo i).2 ⟨hne, hx⟩
    · rw [if_neg hx]
      rcases hrng i with h | h | h
      · exact absurd h hne
      · exact h
      · exact absurd ((htwo i).1 h).2 hx
  · rw [if_neg he]
    exact Classical.byContradiction fun h => he (hpath.1 h)

/-- the walk oracle evaluated by the driver is sound for the flow-path relation -/
theorem estWalk_sound (ds : Array Nat) (cond : Nat → Bool) (init : Array Int) :
    ∀ fuel i, estWalk ds cond (fun k => init[k]! != 0) fuel i = true → Est ds cond init i := by
  intro fuel
  induction fuel with
  | zero => intro i h; simp [estWalk] at h
  | succ f ih =>
    intro i h
    simp only [estWalk, Bool.or_eq_true, Bool.and_eq_true, bne_iff_ne] at h
    rcases h with h | ⟨⟨hp, hc⟩, hw⟩
    · exact Est.outlet i h
    · exact Est.link i hp hc (ih _ hw)

/-- the walk oracle is complete: some amount of fuel finds the outlet. -/
theorem estWalk_complete (ds : Array Nat) (cond : Nat → Bool) (init : Array Int) (i : Nat)
    (h : Est ds cond init i) : ∃ fuel, estWalk ds cond (fun k => init[k]! != 0) fuel i = true := by
  induction h with
  | outlet i h0 => exact ⟨1, by simp [estWalk, h0]⟩
  | link i hp hc _ ih =>
    obtain ⟨f, hf⟩ := ih
    exact ⟨f + 1, by simp [estWalk, hp, hc, hf]⟩

/-- For every network, every downstream-first order that covers the
network, every link test and every 0/1 start array: the down-to-upstream sweep returns, at every cell
of the order, the declarative class `estSpec` the driver evaluates - `0` unless the walk down the flow
path (fuel `ds.size + 1`, proved sufficient) reaches an outlet through passing links only, `2` if some
inflowing link found by exhaustive search fails the test, `1` otherwise. -/
theorem estSweep_eq_spec (ds : Array Nat) (cond : Nat → Bool) (init : Array Int) (seq : List Nat)
    (isOutlet : Nat → Bool) (htopo : Topo ds seq) (hb : ∀ i ∈ seq, i < init.size)
    (hbd : ∀ i ∈ seq, i < ds.size) (h01 : ∀ j : Nat, init[j]! = 0 ∨ init[j]! = 1)
    (hout : ∀ k, isOutlet k = true ↔ init[k]! ≠ 0) (hcov : ∀ c, isValid ds c = true → c ∈ seq) :
    ∀ i ∈ seq, (estSweep ds cond seq init)[i]! = estSpec ds cond isOutlet i := by
  intro i hi
  obtain ⟨_, _, htwo, hrng⟩ := estInv_sweep ds cond init seq htopo hb h01
  have hw := estWalk_iff_nz ds cond init seq isOutlet htopo hb h01 hout (ds.size + 1) i hi
    (htopo.reach_size_c14 hbd i hi)
  have ha := estAny_iff ds cond seq htopo hbd hcov i
  unfold estSpec
  by_cases hwk : estWalk ds cond isOutlet (ds.size + 1) i = true
  · rw [if_pos hwk]
    have hne := hw.1 hwk
    by_cases hany : ((List.range ds.size).any fun c => isValid ds c && ds[c]! == i && c != i && !cond c) = true
    · rw [if_pos hany]
      exact (htwo i).2 ⟨hne, ha.1 hany⟩
    · rw [if_neg hany]
      rcases hrng i with h | h | h
      · exact absurd h hne
      · exact h
      · exact absurd (ha.2 ((htwo i).1 h).2) hany
  · rw [if_neg hwk]
    exact Classical.byContradiction fun h => hwk (hw.2 h)

/-- With `idxs_pit` the pits in index order (what `Flwdir.idxs_pit` holds; the driver reports `pits_ok`) and
a downstream-first order that consists of exactly the cells of the network, the model of the kernel equals,
cell for cell, the array the driver computes as `spec`: `estSpec` (outlets = pits with `elevtn ≤
max_elevtn`) on the cells of the network and `0` outside. The fuel of the oracle's
walk is proved sufficient (`Topo.reach_size_c14`). -/
theorem estModel_eq_spec (ds : Array Nat) (seq : List Nat) (P : EstParams) (elevtn : Array Int)
    (maxElev : Int) (htopo : Topo ds seq) (hb : ∀ i ∈ seq, i < ds.size)
    (hcov : ∀ c, isValid ds c = true → c ∈ seq) (i : Nat) (hi : i < ds.size) :
    (classifyEstuary ds seq (pitIndices ds) P elevtn maxElev)[i]! =
      if isValid ds i then estSpec ds (estCond P ds) (fun k => isPit ds k && decide (elevtn[k]! ≤ maxElev)) i
      else 0 := by
  have hb' : ∀ i ∈ seq, i < (estInit ds.size (pitIndices ds) elevtn maxElev).size := by
    intro i hi; rw [estInit_size]; exact hb i hi
  have h01 := estInit_01 ds.size (pitIndices ds) elevtn maxElev
  unfold classifyEstuary
  by_cases hv : isValid ds i = true
  · rw [if_pos hv]
    exact estSweep_eq_spec ds (estCond P ds) _ seq _ htopo hb' hb h01
      (estInit_outlet ds elevtn maxElev) hcov i (hcov i hv)
  · rw [if_neg hv]
    have hns : i ∉ seq := fun h => hv (Topo.isValid htopo hb i h)
    rw [estuary_outside ds (estCond P ds) _ seq htopo hb' h01 i hns]
    have hno : ¬ (isPit ds i && decide (elevtn[i]! ≤ maxElev)) = true := by
      intro h
      simp only [isPit, Bool.and_eq_true, decide_eq_true_eq, beq_iff_eq] at h
      apply hv
      simp only [isValid, Bool.and_eq_true, decide_eq_true_eq, bne_iff_ne]
      exact ⟨hi, by rw [h.1.2]; omega⟩
    exact Classical.byContradiction fun h => hno ((estInit_outlet ds elevtn maxElev i).2 h)

/-! ## Manning branch of `Flwdir.river_depth` -/

/-- `dz`, `dx` are the differences with the downstream cell (with the cell itself
outside the network and hence 0 at pits); the local slope is `S·dz/dx` when the link is at least 1 m
long and nodata otherwise (so in particular at pits and outside the network). -/
theorem river_local_slope (ds : Array Nat) (P : RdParams) (i : Nat) (hi : i < ds.size) :
    rdDz ds P i = P.zs[i]! - (if ds[i]! ≠ ds.size then P.zs[ds[i]!]! else P.zs[i]!) ∧
    rdDx ds P i = P.rivdst[i]! - (if ds[i]! ≠ ds.size then P.rivdst[ds[i]!]! else P.rivdst[i]!) ∧
    (rivslpLocal ds P)[i]! = if rdDx ds P i ≥ P.K then P.S * rdDz ds P i / rdDx ds P i else P.nd := by
  refine ⟨?_, ?_, rivslpLocal_get ds P i hi⟩
  · simp [rdDz, downstream_get ds P.zs i hi]
  · simp [rdDx, downstream_get ds P.rivdst i hi]

/-- the integer the model stores is the slope over the scale `S` whenever the division is exact
(`riverExact`, reported by the driver for every case). -/
theorem river_local_exact (ds : Array Nat) (P : RdParams) (i : Nat) (hi : i < ds.size)
    (hx : rdDx ds P i ≥ P.K) (hdiv : (P.S * rdDz ds P i) % rdDx ds P i = 0) :
    (rivslpLocal ds P)[i]! * rdDx ds P i = P.S * rdDz ds P i := by
  rw [rivslpLocal_get ds P i hi, if_pos hx]
  exact Int.ediv_mul_cancel (Int.dvd_of_emod_eq_zero hdiv)

/-- a pit has no local slope (`dx = 0 < 1 m`), nor has a cell outside the network. -/
theorem river_pit_no_slope (ds : Array Nat) (P : RdParams) (i : Nat) (hi : i < ds.size)
    (hp : ds[i]! = i ∨ ds[i]! = ds.size) (hK : 0 < P.K) : (rivslpLocal ds P)[i]! = P.nd := by
  obtain ⟨_, hdx, hl⟩ := river_local_slope ds P i hi
  have : rdDx ds P i = 0 := by
    rw [hdx]
    rcases hp with h | h
    · rw [h, ite_self]; exact Int.sub_self _
    · rw [if_neg (fun h' => h' h)]; exact Int.sub_self _
  rw [hl, this, if_neg (by omega)]

/-- the slope value cell `j` holds after `fillnodata` (`none` = still nodata) -/
def slopeOpt (ds : Array Nat) (seq : List Nat) (P : RdParams) (j : Nat) : Option Int :=
  fillOpt ds seq (rivslpLocal ds P) P.nd 0 j

/-- A cell with a local slope keeps it; a cell without
gets the maximum of the slopes of its direct upstream cells (after these were filled the same way),
ignoring those that stay empty; the slope finally used is the maximum of that value (or of nodata
= −9999 if the cell stays empty) and `min_rivslp`. -/
theorem river_slope_rec (ds : Array Nat) (seq : List Nat) (P : RdParams) (htopo : Topo ds seq)
    (hb : ∀ i ∈ seq, i < ds.size) (j : Nat) (hj : j < ds.size) :
    slopeOpt ds seq P j =
      (if (rivslpLocal ds P)[j]! ≠ P.nd then some (rivslpLocal ds P)[j]!
       else mergeBranches 0 ((kids ds seq j).map fun c => slopeOpt ds seq P c)) ∧
    (rivslpFinal ds seq P)[j]! = maxSlope P ((slopeOpt ds seq P j).getD P.nd) :=
  slopeOpt_rec ds seq P htopo hb j hj

/-- a cell with a local slope uses its own: `max(min_rivslp, dz/dx)`. -/
theorem river_slope_own (ds : Array Nat) (seq : List Nat) (P : RdParams) (htopo : Topo ds seq)
    (hb : ∀ i ∈ seq, i < ds.size) (j : Nat) (hj : j < ds.size) (hown : (rivslpLocal ds P)[j]! ≠ P.nd) :
    (rivslpFinal ds seq P)[j]! = maxSlope P (rivslpLocal ds P)[j]! := by
  obtain ⟨h1, h2⟩ := river_slope_rec ds seq P htopo hb j hj
  rw [h2, h1, if_pos hown]; rfl

/-- `Feeds k j`: `j` is reached from `k` through cells
without a local slope only. The value of a cell is at least the local slope of every nearest cell
upstream that has one, and it is its own local slope or the local slope of one of them: a cell
without a local slope uses exactly the largest local slope among the nearest upstream cells that
have one. -/
theorem river_slope_frontier (ds : Array Nat) (seq : List Nat) (P : RdParams) (htopo : Topo ds seq)
    (hb : ∀ i ∈ seq, i < ds.size) :
    (∀ k ∈ seq, (rivslpLocal ds P)[k]! ≠ P.nd → ∀ j, Feeds ds (rivslpLocal ds P) P.nd k j →
      ∃ r, slopeOpt ds seq P j = some r ∧ (rivslpLocal ds P)[k]! ≤ r) ∧
    (∀ j ∈ seq, ∀ r, slopeOpt ds seq P j = some r →
      ((rivslpLocal ds P)[j]! ≠ P.nd ∧ r = (rivslpLocal ds P)[j]!) ∨
      ∃ k ∈ seq, (rivslpLocal ds P)[k]! ≠ P.nd ∧ Feeds ds (rivslpLocal ds P) P.nd k j ∧
        r = (rivslpLocal ds P)[k]!) :=
  slopeOpt_frontier ds seq P htopo hb

/-- `max(min_rivslp, v/S)`: the result is one of the two, and at least both (as fractions with
positive denominators). -/
theorem maxSlope_spec (P : RdParams) (v : Int) (_hS : 0 < P.S) (_hD : 0 < P.minDen) :
    (maxSlope P v = (v, P.S) ∨ maxSlope P v = (P.minNum, P.minDen)) ∧
    P.minNum * (maxSlope P v).2 ≤ (maxSlope P v).1 * P.minDen ∧
    v * (maxSlope P v).2 ≤ (maxSlope P v).1 * P.S := by
  rw [maxSlope_eq_fracMax]
  obtain ⟨h1, h2, h3⟩ := fracMax_cases (P.minNum, P.minDen) (v, P.S)
  exact ⟨h1.symm, h2, h3⟩

theorem river_slope_ge_min (ds : Array Nat) (seq : List Nat) (P : RdParams) (j : Nat) (hj : j < ds.size)
    (hS : 0 < P.S) (hD : 0 < P.minDen) :
    P.minNum * ((rivslpFinal ds seq P)[j]!).2 ≤ ((rivslpFinal ds seq P)[j]!).1 * P.minDen := by
  rw [rivslpFinal_get ds seq P j hj]
  exact (maxSlope_spec P _ hS hD).2.1

/-- a cell that stays without a slope (no local slope at or upstream of it through empty cells) uses
`min_rivslp` (provided `min_rivslp > −9999`). -/
theorem river_slope_none (ds : Array Nat) (seq : List Nat) (P : RdParams) (htopo : Topo ds seq)
    (hb : ∀ i ∈ seq, i < ds.size) (j : Nat) (hj : j < ds.size) (hS : 0 < P.S)
    (hmin : -9999 * P.minDen < P.minNum) (hnone : slopeOpt ds seq P j = none) :
    (rivslpFinal ds seq P)[j]! = (P.minNum, P.minDen) := by
  obtain ⟨_, h2⟩ := river_slope_rec ds seq P htopo hb j hj
  rw [h2, hnone]
  exact maxSlope_nd P hS hmin

/-- Outside the network the result is the nodata token; elsewhere it is the maximum of
`min_rivdph` and the power law evaluated at the cell with the slope that cell uses. -/
theorem river_depth_def (ds : Array Nat) (seq : List Nat) (P : RdParams) (pw : Nat → Int × Int → Int)
    (minDph ndOut : Int) (i : Nat) (hi : i < ds.size) :
    (riverDepth ds seq P pw minDph ndOut)[i]! =
      if ds[i]! = ds.size then ndOut else max minDph (pw i (rivslpFinal ds seq P)[i]!) :=
  riverDepth_get ds seq P pw minDph ndOut i hi

theorem river_depth_ge_min (ds : Array Nat) (seq : List Nat) (P : RdParams) (pw : Nat → Int × Int → Int)
    (minDph ndOut : Int) (i : Nat) (hi : i < ds.size) (hv : ds[i]! ≠ ds.size) :
    minDph ≤ (riverDepth ds seq P pw minDph ndOut)[i]! := by
  rw [riverDepth_get ds seq P pw minDph ndOut i hi, if_neg hv]; omega

/-- At a fixed cell (hence fixed slope) a larger value of the
power law never gives a smaller depth: the only operations after the power law are the maximum with
`min_rivdph` and the nodata mask. -/
theorem river_depth_mono_pw (ds : Array Nat) (seq : List Nat) (P : RdParams) (pw pw' : Nat → Int × Int → Int)
    (minDph ndOut : Int) (i : Nat) (hi : i < ds.size)
    (h : pw i (rivslpFinal ds seq P)[i]! ≤ pw' i (rivslpFinal ds seq P)[i]!) :
    (riverDepth ds seq P pw minDph ndOut)[i]! ≤ (riverDepth ds seq P pw' minDph ndOut)[i]! :=
  riverDepth_le ds seq P P pw pw' minDph ndOut i hi h

/-- depth is non-decreasing in the bankfull discharge (fixed network, water levels, distances,
width, roughness). Rational model of `((manning·Q)/(√slope·w))^(3/5)`: `pow`, `sq` (root of the slope
fraction) and `tok` (value ↦ ordered token) are parameters of which only monotonicity (`pow`, `tok`) is
used; the roughness is non-negative and `√slope·w ≥ 0` at the cell. Holds for every network, every
order and every field - the slope a cell uses does not depend on the discharge. -/
theorem river_depth_mono_discharge (ds : Array Nat) (seq : List Nat) (P : RdParams) (pow : Rat → Rat)
    (sq : Int × Int → Rat) (tok : Rat → Int) (hpow : ∀ a b, a ≤ b → pow a ≤ pow b)
    (htok : ∀ a b, a ≤ b → tok a ≤ tok b) (manning q q' w : Array Rat) (minDph ndOut : Int) (i : Nat)
    (hi : i < ds.size) (hn : 0 ≤ manning[i]!) (hd : 0 ≤ sq (rivslpFinal ds seq P)[i]! * w[i]!)
    (hq : q[i]! ≤ q'[i]!) :
    (riverDepth ds seq P (manningPw pow sq tok manning q w) minDph ndOut)[i]! ≤
      (riverDepth ds seq P (manningPw pow sq tok manning q' w) minDph ndOut)[i]! :=
  river_depth_mono_pw ds seq P _ _ minDph ndOut i hi
    (htok _ _ (hpow _ _ (manningArg_mono_num _ _ _ _ _ _ hd (Rat.mul_le_mul_of_nonneg_left hq hn))))

/-- the same for the roughness coefficient (discharge non-negative). -/
theorem river_depth_mono_manning (ds : Array Nat) (seq : List Nat) (P : RdParams) (pow : Rat → Rat)
    (sq : Int × Int → Rat) (tok : Rat → Int) (hpow : ∀ a b, a ≤ b → pow a ≤ pow b)
    (htok : ∀ a b, a ≤ b → tok a ≤ tok b) (manning manning' q w : Array Rat) (minDph ndOut : Int) (i : Nat)
    (hi : i < ds.size) (hq : 0 ≤ q[i]!) (hd : 0 ≤ sq (rivslpFinal ds seq P)[i]! * w[i]!)
    (hn : manning[i]! ≤ manning'[i]!) :
    (riverDepth ds seq P (manningPw pow sq tok manning q w) minDph ndOut)[i]! ≤
      (riverDepth ds seq P (manningPw pow sq tok manning' q w) minDph ndOut)[i]! :=
  river_depth_mono_pw ds seq P _ _ minDph ndOut i hi
    (htok _ _ (hpow _ _ (manningArg_mono_num _ _ _ _ _ _ hd (Rat.mul_le_mul_of_nonneg_right hn hq))))

/-- depth is non-increasing in the river width (fixed discharge and slope; `manning·Q ≥ 0`,
`√slope > 0`, widths positive). -/
theorem river_depth_anti_width (ds : Array Nat) (seq : List Nat) (P : RdParams) (pow : Rat → Rat)
    (sq : Int × Int → Rat) (tok : Rat → Int) (hpow : ∀ a b, a ≤ b → pow a ≤ pow b)
    (htok : ∀ a b, a ≤ b → tok a ≤ tok b) (manning q w w' : Array Rat) (minDph ndOut : Int) (i : Nat)
    (hi : i < ds.size) (hnq : 0 ≤ manning[i]! * q[i]!) (hs : 0 < sq (rivslpFinal ds seq P)[i]!)
    (hw : 0 < w[i]!) (hww : w[i]! ≤ w'[i]!) :
    (riverDepth ds seq P (manningPw pow sq tok manning q w') minDph ndOut)[i]! ≤
      (riverDepth ds seq P (manningPw pow sq tok manning q w) minDph ndOut)[i]! :=
  river_depth_mono_pw ds seq P _ _ minDph ndOut i hi
    (htok _ _ (hpow _ _ (manningArg_anti_den _ _ _ _ _ _ hnq (Rat.mul_pos hs hw)
      (Rat.mul_le_mul_of_nonneg_left hww (Rat.le_of_lt hs)))))

/-! ### monotonicity in the slope computed through `zs` / `rivdst`

What holds. The depth is antitone in the slope the cell uses (for an antitone power-law parameter; for
the Manning form this is `manningArg_anti_den`), and that slope is monotone in the *local slope field*
as long as the set of cells without a local slope is the same (it is fixed by `rivdst`: links shorter
than 1 m): filling with `max` and the maximum with `min_rivslp` are monotone. Hence for fixed `rivdst`
the depth at EVERY cell is antitone in the water-surface drops `dz = zs − downstream(zs)` of all links.
It is NOT monotone in `zs` cell by cell (raising `zs[i]` steepens the link below `i` and flattens the
links into `i`), nor in `rivdst` when a link crosses the 1 m threshold (the nodata pattern changes);
both are excluded by the hypotheses below, not by the proof method. -/

/-- slope used is monotone in the local slope field (same cells without a local slope, `local ≤
local'` cell by cell; `rivdst` may differ as long as that pattern is the same): `slope ≤ slope'` at every
index, as fractions with positive denominators (cross-multiplied). -/
theorem river_slope_mono_local (ds : Array Nat) (seq : List Nat) (P P' : RdParams) (htopo : Topo ds seq)
    (hb : ∀ i ∈ seq, i < ds.size) (hS : 0 < P.S) (hD : 0 < P.minDen)
    (eS : P'.S = P.S) (eN : P'.minNum = P.minNum) (eD : P'.minDen = P.minDen)
    (hpat : ∀ j, j < ds.size → ((rivslpLocal ds P)[j]! = P.nd ↔ (rivslpLocal ds P')[j]! = P.nd))
    (hle : ∀ j, j < ds.size → (rivslpLocal ds P)[j]! ≠ P.nd → (rivslpLocal ds P)[j]! ≤ (rivslpLocal ds P')[j]!)
    (j : Nat) (hj : j < ds.size) :
    ((rivslpFinal ds seq P)[j]!).1 * ((rivslpFinal ds seq P')[j]!).2 ≤
      ((rivslpFinal ds seq P')[j]!).1 * ((rivslpFinal ds seq P)[j]!).2 ∧
    0 < ((rivslpFinal ds seq P)[j]!).2 ∧ 0 < ((rivslpFinal ds seq P')[j]!).2 := by
  refine ⟨rivslpFinal_mono_local ds seq P P' htopo hb hS hD eS eN eD hpat hle j hj, ?_, ?_⟩
  · rw [rivslpFinal_get ds seq P j hj]; exact maxSlope_den_pos P hS hD _
  · rw [rivslpFinal_get ds seq P' j hj]; exact maxSlope_den_pos P' (eS ▸ hS) (eD ▸ hD) _

/-- Same network, order, `rivdst`, scale, 1 m
threshold and `min_rivslp`; water levels `zs`, `zs'` with `dz ≤ dz'` on every link of at least 1 m
(divisions exact - `riverExact`, the driver's `exact` - and no drop equal to the nodata slope −9999):
every cell of the array uses a slope that is at most the one it uses with `zs'`. -/
theorem river_slope_mono_zs (ds : Array Nat) (seq : List Nat) (P P' : RdParams) (htopo : Topo ds seq)
    (hb : ∀ i ∈ seq, i < ds.size) (hS : 0 < P.S) (hK : 0 < P.K) (hD : 0 < P.minDen)
    (eS : P'.S = P.S) (eK : P'.K = P.K) (eN : P'.minNum = P.minNum) (eD : P'.minDen = P.minDen)
    (eR : P'.rivdst = P.rivdst)
    (hex : riverExact ds P = true) (hex' : riverExact ds P' = true)
    (hne : ∀ i, i < ds.size → rdDx ds P i ≥ P.K → rdDz ds P i ≠ -9999 * rdDx ds P i)
    (hne' : ∀ i, i < ds.size → rdDx ds P i ≥ P.K → rdDz ds P' i ≠ -9999 * rdDx ds P i)
    (hle : ∀ i, i < ds.size → rdDx ds P i ≥ P.K → rdDz ds P i ≤ rdDz ds P' i)
    (j : Nat) (hj : j < ds.size) :
    ((rivslpFinal ds seq P)[j]!).1 * ((rivslpFinal ds seq P')[j]!).2 ≤
      ((rivslpFinal ds seq P')[j]!).1 * ((rivslpFinal ds seq P)[j]!).2 ∧
    0 < ((rivslpFinal ds seq P)[j]!).2 ∧ 0 < ((rivslpFinal ds seq P')[j]!).2 := by
  refine ⟨rivslpFinal_mono_zs ds seq P P' htopo hb hS hK hD eS eK eN eD eR hex hex' hne hne' hle j hj, ?_, ?_⟩
  · rw [rivslpFinal_get ds seq P j hj]; exact maxSlope_den_pos P hS hD _
  · rw [rivslpFinal_get ds seq P' j hj]; exact maxSlope_den_pos P' (eS ▸ hS) (eD ▸ hD) _

/-- depth is antitone in the slope used (any power-law parameter that does not increase with the
slope fraction): a cell that uses a larger slope is not deeper. -/
theorem river_depth_anti_slope (ds : Array Nat) (seq : List Nat) (P P' : RdParams) (pw : Nat → Int × Int → Int)
    (hpw : ∀ i (s s' : Int × Int), 0 < s.2 → 0 < s'.2 → s.1 * s'.2 ≤ s'.1 * s.2 → pw i s' ≤ pw i s)
    (minDph ndOut : Int) (i : Nat) (hi : i < ds.size)
    (h : ((rivslpFinal ds seq P)[i]!).1 * ((rivslpFinal ds seq P')[i]!).2 ≤
          ((rivslpFinal ds seq P')[i]!).1 * ((rivslpFinal ds seq P)[i]!).2 ∧
         0 < ((rivslpFinal ds seq P)[i]!).2 ∧ 0 < ((rivslpFinal ds seq P')[i]!).2) :
    (riverDepth ds seq P' pw minDph ndOut)[i]! ≤ (riverDepth ds seq P pw minDph ndOut)[i]! :=
  riverDepth_le ds seq P' P pw pw minDph ndOut i hi (hpw i _ _ h.2.1 h.2.2 h.1)

/-- Manning depth is non-increasing in the water-surface drop (fixed network, distances, discharge,
roughness and width). Rational model of `((manning·Q)/(√slope·w))^(3/5)` as in
`river_depth_mono_discharge`: `pow`, `tok` monotone parameters, `sq` (root of the slope fraction)
monotone in the fraction order; `manning·Q ≥ 0`, `w > 0` and `√slope > 0` at the cell. With `dz ≤ dz'` on
every link of at least 1 m (hypotheses of `river_slope_mono_zs`) the depth with `zs'` is at most the
depth with `zs`, at every cell - also at cells that take their slope from upstream through `fillnodata`. -/
theorem river_depth_anti_zs (ds : Array Nat) (seq : List Nat) (P P' : RdParams) (pow : Rat → Rat)
    (sq : Int × Int → Rat) (tok : Rat → Int) (hpow : ∀ a b, a ≤ b → pow a ≤ pow b)
    (htok : ∀ a b, a ≤ b → tok a ≤ tok b)
    (hsq : ∀ s s' : Int × Int, 0 < s.2 → 0 < s'.2 → s.1 * s'.2 ≤ s'.1 * s.2 → sq s ≤ sq s')
    (manning q w : Array Rat) (minDph ndOut : Int)
    (htopo : Topo ds seq) (hb : ∀ i ∈ seq, i < ds.size) (hS : 0 < P.S) (hK : 0 < P.K) (hD : 0 < P.minDen)
    (eS : P'.S = P.S) (eK : P'.K = P.K) (eN : P'.minNum = P.minNum) (eD : P'.minDen = P.minDen)
    (eR : P'.rivdst = P.rivdst)
    (hex : riverExact ds P = true) (hex' : riverExact ds P' = true)
    (hne : ∀ i, i < ds.size → rdDx ds P i ≥ P.K → rdDz ds P i ≠ -9999 * rdDx ds P i)
    (hne' : ∀ i, i < ds.size → rdDx ds P i ≥ P.K → rdDz ds P' i ≠ -9999 * rdDx ds P i)
    (hle : ∀ i, i < ds.size → rdDx ds P i ≥ P.K → rdDz ds P i ≤ rdDz ds P' i)
    (i : Nat) (hi : i < ds.size) (hnq : 0 ≤ manning[i]! * q[i]!)
    (hs : 0 < sq (rivslpFinal ds seq P)[i]!) (hw : 0 < w[i]!) :
    (riverDepth ds seq P' (manningPw pow sq tok manning q w) minDph ndOut)[i]! ≤
      (riverDepth ds seq P (manningPw pow sq tok manning q w) minDph ndOut)[i]! := by
  obtain ⟨h1, h2, h3⟩ := river_slope_mono_zs ds seq P P' htopo hb hS hK hD eS eK eN eD eR hex hex' hne hne' hle i hi
  refine riverDepth_le ds seq P' P _ _ minDph ndOut i hi (htok _ _ (hpow _ _ ?_))
  exact manningArg_anti_den _ _ _ _ _ _ hnq (Rat.mul_pos hs hw)
    (Rat.mul_le_mul_of_nonneg_right (hsq _ _ h2 h3 h1) (Rat.le_of_lt hw))

/-- the quotient `num/den` of the slope fraction - the `sq` of the examples, and any monotone function of
it such as the real square root - is monotone in the fraction order (hypothesis `hsq` above) -/
theorem slope_quotient_mono (s s' : Int × Int) (h2 : 0 < s.2) (h2' : 0 < s'.2)
    (h : s.1 * s'.2 ≤ s'.1 * s.2) : (s.1 : Rat) / (s.2 : Rat) ≤ (s'.1 : Rat) / (s'.2 : Rat) :=
  fracVal_mono s.1 s.2 s'.1 s'.2 h2 h2' h

/-- The model works on scaled integers `S·dz/dx` and fills cells without a local slope by the
up-to-downstream `fillnodata` sweep in the order `seq`; the oracle `rivslpSpec` the driver evaluates is
independent of `S`, of `seq` and of the sweep: fractions `dz/dx`, for a cell without its own fraction the
largest fraction among the cells that reach it through slope-less cells only (found by walking downstream
from every cell with fuel `ds.size + 1` - proved sufficient), then the maximum with `min_rivslp`. For every
network, every downstream-first order consisting of the cells of the network, all fields such that the
scaled divisions are exact (`riverExact`, reported by the driver), `S, K, minDen > 0`, `min_rivslp > −9999`:
both are the same fraction with positive denominators at every index of the array. -/
theorem river_slope_eq_spec (ds : Array Nat) (seq : List Nat) (P : RdParams) (htopo : Topo ds seq)
    (hb : ∀ i ∈ seq, i < ds.size) (hcov : ∀ c, isValid ds c = true → c ∈ seq)
    (hS : 0 < P.S) (hK : 0 < P.K) (hD : 0 < P.minDen) (hmin : -9999 * P.minDen < P.minNum)
    (hex : riverExact ds P = true) (j : Nat) (hj : j < ds.size) :
    ((rivslpFinal ds seq P)[j]!).1 * (rivslpSpec ds P j).2 = (rivslpSpec ds P j).1 * ((rivslpFinal ds seq P)[j]!).2 ∧
    0 < ((rivslpFinal ds seq P)[j]!).2 ∧ 0 < (rivslpSpec ds P j).2 :=
  rivslpFinal_eq_spec_all ds seq P htopo hb hcov hS hK hD hmin hex j hj

/-- For every power-law parameter that depends on the
slope only as a fraction, the Manning depth of the model is `max(min_rivdph, pw(slope given by the
flow-path definition))` inside the network and nodata outside. -/
theorem river_depth_eq_spec (ds : Array Nat) (seq : List Nat) (P : RdParams) (pw : Nat → Int × Int → Int)
    (hpw : ∀ i (s s' : Int × Int), 0 < s.2 → 0 < s'.2 → s.1 * s'.2 = s'.1 * s.2 → pw i s = pw i s')
    (minDph ndOut : Int) (htopo : Topo ds seq)
    (hb : ∀ i ∈ seq, i < ds.size) (hcov : ∀ c, isValid ds c = true → c ∈ seq)
    (hS : 0 < P.S) (hK : 0 < P.K) (hD : 0 < P.minDen) (hmin : -9999 * P.minDen < P.minNum)
    (hex : riverExact ds P = true) (i : Nat) (hi : i < ds.size) :
    (riverDepth ds seq P pw minDph ndOut)[i]! =
      if ds[i]! = ds.size then ndOut else max minDph (pw i (rivslpSpec ds P i)) := by
  obtain ⟨h1, h2, h3⟩ := river_slope_eq_spec ds seq P htopo hb hcov hS hK hD hmin hex i hi
  rw [riverDepth_get ds seq P pw minDph ndOut i hi, hpw i _ _ h2 h3 h1]

/-- the driver's table parameter depends on the slope only as a fraction, so the depth the driver
reports as `model.depth` is the depth through the oracle's slope (hypothesis `hpw` of
`river_depth_eq_spec` discharged for `pwTable`). -/
theorem river_depth_table_eq_spec (ds : Array Nat) (seq : List Nat) (P : RdParams) (cn cd tab : Array Int)
    (minDph ndOut : Int) (htopo : Topo ds seq)
    (hb : ∀ i ∈ seq, i < ds.size) (hcov : ∀ c, isValid ds c = true → c ∈ seq)
    (hS : 0 < P.S) (hK : 0 < P.K) (hD : 0 < P.minDen) (hmin : -9999 * P.minDen < P.minNum)
    (hex : riverExact ds P = true) (i : Nat) (hi : i < ds.size) :
    (riverDepth ds seq P (pwTable ds.size cn cd tab) minDph ndOut)[i]! =
      if ds[i]! = ds.size then ndOut else max minDph (pwTable ds.size cn cd tab i (rivslpSpec ds P i)) :=
  river_depth_eq_spec ds seq P _ (fun i s s' h1 h2 h3 => pwTable_frac ds.size cn cd tab i s s' h1 h2 h3)
    minDph ndOut htopo hb hcov hS hK hD hmin hex i hi

/-- `estModel_eq_spec` and (below) `river_depth_table_eq_spec` with the hypothesis "the order holds every cell
of the network" in its executable form (`coversNet_c14`, the driver's output `cover`). -/
theorem estModel_eq_spec_cover (ds : Array Nat) (seq : List Nat) (P : EstParams) (elevtn : Array Int)
    (maxElev : Int) (htopo : Topo ds seq) (hb : ∀ i ∈ seq, i < ds.size)
    (hcov : coversNet_c14 ds seq = true) (i : Nat) (hi : i < ds.size) :
    (classifyEstuary ds seq (pitIndices ds) P elevtn maxElev)[i]! =
      if isValid ds i then estSpec ds (estCond P ds) (fun k => isPit ds k && decide (elevtn[k]! ≤ maxElev)) i
      else 0 :=
  estModel_eq_spec ds seq P elevtn maxElev htopo hb (coversNet_sound_c14 ds seq hcov) i hi

theorem river_depth_table_eq_spec_cover (ds : Array Nat) (seq : List Nat) (P : RdParams) (cn cd tab : Array Int)
    (minDph ndOut : Int) (htopo : Topo ds seq) (hb : ∀ i ∈ seq, i < ds.size)
    (hcov : coversNet_c14 ds seq = true)
    (hyp : decide (0 < P.S ∧ 0 < P.K ∧ 0 < P.minDen ∧ -9999 * P.minDen < P.minNum) = true)
    (hex : riverExact ds P = true) (i : Nat) (hi : i < ds.size) :
    (riverDepth ds seq P (pwTable ds.size cn cd tab) minDph ndOut)[i]! =
      if ds[i]! = ds.size then ndOut else max minDph (pwTable ds.size cn cd tab i (rivslpSpec ds P i)) := by
  obtain ⟨hS, hK, hD, hmin⟩ := of_decide_eq_true hyp
  exact river_depth_table_eq_spec ds seq P cn cd tab minDph ndOut htopo hb (coversNet_sound_c14 ds seq hcov)
    hS hK hD hmin hex i hi

/-! ## `dem.slope` -/

/-- A cell holding a value gets `hyp row gx gy` with the two finite-difference
numerators of its 3×3 window; a nodata cell gets nodata. -/
theorem slope_cell_def {α : Type} [Inhabited α] (hyp : Nat → Int → Int → α) (ndOut : α) (nrow ncol : Nat)
    (elev : Array Int) (nd : Int) (i : Nat) (hi : i < nrow * ncol) :
    (slopeModel hyp ndOut nrow ncol elev nd)[i]! =
      if elev[i]! ≠ nd then hyp (i / ncol) (slopeGx nrow ncol elev nd i) (slopeGy nrow ncol elev nd i)
      else ndOut :=
  slopeModel_get hyp ndOut nrow ncol elev nd i hi

theorem slope_nodata {α : Type} [Inhabited α] (hyp : Nat → Int → Int → α) (ndOut : α) (nrow ncol : Nat)
    (elev : Array Int) (nd : Int) (i : Nat) (hi : i < nrow * ncol) (h : elev[i]! = nd) :
    (slopeModel hyp ndOut nrow ncol elev nd)[i]! = ndOut := by
  rw [slopeModel_get hyp ndOut nrow ncol elev nd i hi]; simp [h]

/-- The window entry `(dr, dc)` of cell `(r, c)` is
the neighbour's elevation when the neighbour lies inside the raster and holds a value, and the centre
value otherwise (outside the raster, or nodata). -/
theorem slope_window_def (nrow ncol : Nat) (elev : Array Int) (nd : Int) (r c : Nat) (dr dc : Int) :
    let inside := 0 ≤ (r : Int) + dr ∧ (r : Int) + dr < nrow ∧ 0 ≤ (c : Int) + dc ∧ (c : Int) + dc < ncol
    let k := ((r : Int) + dr).toNat * ncol + ((c : Int) + dc).toNat
    (¬ inside → winAt nrow ncol elev nd r c dr dc = elev[r * ncol + c]!) ∧
    (inside → elev[k]! = nd → winAt nrow ncol elev nd r c dr dc = elev[r * ncol + c]!) ∧
    (inside → elev[k]! ≠ nd → winAt nrow ncol elev nd r c dr dc = elev[k]!) := by
  refine ⟨winAt_outside nrow ncol elev nd r c dr dc, ?_, ?_⟩
  · intro h hv; rw [winAt_inside _ _ _ _ _ _ _ _ h]; simp [hv]
  · intro h hv; rw [winAt_inside _ _ _ _ _ _ _ _ h]; simp [hv]

/-- For a cell whose eight neighbours lie
inside the raster and hold values, `gx` is the west column minus the east column and `gy` the north
row minus the south row, each with weights 1-2-1. -/
theorem slope_interior (nrow ncol : Nat) (elev : Array Int) (nd : Int) (r c : Nat)
    (hr : 1 ≤ r ∧ r + 1 < nrow) (hc : 1 ≤ c ∧ c + 1 < ncol)
    (hv : ∀ a b, r - 1 ≤ a → a ≤ r + 1 → c - 1 ≤ b → b ≤ c + 1 → elev[a * ncol + b]! ≠ nd) :
    let e := fun (a b : Nat) => elev[a * ncol + b]!
    gradX (winAt nrow ncol elev nd r c) =
      (e (r-1) (c-1) + 2 * e r (c-1) + e (r+1) (c-1)) - (e (r-1) (c+1) + 2 * e r (c+1) + e (r+1) (c+1)) ∧
    gradY (winAt nrow ncol elev nd r c) =
      (e (r-1) (c-1) + 2 * e (r-1) c + e (r-1) (c+1)) - (e (r+1) (c-1) + 2 * e (r+1) c + e (r+1) (c+1)) := by
  -- the neighbour at offset `(dr, dc)` is the cell `(a, b)`, inside the raster and holding a value
  have hw : ∀ (dr dc : Int) (a b : Nat), ((r : Int) + dr = a ∧ r - 1 ≤ a ∧ a ≤ r + 1 ∧ a < nrow) →
      ((c : Int) + dc = b ∧ c - 1 ≤ b ∧ b ≤ c + 1 ∧ b < ncol) →
      winAt nrow ncol elev nd r c dr dc = elev[a * ncol + b]! := by
    intro dr dc a b ⟨ha, ha1, ha2, ha3⟩ ⟨hb, hb1, hb2, hb3⟩
    rw [winAt_at nrow ncol elev nd r c dr dc a b ha hb ha3 hb3, if_pos (hv a b ha1 ha2 hb1 hb2)]
  -- the three offsets along one axis
  have axis : ∀ {x n : Nat}, 1 ≤ x ∧ x + 1 < n →
      ((x : Int) + -1 = (x - 1 : Nat) ∧ x - 1 ≤ x - 1 ∧ x - 1 ≤ x + 1 ∧ x - 1 < n) ∧
      ((x : Int) + 0 = (x : Nat) ∧ x - 1 ≤ x ∧ x ≤ x + 1 ∧ x < n) ∧
      ((x : Int) + 1 = (x + 1 : Nat) ∧ x - 1 ≤ x + 1 ∧ x + 1 ≤ x + 1 ∧ x + 1 < n) := by omega
  obtain ⟨rm, r0, rp⟩ := axis hr
  obtain ⟨cm, c0, cp⟩ := axis hc
  intro e
  simp only [gradX, gradY]
  rw [hw _ _ _ _ rm cm, hw _ _ _ _ r0 cm, hw _ _ _ _ rp cm, hw _ _ _ _ rm cp, hw _ _ _ _ r0 cp,
    hw _ _ _ _ rp cp, hw _ _ _ _ rm c0, hw _ _ _ _ rp c0]
  exact ⟨rfl, rfl⟩

/-- North-west corner of a raster with at least two rows and columns whose three
neighbours inside the raster hold values: the five window entries outside the raster are the centre
value, so `gx = 3·e₀₀ − 2·e₀₁ − e₁₁`, `gy = 3·e₀₀ − 2·e₁₀ − e₁₁` (one-sided differences). -/
theorem slope_nw_corner (nrow ncol : Nat) (elev : Array Int) (nd : Int) (hr : 2 ≤ nrow) (hc : 2 ≤ ncol)
    (h01 : elev[1]! ≠ nd) (h10 : elev[ncol]! ≠ nd) (h11 : elev[ncol + 1]! ≠ nd) :
    slopeGx nrow ncol elev nd 0 = 3 * elev[0]! - 2 * elev[1]! - elev[ncol + 1]! ∧
    slopeGy nrow ncol elev nd 0 = 3 * elev[0]! - 2 * elev[ncol]! - elev[ncol + 1]! := by
  have hin : ∀ (a b : Nat), a < 2 → b < 2 → elev[a * ncol + b]! ≠ nd →
      winAt nrow ncol elev nd 0 0 a b = elev[a * ncol + b]! := fun a b ha hb hv => by
    rw [winAt_at nrow ncol elev nd 0 0 a b a b (Int.zero_add _) (Int.zero_add _) (by omega) (by omega), if_pos hv]
  have e01 := hin 0 1 (by decide) (by decide) (by rw [Nat.zero_mul, Nat.zero_add]; exact h01)
  have e10 := hin 1 0 (by decide) (by decide) (by rw [Nat.one_mul, Nat.add_zero]; exact h10)
  have e11 := hin 1 1 (by decide) (by decide) (by rw [Nat.one_mul]; exact h11)
  obtain ⟨hx, hy⟩ := grad_nw_corner (winAt nrow ncol elev nd 0 0) _
    fun dr dc h => winAt_outside nrow ncol elev nd 0 0 dr dc (by omega)
  simp only [Nat.zero_mul, Nat.one_mul, Nat.zero_add, Nat.add_zero, Int.natCast_zero, Int.natCast_one] at hx hy e01 e10 e11
  rw [e01, e11] at hx
  rw [e10, e11] at hy
  simp only [slopeGx, slopeGy, Nat.zero_div, Nat.zero_mod]
  exact ⟨hx, hy⟩

/-- One row: `gy = 0`, `gx = 2·(W − E)`; one
column: `gx = 0`, `gy = 2·(N − S)`, where W, E, N, S are the window entries (neighbour if inside and
valid, else the centre). -/
theorem slope_single_row (ncol : Nat) (elev : Array Int) (nd : Int) (i : Nat) (hi : i < ncol) :
    slopeGy 1 ncol elev nd i = 0 ∧
    slopeGx 1 ncol elev nd i = 2 * (winAt 1 ncol elev nd 0 i 0 (-1) - winAt 1 ncol elev nd 0 i 0 1) := by
  -- the rows above and below lie outside the raster: their entries are the centre value
  simp only [slopeGx, slopeGy, Nat.div_eq_of_lt hi, Nat.mod_eq_of_lt hi]
  exact grad_one_row _ _ fun dr dc h => winAt_outside 1 ncol elev nd 0 i dr dc (by omega)

theorem slope_single_col (nrow : Nat) (elev : Array Int) (nd : Int) (i : Nat) :
    slopeGx nrow 1 elev nd i = 0 ∧
    slopeGy nrow 1 elev nd i = 2 * (winAt nrow 1 elev nd i 0 (-1) 0 - winAt nrow 1 elev nd i 0 1 0) := by
  -- the columns left and right lie outside the raster: their entries are the centre value
  simp only [slopeGx, slopeGy, Nat.div_one, Nat.mod_one]
  exact grad_one_col _ _ fun dr dc h => winAt_outside nrow 1 elev nd i 0 dr dc (by omega)

/-- flat windows have slope 0 (numerators): if the nine window entries are equal, both
finite differences vanish. -/
theorem slope_flat_window (nrow ncol : Nat) (elev : Array Int) (nd : Int) (i : Nat) (v : Int)
    (h : ∀ dr dc, winAt nrow ncol elev nd (i / ncol) (i % ncol) dr dc = v) :
    slopeGx nrow ncol elev nd i = 0 ∧ slopeGy nrow ncol elev nd i = 0 :=
  grad_const _ v h

/-- flat surfaces have slope 0 everywhere, whatever the pattern of nodata cells and wherever the
cell lies (edges, corners): if all cells holding a value hold the same value, every cell holding a
value gets `hyp row 0 0`. -/
theorem slope_flat {α : Type} [Inhabited α] (hyp : Nat → Int → Int → α) (ndOut : α) (nrow ncol : Nat)
    (elev : Array Int) (nd v : Int) (hflat : ∀ k, k < nrow * ncol → elev[k]! ≠ nd → elev[k]! = v)
    (i : Nat) (hi : i < nrow * ncol) (hval : elev[i]! ≠ nd) :
    (slopeModel hyp ndOut nrow ncol elev nd)[i]! = hyp (i / ncol) 0 0 := by
  obtain ⟨_, _, hrc⟩ := cell_rc hi
  have hctr : elev[i / ncol * ncol + i % ncol]! = v := by rw [hrc]; exact hflat i hi hval
  have hw : ∀ dr dc, winAt nrow ncol elev nd (i / ncol) (i % ncol) dr dc = v := by
    intro dr dc
    rcases winAt_cases nrow ncol elev nd (i / ncol) (i % ncol) dr dc with h | ⟨k, hk, hkv, h⟩
    · rw [h, hctr]
    · rw [h]; exact hflat k hk hkv
  obtain ⟨hx, hy⟩ := slope_flat_window nrow ncol elev nd i v hw
  rw [slopeModel_get hyp ndOut nrow ncol elev nd i hi, if_pos hval, hx, hy]

/-- If `elev'` is `elev` with `t` added to every cell holding
a value (nodata cells unchanged, no shifted value colliding with the nodata value), the two rasters
have the same slope at every cell. -/
theorem slope_add_const {α : Type} [Inhabited α] (hyp : Nat → Int → Int → α) (ndOut : α) (nrow ncol : Nat)
    (elev elev' : Array Int) (nd t : Int)
    (h' : ∀ k, k < nrow * ncol → elev'[k]! = if elev[k]! = nd then nd else elev[k]! + t)
    (hclash : ∀ k, k < nrow * ncol → elev[k]! ≠ nd → elev[k]! + t ≠ nd)
    (i : Nat) (hi : i < nrow * ncol) :
    (slopeModel hyp ndOut nrow ncol elev' nd)[i]! = (slopeModel hyp ndOut nrow ncol elev nd)[i]! := by
  rw [slopeModel_get hyp ndOut nrow ncol elev' nd i hi, slopeModel_get hyp ndOut nrow ncol elev nd i hi]
  by_cases hv : elev[i]! = nd
  · have : elev'[i]! = nd := by rw [h' i hi, if_pos hv]
    simp [hv, this]
  · have hv' : elev'[i]! ≠ nd := by rw [h' i hi, if_neg hv]; exact hclash i hi hv
    obtain ⟨hr, hc, hrc⟩ := cell_rc hi
    have hctr : elev[i / ncol * ncol + i % ncol]! ≠ nd := by rw [hrc]; exact hv
    have hw : ∀ dr dc, winAt nrow ncol elev' nd (i / ncol) (i % ncol) dr dc =
        winAt nrow ncol elev nd (i / ncol) (i % ncol) dr dc + t :=
      fun dr dc => winAt_shift nrow ncol elev elev' nd t _ _ dr dc hr hc h' hclash hctr
    obtain ⟨hx, hy⟩ := grad_shift _ _ t hw
    rw [if_pos hv', if_pos hv]
    exact congr (congrArg _ hx) hy

/-- Reading the nine cells from the raster padded with one ring
of nodata, replacing nodata by the centre and applying the masks `[1 0 −1; 2 0 −2; 1 0 −1]` /
`[1 2 1; 0 0 0; −1 −2 −1]` gives the same two numerators, for every cell of every raster. -/
theorem slope_spec_eq (nrow ncol : Nat) (elev : Array Int) (nd : Int) (i : Nat) (hi : i < nrow * ncol) :
    slopeSpecGx nrow ncol elev nd i = slopeGx nrow ncol elev nd i ∧
    slopeSpecGy nrow ncol elev nd i = slopeGy nrow ncol elev nd i := by
  simp only [slopeSpecGx, slopeSpecGy, window9_eq nrow ncol elev nd i hi]
  exact dot9_masks ..

/-- `dem.slope`'s model is, as an array, the
padded-raster stencil oracle `slopeSpecModel` (ring of nodata around the raster, nodata replaced by the
centre, masks `[1 0 −1; 2 0 −2; 1 0 −1]` / `[1 2 1; 0 0 0; −1 −2 −1]`, nodata where the centre is
nodata), for every `hypot` parameter. -/
theorem slope_model_eq_spec {α : Type} (hyp : Nat → Int → Int → α) (ndOut : α) (nrow ncol : Nat)
    (elev : Array Int) (nd : Int) :
    slopeModel hyp ndOut nrow ncol elev nd = slopeSpecModel hyp ndOut nrow ncol elev nd := by
  apply Array.ext
  · simp [slopeModel, slopeSpecModel]
  · intro i h1 _
    obtain ⟨hx, hy⟩ := slope_spec_eq nrow ncol elev nd i (by simpa [slopeModel] using h1)
    simp only [slopeModel, slopeSpecModel, Array.getElem_map, Array.getElem_range, hx, hy]

/-- When the driver reports `exact = 1` the returned numerator
satisfies `num² = (gx·xn·yd)² + (gy·yn·xd)²`, i.e. `(num/(xd·yd))² = (gx·xn/xd)² + (gy·yn/yd)²`:
the slope is exactly the Euclidean norm of `(dzdx, dzdy)`. -/
theorem hypExact_sound (xn xd yn yd : Int) (row : Nat) (gx gy : Int)
    (h : (hypExact xn xd yn yd row gx gy).2.2 = 1) :
    (hypExact xn xd yn yd row gx gy).1 * (hypExact xn xd yn yd row gx gy).1 =
      (gx * xn * yd) * (gx * xn * yd) + (gy * yn * xd) * (gy * yn * xd) ∧
    (hypExact xn xd yn yd row gx gy).2.1 = xd * yd := by
  have msn : ∀ a : Int, 0 ≤ a * a := fun a => by have := @Int.natAbs_mul_self a; omega
  have hnn : 0 ≤ (gx * xn * yd) * (gx * xn * yd) + (gy * yn * xd) * (gy * yn * xd) :=
    Int.add_nonneg (msn _) (msn _)
  constructor
  · simp only [hypExact] at h ⊢
    split at h
    · rename_i hs
      have := congrArg Int.ofNat hs
      simp only [Int.ofNat_eq_natCast, Int.natCast_mul, Int.toNat_of_nonneg hnn] at this
      exact this
    · exact absurd h (by decide)
  · rfl

/-- flat ⇒ exactly zero on a projected grid. -/
theorem hypExact_zero (xn xd yn yd : Int) (row : Nat) :
    hypExact xn xd yn yd row 0 0 = (0, xd * yd, 1) := by
  simp [hypExact, isqrtNewton, isqrtN]

/-! ## non-vacuity: concrete instances -/

/-- estuary: chain 3→2→1→0 plus a side branch 4→1; the link 2→1 fails (cell 1 becomes 2), 4→1 passes -/
def dsE : Array Nat := #[0, 0, 1, 2, 1, 6]
def seqE : List Nat := [0, 1, 2, 3, 4]
def PE : EstParams := { rivdst := #[0, 4, 8, 12, 8, 0], rivwth := #[80, 60, 60, 50, 40, 0], mcNum := 1, mcDen := 4 }

theorem topoE : Topo dsE seqE := by
  have h0 : Topo dsE ([] ++ [0]) := Topo.snoc Topo.nil (by simp) (Or.inl (by decide))
  have h1 : Topo dsE ([0] ++ [1]) := Topo.snoc h0 (by simp) (Or.inr (by decide))
  have h2 : Topo dsE ([0, 1] ++ [2]) := Topo.snoc h1 (by simp) (Or.inr (by decide))
  have h3 : Topo dsE ([0, 1, 2] ++ [3]) := Topo.snoc h2 (by simp) (Or.inr (by decide))
  exact Topo.snoc h3 (by simp) (Or.inr (by decide))

example : classifyEstuary dsE seqE [0] PE #[0, 5, 5, 5, 5, 0] 0 = #[1, 2, 0, 0, 1, 0] := by decide +kernel
example : classifyEstuary dsE seqE [0] PE #[1, 5, 5, 5, 5, 0] 0 = #[0, 0, 0, 0, 0, 0] := by decide +kernel
example : Est dsE (estCond PE dsE) (estInit 6 [0] #[0, 5, 5, 5, 5, 0] 0) 4 :=
  Est.link 4 (by decide) (by decide) (Est.link 1 (by decide) (by decide) (Est.outlet 0 (by decide)))
example : (List.range 6).map (estSpec dsE (estCond PE dsE) (fun i => i == 0)) = [1, 2, 0, 0, 1, 0] := by
  decide +kernel
/-- tie `dw/dx = min_convergence` fails the (strict) test; `dx = 0` never divides -/
example : estCond { rivdst := #[0, 4], rivwth := #[9, 8], mcNum := 1, mcDen := 4 } #[0, 0] 1 = false := by decide
example : estCond { rivdst := #[4, 4], rivwth := #[9, 8], mcNum := 1, mcDen := 4 } #[0, 0] 1 = false := by decide
example : estCond { rivdst := #[0, 0], rivwth := #[8, 9], mcNum := 1, mcDen := 4 } #[0, 0] 1 = true := by decide

/-- river depth: 4→3→2→1→0, quarter metres; links 1→0 (dx = 2 < K) and pits have no local slope -/
def dsR : Array Nat := #[0, 0, 1, 2, 2, 6]
def seqR : List Nat := [0, 1, 2, 3, 4]
def PR : RdParams := { zs := #[0, 1, 3, 5, 11, 0], rivdst := #[0, 2, 6, 10, 14, 0], K := 4, S := 8,
                        minNum := 1, minDen := 1024 }

theorem topoR : Topo dsR seqR := by
  have h0 : Topo dsR ([] ++ [0]) := Topo.snoc Topo.nil (by simp) (Or.inl (by decide))
  have h1 : Topo dsR ([0] ++ [1]) := Topo.snoc h0 (by simp) (Or.inr (by decide))
  have h2 : Topo dsR ([0, 1] ++ [2]) := Topo.snoc h1 (by simp) (Or.inr (by decide))
  have h3 : Topo dsR ([0, 1, 2] ++ [3]) := Topo.snoc h2 (by simp) (Or.inr (by decide))
  exact Topo.snoc h3 (by simp) (Or.inr (by decide))

example : rivslpLocal dsR PR = #[-79992, -79992, 4, 4, 8, -79992] := by decide +kernel
example : riverExact dsR PR = true := by decide +kernel
/-- cells 0 and 1 (no local slope) take cell 2's slope 4/8; cell 2 keeps its own although 4 → 2 is steeper -/
example : rivslpFinal dsR seqR PR = #[(4, 8), (4, 8), (4, 8), (4, 8), (8, 8), (1, 1024)] := by decide +kernel
example : (List.range 6).map (rivslpSpec dsR PR) = [(2, 4), (2, 4), (2, 4), (2, 4), (8, 8), (1, 1024)] := by
  decide +kernel
example : (riverDepth dsR seqR PR (fun i s => 10 * i + s.1) 3 (-1)).toList = [4, 14, 24, 34, 48, -1] := by decide +kernel

/-- slope: the plane z = 3c + 4r on a 3×4 raster: (gx, gy) = (−24, −32) at the two interior cells
(slope 320/64 = 5: Pythagorean), one-sided differences at the edges; a nodata cell is replaced by the
centre -/
def elevP : Array Int := #[0, 3, 6, 9, 4, 7, 10, 13, 8, 11, 14, 17]
example : (List.range 12).map (slopeGx 3 4 elevP (-9999)) = [-13, -18, -18, -5, -12, -24, -24, -12, -5, -18, -18, -13] := by
  decide +kernel
example : (List.range 12).map (slopeGy 3 4 elevP (-9999)) = [-15, -16, -16, -9, -24, -32, -32, -24, -9, -16, -16, -15] := by
  decide +kernel
example : (slopeModel (hypExact 1 8 1 8) (-9999, 1, 2) 3 4 elevP (-9999))[5]! = (320, 64, 1) := by
  decide +kernel
example : (List.range 12).map (slopeSpecGx 3 4 elevP (-9999)) = (List.range 12).map (slopeGx 3 4 elevP (-9999)) := by
  decide +kernel
example : slopeGx 3 4 (elevP.setIfInBounds 6 (-9999)) (-9999) 5 = -18 := by decide +kernel
example : (slopeModel (hypExact 1 8 1 8) (-9999, 1, 2) 3 4 (elevP.setIfInBounds 6 (-9999)) (-9999))[6]! = (-9999, 1, 2) := by
  decide +kernel
example : (slopeModel (hypExact 1 8 1 8) (-9999, 1, 2) 2 2 #[7, 7, -9999, 7] (-9999))[3]! = (0, 64, 1) := by
  decide +kernel

/-- model = oracle on the estuary network (whole array, through the theorem's own right-hand side) -/
example : (List.range 6).map (fun i => if isValid dsE i then
      estSpec dsE (estCond PE dsE) (fun k => isPit dsE k && decide (#[0, 5, 5, 5, 5, 0][k]! ≤ (0 : Int))) i else 0) =
    (classifyEstuary dsE seqE (pitIndices dsE) PE #[0, 5, 5, 5, 5, 0] 0).toList := by decide +kernel
example : ∀ c, c < 6 → isValid dsE c = true → c ∈ seqE := by decide
example : pitIndices dsE = [0] := by decide

/-- monotone in the discharge: strict on a concrete instance (cell 2: Q 8 → 50), hypotheses met -/
def sqR (s : Int × Int) : Rat := (s.1 : Rat) / (s.2 : Rat)
def manR : Array Rat := #[1, 1, 1, 1, 1, 1]
def wR : Array Rat := #[2, 2, 2, 2, 2, 2]
example : (riverDepth dsR seqR PR (manningPw id sqR Rat.floor manR #[8, 8, 8, 8, 8, 8] wR) 3 (-1)).toList =
    [8, 8, 8, 8, 4, -1] := by decide +kernel
example : (riverDepth dsR seqR PR (manningPw id sqR Rat.floor manR #[8, 8, 50, 8, 8, 8] wR) 3 (-1)).toList =
    [8, 8, 50, 8, 4, -1] := by decide +kernel
example : (riverDepth dsR seqR PR (manningPw id sqR Rat.floor manR #[8, 8, 8, 8, 8, 8] #[2, 2, 8, 2, 2, 2]) 3 (-1)).toList =
    [8, 8, 3, 8, 4, -1] := by decide +kernel
example : (0 : Rat) ≤ sqR (rivslpFinal dsR seqR PR)[2]! * wR[2]! := by decide +kernel

example : slopeSpecModel (fun _ gx gy => (gx, gy)) (0, 0) 3 4 (elevP.setIfInBounds 6 (-9999)) (-9999) =
    slopeModel (fun _ gx gy => (gx, gy)) (0, 0) 3 4 (elevP.setIfInBounds 6 (-9999)) (-9999) := by decide +kernel

/-- slope model = oracle as fractions on the river network (model (4,8) vs oracle (2,4)); hypotheses met -/
example : ((List.range 6).all fun j =>
    decide (((rivslpFinal dsR seqR PR)[j]!).1 * (rivslpSpec dsR PR j).2 =
      (rivslpSpec dsR PR j).1 * ((rivslpFinal dsR seqR PR)[j]!).2)) = true := by decide +kernel
example : ∀ c, c < 6 → isValid dsR c = true → c ∈ seqR := by decide
example : -9999 * PR.minDen < PR.minNum ∧ 0 < PR.S ∧ 0 < PR.K ∧ 0 < PR.minDen := by decide

example : slopeGx 3 4 elevP (-9999) 0 = 3 * 0 - 2 * 3 - 7 := by decide +kernel
example : (List.range 4).map (slopeGx 1 4 #[5, 1, 9, 2] (-9999)) = [8, -8, -2, 14] ∧
    (List.range 4).map (slopeGy 1 4 #[5, 1, 9, 2] (-9999)) = [0, 0, 0, 0] := by decide +kernel
example : pwTable 2 #[1, 1] #[2, 4] #[10, 11, 20, 21] 1 (4, 8) = 11 ∧ pwTable 2 #[1, 1] #[2, 4] #[10, 11, 20, 21] 1 (2, 4) = 11 := by
  decide +kernel

/-- roughness 1 → 3 at cell 2 (strictly deeper); single column: `gx = 0`, `gy = 2·(N − S)` -/
example : (riverDepth dsR seqR PR (manningPw id sqR Rat.floor #[1, 1, 3, 1, 1, 1] #[8, 8, 8, 8, 8, 8] wR) 3 (-1)).toList =
    [8, 8, 24, 8, 4, -1] := by decide +kernel
example : (List.range 4).map (slopeGy 4 1 #[5, 1, 9, 2] (-9999)) = [8, -8, -2, 14] ∧
    (List.range 4).map (slopeGx 4 1 #[5, 1, 9, 2] (-9999)) = [0, 0, 0, 0] := by decide +kernel

example : coversNet_c14 dsE seqE = true ∧ coversNet_c14 dsR seqR = true := by decide +kernel

/-- monotone in the water-surface drop: `zs'` steepens the links 2→1, 3→2, 4→2 (drops 2,2,8 → 3,4,10; all
divisions exact); every cell uses a larger slope - also cells 0 and 1, which take theirs from cell 2
through `fillnodata` - and the Manning depth does not increase (strictly smaller at cells 0-3) -/
def PR' : RdParams := { PR with zs := #[0, 1, 4, 8, 14, 0] }
example : rivslpFinal dsR seqR PR' = #[(6, 8), (6, 8), (6, 8), (8, 8), (10, 8), (1, 1024)] := by decide +kernel
example : ∀ j, j < 6 → ((rivslpFinal dsR seqR PR)[j]!).1 * ((rivslpFinal dsR seqR PR')[j]!).2 ≤
      ((rivslpFinal dsR seqR PR')[j]!).1 * ((rivslpFinal dsR seqR PR)[j]!).2 ∧
    0 < ((rivslpFinal dsR seqR PR)[j]!).2 ∧ 0 < ((rivslpFinal dsR seqR PR')[j]!).2 := fun j hj =>
  river_slope_mono_zs dsR seqR PR PR' topoR (by decide) (by decide) (by decide) (by decide) rfl rfl rfl rfl rfl
    (by decide +kernel) (by decide +kernel) (by decide +kernel) (by decide +kernel) (by decide +kernel) j hj
example : (riverDepth dsR seqR PR (manningPw id sqR Rat.floor manR #[8, 8, 8, 8, 8, 8] wR) 3 (-1)).toList =
      [8, 8, 8, 8, 4, -1] ∧
    (riverDepth dsR seqR PR' (manningPw id sqR Rat.floor manR #[8, 8, 8, 8, 8, 8] wR) 3 (-1)).toList =
      [5, 5, 5, 4, 3, -1] := by decide +kernel
example : (0 : Rat) < sqR (rivslpFinal dsR seqR PR)[2]! ∧ (0 : Rat) ≤ manR[2]! * (8 : Rat) ∧ (0 : Rat) < wR[2]! := by
  decide +kernel

/-- the theorem applied in full (all hypotheses discharged on the concrete instance): `pow = id`,
`sq = num/den`, `tok = floor` -/
example : (riverDepth dsR seqR PR' (manningPw id sqR Rat.floor manR #[8, 8, 8, 8, 8, 8] wR) 3 (-1))[2]! ≤
    (riverDepth dsR seqR PR (manningPw id sqR Rat.floor manR #[8, 8, 8, 8, 8, 8] wR) 3 (-1))[2]! :=
  river_depth_anti_zs dsR seqR PR PR' id sqR Rat.floor (fun _ _ h => h)
    (fun a _ h => Rat.le_floor_iff.2 (Rat.le_trans (Rat.floor_le a) h))
    (fun s s' h2 h2' h => slope_quotient_mono s s' h2 h2' h) manR #[8, 8, 8, 8, 8, 8] wR 3 (-1)
    topoR (by decide) (by decide) (by decide) (by decide) rfl rfl rfl rfl rfl
    (by decide +kernel) (by decide +kernel) (by decide +kernel) (by decide +kernel) (by decide +kernel)
    2 (by decide) (by decide +kernel) (by decide +kernel) (by decide +kernel)

end Pf.C14x
