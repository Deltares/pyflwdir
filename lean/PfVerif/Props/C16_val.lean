import PfVerif.Proofs.C16_val
/-! # C16 extension `C16_val` — capacity of the fixed-width VALUE arrays

`Props/C16_mach.lean` proves that the kernels do not depend on the INDEX dtype under the capacity the
library's dtype selection guarantees. The kernels also allocate VALUE arrays whose dtype is fixed:
`int32` ranks / inflow counts / cell-count distances / stream-order labels / Pfafstetter seeds, `uint8`
stream orders, `uint32` basin ids / area labels / heap entries / positions, `int8` flags. All kernel models
compute these values unbounded (`Int`, `Nat`). This file closes the gap:

1. the machine reading of a value array: `store` (truncation), `load` (two's complement), `Fits`;
   `load (store x) = x` iff `x` fits, `= wrapZ x` always;
2. for each value array the exact bound of the UNBOUNDED model value in terms of the number of cells /
   pits / outlets / the depth, proved from the model theorems of C03, C08, C18 - and hence the capacity
   statement (`*_fits`) under which the stored array reads back as the model value;
3. the loops that do arithmetic at the value dtype itself (`rnk += 1`, `dist[idx_ds] + 1`,
   `strord[idx_ds] + 1`): the machine counter is the truncation of the unbounded one at every step;
4. kernel-checked wrap-around just beyond each bound that is not implied by the index capacity:
   classic stream order `255 + 1 -> 0` (open finding F08), `pfaf_branch` at
   `(i+1) * 10^depth >= 2^31`, rank / distance `2^31`, heap rows `2^32`.

`n` (number of cells) is unbounded in every theorem. -/
namespace Pf.C16v
open Pf Pf.C16m Pf.C03 Pf.C08 Pf.C18

/-! ## 1. value dtypes: store, load, capacity -/

/-- the ranges of the four value dtypes that occur -/
theorem range_values :
    (lo i8 = -128 ∧ hi i8 = 127) ∧ (lo u8 = 0 ∧ hi u8 = 255) ∧
    (lo i32 = -2147483648 ∧ hi i32 = 2147483647) ∧ (lo u32 = 0 ∧ hi u32 = 4294967295) := by decide

/-- store-then-load is reduction modulo `2^w` into the dtype's range - always -/
theorem load_store (t : ValTy) (x : Int) : load t (store t x) = wrapZ t x := by
  unfold load store wrapZ val
  split
  · exact BitVec.toInt_ofInt x
  · rw [BitVec.toNat_ofInt]
    exact Int.toNat_of_nonneg (Int.emod_nonneg _ (Int.natCast_ne_zero.2 (Nat.ne_of_gt (Nat.two_pow_pos t.w))))

/-- a representable number is read back exactly -/
theorem load_store_fits {t : ValTy} (hw : 0 < t.w) {x : Int} (h : Fits t x) : load t (store t x) = x := by
  obtain ⟨h0, h1⟩ := h
  unfold lo at h0
  unfold hi at h1
  unfold load store val
  split
  · next hs =>
    rw [if_pos hs, Int.natCast_pow] at h0 h1
    exact BitVec.toInt_ofInt_eq_self hw h0 (Int.lt_of_le_sub_one h1)
  · next hs =>
    rw [if_neg hs] at h0 h1
    rw [toNat_ofInt_range x h0 (Int.lt_of_le_sub_one h1), Int.toNat_of_nonneg h0]

/-- whatever bit pattern is in the array reads as a number of the dtype -/
theorem load_in_range {t : ValTy} (hw : 0 < t.w) (v : BitVec t.w) : Fits t (load t v) := by
  unfold Fits lo hi load val
  split
  · rw [Int.natCast_pow]
    exact ⟨BitVec.le_toInt v, BitVec.toInt_le⟩
  · exact ⟨Int.natCast_nonneg _, Int.le_sub_one_of_lt (Int.ofNat_lt.2 v.isLt)⟩

/-- … and ONLY a representable number is: beyond the capacity the array silently holds another value -/
theorem load_store_iff {t : ValTy} (hw : 0 < t.w) (x : Int) : load t (store t x) = x ↔ Fits t x :=
  ⟨fun h => h ▸ load_in_range hw (store t x), load_store_fits hw⟩

/-- if every entry of the unbounded model array fits, the machine array reads back
as the model array -/
theorem storeArr_exact {t : ValTy} (hw : 0 < t.w) (a : Array Int) (h : FitsArr t a) :
    loadArr t (storeArr t a) = a := by
  rw [loadArr, storeArr, Array.map_map]
  exact (Array.map_congr_left fun x hx => load_store_fits hw (h x hx)).trans (Array.map_id _)

theorem fitsArrB_iff (t : ValTy) (a : Array Int) : fitsArrB t a = true ↔ FitsArr t a := by
  unfold fitsArrB FitsArr
  rw [List.all_eq_true]
  constructor
  · intro h x hx; exact of_decide_eq_true (h x (Array.mem_def.1 hx))
  · intro h x hx; exact decide_eq_true (h x (Array.mem_def.2 hx))

/-- the machine increment is the truncation of the unbounded increment (`rnk += 1`, `dist[idx_ds] + 1`,
`strord[idx_ds] + 1` at the element type) -/
theorem inc_refines (t : ValTy) (x : Int) : incM (store t x) = store t (x + 1) := incM_store t x

/-! ## 2. `core.rank` (`int32`; `-9999` nodata, `-1` loop) and `stream_distance(real_length=False)` -/

/-- every certified rank array (the model's, and the implementation's output once the decidable
certificate of C03 accepts it) has entries in `[-9999, n - 1]` -/
theorem rank_cert_bounds (ds : Array Nat) (rk : Array Int) (h : checkRankCert ds rk = true)
    (i : Nat) (hi : i < ds.size) : -9999 ≤ rk[i]! ∧ rk[i]! ≤ (ds.size : Int) - 1 := by
  have hc := (checkRankCert_iff ds rk).1 h
  have := rank_lt_size hc i hi
  exact ⟨rank_ge hc i hi, by omega⟩

/-- `core.rank`: ranks are at most `n - 1`, the node count at most `n` (from `rank_cert`, C03) -/
theorem rank_bounds (ds : Array Nat) (hwf : WF ds) (r : Array Int) (c : Nat) (h : rank ds = some (r, c)) :
    (∀ i, i < ds.size → -9999 ≤ r[i]! ∧ r[i]! ≤ (ds.size : Int) - 1) ∧ c ≤ ds.size ∧ r.size = ds.size := by
  obtain ⟨r', c', h1, h2⟩ := rank_cert ds hwf
  rw [h] at h1
  obtain ⟨rfl, rfl⟩ : r = r' ∧ c = c' := by simpa using h1
  refine ⟨fun i hi => rank_cert_bounds ds r h2 i hi, ?_, ((checkRankCert_iff ds r).1 h2).size⟩
  rw [(rank_count ds hwf r c h).1]
  have := List.countP_le_length (p := fun i => decide ((0:Int) ≤ r[i]!)) (l := List.range ds.size)
  rwa [List.length_range] at this

/-- for `n ≤ 2^31` cells - in particular whenever the library selects `int32` indices
(`n < 2^31 - 1`) - the `int32` rank array holds exactly the model's ranks -/
theorem rank_fits (ds : Array Nat) (hwf : WF ds) (r : Array Int) (c : Nat) (h : rank ds = some (r, c))
    (hn : ds.size ≤ 2 ^ 31) : FitsArr i32 r ∧ loadArr i32 (storeArr i32 r) = r := by
  obtain ⟨hb, _, hs⟩ := rank_bounds ds hwf r c h
  have hf : FitsArr i32 r := by
    intro x hx
    obtain ⟨i, hi, rfl⟩ := Array.getElem_of_mem hx
    have := hb i (hs ▸ hi)
    rw [getElem!_pos r i hi] at this
    exact (fits_iff range_values.2.2.1 _).2 (by omega)
  exact ⟨hf, storeArr_exact (by decide) r hf⟩

theorem rank_fits_of_cap (ds : Array Nat) (hwf : WF ds) (r : Array Int) (c : Nat) (h : rank ds = some (r, c))
    (hc : Cap i32 ds.size) : loadArr i32 (storeArr i32 r) = r := by
  exact (rank_fits ds hwf r c h (Nat.le_of_lt (Nat.lt_of_mul_lt_mul_left (a := 2) (cap_lt_signed hc rfl (Nat.le_refl _))))).2

/-- the `int32` counter of `core.rank` (`rnk = np.int32(-1)` at the pit, `rnk += 1` per cell of the
stack) after `k + 1` increments holds the truncation of `k` - the rank of the `k`-th cell above the pit -/
theorem rank_counter (t : ValTy) (k : Nat) :
    load t (chainCountM (store t (-1)) (k + 1)) = wrapZ t (k : Int) := by
  rw [chainCountM_store, load_store]
  congr 1
  omega

/-- … which is `k` itself up to `2^31 - 1` -/
theorem rank_counter_exact (k : Nat) (hk : k < 2 ^ 31) :
    load i32 (chainCountM (store i32 (-1)) (k + 1)) = (k : Int) := by
  rw [rank_counter]
  exact (load_store i32 k).symm.trans (load_store_fits (by decide) ((fits_iff range_values.2.2.1 _).2 (by omega)))

/-- `stream_distance(real_length=False)`: `dist[idx0] = dist[idx_ds] + 1` from 0 at the pit - the same counter -/
theorem distance_counter (t : ValTy) (k : Nat) : load t (chainCountM (store t 0) k) = wrapZ t (k : Int) := by
  rw [chainCountM_store, load_store]; congr 1; omega

-- beyond the bound (only reachable with `uint32` / `uint64` indices, i.e. more than 2^31 cells on one flow
-- path): rank 2^31 is stored as -2^31 - the `int32` value dtype does NOT follow the index dtype
example : load i32 (store i32 2147483647) = 2147483647 ∧ load i32 (store i32 2147483648) = -2147483648 := by decide
example : Cap u32 2147483650 ∧ ¬ Fits i32 (2147483650 - 1) := by decide

/-! ## 3. `core.upstream_count` (`int32`; `-9` on missing cells) -/

/-- `-9 ≤ n_up ≤ n` (the count of inflowing cells, C08 `upstream_count_spec`) -/
theorem nup_bounds (ds : Array Nat) (mask : Option (Array Bool)) (hwf : ∀ i < ds.size, ds[i]! ≤ ds.size)
    (d : Nat) (hd : d < ds.size) :
    -9 ≤ (upstreamCount ds mask)[d]! ∧ (upstreamCount ds mask)[d]! ≤ (ds.size : Int) := by
  rw [upstream_count_spec ds mask hwf d hd]
  have := nupSpec_le ds mask d
  split <;> omega

theorem nup_fits (ds : Array Nat) (mask : Option (Array Bool)) (hwf : ∀ i < ds.size, ds[i]! ≤ ds.size)
    (hn : ds.size < 2 ^ 31) (d : Nat) (hd : d < ds.size) : Fits i32 (upstreamCount ds mask)[d]! := by
  have := nup_bounds ds mask hwf d hd
  exact (fits_iff range_values.2.2.1 _).2 (by omega)

/-! ## 4. `streams.strahler_order` (`uint8`) -/

/-- a Strahler order `k` needs `2^(k-1)` cells (C08), and a catchment has at most `n` cells:
on a network of fewer than `2^w` cells every order is at most `w` -/
theorem strahler_le_log (ds : Array Nat) (seq : List Nat) (mask : Option (Array Bool))
    (htopo : Topo ds seq) (hb : ∀ i ∈ seq, i < ds.size) (w : Nat) (hn : ds.size < 2 ^ w)
    (j : Nat) (hj : j ∈ seq) (hm : maskAt mask j = true) : (strahlerOrder ds seq mask)[j]! ≤ w := by
  exact Nat.le_of_pred_lt ((Nat.pow_lt_pow_iff_right (by decide)).1 (Nat.lt_of_le_of_lt
    (Nat.le_trans (strahler_pow_le_count ds seq mask htopo hb j hj hm) (maskedCount_le ds seq mask htopo hb j hj)) hn))

/-- whenever an index dtype exists for the network (`n < 2^64`) every Strahler order is at
most 64 - the `uint8` arrays `strord`, `strmax` (and the comparison `strord[idx0] == 0`) are exact
(`hclosed`, the mask closed downstream, is what makes the order 0 outside the masked network) -/
theorem strahler_fits (ds : Array Nat) (seq : List Nat) (mask : Option (Array Bool))
    (htopo : Topo ds seq) (hb : ∀ i ∈ seq, i < ds.size) (hn : ds.size < 2 ^ 64)
    (hclosed : ∀ c ∈ seq, maskAt mask c = true → maskAt mask ds[c]! = true) (j : Nat) :
    (strahlerOrder ds seq mask)[j]! ≤ 64 ∧ Fits u8 ((strahlerOrder ds seq mask)[j]! : Int) := by
  have h : (strahlerOrder ds seq mask)[j]! ≤ 64 := by
    by_cases hj : j ∈ seq ∧ maskAt mask j = true
    · exact strahler_le_log ds seq mask htopo hb 64 hn j hj.1 hj.2
    · rw [strahler_outside ds seq mask htopo hb hclosed j hj]; omega
  exact ⟨h, (fits_iff range_values.2.1 _).2 (by omega)⟩

/-! ## 5. `streams.stream_order` (classic, `uint8`) - open finding F08 -/

/-- the classic order is at most the number of cells (one increment per step of the path) -/
theorem classic_le_n (ds : Array Nat) (seq : List Nat) (usMain : Array Nat) (mask : Option (Array Bool))
    (htopo : Topo ds seq) (hb : ∀ i ∈ seq, i < ds.size) (i : Nat) :
    (classicOrder ds seq usMain mask)[i]! ≤ ds.size := by
  by_cases hi : i ∈ seq
  · exact Nat.le_trans (classic_le_length ds seq usMain mask htopo hb i hi) (nodup_length_le htopo.nodup hb)
  · rw [(classic_rec ds seq usMain mask htopo hb).2.2 i (Or.inl hi)]; omega

/-- up to 255 cells the `uint8` loop of the code is exact (C08 `classic_u8_exact`) … -/
theorem classic_fits_small (ds : Array Nat) (seq : List Nat) (usMain : Array Nat) (mask : Option (Array Bool))
    (htopo : Topo ds seq) (hb : ∀ i ∈ seq, i < ds.size) (hn : ds.size ≤ 255) (i : Nat) :
    (classicOrderW 8 ds seq usMain mask)[i]! = (classicOrder ds seq usMain mask)[i]! := by
  rw [classicOrderW_8]
  exact classic_u8_exact ds seq usMain mask htopo hb
    (fun k _ => Nat.le_trans (classic_le_n ds seq usMain mask htopo hb k) hn) i

/-- … and in general exactly as long as no order exceeds 255 -/
theorem classic_fits (ds : Array Nat) (seq : List Nat) (usMain : Array Nat) (mask : Option (Array Bool))
    (htopo : Topo ds seq) (hb : ∀ i ∈ seq, i < ds.size)
    (hle : ∀ i ∈ seq, (classicOrder ds seq usMain mask)[i]! ≤ 255) (i : Nat) :
    (classicOrderW 8 ds seq usMain mask)[i]! = (classicOrder ds seq usMain mask)[i]! := by
  rw [classicOrderW_8]; exact classic_u8_exact ds seq usMain mask htopo hb hle i

-- the classic order grows by one per confluence step - unlike Strahler the index capacity does not protect the `uint8` array.
-- F08 mechanism on a 2-bit order array: a spine 0 <- 1 <- 2 <- 3 <- 4 whose cells each receive a leaf with a
-- larger upstream area (the leaf is the main upstream cell, so every spine step is a non-main confluence step)
example : classicOrder #[0, 0, 1, 2, 3, 0, 1, 2, 3] [0, 1, 2, 3, 4, 5, 6, 7, 8] #[5, 6, 7, 8, 9, 9, 9, 9, 9] none
    = #[1, 2, 3, 4, 5, 1, 2, 3, 4] := by decide +kernel
example : classicOrderW 2 #[0, 0, 1, 2, 3, 0, 1, 2, 3] [0, 1, 2, 3, 4, 5, 6, 7, 8] #[5, 6, 7, 8, 9, 9, 9, 9, 9] none
    = #[1, 2, 3, 0, 1, 1, 2, 3, 0] := by decide +kernel
-- the `uint8` step of the code: order 255 + 1 is stored as 0
example : load u8 (incM (store u8 255)) = 0 ∧ load u8 (store u8 256) = 0 ∧ load u8 (store u8 257) = 1 := by decide
example : ¬ Fits u8 256 := by decide

/-! ## 6. labels `1 .. #outlets` (`basins`: `uint32`, `subbasins_streamorder`: `int32`, `subbasins_area`: `uint32`) -/

/-- in a label map accepted by the C18 certificates (`subOK`: every cell carries the label of its
first outlet downstream; `idsOK`: the `k`-th outlet carries `k + 1`) every label lies in `0 .. #outlets` -/
theorem labels_bounds (ds : Array Nat) (outlets : List Nat) (labels : Array Int)
    (h1 : subOK ds outlets labels = true) (h2 : idsOK outlets labels = true) (i : Nat)
    (hv : isValid ds i = true) : 0 ≤ labels[i]! ∧ labels[i]! ≤ (outlets.length : Int) := by
  have hs := (subOK_sound ds outlets labels h1).2.1 i hv
  have hid := idsOK_sound outlets labels h2
  rcases hs with ⟨hz, _⟩ | ⟨m, hm, hl, _⟩
  · omega
  · obtain ⟨k, hk, he⟩ := List.getElem_of_mem hm
    have hl' : labels[i]! = labels[iterA ds m i]! := hl
    rw [hl', ← he, ← getElem!_pos outlets k hk, hid k hk]
    omega

/-- capacity of the `int32` (`subbasins_streamorder`) and `uint32` (`basins`, `subbasins_area`) label maps -/
theorem labels_fit (ds : Array Nat) (outlets : List Nat) (labels : Array Int)
    (h1 : subOK ds outlets labels = true) (h2 : idsOK outlets labels = true) (i : Nat)
    (hv : isValid ds i = true) :
    (outlets.length < 2 ^ 31 → Fits i32 labels[i]!) ∧ (outlets.length < 2 ^ 32 → Fits u32 labels[i]!) := by
  have := labels_bounds ds outlets labels h1 h2 i hv
  exact ⟨fun _ => (fits_iff range_values.2.2.1 _).2 (by omega), fun _ => (fits_iff range_values.2.2.2 _).2 (by omega)⟩

/-- `basins.basins`: `ids = np.arange(1, npits + 1, dtype=np.uint32)` -/
theorem basin_ids_fit (npits k : Nat) (hk : k < npits) (hn : npits < 2 ^ 32) : Fits u32 ((k : Int) + 1) := by
  exact (fits_iff range_values.2.2.2 _).2 (by omega)

/-- a duplicate-free outlet list has at most `n` entries (so the labels `1 .. #outlets` are bounded by the number of cells) -/
theorem outlets_le_n (n : Nat) (outlets : List Nat) (hnd : outlets.Nodup) (hb : ∀ o ∈ outlets, o < n) :
    outlets.length ≤ n :=
  nodup_length_le hnd hb

example : load u32 (store u32 4294967296) = 0 ∧ load i32 (store i32 2147483648) = -2147483648 := by decide

/-! ## 7. `basins.subbasins_pfafstetter`: `pfaf_branch` (`int32`) holds `pfaf0 + (i+1) * 10^depth` -/

/-- `pfaf0 = 1 + 10 + … + 10^(depth-1)` -/
theorem pfaf_base (depth : Nat) (hd : 0 < depth) : 9 * pfBase depth + 1 = (10 : Int) ^ depth :=
  pfBase_repunit depth hd

/-- the seed of pit number `i` (0-based) lies strictly between `(i+1) * 10^depth` and
`(i+2) * 10^depth` -/
theorem pfaf_seed_bounds (depth i : Nat) (hd : 0 < depth) :
    ((i : Int) + 1) * (10 : Int) ^ depth < pfafSeed depth i ∧
    pfafSeed depth i < ((i : Int) + 2) * (10 : Int) ^ depth :=
  pfafSeed_bounds depth i hd

/-- all seeds of `npits` pits fit `int32` when `(npits + 1) * 10^depth ≤ 2^31` -/
theorem pfaf_seed_fits (depth npits : Nat) (hd : 0 < depth)
    (hcap : ((npits : Int) + 1) * (10 : Int) ^ depth ≤ 2147483648) (i : Nat) (hi : i < npits) :
    Fits i32 (pfafSeed depth i) ∧ load i32 (store i32 (pfafSeed depth i)) = pfafSeed depth i := by
  have := pfafSeed_range depth npits hd i hi
  have hf : Fits i32 (pfafSeed depth i) := (fits_iff range_values.2.2.1 _).2 (by omega)
  exact ⟨hf, load_store_fits (by decide) hf⟩

/-- wrap-around beyond it: as soon as `(i+1) * 10^depth ≥ 2^31` the seed of pit `i` is not representable;
the `int32` array then holds another number (by `load_store_iff`) -/
theorem pfaf_seed_overflow (depth i : Nat) (hd : 0 < depth)
    (h : 2147483648 ≤ ((i : Int) + 1) * (10 : Int) ^ depth) :
    ¬ Fits i32 (pfafSeed depth i) ∧ load i32 (store i32 (pfafSeed depth i)) ≠ pfafSeed depth i := by
  have hb := (pfaf_seed_bounds depth i hd).1
  have hn : ¬ Fits i32 (pfafSeed depth i) := fun hf => by
    have := ((fits_iff range_values.2.2.1 _).1 hf).2
    omega
  exact ⟨hn, fun he => hn ((load_store_iff (by decide) _).1 he)⟩

-- depth 9 (outside C18's quantified depths 1..3): the third pit already wraps
example : pfafSeed 9 1 = 2111111111 ∧ Fits i32 (pfafSeed 9 1) := by decide
example : pfafSeed 9 2 = 3111111111 ∧ load i32 (store i32 (pfafSeed 9 2)) = -1183856185 := by decide
-- inside the quantified depths: the first pit number (0-based) whose seed does not fit
example : Fits i32 (pfafSeed 3 2147482) ∧ ¬ Fits i32 (pfafSeed 3 2147483) := by decide
example : Fits i32 (pfafSeed 2 21474835) ∧ ¬ Fits i32 (pfafSeed 2 21474836) := by decide
example : Fits i32 (pfafSeed 1 214748363) ∧ ¬ Fits i32 (pfafSeed 1 214748364) := by decide
-- the wrapped seed no longer ends in the repunit: `% 10^depth` of the stored value is not the code 111
example : load i32 (store i32 (pfafSeed 3 2147483)) = -2147483185 ∧ pfafSeed 3 2147483 % 1000 = 111 := by decide

/-! ### `pfaf_branch` as `int64` until the final `% 10^depth` (fix 21ba047 of finding F18b)

The two theorems above are about an `int32` array `pfaf_branch`, the defect F18b. The code stores the seeds in `int64`;
the result `seed % 10^depth` is cast to `int32`. -/

theorem range_i64 : lo i64 = -9223372036854775808 ∧ hi i64 = 9223372036854775807 := by decide

/-- capacity of the repaired array: all seeds fit `int64` when `(npits + 1) * 10^depth ≤ 2^63` - for every depth `≤ 9`
that is any number of pits below `9.2 * 10^9`, more than the `uint32` index dtype can address -/
theorem pfaf_seed_fits64 (depth npits : Nat) (hd : 0 < depth)
    (hcap : ((npits : Int) + 1) * (10 : Int) ^ depth ≤ 9223372036854775808) (i : Nat) (hi : i < npits) :
    Fits i64 (pfafSeed depth i) ∧ load i64 (store i64 (pfafSeed depth i)) = pfafSeed depth i := by
  have := pfafSeed_range depth npits hd i hi
  have hf : Fits i64 (pfafSeed depth i) := (fits_iff range_i64 _).2 (by omega)
  exact ⟨hf, load_store_fits (by decide) hf⟩

/-- the code the kernel returns for a pit, `seed % 10^depth`, is the repunit `pfaf0` whatever the pit number, and it fits the
documented `int32` result for every depth `≤ 9` -/
theorem pfaf_code_fits32 (depth i : Nat) (hd : 0 < depth) (h9 : depth ≤ 9) :
    pfafSeed depth i % (10 : Int) ^ depth = pfBase depth ∧ Fits i32 (pfBase depth) := by
  have hb1 := pfBase_pos depth
  have hlt := pfBase_lt depth hd
  refine ⟨?_, (fits_iff range_values.2.2.1 _).2 ?_⟩
  · rw [pfafSeed, Int.add_mul_emod_self_right]
    exact Int.emod_eq_of_lt (Int.le_trans (by decide) hb1) hlt
  · -- `pfaf0 < 10^depth < 10^10`, and `9 * pfaf0 + 1 = 10^depth`: `pfaf0 < 10^10 / 9 < 2^31`
    have h := pfBase_repunit depth hd
    have := Int.pow_lt_pow_of_lt (a := 10) (by decide) (show depth < 10 from Nat.lt_succ_of_le h9)
    omega

-- the third pit at depth 9, which wrapped in `int32`, is exact in `int64` and its code is the repunit
example : Fits i64 (pfafSeed 9 2) ∧ load i64 (store i64 (pfafSeed 9 2)) = 3111111111 ∧ pfafSeed 9 2 % 10 ^ 9 = 111111111 := by decide

/-! ## 8. flags (`int8`), heap entries and positions (`uint32`) -/

/-- `dem.floodplains`, `upscale.upscale_error` (and `map_effare` / edge flags): the values `-1, 0, 1` -/
theorem flags_fit : Fits i8 (-1) ∧ Fits i8 0 ∧ Fits i8 1 ∧ load i8 (store i8 (-1)) = -1 ∧
    load i8 (store i8 0) = 0 ∧ load i8 (store i8 1) = 1 := by decide

/-- a `Nat` stored in an unsigned array is exact below `2^w` … -/
theorem storeNat_exact (t : ValTy) (k : Nat) (h : k < 2 ^ t.w) : (storeNat t k).toNat = k :=
  toNat_ofNat_lt h

/-- … and reduced modulo `2^w` in general -/
theorem storeNat_wraps (t : ValTy) (k : Nat) : (storeNat t k).toNat = k % 2 ^ t.w :=
  BitVec.toNat_ofNat k t.w

/-- `dem.fill_depressions` heap entries `(np.uint32(r), np.uint32(c))` and `dem._adjust_elevation`
positions `np.arange(i, j, dtype=np.uint32)`: exact for every raster the 32-bit index dtypes can hold
(rows, columns and positions along a stream are below the number of cells) -/
theorem heap_entry_exact {nrow ncol r c : Nat} (hc : Cap i32 (nrow * ncol) ∨ Cap u32 (nrow * ncol))
    (hr : r < nrow) (hcc : c < ncol) : (storeNat u32 r).toNat = r ∧ (storeNat u32 c).toNat = c := by
  have hn := cap32_lt hc
  exact ⟨storeNat_exact u32 r (Nat.lt_of_lt_of_le hr (Nat.le_trans (Nat.le_mul_of_pos_right nrow (Nat.zero_lt_of_lt hcc))
      (Nat.le_of_lt hn))),
    storeNat_exact u32 c (Nat.lt_of_lt_of_le hcc (Nat.le_trans (Nat.le_mul_of_pos_left ncol (Nat.zero_lt_of_lt hr))
      (Nat.le_of_lt hn)))⟩

theorem position_exact {n k : Nat} (hc : Cap i32 n ∨ Cap u32 n) (hk : k ≤ n) : (storeNat u32 k).toNat = k :=
  storeNat_exact u32 k (Nat.lt_of_le_of_lt hk (cap32_lt hc))

-- with `uint64` indices (more than 2^32 - 2 cells) a row number 2^32 would be stored as 0
example : (storeNat u32 4294967296).toNat = 0 ∧ (storeNat u32 4294967295).toNat = 4294967295 := by decide

/-! ## non-vacuity: the network of `Props/C03.lean` (3-cycle, pit 3 with tributary 4, 2-cycle, pit 7, missing cell 9) -/

example : rank #[1, 2, 0, 3, 3, 6, 5, 7, 5, 10] = some (#[-1, -1, -1, 0, 1, -1, -1, 0, -1, -9999], 3) := by
  decide +kernel
example : fitsArrB i32 #[-1, -1, -1, 0, 1, -1, -1, 0, -1, -9999] = true := by decide +kernel
example : loadArr i32 (storeArr i32 #[-1, -1, -1, 0, 1, -1, -1, 0, -1, -9999])
    = #[-1, -1, -1, 0, 1, -1, -1, 0, -1, -9999] := by decide +kernel
-- the same array does not survive a `uint8` / `int8` store
example : loadArr u8 (storeArr u8 #[-1, 0, 1, -9999]) = #[255, 0, 1, 241] := by decide +kernel
example : loadArr i8 (storeArr i8 #[-1, 0, 1, -9999]) = #[-1, 0, 1, -15] := by decide +kernel
example : load i32 (chainCountM (store i32 (-1)) 5) = 4 := by decide
example : (upstreamCount #[0, 0, 0, 0, 1, 1] none) = #[3, 2, 0, 0, 0, 0] := by decide +kernel
example : strahlerOrder #[0, 0, 0, 0, 1, 1] [0, 1, 2, 3, 4, 5] none = #[2, 2, 1, 1, 1, 1] := by decide +kernel

end Pf.C16v
