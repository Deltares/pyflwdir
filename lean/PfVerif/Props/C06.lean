import PfVerif.Proofs.C06Min
import PfVerif.Proofs.C06DepthEq
import PfVerif.Proofs.C06OncePin
import PfVerif.Proofs.C06OnceDir
import PfVerif.Generated.Tables
/-! # C06 — depression filling yields the minimal spill surface draining all cells

Vocabulary (`Model/C06.lean`, `Proofs/C06.lean`; `Drains` is defined below): `G : Grid` a raster, cells are flat indices;
`nod` the nodata mask; `Valid`, `Adj G conn` (rows and columns differ by at most one; with
connectivity 4 a shared row or column), `Nbr` = `Adj` between valid cells, `IsSeed` the outlets,
`Path G conn nod seed c p` = `p` is a neighbour path from `c` to an outlet, `pathMax elev p` the
highest input elevation on it, `Connected` = some such path exists, `dsOf G d8` the decoded direction
raster, `Reached` = valid and (outlet or has a direction).

`FillCert G conn elev nod seed f d8 rk` is the decidable local certificate (DESIGN §5.6) on the
input `(elev, nod, conn, seed)`, an output `(f, d8)` and a rank witness `rk`. The theorems below hold
for every raster size, every elevation, every seed set and every output the certificate accepts; the
driver evaluates `fillCertOk` on the IMPLEMENTATION's output in every case (`spec.cert_impl`). The
algorithm-level statement "the model's output is always accepted" is `fill_model_cert` below. -/
namespace Pf.C06
open Pf

variable {G : Grid} {conn : Nat} {elev : Array Int} {nod seed : Array Bool}
  {f : Array Int} {d8 rk : Array Nat}

theorem fillCertOk_iff : fillCertOk G conn elev nod seed f d8 rk = true ↔
    FillCert G conn elev nod seed f d8 rk := by
  simp [fillCertOk]

/-- **minimax**: for every cell connected to an outlet, the filled elevation is exactly the lowest
level to which water must rise to reach an outlet: no neighbour path to an outlet has a smaller
maximum input elevation, and some path attains it. -/
theorem fillCert_sound (h : fillCertOk G conn elev nod seed f d8 rk = true) (c : Nat)
    (hc : Connected G conn nod seed c) :
    (∀ p, Path G conn nod seed c p → f[c]! ≤ pathMax elev p) ∧
    (∃ p, Path G conn nod seed c p ∧ pathMax elev p = f[c]!) := by
  have h := fillCertOk_iff.1 h
  obtain ⟨p, hp⟩ := hc
  exact ⟨fun q hq => cert_lower h hq, cert_attained h (connected_reached h hp)⟩

/-- the cells the output marks as reached (outlet or carrying a direction) are exactly the valid
cells connected to an outlet -/
theorem reached_iff_connected_cert (h : fillCertOk G conn elev nod seed f d8 rk = true) (c : Nat) :
    Reached G nod seed d8 c ↔ Connected G conn nod seed c := by
  have h := fillCertOk_iff.1 h
  constructor
  · intro hr
    obtain ⟨p, hp, _⟩ := cert_attained h hr
    exact ⟨p, hp⟩
  · rintro ⟨p, hp⟩
    exact connected_reached h hp

/-- **never below the input** (every cell of the raster) -/
theorem filled_ge_cert (h : fillCertOk G conn elev nod seed f d8 rk = true) (c : Nat) (hc : c < G.n) :
    elev[c]! ≤ f[c]! := by
  have h := fillCertOk_iff.1 h
  cases hn : nod[c]! with
  | true => rw [(cert_nod h hc hn).1]; exact Int.le_refl _
  | false =>
    by_cases hr : Reached G nod seed d8 c
    · by_cases h0 : d8[c]! = 0
      · rw [cert_L2 h (reached_pit_seed hr h0)]; exact Int.le_refl _
      · have := (cert_L3 h hr h0).2.1
        omega
    · rw [cert_unreached h ⟨hc, hn⟩ hr]; exact Int.le_refl _

/-- `c` drains over the surface `e`: there is a neighbour path from `c` to an outlet along which `e`
never rises -/
inductive Drains (G : Grid) (conn : Nat) (nod seed : Array Bool) (e : Array Int) : Nat → Prop
  | base (s : Nat) : IsSeed G seed s → Drains G conn nod seed e s
  | step (c d : Nat) : Nbr G conn nod c d → e[d]! ≤ e[c]! → Drains G conn nod seed e d →
      Drains G conn nod seed e c

/-- **equal to the input wherever the input already drains** -/
theorem filled_fix_cert (h : fillCertOk G conn elev nod seed f d8 rk = true) (c : Nat)
    (hd : Drains G conn nod seed elev c) : f[c]! = elev[c]! := by
  have hc := fillCertOk_iff.1 h
  suffices hs : Reached G nod seed d8 c ∧ f[c]! = elev[c]! from hs.2
  induction hd with
  | base s hs => exact ⟨seed_reached hc hs, cert_L2 hc hs⟩
  | step c d hn hle _ ih =>
    have hr := reached_closed hc ih.1 hn.symm
    have h1 := cert_L1 hc hr hn
    have h2 := filled_ge_cert h c hn.2.1.1
    rw [ih.2] at h1
    exact ⟨hr, by omega⟩

/-- **nodata cells are untouched and coded as nodata (247) in the direction raster** -/
theorem nodata_untouched_cert (h : fillCertOk G conn elev nod seed f d8 rk = true) (c : Nat)
    (hc : c < G.n) (hn : nod[c]! = true) : f[c]! = elev[c]! ∧ d8[c]! = 247 :=
  let h' := cert_nod (fillCertOk_iff.1 h) hc hn
  ⟨h'.1, h'.2.1⟩

/-- valid cells not connected to any outlet keep their elevation and carry the pit code 0 -/
theorem unconnected_untouched_cert (h : fillCertOk G conn elev nod seed f d8 rk = true) (c : Nat)
    (hv : Valid G nod c) (hnc : ¬ Connected G conn nod seed c) : f[c]! = elev[c]! ∧ d8[c]! = 0 := by
  have hr : ¬ Reached G nod seed d8 c := fun hr => hnc ((reached_iff_connected_cert h c).1 hr)
  refine ⟨cert_unreached (fillCertOk_iff.1 h) hv hr, ?_⟩
  apply Classical.byContradiction
  intro h0
  exact hr ⟨hv, Or.inr h0⟩

/-- **every step goes to a neighbour allowed by the chosen connectivity** (a valid one), and
**the filled elevation never increases along a step**; the downstream cell is connected too -/
theorem d8_step_allowed_cert (h : fillCertOk G conn elev nod seed f d8 rk = true) (c : Nat)
    (hc : Connected G conn nod seed c) (h0 : dsOf G d8 c ≠ c) :
    Nbr G conn nod c (dsOf G d8 c) ∧ f[dsOf G d8 c]! ≤ f[c]! ∧
    Connected G conn nod seed (dsOf G d8 c) := by
  have hr := (reached_iff_connected_cert h c).2 hc
  have hcert := fillCertOk_iff.1 h
  have hd : d8[c]! ≠ 0 := fun e => h0 (dsOf_pit e)
  obtain ⟨hn, hf, _⟩ := cert_L3 hcert hr hd
  exact ⟨hn, by omega, (reached_iff_connected_cert h _).1 (reached_closed hcert hr hn)⟩

/-- **never uphill**, for every cell of the raster (cells without direction are their own
downstream cell) -/
theorem never_uphill_cert (h : fillCertOk G conn elev nod seed f d8 rk = true) (c : Nat) (hc : c < G.n) :
    f[dsOf G d8 c]! ≤ f[c]! := by
  have hcert := fillCertOk_iff.1 h
  by_cases hr : Reached G nod seed d8 c
  · by_cases h0 : d8[c]! = 0
    · rw [dsOf_pit h0]; exact Int.le_refl _
    · have := (cert_L3 hcert hr h0).2.1
      omega
  · have : dsOf G d8 c = c := by
      cases hn : nod[c]! with
      | true => simp [dsOf, drdc, (cert_nod hcert hc hn).2.1]
      | false =>
        apply dsOf_pit
        apply Classical.byContradiction
        intro h0
        exact hr ⟨⟨hc, hn⟩, Or.inr h0⟩
    rw [this]; exact Int.le_refl _

/-- **loop-free, every connected cell reaches an outlet**: following the directions from a cell
connected to an outlet ends, after finitely many steps, at a cell that is an outlet and its own
downstream cell (so the cell is on no cycle); all cells on the way are connected, hence
`d8_step_allowed_cert` applies to every step. -/
theorem d8_loopfree_reaches_seed_cert (h : fillCertOk G conn elev nod seed f d8 rk = true) (c : Nat)
    (hc : Connected G conn nod seed c) :
    ∃ k, IsSeed G seed (iter (dsOf G d8) k c) ∧
      dsOf G d8 (iter (dsOf G d8) k c) = iter (dsOf G d8) k c ∧
      ∀ m, m ≤ k → Connected G conn nod seed (iter (dsOf G d8) m c) := by
  have hcert := fillCertOk_iff.1 h
  have key := cert_induction hcert
    (fun c => ∃ k, IsSeed G seed (iter (dsOf G d8) k c) ∧
      dsOf G d8 (iter (dsOf G d8) k c) = iter (dsOf G d8) k c ∧
      ∀ m, m ≤ k → Reached G nod seed d8 (iter (dsOf G d8) m c))
    (fun c hr h0 => ⟨0, reached_pit_seed hr h0, dsOf_pit h0, fun m hm => by
      have : m = 0 := by omega
      subst this; exact hr⟩)
    (fun c hr _ _ ⟨k, hs, hfix, hall⟩ => ⟨k + 1, hs, hfix, fun m hm => by
      cases m with
      | zero => exact hr
      | succ m => exact hall m (by omega)⟩)
  obtain ⟨k, hs, hfix, hall⟩ := key c ((reached_iff_connected_cert h c).2 hc)
  exact ⟨k, hs, hfix, fun m hm => (reached_iff_connected_cert h _).1 (hall m hm)⟩

/-- the filled surface drains everywhere: from every connected cell the direction chain is a
neighbour path to an outlet along which the filled elevation never rises -/
theorem filled_surface_drains_cert (h : fillCertOk G conn elev nod seed f d8 rk = true) (c : Nat)
    (hc : Connected G conn nod seed c) : Drains G conn nod seed f c := by
  have hcert := fillCertOk_iff.1 h
  refine cert_induction hcert (Drains G conn nod seed f)
    (fun c hr h0 => Drains.base c (reached_pit_seed hr h0))
    (fun c hr h0 _ ih => ?_) c ((reached_iff_connected_cert h c).2 hc)
  obtain ⟨hn, hf, _⟩ := cert_L3 hcert hr h0
  exact Drains.step c _ hn (by omega) ih

/-- **filling an already filled surface changes no elevation**: any accepted output `f2` for the
input surface `f` (itself an accepted output for `elev`, same mask, connectivity and outlets)
equals `f` on the whole raster. -/
theorem idempotent_cert {f2 : Array Int} {d82 rk2 : Array Nat}
    (h1 : fillCertOk G conn elev nod seed f d8 rk = true)
    (h2 : fillCertOk G conn f nod seed f2 d82 rk2 = true) (c : Nat) (hc : c < G.n) :
    f2[c]! = f[c]! := by
  have hc2 := fillCertOk_iff.1 h2
  cases hn : nod[c]! with
  | true => exact (cert_nod hc2 hc hn).1
  | false =>
    by_cases hr : Reached G nod seed d82 c
    · have hconn := (reached_iff_connected_cert h2 c).1 hr
      exact filled_fix_cert h2 c (filled_surface_drains_cert h1 c hconn)
    · exact cert_unreached hc2 ⟨hc, hn⟩ hr

/-! ### the outlet sets -/

/-- **`get_edge`**: the model of `gis_utils.get_edge(~nodata_mask, structure)` marks exactly the
valid cells on the raster border or with a neighbour (in the chosen connectivity) that is not valid -/
theorem getEdge_edge (G : Grid) (conn : Nat) (nod : Array Bool) (c : Nat) (hc : c < G.n) :
    (getEdge G conn nod)[c]! = true ↔ IsEdge G conn nod c := getEdge_spec G conn nod c hc

/-- `outlets='edge'`: the model starts from exactly the edge cells of the valid area -/
theorem seedsOf_edge (G : Grid) (conn : Nat) (elev : Array Int) (nod s : Array Bool)
    (h : seedsOf G conn elev nod none false = some s) : EdgeSeeds G conn nod s := by
  simp only [seedsOf, seeds0] at h
  injection h with h
  subst h
  exact fun c hc => getEdge_spec G conn nod c hc

/-- `outlets='min'`: the model starts from the single lowest edge cell (first in row-major order
among equally low ones) -/
theorem seedsOf_min_edge (G : Grid) (conn : Nat) (elev : Array Int) (nod s : Array Bool)
    (h : seedsOf G conn elev nod none true = some s) : MinSeed G conn elev nod s := by
  obtain ⟨m, hm, hq, hmin, hs⟩ := seedsOf_min G conn elev nod none s h
  simp only [seeds0] at hq hmin
  exact ⟨m, hm, (getEdge_spec G conn nod m hm).1 hq,
    fun c hc he => hmin c hc ((getEdge_spec G conn nod c hc).2 he), hs⟩

/-- user outlets without `outlets='min'`: the model starts from exactly the listed cells (with
`outlets='min'`: from the lowest listed cell, `seedsOf_min`) -/
theorem seedsOf_user (G : Grid) (conn : Nat) (elev : Array Int) (nod s : Array Bool) (pits : List Nat)
    (h : seedsOf G conn elev nod (some pits) false = some s) :
    ∀ c, c < G.n → (s[c]! = true ↔ c ∈ pits) := by
  simp only [seedsOf, seeds0] at h
  injection h with h
  subst h
  intro c hc
  unfold userSeeds
  rw [userSeeds_fold]
  simp [hc]

/-- **with `outlets='edge'` every valid cell is connected to an outlet**, so the minimax
characterisation, the never-uphill network and the reach-an-outlet statement cover the whole
valid area -/
theorem edge_mode_total_cert (h : fillCertOk G conn elev nod seed f d8 rk = true)
    (hseed : EdgeSeeds G conn nod seed) (c : Nat) (hv : Valid G nod c) :
    (∀ p, Path G conn nod seed c p → f[c]! ≤ pathMax elev p) ∧
    (∃ p, Path G conn nod seed c p ∧ pathMax elev p = f[c]!) ∧
    ∃ k, IsEdge G conn nod (iter (dsOf G d8) k c) ∧
      dsOf G d8 (iter (dsOf G d8) k c) = iter (dsOf G d8) k c := by
  have hc := edge_all_connected G conn nod seed hseed c hv
  obtain ⟨h1, h2⟩ := fillCert_sound h c hc
  obtain ⟨k, hs, hfix, _⟩ := d8_loopfree_reaches_seed_cert h c hc
  exact ⟨h1, h2, k, (hseed _ hs.1).1 hs.2, hfix⟩

/-- the order of the code's heap tuples `(r, c)` is the order of the flat index that the model's heap
entries carry -/
theorem rc_lex_iff {ncol r1 c1 r2 c2 : Nat} (h1 : c1 < ncol) (h2 : c2 < ncol) :
    (r1 < r2 ∨ (r1 = r2 ∧ c1 < c2)) ↔ r1 * ncol + c1 < r2 * ncol + c2 := by
  have key : ∀ a b ca cb, ca < ncol → a < b → a * ncol + ca < b * ncol + cb := by
    intro a b ca cb hca hab
    have : (a + 1) * ncol ≤ b * ncol := Nat.mul_le_mul_right _ hab
    rw [Nat.add_mul, Nat.one_mul] at this
    omega
  constructor
  · rintro (h | ⟨rfl, h⟩)
    · exact key _ _ _ _ h1 h
    · omega
  · intro h
    rcases Nat.lt_trichotomy r1 r2 with hr | hr | hr
    · exact Or.inl hr
    · subst hr; exact Or.inr ⟨rfl, by omega⟩
    · have := key _ _ c2 c1 h2 hr; omega

/-- the neighbour loop of the model enumerates exactly the declarative neighbours -/
theorem nbr_loop_exact {i j : Nat} (hi : i < G.n) :
    Adj G conn i j ↔ ∃ o, o ∈ offsets conn ∧ o ≠ (0, 0) ∧ shift G i o.1 o.2 = some j :=
  adj_iff_shift hi


/-! ### algorithm level: the model of `fill_depressions` itself, all inputs

Hypotheses: the arrays have the raster's size and user outlets are valid cells. No certificate
hypothesis; that the run ends with an empty heap (`fin = true`) is `fillModel_terminates`. -/

/-- **the loop of the model always ends with an empty heap** within its fuel `n + 1` (every cell is
pushed at most once): whenever the model returns, its third component is `true` -/
theorem fillModel_terminates {pits : Option (List Nat)} {minMode : Bool} {fin : Bool}
    (hN : nod.size = G.n) (hE : elev.size = G.n)
    (h : fillModel G conn elev nod pits minMode = some (f, d8, fin)) : fin = true := by
  obtain ⟨seed, hseed, _, _, rfl⟩ := fillModel_run h
  rw [loop_empties (conn := conn) (elev := elev) (G.n + 1) _
    (sized_init hN hE (seedsOf_size hseed)) (by rw [pot_init]; omega)]
  rfl

/-- the model returns `none` (the code's `IndexError` from `heappop` on an empty heap) only with
`outlets='min'` and no candidate outlet at all -/
theorem fillModel_none_iff {pits : Option (List Nat)} {minMode : Bool} :
    fillModel G conn elev nod pits minMode = none ↔
      (minMode = true ∧ initHeap G elev (seeds0 G conn nod pits) = []) := by
  unfold fillModel seedsOf
  cases minMode with
  | false => simp
  | true =>
    simp only [if_true, true_and]
    cases hq : initHeap G elev (seeds0 G conn nod pits) <;> simp

/-- every output of the priority flood is accepted by the certificate
(loop invariant `Inv` in `Proofs/C06Inv.lean`: monotone pop levels, every cell pushed once, popped
cells have all neighbours visited) -/
theorem fill_model_cert {pits : Option (List Nat)} {minMode : Bool} {fin : Bool}
    (hN : nod.size = G.n) (hE : elev.size = G.n)
    (hpits : ∀ l, pits = some l → ∀ p, p ∈ l → p < G.n → nod[p]! = false)
    (h : fillModel G conn elev nod pits minMode = some (f, d8, fin)) :
    ∃ seed rk, seedsOf G conn elev nod pits minMode = some seed ∧
      fillCertOk G conn elev nod seed f d8 rk = true := by
  obtain ⟨seed, hseed, rfl, rfl, _⟩ := fillModel_run h
  obtain ⟨_, rk, hc⟩ := fillFrom_cert (conn := conn) hN hE (seedsOf_size hseed) (seedsOf_valid hpits hseed)
  exact ⟨seed, rk, hseed, fillCertOk_iff.2 hc⟩

/-- **the property for the model, all inputs**: with the outlet set `seed` the run started from
(edge cells / lowest edge cell / user cells: `seedsOf_edge`, `seedsOf_min_edge`, `seedsOf_user`),
the filled surface is the minimax spill level on every connected cell, the directions lead every
connected cell to an outlet, nothing goes uphill, nothing is lowered, nodata is untouched. -/
theorem fillModel_sound {pits : Option (List Nat)} {minMode : Bool} {fin : Bool}
    (hN : nod.size = G.n) (hE : elev.size = G.n)
    (hpits : ∀ l, pits = some l → ∀ p, p ∈ l → p < G.n → nod[p]! = false)
    (h : fillModel G conn elev nod pits minMode = some (f, d8, fin)) :
    ∃ seed, seedsOf G conn elev nod pits minMode = some seed ∧
      (∀ c, Connected G conn nod seed c →
        (∀ p, Path G conn nod seed c p → f[c]! ≤ pathMax elev p) ∧
        (∃ p, Path G conn nod seed c p ∧ pathMax elev p = f[c]!) ∧
        (∃ k, IsSeed G seed (iter (dsOf G d8) k c) ∧
          dsOf G d8 (iter (dsOf G d8) k c) = iter (dsOf G d8) k c) ∧
        (dsOf G d8 c ≠ c → Nbr G conn nod c (dsOf G d8 c))) ∧
      (∀ c, c < G.n → f[dsOf G d8 c]! ≤ f[c]! ∧ elev[c]! ≤ f[c]! ∧
        (nod[c]! = true → f[c]! = elev[c]! ∧ d8[c]! = 247)) := by
  obtain ⟨seed, rk, hseed, hcert⟩ := fill_model_cert hN hE hpits h
  refine ⟨seed, hseed, fun c hc => ?_, fun c hc => ?_⟩
  · obtain ⟨h1, h2⟩ := fillCert_sound hcert c hc
    obtain ⟨k, hk1, hk2, _⟩ := d8_loopfree_reaches_seed_cert hcert c hc
    exact ⟨h1, h2, ⟨k, hk1, hk2⟩, fun h0 => (d8_step_allowed_cert hcert c hc h0).1⟩
  · exact ⟨never_uphill_cert hcert c hc, filled_ge_cert hcert c hc,
      fun hn => nodata_untouched_cert hcert c hc hn⟩

/-- **filling an already filled surface changes no elevation — for the model**, all three outlet
modes (for `min`: the lowest edge cell of the filled surface is the same cell, `seedsOf_min_stable`) -/
theorem fillModel_idempotent {pits : Option (List Nat)} {minMode : Bool} {f2 : Array Int}
    {d82 : Array Nat} {fin fin2 : Bool} (hN : nod.size = G.n) (hE : elev.size = G.n)
    (hpits : ∀ l, pits = some l → ∀ p, p ∈ l → p < G.n → nod[p]! = false)
    (h1 : fillModel G conn elev nod pits minMode = some (f, d8, fin))
    (h2 : fillModel G conn f nod pits minMode = some (f2, d82, fin2)) (c : Nat) (hc : c < G.n) :
    f2[c]! = f[c]! := by
  have hF : f.size = G.n := by
    obtain ⟨seed, hseed, rfl, _⟩ := fillModel_run h1
    exact (sized_loop _ _ (sized_init hN hE (seedsOf_size hseed))).2.2.1
  obtain ⟨seed1, rk1, hs1, c1⟩ := fill_model_cert hN hE hpits h1
  obtain ⟨seed2, rk2, hs2, c2⟩ := fill_model_cert hN hF hpits h2
  have : seed1 = seed2 := by
    cases minMode with
    | false =>
      simp only [seedsOf, Bool.false_eq_true, if_false, Option.some.injEq] at hs1 hs2
      rw [← hs1, ← hs2]
    | true =>
      have hst := seedsOf_min_stable (e2 := f) hs1 (fun c hc _ => filled_ge_cert c1 c hc)
        (fun c hc hs => cert_L2 (fillCertOk_iff.1 c1) ⟨hc, hs⟩)
      rw [hst] at hs2
      injection hs2
  subst this
  exact idempotent_cert c1 c2 c hc

/-- the outlet chosen by `outlets='min'` does not move when the surface is filled -/
theorem min_outlet_stable {pits : Option (List Nat)} {fin : Bool} (hN : nod.size = G.n)
    (hE : elev.size = G.n) (hpits : ∀ l, pits = some l → ∀ p, p ∈ l → p < G.n → nod[p]! = false)
    (h1 : fillModel G conn elev nod pits true = some (f, d8, fin)) :
    seedsOf G conn f nod pits true = seedsOf G conn elev nod pits true := by
  obtain ⟨seed1, rk1, hs1, c1⟩ := fill_model_cert hN hE hpits h1
  rw [hs1]
  exact seedsOf_min_stable (e2 := f) hs1 (fun c hc _ => filled_ge_cert c1 c hc)
    (fun c hc hs => cert_L2 (fillCertOk_iff.1 c1) ⟨hc, hs⟩)

/-- nodata untouched, never below the input — for the model, whatever the outlets -/
theorem fillModel_nodata_ge {pits : Option (List Nat)} {minMode : Bool} {fin : Bool}
    (hn : nod.size = G.n) (h : fillModel G conn elev nod pits minMode = some (f, d8, fin)) (c : Nat)
    (hc : c < G.n) :
    (nod[c]! = true → f[c]! = elev[c]! ∧ d8[c]! = 247) ∧ elev[c]! ≤ f[c]! := by
  obtain ⟨seed, _, rfl, rfl, _⟩ := fillModel_run h
  have := safe_loop (conn := conn) (G.n + 1) _ (safe_init (elev := elev) seed hn) c hc
  exact ⟨fun hnod => (this.1 hnod).2, this.2⟩

/-! ### `elv_max`: outlets only at edge cells at or below `elv_max` (model `fillModelE`) -/

/-- the restricted initial outlets are exactly the edge cells with elevation `≤ elv_max` -/
theorem edgeBelow_edge (m : Int) (c : Nat) (hc : c < G.n) :
    (edgeBelow G conn elev nod m)[c]! = true ↔ (IsEdge G conn nod c ∧ elev[c]! ≤ m) :=
  edgeBelow_spec m c hc

/-- the model raises `ValueError` (returns `none` for the initial outlets) exactly when `idxs_pit` is
absent, `elv_max` is given and no edge cell lies at or below it -/
theorem elvMax_valueError_iff {pits : Option (List Nat)} {elvMax : Option Int} :
    seeds0E G conn elev nod pits elvMax = none ↔
      ∃ m, pits = none ∧ elvMax = some m ∧ ¬ ∃ c, c < G.n ∧ IsEdge G conn nod c ∧ elev[c]! ≤ m := by
  unfold seeds0E
  split
  · rename_i m
    simp only
    split
    · rename_i hany
      simp only [reduceCtorEq, false_iff]
      rintro ⟨m', _, hm, hno⟩
      injection hm with hm
      subst hm
      obtain ⟨c, hc, hq⟩ := List.any_eq_true.1 hany
      have hc := List.mem_range.1 hc
      exact hno ⟨c, hc, (edgeBelow_spec m c hc).1 hq⟩
    · rename_i hany
      simp only [true_iff]
      refine ⟨m, by first | rfl | trivial, by first | rfl | trivial, ?_⟩
      rintro ⟨c, hc, he⟩
      apply hany
      exact List.any_eq_true.2 ⟨c, List.mem_range.2 hc, (edgeBelow_spec m c hc).2 he⟩
  · rename_i hne
    simp only [reduceCtorEq, false_iff]
    rintro ⟨m, hp, hm, _⟩
    exact hne m hp hm

/-- **all clauses of the property hold with `elv_max` too**: the model's run from the restricted
outlets ends with an empty heap and its output is accepted by the certificate for that outlet set
(so `fillCert_sound`, `never_uphill_cert`, ... apply with `seed` = the restricted set) -/
theorem fillModelE_cert {pits : Option (List Nat)} {minMode : Bool} {elvMax : Option Int} {fin : Bool}
    (hN : nod.size = G.n) (hE : elev.size = G.n)
    (hpits : ∀ l, pits = some l → ∀ p, p ∈ l → p < G.n → nod[p]! = false)
    (h : fillModelE G conn elev nod pits minMode elvMax = .ok (f, d8, fin)) :
    fin = true ∧ ∃ seed rk, seedsOfE G conn elev nod pits minMode elvMax = .ok seed ∧
      fillCertOk G conn elev nod seed f d8 rk = true := by
  obtain ⟨seed, hseed, rfl, rfl, rfl⟩ := fillModelE_run h
  obtain ⟨hq, rk, hc⟩ :=
    fillFrom_cert (conn := conn) hN hE (seedsOfE_size hseed) (seedsOfE_valid hpits hseed)
  exact ⟨by rw [hq]; rfl, seed, rk, hseed, fillCertOk_iff.2 hc⟩

/-- without `elv_max` the extended model is `fillModel` -/
theorem fillModelE_no_elvMax (pits : Option (List Nat)) (minMode : Bool) :
    fillModelE G conn elev nod pits minMode none =
      match fillModel G conn elev nod pits minMode with
      | none => .error .indexError
      | some r => .ok r := by
  unfold fillModelE fillModel
  rw [seedsOfE_none]
  cases seedsOf G conn elev nod pits minMode <;> rfl

/-! ### `max_depth >= 0` (model `fillModelDepth`)

Why every cell has at most one too-deep event although pop levels are not monotone and cells are
re-opened, popped and pushed several times is told at the head of `Proofs/C06Once.lean`. The model takes
the depth branch for every integer `max_depth`; the code only for `max_depth >= 0`. -/

/-- **the measure of the depth-limited loop**: `potD` = heap size + number of cells that are not
done. Every iteration of `while len(q) > 0` lowers it by at least one, except that each too-deep
event may add up to 10 (one push, at most nine re-opened cells). Hence, as long as the heap is not
empty after `fuel` iterations, `fuel + potD ≤ potD₀ + 10 · (too-deep events so far)`; the number of
events never decreases. -/
theorem fillDepth_measure {md : Int} (fuel : Nat) (s : StD) (hs : SizedD G s) :
    s.ev ≤ (fillLoopD G conn elev nod md fuel s).ev ∧
    ((fillLoopD G conn elev nod md fuel s).q ≠ [] →
      fuel + potD G (fillLoopD G conn elev nod md fuel s) + 10 * s.ev ≤
        potD G s + 10 * (fillLoopD G conn elev nod md fuel s).ev) :=
  potD_loop fuel s hs

/-- **termination of `fill_depressions(max_depth >= 0)` given at most `n` too-deep events**: then the
loop ends with an empty heap within `12 n + 1` pops (the initial potential is at most `2 n`) -/
theorem fillModelDepth_terminates_of_events {pits : Option (List Nat)} {minMode : Bool}
    {elvMax : Option Int} {md : Int} {fin : Bool} {ev : Nat} {evc : Array Nat}
    (hN : nod.size = G.n) (hE : elev.size = G.n)
    (h : fillModelDepth G conn elev nod pits minMode elvMax md = .ok (f, d8, fin, ev, evc))
    (hev : ev ≤ G.n) : fin = true := by
  obtain ⟨seed, hseed, _, _, rfl, rfl, _⟩ := fillModelDepth_run h
  rw [loopD_empty_of_events hN hE (seedsOfE_size hseed) (fuelD G) (Nat.le_refl _) hev]
  rfl

/-- in every run of the depth-limited fill every cell has at most one too-deep event, hence there are at
most `n` events. No hypothesis on seeds (user outlets may even be nodata cells), on `max_depth` or on the
result (`fin` is not assumed). -/
theorem too_deep_once {pits : Option (List Nat)} {minMode : Bool} {elvMax : Option Int} {md : Int}
    {fin : Bool} {ev : Nat} {evc : Array Nat} (hN : nod.size = G.n) (hE : elev.size = G.n)
    (h : fillModelDepth G conn elev nod pits minMode elvMax md = .ok (f, d8, fin, ev, evc)) :
    (∀ c : Nat, evc[c]! ≤ 1) ∧ ev ≤ G.n :=
  fillModelDepth_once hN hE h

/-- the same for every intermediate state (after any number `fuel` of pops, from any seed set): at
most one event per cell; events + never-queued cells `≤ n` (an event always hits a never-queued cell) -/
theorem too_deep_once_state {md : Int} {seed : Array Bool} (fuel : Nat) (hN : nod.size = G.n)
    (hE : elev.size = G.n) (hS : seed.size = G.n) :
    (∀ c : Nat, (fillLoopD G conn elev nod md fuel (initStateD G elev nod seed)).evc[c]! ≤ 1) ∧
    (fillLoopD G conn elev nod md fuel (initStateD G elev nod seed)).ev +
      unq G.n (fillLoopD G conn elev nod md fuel (initStateD G elev nod seed)).queued ≤ G.n :=
  too_deep_once_loop fuel hN hE hS

/-- `fill_depressions(max_depth >= 0)` never runs out of fuel: whenever the model returns on arrays of the
raster's size, the loop has ended with an empty heap within its fuel `fuelD = 12 n + 1`; the only other
outcomes are the two errors of the outlet selection (`ValueError` for `elv_max`, `IndexError` for
`outlets='min'` without candidates) -/
theorem fillModelDepth_total {pits : Option (List Nat)} {minMode : Bool} {elvMax : Option Int} {md : Int}
    {fin : Bool} {ev : Nat} {evc : Array Nat} (hN : nod.size = G.n) (hE : elev.size = G.n)
    (h : fillModelDepth G conn elev nod pits minMode elvMax md = .ok (f, d8, fin, ev, evc)) :
    fin = true :=
  fillModelDepth_terminates_of_events hN hE h (too_deep_once hN hE h).2

/-- the fuel is irrelevant: with any fuel `≥ 12 n + 1` the loop ends with an empty heap and in the
same state, i.e. the fuelled model *is* the `while len(q) > 0` loop -/
theorem fillLoopD_fuel_irrelevant {md : Int} {seed : Array Bool} (hN : nod.size = G.n)
    (hE : elev.size = G.n) (hS : seed.size = G.n) (fuel : Nat) (hf : fuelD G ≤ fuel) :
    (fillLoopD G conn elev nod md fuel (initStateD G elev nod seed)).q = [] ∧
    fillLoopD G conn elev nod md fuel (initStateD G elev nod seed) =
      fillLoopD G conn elev nod md (fuelD G) (initStateD G elev nod seed) := by
  refine ⟨fillLoopD_empty hN hE hS fuel hf, ?_⟩
  obtain ⟨k, rfl⟩ : ∃ k, fuel = fuelD G + k := ⟨fuel - fuelD G, by omega⟩
  exact fillLoopD_stable _ _ (fillLoopD_empty hN hE hS _ (Nat.le_refl _)) k

/-- **invariants of every state of every depth-limited run** (after any number of pops): nodata cells
are never pushed (no heap entry is a nodata cell), never queued, never re-opened, keep their elevation
and the code 247; valid cells are never coded 247, never lowered, never raised by `md` or more -/
theorem fillDepth_invariants {md : Int} {seed : Array Bool} (fuel : Nat) (hN : nod.size = G.n)
    (hE : elev.size = G.n) (hS : seed.size = G.n)
    (hSV : ∀ c : Nat, c < G.n → seed[c]! = true → nod[c]! = false) :
    SafeD G elev nod md (fillLoopD G conn elev nod md fuel (initStateD G elev nod seed)) :=
  safeD_loop fuel _ (sizedD_init hN hE hS) (safeD_init hN hSV)

/-- the same for the returned rasters: nodata untouched and coded 247, valid cells never 247,
`elev ≤ f`, and `f = elev` or `f - elev < max_depth` (cells of depressions deeper than `max_depth`
are not raised to the pour point; with `max_depth = 0` nothing is raised) -/
theorem fillModelDepth_invariants {pits : Option (List Nat)} {minMode : Bool} {elvMax : Option Int}
    {md : Int} {fin : Bool} {ev : Nat} {evc : Array Nat}
    (hN : nod.size = G.n) (hE : elev.size = G.n)
    (hpits : ∀ l, pits = some l → ∀ p, p ∈ l → p < G.n → nod[p]! = false)
    (h : fillModelDepth G conn elev nod pits minMode elvMax md = .ok (f, d8, fin, ev, evc))
    (c : Nat) (hc : c < G.n) :
    (nod[c]! = true → f[c]! = elev[c]! ∧ d8[c]! = 247) ∧ (nod[c]! = false → d8[c]! ≠ 247) ∧
    elev[c]! ≤ f[c]! ∧ (f[c]! = elev[c]! ∨ f[c]! - elev[c]! < md) := by
  obtain ⟨seed, hseed, rfl, rfl, _⟩ := fillModelDepth_run h
  have hs := sizedD_init (elev := elev) hN hE (seedsOfE_size hseed)
  have := (safeD_loop (conn := conn) (md := md) (fuelD G) _ hs
    (safeD_init hN (seedsOfE_valid hpits hseed))).2 c hc
  exact ⟨fun hn => ⟨(this.1 hn).2.1, (this.1 hn).2.2.1⟩, this.2.1, this.2.2.1, this.2.2.2⟩

/-- **no depression as deep as `max_depth` ⇒ the unlimited result**: if the unlimited fill raises no
cell by `md` or more, `fillModelDepth` returns exactly the unlimited output, terminates, and sees no
too-deep event -/
theorem fillModelDepth_eq_unlimited {pits : Option (List Nat)} {minMode : Bool} {elvMax : Option Int}
    {md : Int} {f0 : Array Int} {d80 : Array Nat} {fin0 : Bool}
    (hN : nod.size = G.n) (hE : elev.size = G.n)
    (hpits : ∀ l, pits = some l → ∀ p, p ∈ l → p < G.n → nod[p]! = false)
    (h0 : fillModelE G conn elev nod pits minMode elvMax = .ok (f0, d80, fin0))
    (hdepth : ∀ c, c < G.n → f0[c]! - elev[c]! < md) :
    fillModelDepth G conn elev nod pits minMode elvMax md =
      .ok (f0, d80, true, 0, Array.replicate G.n 0) := by
  obtain ⟨seed, hseed, rfl, rfl, _⟩ := fillModelE_run h0
  have hS := seedsOfE_size hseed
  obtain ⟨hq, _⟩ := fillFrom_cert (conn := conn) hN hE hS (seedsOfE_valid hpits hseed)
  have hst : fillLoop G conn elev (fuelD G) (initState G elev nod seed) =
      fillLoop G conn elev (G.n + 1) (initState G elev nod seed) := by
    rw [show fuelD G = G.n + 1 + 11 * G.n by unfold fuelD; omega]
    exact fillLoop_stable (conn := conn) (elev := elev) (G.n + 1) (11 * G.n) _ hq
  have hno : NoOpen (initStateD G elev nod seed) := by
    intro c hc
    exfalso
    simp only [initStateD] at hc
    by_cases hcn : c < G.n <;> simp [hcn] at hc
  have hto : (initStateD G elev nod seed).toSt = initState G elev nod seed := rfl
  obtain ⟨e1, e2, e3⟩ := loopD_eq (conn := conn) (nod := nod) (md := md) (fuelD G) _
    (sizedD_init hN hE hS) hno (by rw [hto, hst]; exact hdepth)
  rw [hto, hst] at e1
  unfold fillModelDepth
  simp only [hseed]
  rw [show (fillLoopD G conn elev nod md (fuelD G) (initStateD G elev nod seed)).f = _ from congrArg St.f e1,
    show (fillLoopD G conn elev nod md (fuelD G) (initStateD G elev nod seed)).d8 = _ from congrArg St.d8 e1,
    show (fillLoopD G conn elev nod md (fuelD G) (initStateD G elev nod seed)).q = [] from
      (congrArg St.q e1).trans hq, e2, e3]
  rfl

/-! #### what the depth option guarantees

One would expect: *cells of depressions deeper than `max_depth` keep their original elevation, and every
other guarantee of `fill_model_cert` holds on the remaining cells*, i.e. the output is accepted by the
certificate for the outlets together with the too-deep cells. That is false for the code and for its model
(the 1x3 `example`s below):
* the popped cell `i0` is re-opened when a too-deep neighbour is met at an offset BEFORE `(0, 0)` in the
  neighbour loop (NW, N, NE, W); the loop then visits `i0` itself, marks it done and writes the code
  `_us[1, 1] = 0`: `i0` ends as a pit although it is neither an outlet nor too deep (and it may even
  be raised). With the too-deep neighbour at a later offset (E, SW, S, SE) `i0` drains into it instead:
  the output is not mirror-symmetric.
* a filled cell that was re-directed can stay raised above `max (elev c) (f (ds c))`.
What holds on every input is collected in `fillModelDepth_guarantees_partial`. Never uphill along `d8` and
loop-freeness are not proved: they need an order argument for the non-monotone pop sequence. -/

/-- **the outlets and the too-deep cells keep their input elevation**: a cell that had its too-deep
event is never filled afterwards although it may be re-opened and visited again (every later visit
comes from a level at or below its own elevation); the same for the outlets. No hypothesis on the
outlets or on `max_depth`. -/
theorem fillModelDepth_deep_cells_keep {pits : Option (List Nat)} {minMode : Bool} {elvMax : Option Int}
    {md : Int} {fin : Bool} {ev : Nat} {evc : Array Nat} (hN : nod.size = G.n) (hE : elev.size = G.n)
    (h : fillModelDepth G conn elev nod pits minMode elvMax md = .ok (f, d8, fin, ev, evc)) :
    ∃ seed, seedsOfE G conn elev nod pits minMode elvMax = .ok seed ∧
      ∀ c, c < G.n → (seed[c]! = true ∨ 1 ≤ evc[c]!) → f[c]! = elev[c]! :=
  fillModelDepth_keep hN hE h

/-- the same in every intermediate state, and cells never queued are untouched -/
theorem fillDepth_keep_state {md : Int} {seed : Array Bool} (fuel : Nat) (hN : nod.size = G.n)
    (hE : elev.size = G.n) (hS : seed.size = G.n) (c : Nat) (hc : c < G.n)
    (h : seed[c]! = true ∨ 1 ≤ (fillLoopD G conn elev nod md fuel (initStateD G elev nod seed)).evc[c]! ∨
      (fillLoopD G conn elev nod md fuel (initStateD G elev nod seed)).queued[c]! = false) :
    (fillLoopD G conn elev nod md fuel (initStateD G elev nod seed)).f[c]! = elev[c]! :=
  pin_keep_loop fuel hN hE hS c hc h

/-- **every direction of the depth-limited fill goes to an allowed valid neighbour**: a valid cell with
a non-zero code decodes (`core_d8` decoding `dsOf`) to a different valid cell that is its neighbour in
the chosen connectivity -/
theorem fillModelDepth_step_allowed {pits : Option (List Nat)} {minMode : Bool} {elvMax : Option Int}
    {md : Int} {fin : Bool} {ev : Nat} {evc : Array Nat} (hN : nod.size = G.n) (hE : elev.size = G.n)
    (hpits : ∀ l, pits = some l → ∀ p, p ∈ l → p < G.n → nod[p]! = false)
    (h : fillModelDepth G conn elev nod pits minMode elvMax md = .ok (f, d8, fin, ev, evc))
    (c : Nat) (hc : c < G.n) (hn : nod[c]! = false) (h0 : d8[c]! ≠ 0) :
    Nbr G conn nod c (dsOf G d8 c) := by
  obtain ⟨seed, hseed, _, rfl, _⟩ := fillModelDepth_run h
  have hs := sizedD_init (elev := elev) hN hE (seedsOfE_size hseed)
  have hsafe0 : SafeD G elev nod md (initStateD G elev nod seed) :=
    safeD_init hN (seedsOfE_valid hpits hseed)
  have hsafe := safeD_loop (conn := conn) (md := md) (fuelD G) _ hs hsafe0
  exact dirOk_nbr (dirOk_loop (conn := conn) (md := md) (fuelD G) _ hs hsafe0 onceBase_init (dirOk_init hN))
    (fun c hc hn => (hsafe.2 c hc).2.1 hn) c hc hn h0

/-- **the guarantees of `fill_depressions(max_depth >= 0)` that hold on every input** (partial, see
above): the run terminates (`fin`), every cell is too deep at most once, nodata cells are untouched and
coded 247, valid cells are never coded 247, no cell is lowered, no cell is raised by `max_depth` or
more, outlets and too-deep cells are not raised at all, every direction goes to an allowed valid
neighbour. -/
theorem fillModelDepth_guarantees_partial {pits : Option (List Nat)} {minMode : Bool}
    {elvMax : Option Int} {md : Int} {fin : Bool} {ev : Nat} {evc : Array Nat}
    (hN : nod.size = G.n) (hE : elev.size = G.n)
    (hpits : ∀ l, pits = some l → ∀ p, p ∈ l → p < G.n → nod[p]! = false)
    (h : fillModelDepth G conn elev nod pits minMode elvMax md = .ok (f, d8, fin, ev, evc)) :
    fin = true ∧ ev ≤ G.n ∧
    ∃ seed, seedsOfE G conn elev nod pits minMode elvMax = .ok seed ∧
      ∀ c, c < G.n →
        evc[c]! ≤ 1 ∧
        (nod[c]! = true → f[c]! = elev[c]! ∧ d8[c]! = 247) ∧ (nod[c]! = false → d8[c]! ≠ 247) ∧
        elev[c]! ≤ f[c]! ∧ (f[c]! = elev[c]! ∨ f[c]! - elev[c]! < md) ∧
        ((seed[c]! = true ∨ 1 ≤ evc[c]!) → f[c]! = elev[c]!) ∧
        (nod[c]! = false → d8[c]! ≠ 0 → Nbr G conn nod c (dsOf G d8 c)) := by
  obtain ⟨h1, h2⟩ := too_deep_once hN hE h
  obtain ⟨seed, hs, hk⟩ := fillModelDepth_deep_cells_keep hN hE h
  refine ⟨fillModelDepth_total hN hE h, h2, seed, hs, fun c hc => ?_⟩
  obtain ⟨a, b, d, e⟩ := fillModelDepth_invariants hN hE hpits h c hc
  exact ⟨h1 c, a, b, d, e, hk c hc, fillModelDepth_step_allowed hN hE hpits h c hc⟩

-- non-vacuity of `fillModelDepth_deep_cells_keep`: the staircase below (cells 1, 2, 3 are too deep, are
-- re-opened and visited again, and keep 6, 3, 0); and a raster where a shallow dent (cell 9: 4 -> 5) IS
-- filled while the deep cell 6 (elevation 0, pour point 5, max_depth 3) is not
example : (match fillModelDepth ⟨3, 5⟩ 8 #[9, 9, 9, 9, 9, 5, 0, 5, 5, 4, 9, 9, 9, 9, 9] (Array.replicate 15 false)
      (some [5]) false none 3 with
    | .ok (f, _, fin, ev, evc) => (f.toList, fin, ev, evc.toList)
    | .error _ => ([], false, 0, [])) =
    ([9, 9, 9, 9, 9, 5, 0, 5, 5, 5, 9, 9, 9, 9, 9], true, 1,
     [0, 0, 0, 0, 0, 0, 1, 0, 0, 0, 0, 0, 0, 0, 0]) := by decide +kernel

-- non-vacuity of `fillModelDepth_step_allowed` on the regression raster's output (nodata at cell 6)
example : ∀ c, c < 15 →
    (#[false, false, false, false, false, false, true, false, false, false, false, false, false, false, false] : Array Bool)[c]! = false →
    (#[0, 2, 4, 8, 16, 64, 247, 0, 16, 32, 64, 128, 64, 32, 32] : Array Nat)[c]! ≠ 0 →
    Nbr ⟨3, 5⟩ 8 #[false, false, false, false, false, false, true, false, false, false, false, false, false, false, false] c
      (dsOf ⟨3, 5⟩ #[0, 2, 4, 8, 16, 64, 247, 0, 16, 32, 64, 128, 64, 32, 32] c) := by decide +kernel

-- FINDING (refutes the intended full statement): 1x3 raster [0, 1, 4], outlet = cell 2, max_depth 4.
-- Cell 0 is too deep (4 - 0 >= 4) when cell 1 (filled 1 -> 4) is popped; it precedes the centre in the
-- neighbour loop, so cell 1 is re-opened and visits itself: it stays raised to 4 AND ends as a pit (code 0)
-- next to the lower cell 0. The certificate for the outlets {0, 2} rejects the output (cell 1 is neither an
-- outlet nor has a direction, so it would have to be untouched; this clause does not involve the rank).
-- The real code returns the same: fill_depressions(np.array([[0., 1., 4.]]), idxs_pit=[2], max_depth=4.0)
-- = ([[0, 4, 4]], [[0, 0, 0]]); the mirror image [[4, 1, 0]], idxs_pit=[0] gives ([[4, 1, 0]], [[0, 1, 0]]).
example : (match fillModelDepth ⟨1, 3⟩ 8 #[0, 1, 4] (Array.replicate 3 false) (some [2]) false none 4 with
    | .ok (f, d8, fin, ev, evc) => (f.toList, d8.toList, fin, ev, evc.toList)
    | .error _ => ([], [], false, 0, [])) = ([0, 4, 4], [0, 0, 0], true, 1, [1, 0, 0]) := by decide +kernel
example : fillCertOk ⟨1, 3⟩ 8 #[0, 1, 4] (Array.replicate 3 false) #[true, false, true]
    #[0, 4, 4] #[0, 0, 0] (rankOf ⟨1, 3⟩ #[0, 0, 0]) = false := by decide +kernel
example : (match fillModelDepth ⟨1, 3⟩ 8 #[4, 1, 0] (Array.replicate 3 false) (some [0]) false none 4 with
    | .ok (f, d8, fin, ev, evc) => (f.toList, d8.toList, fin, ev, evc.toList)
    | .error _ => ([], [], false, 0, [])) = ([4, 1, 0], [0, 1, 0], true, 1, [0, 0, 1]) := by decide +kernel

-- non-vacuity: the regression raster of the repository's tests (nodata at cell 6 next to the depression at
-- cell 7, single outlet 0, max_depth 1): cell 7 is too deep once, stays at its elevation and becomes
-- a pit (code 0); the nodata cell keeps 247; with max_depth 10 the result is the unlimited fill
example : (match fillModelDepth ⟨3, 5⟩ 8 #[0, 5, 5, 5, 5, 5, 0, 1, 5, 5, 5, 5, 5, 5, 5]
      #[false, false, false, false, false, false, true, false, false, false, false, false, false, false, false]
      none true none 1 with
    | .ok (f, d8, fin, ev, evc) => (f.toList, d8.toList, fin, ev, evc.toList)
    | .error _ => ([], [], false, 0, [])) =
    ([0, 5, 5, 5, 5, 5, 0, 1, 5, 5, 5, 5, 5, 5, 5],
     [0, 2, 4, 8, 16, 64, 247, 0, 16, 32, 64, 128, 64, 32, 32], true, 1,
     [0, 0, 0, 0, 0, 0, 0, 1, 0, 0, 0, 0, 0, 0, 0]) := by decide +kernel
example : (match fillModelDepth ⟨3, 5⟩ 8 #[0, 5, 5, 5, 5, 5, 0, 1, 5, 5, 5, 5, 5, 5, 5]
      #[false, false, false, false, false, false, true, false, false, false, false, false, false, false, false]
      none true none 10 with
    | .ok (f, d8, fin, ev, _) => (f.toList, d8.toList, fin, ev)
    | .error _ => ([], [], false, 0)) =
    ([0, 5, 5, 5, 5, 5, 0, 5, 5, 5, 5, 5, 5, 5, 5],
     [0, 16, 16, 16, 16, 64, 247, 32, 32, 32, 64, 32, 64, 32, 32], true, 0) := by decide +kernel
-- too_deep_once / fillModelDepth_total, non-vacuity: a 1x5 staircase descending from the single outlet
-- (cell 0) with max_depth 1: three cells are too deep one after the other (each re-opens the previous
-- one, which is then visited again from below and NOT too deep a second time); all of 9, 6, 3 end up
-- draining into the pit 0 at the far end; the run ends with an empty heap
example : (match fillModelDepth ⟨1, 5⟩ 8 #[9, 6, 3, 0, 9] (Array.replicate 5 false) (some [0]) false none 1 with
    | .ok (f, d8, fin, ev, evc) => (f.toList, d8.toList, fin, ev, evc.toList)
    | .error _ => ([], [], false, 0, [])) =
    ([9, 6, 3, 0, 9], [1, 1, 1, 0, 16], true, 3, [0, 1, 1, 1, 0]) := by decide +kernel
-- two adjacent deep cells hit in the same neighbour loop (the second event re-opens the first cell)
example : (match fillModelDepth ⟨3, 4⟩ 8 #[6, 5, 5, 5, 5, 0, 0, 5, 5, 5, 5, 5] (Array.replicate 12 false) none false none 2 with
    | .ok (_, d8, fin, ev, evc) => (d8.toList, fin, ev, evc.toList)
    | .error _ => ([], false, 0, [])) =
    ([2, 4, 8, 8, 1, 0, 16, 16, 128, 64, 32, 32], true, 2, [0, 0, 0, 0, 0, 1, 1, 0, 0, 0, 0, 0]) := by
  decide +kernel
-- elv_max = 3 keeps only the notch (cell 3) as outlet; elv_max = 2 leaves none: ValueError
example : (match fillModelE ⟨3, 3⟩ 8 #[5, 4, 5, 3, 1, 5, 5, 5, 5] (Array.replicate 9 false) none false (some 3) with
    | .ok (f, d8, fin) => (f.toList, d8.toList, fin)
    | .error _ => ([], [], false)) =
    ([5, 4, 5, 3, 3, 5, 5, 5, 5], [4, 8, 8, 0, 16, 16, 64, 32, 32], true) := by decide +kernel
example : (match fillModelE ⟨3, 3⟩ 8 #[5, 4, 5, 3, 1, 5, 5, 5, 5] (Array.replicate 9 false) none false (some 2) with
    | .ok _ => false
    | .error e => decide (e = .valueError)) = true := by decide +kernel

/-! ### ties to the code tables regenerated from /repo -/

/-- the model's `_us` table is the code's, in the order of the neighbour loop -/
theorem usCode_table : (offsets 8).map (fun o => usCode o.1 o.2) = Generated.d8Us := by decide

/-- the model's decoding agrees with `core_d8.drdc` on every code of the D8 alphabet -/
theorem drdc_table : ∀ code ∈ Generated.d8All, drdc code = Generated.d8Drdc[code]! := by decide

/-- the direction written at a neighbour points back to the popped cell -/
theorem drdc_usCode : ∀ o ∈ offsets 8, drdc (usCode o.1 o.2) = (-o.1, -o.2) := by decide

/-! ### non-vacuity -/
-- 3x3, pit (1) in the middle, rim 5 with a notch 3 at the west side, 8-connectivity, all edge
-- cells are outlets: the centre is filled to 3 and drains west (code 16)
example : fillCertOk ⟨3, 3⟩ 8 #[5, 5, 5, 3, 1, 5, 5, 5, 5] (Array.replicate 9 false)
    #[true, true, true, true, false, true, true, true, true]
    #[5, 5, 5, 3, 3, 5, 5, 5, 5] #[4, 8, 8, 0, 16, 16, 64, 32, 32] #[1, 1, 2, 0, 1, 2, 1, 1, 2] = true := by
  decide +kernel
-- ... and the model computes exactly this output
example : (fillModel ⟨3, 3⟩ 8 #[5, 5, 5, 3, 1, 5, 5, 5, 5] (Array.replicate 9 false) none false).map
    (fun r => (r.1.toList, r.2.1.toList, r.2.2)) =
    some ([5, 5, 5, 3, 3, 5, 5, 5, 5], [4, 8, 8, 0, 16, 16, 64, 32, 32], true) := by decide +kernel
-- a wrong level (4 instead of 3) is rejected
example : fillCertOk ⟨3, 3⟩ 8 #[5, 5, 5, 3, 1, 5, 5, 5, 5] (Array.replicate 9 false)
    #[true, true, true, true, false, true, true, true, true]
    #[5, 5, 5, 3, 4, 5, 5, 5, 5] #[4, 8, 8, 0, 16, 16, 64, 32, 32] #[1, 1, 2, 0, 1, 2, 1, 1, 2] = false := by
  decide +kernel

end Pf.C06
