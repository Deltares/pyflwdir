import PfVerif.Proofs.C02
import PfVerif.Props.C01
import PfVerif.Generated.Tables
/-! # C02 — re-encoding and cross-format conversion preserve the drainage graph

A *raster network* (`Spec.RasterNet nrow ncol ds`) is any `idxs_ds` array with one entry per cell whose
entries are cells or the sentinel and in which the downstream cell of a valid cell is valid — in particular
every network C01 decodes (`graph_rasternet`), with or without loops. All theorems hold for every shape and
every such network; index dtypes do not appear because the model works on `Nat` (the sentinel is `n`). -/
namespace Pf.C02
open Pf Pf.Fd Pf.Fd.Spec

/-! ## 1. regenerated tables -/

/-- the `_ds` tables of /repo are the ones the model reads -/
theorem ds_tables_ok :
    Generated.d8Ds = d8DsTab.toList ∧ Generated.lddDs = lddDsTab.toList := by decide

/-- the `_ds` tables invert the compass tables of the specification: the entry at delta `(dr, dc)` is the
legal code of that direction, the primary pit code at `(0, 0)` -/
theorem d8_enc_ok : encOK d8DsTab d8Dirs d8Pits d8Nodata = true := by decide +kernel
theorem ldd_enc_ok : encOK lddDsTab lddDirs lddPits lddNodata = true := by decide +kernel

/-- on the legal alphabets the remap dictionaries of /repo are the model's -/
theorem remap_tables_ok :
    (∀ v ∈ d8Alphabet, Generated.d8ToLdd[v]! = d8ToLdd v) ∧
    (∀ v ∈ lddAlphabet, Generated.lddToD8[v]! = lddToD8 v) := by decide +kernel

/-- the model's remap functions preserve the meaning of every legal code -/
theorem remap_meaning_ok :
    (∀ v ∈ d8Alphabet, meaningLdd (d8ToLdd v) = meaningD8 v ∧ d8ToLdd v ∈ lddAlphabet) ∧
    (∀ v ∈ lddAlphabet, meaningD8 (lddToD8 v) = meaningLdd v ∧ lddToD8 v ∈ d8Alphabet) := by decide +kernel

/-- `d8_to_ldd` / `ldd_to_d8` as extracted from /repo preserve the meaning of every legal
code: nodata ↦ nodata, pit codes (both D8 variants) ↦ pit, a direction ↦ the same compass delta -/
theorem remap_agrees :
    (∀ v ∈ d8Alphabet, meaningLdd (Generated.d8ToLdd[v]!) = meaningD8 v) ∧
    (∀ v ∈ lddAlphabet, meaningD8 (Generated.lddToD8[v]!) = meaningLdd v) :=
  ⟨fun v hv => by rw [remap_tables_ok.1 v hv]; exact (remap_meaning_ok.1 v hv).1,
   fun v hv => by rw [remap_tables_ok.2 v hv]; exact (remap_meaning_ok.2 v hv).1⟩

/-! ## 2. round trip -/

/-- every graph decoded by C01 is a raster network -/
theorem graph_rasternet (nrow ncol : Nat) (read : Nat → Code) : RasterNet nrow ncol (graph nrow ncol read) := by
  obtain ⟨h1, h2⟩ := C01.decode_wf nrow ncol read
  exact ⟨h1, fun i hi => ⟨(h2 i hi).1, (h2 i hi).2.2⟩⟩

/-- exporting a raster network whose links join 8-neighbours to D8 succeeds, and parsing
the export gives the identical network: same downstream cell for every cell (hence the same nodata cells)
and the self-draining cells as pits -/
theorem roundtrip_d8 (nrow ncol : Nat) (ds : Array Nat) (hnet : RasterNet nrow ncol ds) (hl : D8links ncol ds) :
    ∃ codes, toArrayD8 ncol ds = .ok codes ∧
      (fromArrayD8 nrow ncol codes).ds = ds ∧ (fromArrayD8 nrow ncol codes).pits.toList = pitsOf ds := by
  obtain ⟨codes, e1, _, hlegal, hg⟩ := tab_roundtrip d8_enc_ok nrow ncol ds hnet hl
  obtain ⟨h1, h2, _⟩ := C01.d8_decode nrow ncol codes hlegal
  have hg' : graph nrow ncol (readD8 ncol codes) = ds := hg
  exact ⟨codes, e1, by rw [h1, hg'], by rw [h2, hg']⟩

/-- the same for LDD -/
theorem roundtrip_ldd (nrow ncol : Nat) (ds : Array Nat) (hnet : RasterNet nrow ncol ds) (hl : D8links ncol ds) :
    ∃ codes, toArrayLdd ncol ds = .ok codes ∧
      (fromArrayLdd nrow ncol codes).ds = ds ∧ (fromArrayLdd nrow ncol codes).pits.toList = pitsOf ds := by
  obtain ⟨codes, e1, _, hlegal, hg⟩ := tab_roundtrip ldd_enc_ok nrow ncol ds hnet hl
  obtain ⟨h1, h2, _⟩ := C01.ldd_decode nrow ncol codes hlegal
  have hg' : graph nrow ncol (readLdd ncol codes) = ds := hg
  exact ⟨codes, e1, by rw [h1, hg'], by rw [h2, hg']⟩

/-- NEXTXY round-trips for every raster network, 8-neighbour links or not (`to_array` never raises) -/
theorem roundtrip_nextxy (nrow ncol : Nat) (ds : Array Nat) (hnet : RasterNet nrow ncol ds) :
    (fromArrayXY nrow ncol (toArrayXY ncol ds).1 (toArrayXY ncol ds).2).ds = ds ∧
    (fromArrayXY nrow ncol (toArrayXY ncol ds).1 (toArrayXY ncol ds).2).pits.toList = pitsOf ds := by
  obtain ⟨h1, h2, _⟩ := C01.nextxy_decode nrow ncol (toArrayXY ncol ds).1 (toArrayXY ncol ds).2
  have hg := xy_roundtrip nrow ncol ds hnet
  exact ⟨by rw [h1, hg], by rw [h2, hg]⟩

/-- a network with a link that does not join 8-neighbours cannot be written as D8 or
LDD; `to_array` raises the documented `ValueError` (for either table) instead of returning a raster -/
theorem encode_rejects (tab : Array Nat) (mv ncol : Nat) (ds : Array Nat) (h : ¬ D8links ncol ds) :
    toArrayTab tab mv ncol ds = .error "ValueError" := by
  have hex : ∃ i, i < ds.size ∧ ds[i]! < ds.size ∧ in8 (drOf ncol i ds[i]!) (dcOf ncol i ds[i]!) = false := by
    apply Classical.byContradiction
    intro hne
    apply h
    intro i hi hlt
    cases hin : in8 (drOf ncol i ds[i]!) (dcOf ncol i ds[i]!) with
    | true =>
      simp only [in8, Bool.and_eq_true, decide_eq_true_eq] at hin
      omega
    | false => exact absurd ⟨i, hi, hlt, hin⟩ hne
  obtain ⟨i, hi, hlt, hin⟩ := hex
  exact toArrayLoop_err tab ncol ds _ _ ⟨i, by simpa using hi, by omega, hin⟩

/-- the executable link test the driver reports (`spec.d8links`) is `D8links` -/
theorem d8links_iff (ncol : Nat) (ds : Array Nat) : d8links ncol ds = true ↔ D8links ncol ds := by
  unfold d8links D8links
  simp only [List.all_eq_true, List.mem_range, Bool.or_eq_true, decide_eq_true_eq, in8, Bool.and_eq_true]
  constructor
  · intro h i hi hlt
    rcases h i hi with h | h
    · omega
    · omega
  · intro h i hi
    by_cases hlt : ds[i]! < ds.size
    · right; have := h i hi hlt; omega
    · left; omega

/-! ### non-vacuity -/
-- 2x2 network with a loop (0 -> 1 -> 0), a pit (3) and a nodata cell (2)
example : (toArrayD8 2 #[1, 0, 4, 3]).toOption = some #[1, 16, 247, 0] := by decide +kernel
example : (fromArrayD8 2 2 #[1, 16, 247, 0]).ds = #[1, 0, 4, 3] := by decide +kernel
example : (toArrayLdd 2 #[1, 0, 4, 3]).toOption = some #[6, 4, 255, 5] := by decide +kernel
example : toArrayXY 2 #[1, 0, 4, 3] = (#[2, 1, -9999, -9], #[1, 1, -9999, -9]) := by decide +kernel
-- 1x3 network with the long link 0 -> 2: no D8 raster, but a NEXTXY raster
example : (toArrayD8 3 #[2, 1, 2]).toOption = none := by decide +kernel
example : d8links 3 #[2, 1, 2] = false := by decide +kernel
example : (fromArrayXY 1 3 (toArrayXY 3 #[2, 1, 2]).1 (toArrayXY 3 #[2, 1, 2]).2).ds = #[2, 1, 2] := by decide +kernel

/-! ## 3. conversion between formats -/

/-- the compass tables and the `_ds` tables agree in the other direction too: every direction code has a
delta in the 8-neighbourhood other than (0,0), the `_ds` table holds the code at that delta, and its centre
is the primary pit code (0 for D8, 5 for LDD) -/
theorem d8_canon_ok : canonOK d8DsTab d8Dirs d8Pits d8Nodata 0 = true := by decide +kernel
theorem ldd_canon_ok : canonOK lddDsTab lddDirs lddPits lddNodata 5 = true := by decide +kernel

/-- every link of the graph decoded from a legal D8 or LDD raster joins 8-neighbours (so such a graph can be
exported to every format) -/
theorem decoded_d8links (nrow ncol : Nat) (codes : Array Nat) :
    ((∀ i, i < nrow * ncol → codes[i]! ∈ d8Alphabet) → D8links ncol (graph nrow ncol (readD8 ncol codes))) ∧
    ((∀ i, i < nrow * ncol → codes[i]! ∈ lddAlphabet) → D8links ncol (graph nrow ncol (readLdd ncol codes))) :=
  ⟨fun h => (tab_canon d8_canon_ok nrow ncol codes h).2, fun h => (tab_canon ldd_canon_ok nrow ncol codes h).2⟩

/-- take the graph decoded from a raster of any format (any reading). Exporting it to
NEXTXY and parsing again gives the identical graph and pits; if its links join 8-neighbours — always the case
for D8 and LDD sources by `decoded_d8links` — the same holds for the D8 and the LDD export. Together with
`C01.*_decode` (parsed network = graph of the reading) this covers the nine source/target pairs. -/
theorem convert_lossless (nrow ncol : Nat) (read : Nat → Code) :
    let g := graph nrow ncol read
    (D8links ncol g →
      (∃ codes, toArrayD8 ncol g = .ok codes ∧
        (fromArrayD8 nrow ncol codes).ds = g ∧ (fromArrayD8 nrow ncol codes).pits.toList = pitsOf g) ∧
      (∃ codes, toArrayLdd ncol g = .ok codes ∧
        (fromArrayLdd nrow ncol codes).ds = g ∧ (fromArrayLdd nrow ncol codes).pits.toList = pitsOf g)) ∧
    ((fromArrayXY nrow ncol (toArrayXY ncol g).1 (toArrayXY ncol g).2).ds = g ∧
     (fromArrayXY nrow ncol (toArrayXY ncol g).1 (toArrayXY ncol g).2).pits.toList = pitsOf g) := by
  intro g
  have hnet := graph_rasternet nrow ncol read
  exact ⟨fun hl => ⟨roundtrip_d8 nrow ncol g hnet hl, roundtrip_ldd nrow ncol g hnet hl⟩,
    roundtrip_nextxy nrow ncol g hnet⟩

/-! ## 4. export to the source format = documented canonicalisation -/

/-- parsing a legal D8 raster and exporting it to D8 returns the raster in which nodata stays
nodata, every cell that decodes to a pit (codes 0 and 255, off-grid pointers, pointers into nodata) carries
the primary pit code 0, and every other cell keeps its code -/
theorem d8_canon (nrow ncol : Nat) (codes : Array Nat) (hlegal : ∀ i, i < nrow * ncol → codes[i]! ∈ d8Alphabet) :
    toArrayD8 ncol (fromArrayD8 nrow ncol codes).ds =
      .ok (canonTab 0 d8Nodata nrow ncol (readD8 ncol codes) codes) := by
  rw [(C01.d8_decode nrow ncol codes hlegal).1]
  exact (tab_canon d8_canon_ok nrow ncol codes hlegal).1

/-- the same for LDD, primary pit code 5 -/
theorem ldd_canon (nrow ncol : Nat) (codes : Array Nat) (hlegal : ∀ i, i < nrow * ncol → codes[i]! ∈ lddAlphabet) :
    toArrayLdd ncol (fromArrayLdd nrow ncol codes).ds =
      .ok (canonTab 5 lddNodata nrow ncol (readLdd ncol codes) codes) := by
  rw [(C01.ldd_decode nrow ncol codes hlegal).1]
  exact (tab_canon ldd_canon_ok nrow ncol codes hlegal).1

/-- NEXTXY: pits (codes -9, -10, off-grid, into nodata, self-pointers) become (-9, -9), every other
cell keeps its (x, y) -/
theorem nextxy_canon (nrow ncol : Nat) (xs ys : Array Int) :
    toArrayXY ncol (fromArrayXY nrow ncol xs ys).ds = canonXY nrow ncol xs ys := by
  rw [(C01.nextxy_decode nrow ncol xs ys).1]
  exact xy_canon nrow ncol xs ys

/-! ## 5. the direct D8 ↔ LDD remapping agrees with conversion through the graph -/

/-- for every legal D8 raster, the value-remapped raster is a legal LDD raster
that decodes to the same graph and pits, and exporting the parsed D8 network to LDD gives exactly the
canonical form of the remapped raster -/
theorem remap_via_graph_d8_ldd (nrow ncol : Nat) (codes : Array Nat) (hsize : codes.size = nrow * ncol)
    (hlegal : ∀ i, i < nrow * ncol → codes[i]! ∈ d8Alphabet) :
    (fromArrayLdd nrow ncol (codes.map d8ToLdd)).ds = (fromArrayD8 nrow ncol codes).ds ∧
    (fromArrayLdd nrow ncol (codes.map d8ToLdd)).pits = (fromArrayD8 nrow ncol codes).pits ∧
    toArrayLdd ncol (fromArrayD8 nrow ncol codes).ds =
      .ok (canonTab 5 lddNodata nrow ncol (readLdd ncol (codes.map d8ToLdd)) (codes.map d8ToLdd)) := by
  have hget : ∀ i, i < nrow * ncol → (codes.map d8ToLdd)[i]! = d8ToLdd codes[i]! := by
    intro i hi; simp [show i < codes.size by omega]
  have hl2 : ∀ i, i < nrow * ncol → (codes.map d8ToLdd)[i]! ∈ lddAlphabet := by
    intro i hi; rw [hget i hi]; exact (remap_meaning_ok.1 _ (hlegal i hi)).2
  have hread : ∀ j, j < nrow * ncol → readLdd ncol (codes.map d8ToLdd) j = readD8 ncol codes j := by
    intro j hj
    show readTab lddDirs lddPits lddNodata ncol _ j = readTab d8Dirs d8Pits d8Nodata ncol codes j
    rw [readTab_eq_meaning, readTab_eq_meaning, hget j hj]
    have := (remap_meaning_ok.1 _ (hlegal j hj)).1
    unfold meaningLdd meaningD8 at this
    rw [this]
  have hg : graph nrow ncol (readLdd ncol (codes.map d8ToLdd)) = graph nrow ncol (readD8 ncol codes) :=
    graph_congr hread
  obtain ⟨a1, a2, _⟩ := C01.ldd_decode nrow ncol _ hl2
  obtain ⟨b1, b2, _⟩ := C01.d8_decode nrow ncol codes hlegal
  refine ⟨by rw [a1, b1, hg], ?_, ?_⟩
  · have : (fromArrayLdd nrow ncol (codes.map d8ToLdd)).pits.toList = (fromArrayD8 nrow ncol codes).pits.toList := by
      rw [a2, b2, hg]
    exact Array.toList_inj.1 this
  · rw [b1, ← hg]
    exact (tab_canon ldd_canon_ok nrow ncol _ hl2).1

/-- the same from LDD to D8 -/
theorem remap_via_graph_ldd_d8 (nrow ncol : Nat) (codes : Array Nat) (hsize : codes.size = nrow * ncol)
    (hlegal : ∀ i, i < nrow * ncol → codes[i]! ∈ lddAlphabet) :
    (fromArrayD8 nrow ncol (codes.map lddToD8)).ds = (fromArrayLdd nrow ncol codes).ds ∧
    (fromArrayD8 nrow ncol (codes.map lddToD8)).pits = (fromArrayLdd nrow ncol codes).pits ∧
    toArrayD8 ncol (fromArrayLdd nrow ncol codes).ds =
      .ok (canonTab 0 d8Nodata nrow ncol (readD8 ncol (codes.map lddToD8)) (codes.map lddToD8)) := by
  have hget : ∀ i, i < nrow * ncol → (codes.map lddToD8)[i]! = lddToD8 codes[i]! := by
    intro i hi; simp [show i < codes.size by omega]
  have hl2 : ∀ i, i < nrow * ncol → (codes.map lddToD8)[i]! ∈ d8Alphabet := by
    intro i hi; rw [hget i hi]; exact (remap_meaning_ok.2 _ (hlegal i hi)).2
  have hread : ∀ j, j < nrow * ncol → readD8 ncol (codes.map lddToD8) j = readLdd ncol codes j := by
    intro j hj
    show readTab d8Dirs d8Pits d8Nodata ncol _ j = readTab lddDirs lddPits lddNodata ncol codes j
    rw [readTab_eq_meaning, readTab_eq_meaning, hget j hj]
    have := (remap_meaning_ok.2 _ (hlegal j hj)).1
    unfold meaningLdd meaningD8 at this
    rw [this]
  have hg : graph nrow ncol (readD8 ncol (codes.map lddToD8)) = graph nrow ncol (readLdd ncol codes) :=
    graph_congr hread
  obtain ⟨a1, a2, _⟩ := C01.d8_decode nrow ncol _ hl2
  obtain ⟨b1, b2, _⟩ := C01.ldd_decode nrow ncol codes hlegal
  refine ⟨by rw [a1, b1, hg], ?_, ?_⟩
  · have : (fromArrayD8 nrow ncol (codes.map lddToD8)).pits.toList = (fromArrayLdd nrow ncol codes).pits.toList := by
      rw [a2, b2, hg]
    exact Array.toList_inj.1 this
  · rw [b1, ← hg]
    exact (tab_canon d8_canon_ok nrow ncol _ hl2).1

/-! ### non-vacuity (canonical form, remapping) -/
-- 1x3 D8: E (into nodata -> pit), nodata, pit variant 255
example : canonTab 0 d8Nodata 1 3 (readD8 3 #[1, 247, 255]) #[1, 247, 255] = #[0, 247, 0] := by decide +kernel
example : (toArrayD8 3 (fromArrayD8 1 3 #[1, 247, 255]).ds).toOption = some #[0, 247, 0] := by decide +kernel
example : (#[1, 2, 0, 255, 247, 128] : Array Nat).map d8ToLdd = #[6, 3, 5, 5, 255, 9] := by decide +kernel
example : canonXY 1 3 #[2, 1, 7] #[1, 1, 1] = (#[2, 1, -9], #[1, 1, -9]) := by decide +kernel

end Pf.C02
