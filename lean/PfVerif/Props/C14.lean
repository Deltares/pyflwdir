import PfVerif.Proofs.C14Up
import PfVerif.Proofs.C14Sum
import PfVerif.Proofs.C14Riv
import PfVerif.Proofs.C14Fuel
import PfVerif.Proofs.C14Down
import PfVerif.Proofs.C14Win
import PfVerif.Proofs.C14Mono
import PfVerif.Proofs.C03Topo
/-! # C14 — along-network operators equal their flow-path definitions

Every theorem quantifies over all networks `ds`, all downstream-first orders `seq` (`Topo`, the
hypothesis C03 establishes and the harness re-checks with `isTopo` on the order actually used), all
fields, masks, windows `n`, merge rules and parameters.
Numbers are exact (`Int`; averages/medians as numerator/denominator pairs; `smooth_rivlen` over `Rat`). -/
namespace Pf.C14
open Pf

/-! ## downstream, upstream sum -/

/-- Each cell of the network gets the value of its downstream cell (a pit its own);
cells outside the network keep their value. -/
theorem downstream_def (ds : Array Nat) (data : Array Int) (i : Nat) (hi : i < ds.size) :
    (downstreamModel ds data)[i]! = if ds[i]! ≠ ds.size then data[ds[i]!]! else data[i]! :=
  downstream_get ds data i hi

/-- Upstream sum on its full domain (fields with missing values included) — exactly what the
loop computes: `0`/`nodata` (nodata iff the cell is *flagged*: it has a downstream cell and one of
the two is empty) plus the values of the inflow cells holding a value, provided the cell itself holds
one; for a flagged cell only the inflow cells with a LARGER index count, because the overwrite with
nodata happens at step `j` of the index-ordered loop (the order dependence observed on the code). -/
theorem upstream_sum_exact (ds : Array Nat) (data : Array Int) (nd : Int) (j : Nat) (hj : j < ds.size) :
    (upstreamSumModel ds data nd)[j]! = upstreamSumExact ds data nd j := by
  unfold upstreamSumModel upstreamSumExact inflows
  rw [upstreamSum_inv ds data nd j hj ds.size (fun _ => hj), List.filter_filter]
  rfl

/-- where the result is well defined: a cell that is not flagged gets the sum of its inflow cells
that hold a value (0 if it is empty itself); a flagged cell none of whose later-indexed inflow cells
holds a value gets nodata. -/
theorem upstream_sum_welldefined (ds : Array Nat) (data : Array Int) (nd : Int) (j : Nat) (hj : j < ds.size) :
    (upsumFlagged ds data nd j = false →
      (upstreamSumModel ds data nd)[j]! =
        if data[j]! = nd then 0 else upstreamSumSpec ds data nd j) ∧
    (upsumFlagged ds data nd j = true →
      (∀ i ∈ inflows ds j, j < i → data[i]! = nd ∨ data[j]! = nd) →
      (upstreamSumModel ds data nd)[j]! = nd) := by
  rw [upstream_sum_exact ds data nd j hj]
  unfold upstreamSumExact upstreamSumSpec
  constructor
  · intro hf
    by_cases hd : data[j]! = nd
    · have he : ((inflows ds j).filter fun _ => false) = [] := List.filter_eq_nil_iff.2 (by simp)
      simp [hf, hd, he]
    · have hb : (data[j]! != nd) = true := by simpa using hd
      simp [hf, hd, hb]
  · intro hf hall
    have : ((inflows ds j).filter fun i => data[i]! != nd && data[j]! != nd &&
        (!upsumFlagged ds data nd j || decide (j < i))) = [] := by
      rw [List.filter_eq_nil_iff]
      intro i hi
      by_cases hji : j < i
      · rcases hall i hi hji with h | h <;> simp [h]
      · simp [hf, hji]
    rw [this]; simp [hf]

/-- Upstream sum at the cells the property fixes: at every cell that holds a value and whose
downstream cell (if any) holds a value, the result is the sum over the direct upstream cells that
hold a value. -/
theorem upstream_sum_def (ds : Array Nat) (data : Array Int) (nd : Int) (j : Nat) (hj : j < ds.size)
    (hfix : upstreamSumFixed ds data nd j = true) :
    (upstreamSumModel ds data nd)[j]! = upstreamSumSpec ds data nd j := by
  simp only [upstreamSumFixed, Bool.and_eq_true, bne_iff_ne, ne_eq, Bool.or_eq_true, beq_iff_eq] at hfix
  have hf : upsumFlagged ds data nd j = false := by
    simp only [upsumFlagged, Bool.and_eq_false_iff, bne_eq_false_iff_eq, Bool.or_eq_false_iff, beq_eq_false_iff_ne]
    rcases hfix.2 with (h | h) | h
    · exact Or.inl (Or.inr h)
    · exact Or.inl (Or.inl h)
    · exact Or.inr ⟨hfix.1, h⟩
  rw [(upstream_sum_welldefined ds data nd j hj).1 hf, if_neg hfix.1]

/-- nodata-free fields: the result is the sum over all direct upstream cells, at every cell -/
theorem upstream_sum_nodata_free (ds : Array Nat) (data : Array Int) (nd : Int)
    (hfree : ∀ i : Nat, data[i]! ≠ nd) (j : Nat) (hj : j < ds.size) :
    (upstreamSumModel ds data nd)[j]! = ((inflows ds j).map fun i => data[i]!).sum := by
  rw [upstream_sum_def ds data nd j hj (by simp [upstreamSumFixed, hfree])]
  unfold upstreamSumSpec
  congr 2
  rw [List.filter_eq_self]
  intro i _; simp [hfree]

/-! ## nodata filling -/

/-- Fill 'up': every empty cell of the network gets the value of the nearest valid cell
downstream (`FirstValid`, a functional relation along the flow path), `nodata` if there is none. -/
theorem fill_up_def (ds : Array Nat) (seq : List Nat) (data : Array Int) (nd : Int)
    (htopo : Topo ds seq) (hb : ∀ i ∈ seq, i < data.size) :
    ∀ i ∈ seq, FirstValid ds data nd i (fillnodataUpstream ds seq data nd)[i]! :=
  fill_first_valid ds data nd seq htopo hb

theorem fill_up_eq_spec (ds : Array Nat) (seq : List Nat) (data : Array Int) (nd : Int)
    (htopo : Topo ds seq) (hb : ∀ i ∈ seq, i < data.size) (fuel : Nat) :
    ∀ i ∈ seq, ∀ v, walkValid ds data nd fuel i = some v → (fillnodataUpstream ds seq data nd)[i]! = v :=
  fill_eq_walk ds data nd seq htopo hb fuel

/-- The fill 'up' oracle never runs out of fuel. With the fuel the driver
uses (`ds.size + 1`) the walk oracle returns a value at every cell of a downstream-first order whose
cells are in range, and that value is the model's (no hypothesis on the walk). -/
theorem fill_up_eq_spec_total (ds : Array Nat) (seq : List Nat) (data : Array Int) (nd : Int)
    (htopo : Topo ds seq) (hb : ∀ i ∈ seq, i < data.size) (hbd : ∀ i ∈ seq, i < ds.size) :
    ∀ i ∈ seq, walkValid ds data nd (ds.size + 1) i = some (fillnodataUpstream ds seq data nd)[i]! := by
  intro i hi
  obtain ⟨v, hv⟩ := walkValid_total_c14 ds data nd _ i (htopo.reach_size_c14 hbd i hi)
  rw [hv, fill_up_eq_spec ds seq data nd htopo hb _ i hi v hv]

theorem fill_up_outside (ds : Array Nat) (seq : List Nat) (data : Array Int) (nd : Int)
    (htopo : Topo ds seq) (hb : ∀ i ∈ seq, i < data.size) :
    ∀ i, i ∉ seq → (fillnodataUpstream ds seq data nd)[i]! = data[i]! :=
  fill_untouched ds data nd seq htopo hb

/-- Fill 'down' as a recursion along the flow paths (all merge rules). `fillOpt j` is the value cell
`j` holds after the sweep (`none` = still empty; the code's `filled` flag, so that an infilled value
that happens to equal `nodata` is still a value). A cell holding a value keeps it; an empty cell gets
the merge (min/max/sum, ignoring empty branches) of the values of its direct upstream cells, i.e. of
the nearest valid values on each upstream branch; the returned array shows `nodata` for empty cells. -/
theorem fill_down_def (ds : Array Nat) (seq : List Nat) (data : Array Int) (nd : Int) (how : Nat)
    (htopo : Topo ds seq) (hb : ∀ i ∈ seq, i < data.size) (j : Nat) (hj : j < data.size) :
    fillOpt ds seq data nd how j =
      (if data[j]! ≠ nd then some data[j]!
       else mergeBranches how ((kids ds seq j).map fun c => fillOpt ds seq data nd how c)) ∧
    (fillDownModel ds seq data nd how)[j]! = (fillOpt ds seq data nd how j).getD nd :=
  fillDown_rec ds seq data nd how htopo hb j hj

/-- Fill 'down': model = order-free oracle, as arrays (all three merge rules). The oracle
`fillDownSpec` the driver evaluates does not use the cell order: every cell holding a value walks
downstream (fuel `ds.size + 1`) and is merged - in index order - into each empty cell it meets before
the next cell holding a value. For every network, every downstream-first order that consists of the
cells of the network (the driver reports the executable check `coversNet_c14` as `cover`), every field
of the size of the network and `how ∈ {0 = max, 1 = min, 2 = sum}` the sweep model returns the same
array. (For min/max the filled value is characterised by the frontier form and antisymmetry; for sum
both are the sum over the feeding cells, each once - no walk returns to its start.) -/
theorem fill_down_eq_spec (ds : Array Nat) (seq : List Nat) (data : Array Int) (nd : Int) (how : Nat)
    (hhow : how ≤ 2) (htopo : Topo ds seq) (hb : ∀ i ∈ seq, i < ds.size) (hsz : data.size = ds.size)
    (hcov : coversNet_c14 ds seq = true) :
    fillDownModel ds seq data nd how = fillDownSpec ds data nd how := by
  have hs1 : (fillDownModel ds seq data nd how).size = ds.size := by
    simp [fillDownModel, fillDownState_size, hsz]
  have hs2 : (fillDownSpec ds data nd how).size = ds.size := by simp [fillDownSpec]
  apply Array.ext (by rw [hs1, hs2])
  intro i h1 h2
  have hi : i < ds.size := by rw [← hs1]; exact h1
  have := fillDown_eq_spec_get_c14 ds seq data nd how hhow htopo hb hsz (coversNet_sound_c14 ds seq hcov) i hi
  rwa [getElem!_pos (fillDownModel ds seq data nd how) i h1, getElem!_pos (fillDownSpec ds data nd how) i h2] at this

/-- `min`: the merge of the branch values is a lower bound of the non-empty branches, is attained
by one of them, and is empty exactly when every branch is empty — whatever the arrival order. -/
theorem merge_min_spec (vals : List (Option Int)) :
    (∀ v, some v ∈ vals → ∃ r, mergeBranches 1 vals = some r ∧ r ≤ v) ∧
    (mergeBranches 1 vals = none ↔ ∀ x ∈ vals, x = none) ∧
    (∀ r, mergeBranches 1 vals = some r → some r ∈ vals) :=
  mergeBranches_sel 1 (fun a b => a ≤ b) (fun a => Int.le_refl a) (fun _ _ _ => Int.le_trans)
    (fun x a => (mergeHow_min x a).1) (fun x a => (mergeHow_min x a).2) vals

theorem merge_max_spec (vals : List (Option Int)) :
    (∀ v, some v ∈ vals → ∃ r, mergeBranches 0 vals = some r ∧ v ≤ r) ∧
    (mergeBranches 0 vals = none ↔ ∀ x ∈ vals, x = none) ∧
    (∀ r, mergeBranches 0 vals = some r → some r ∈ vals) :=
  mergeBranches_sel 0 (fun a b => b ≤ a) (fun a => Int.le_refl a) (fun _ _ _ h1 h2 => Int.le_trans h2 h1)
    (fun x a => (mergeHow_max x a).1) (fun x a => (mergeHow_max x a).2) vals

/-- `sum`, no hypothesis on the values: the merge is the sum of the non-empty branches, empty iff there is
none. This is the `filled` flag of the code (fix 49571fc): a test `data_out == nodata` in its place fails when a
partial sum equals nodata. -/
theorem merge_sum_spec (vals : List (Option Int)) :
    mergeBranches 2 vals = if ∀ x ∈ vals, x = none then none else some (somes vals).sum :=
  mergeBranches_sum vals

/-- Fill 'down' with `min`, frontier form. `Feeds k j`: `j` is reached
from `k` through empty cells only. The value of a cell is ≤ the value of every nearest valid cell
upstream of it, and it is its own value or the value of one of them; so an empty cell that is filled is
filled with exactly their minimum (`fill_down_filled_iff` says when it is filled). -/
theorem fill_down_min_frontier (ds : Array Nat) (seq : List Nat) (data : Array Int) (nd : Int)
    (htopo : Topo ds seq) (hb : ∀ i ∈ seq, i < data.size) :
    (∀ k ∈ seq, data[k]! ≠ nd → ∀ j, Feeds ds data nd k j →
      ∃ r, fillOpt ds seq data nd 1 j = some r ∧ r ≤ data[k]!) ∧
    (∀ j ∈ seq, ∀ r, fillOpt ds seq data nd 1 j = some r →
      (data[j]! ≠ nd ∧ r = data[j]!) ∨
      ∃ k ∈ seq, data[k]! ≠ nd ∧ Feeds ds data nd k j ∧ r = data[k]!) :=
  fillDown_frontier_sel 1 (fun a b => a ≤ b) (fun a => Int.le_refl a) (fun _ _ _ => Int.le_trans)
    (fun x a => (mergeHow_min x a).1) (fun x a => (mergeHow_min x a).2) ds seq data nd htopo hb

/-- Fill 'down' with `max`, frontier form -/
theorem fill_down_max_frontier (ds : Array Nat) (seq : List Nat) (data : Array Int) (nd : Int)
    (htopo : Topo ds seq) (hb : ∀ i ∈ seq, i < data.size) :
    (∀ k ∈ seq, data[k]! ≠ nd → ∀ j, Feeds ds data nd k j →
      ∃ r, fillOpt ds seq data nd 0 j = some r ∧ data[k]! ≤ r) ∧
    (∀ j ∈ seq, ∀ r, fillOpt ds seq data nd 0 j = some r →
      (data[j]! ≠ nd ∧ r = data[j]!) ∨
      ∃ k ∈ seq, data[k]! ≠ nd ∧ Feeds ds data nd k j ∧ r = data[k]!) :=
  fillDown_frontier_sel 0 (fun a b => b ≤ a) (fun a => Int.le_refl a) (fun _ _ _ h1 h2 => Int.le_trans h2 h1)
    (fun x a => (mergeHow_max x a).1) (fun x a => (mergeHow_max x a).2) ds seq data nd htopo hb

/-- a cell ends up holding a value iff it held one or some cell holding a value feeds it (all merge
rules) -/
theorem fill_down_filled_iff (ds : Array Nat) (seq : List Nat) (data : Array Int) (nd : Int) (how : Nat)
    (htopo : Topo ds seq) (hb : ∀ i ∈ seq, i < data.size) (j : Nat) (hj : j ∈ seq) :
    fillOpt ds seq data nd how j ≠ none ↔
      data[j]! ≠ nd ∨ ∃ k ∈ seq, data[k]! ≠ nd ∧ Feeds ds data nd k j :=
  fillOpt_isSome_iff ds seq data nd how htopo hb j hj

/-- Fill 'down' with `sum`, frontier form. The value of an empty cell
`j` is the sum of the field over the cells `k` that hold a value and feed `j` (reach it through empty
cells only), every such cell counted exactly once (`sumOver n P f = Σ_{k < n, P k} f k`); the cell
stays empty iff there is no such cell. Proved by identifying the sum fill with C04's guarded
accumulation sweep (field "value or 0", link open iff the downstream cell is empty). -/
theorem fill_down_sum_frontier (ds : Array Nat) (seq : List Nat) (data : Array Int) (nd : Int)
    (htopo : Topo ds seq) (hb : ∀ i ∈ seq, i < data.size) (j : Nat) (hj : j ∈ seq) (hd : data[j]! = nd) :
    ((¬ ∃ k ∈ seq, data[k]! ≠ nd ∧ Feeds ds data nd k j) → fillOpt ds seq data nd 2 j = none) ∧
    ((∃ k ∈ seq, data[k]! ≠ nd ∧ Feeds ds data nd k j) →
      fillOpt ds seq data nd 2 j =
        some (sumOver data.size (fun k => k ∈ seq ∧ data[k]! ≠ nd ∧ Feeds ds data nd k j) (fun k => data[k]!))) :=
  fillDown_sum_frontier ds seq data nd htopo hb j hj hd

/-! ## the window of `moving_average` / `moving_median` -/

/-- The window: at most `n` cells down and at most `n` cells up the main stem around `i`; the downstream part are
the iterates of `ds` as long as the step is allowed (not at a pit, not into a missing cell, not into
a higher stream order), the upstream part the iterates of the main-upstream map until a headwater. -/
theorem window_def (ds usMain : Array Nat) (strord : Option (Array Int)) (n i : Nat) :
    let down := downList ds strord (strord0 strord i) n i
    let up := upList ds usMain n i
    window ds usMain strord n i = up.reverse ++ [i] ++ down ∧
    (∀ m, m < down.length → down[m]! = iterA ds (m+1) i ∧
        downOK ds strord (strord0 strord i) (iterA ds m i) = true) ∧
    down.length ≤ n ∧
    (down.length < n → downOK ds strord (strord0 strord i) (iterA ds down.length i) = false) ∧
    (∀ m, m < up.length → up[m]! = iterA usMain (m+1) i ∧ usMain[iterA usMain m i]! ≠ ds.size) ∧
    up.length ≤ n ∧
    (up.length < n → usMain[iterA usMain up.length i]! = ds.size) := by
  intro down up
  obtain ⟨d1, d2, d3⟩ := downList_spec ds strord (strord0 strord i) n i
  obtain ⟨u1, u2, u3⟩ := upList_spec ds usMain n i
  exact ⟨window_eq ds usMain strord n i, d1, d2, d3, u1, u2, u3⟩

/-- the window equals the iterate-based oracle the driver evaluates (`windowSpec`) -/
theorem window_eq_oracle (ds usMain : Array Nat) (strord : Option (Array Int)) (n i : Nat) :
    window ds usMain strord n i = windowSpec ds usMain strord n i := by
  rw [window_eq, downList_eq_iterWhile, upList_eq_iterWhile, iterWhile_eq_iter, iterWhile_eq_iter]
  rfl

/-- Moving average: a cell holding a value gets (Σ w·v)/(Σ w) over the window cells holding a
value (`nodata` when Σ w = 0); an empty cell stays empty. -/
theorem moving_average_def (ds usMain : Array Nat) (strord : Option (Array Int)) (data : Array Int)
    (weights : Option (Array Int)) (n : Nat) (nd : Int) (i : Nat) (hi : i < data.size) :
    let cells := (windowSpec ds usMain strord n i).filter fun k => data[k]! != nd
    let v := (cells.map fun k => weightAt weights k * data[k]!).sum
    let w := (cells.map fun k => weightAt weights k).sum
    (movingAverageModel ds usMain strord data weights n nd)[i]! =
      if data[i]! = nd then (nd, 1) else if w ≠ 0 then (v, w) else (nd, 1) := by
  intro cells v w
  simp only [movingAverageModel, hi, getElem!_pos, Array.size_map, Array.size_range, Array.getElem_map,
    Array.getElem_range, movingAverageCell, averageAcc_eq, window_eq_oracle]
  rfl

/-- Moving median: a cell holding a value gets the median of the window values (twice the
median as numerator, 2 as denominator); an empty cell stays empty. -/
theorem moving_median_def (ds usMain : Array Nat) (strord : Option (Array Int)) (data : Array Int)
    (n : Nat) (nd : Int) (i : Nat) (hi : i < data.size) :
    (movingMedianModel ds usMain strord data n nd)[i]! =
      if data[i]! = nd then (nd, 1)
      else (median2 (windowVals data nd (windowSpec ds usMain strord n i)), 2) := by
  simp only [movingMedianModel, hi, getElem!_pos, Array.size_map, Array.size_range, Array.getElem_map,
    Array.getElem_range, movingMedianCell, window_eq_oracle]

/-- the median is taken in THE non-decreasing rearrangement `s` of the values: the middle element,
or the mean of the two middle elements -/
theorem median2_def (vals s : List Int) (hperm : s.Perm vals) (hs : s.Pairwise (fun a b => a ≤ b)) :
    median2 vals = if s.length % 2 = 1 then 2 * s[s.length / 2]!
                   else s[s.length / 2 - 1]! + s[s.length / 2]! := by
  unfold median2
  rw [mergeSort_unique vals s hperm hs]

/-! ## stream distance, HAND, floodplains -/

/-- the step length used for `unit='m'` on a projected grid is the exact Euclidean length
`hypot(yres·Δrow, xres·Δcol)` whenever the driver reports the step as exact (always for D8 links on
3×4 cells): it is the non-negative number whose square is the squared length -/
theorem cellDist_exact (ncol : Nat) (xres yres : Int) (i j : Nat)
    (h : cellDistExact ncol xres yres i j = true) :
    0 ≤ cellDist ncol xres yres i j ∧
    cellDist ncol xres yres i j * cellDist ncol xres yres i j = Int.ofNat (cellDist2 ncol xres yres i j) := by
  simp only [cellDistExact, beq_iff_eq] at h
  refine ⟨Int.natCast_nonneg _, ?_⟩
  simp only [cellDist]
  have := congrArg (fun n : Nat => (n : Int)) h
  simpa using this

/-- The flag `exact` of the stream-distance op holds for D8 links on 3 × 4 cells: if the two cells
are at most one row and one column apart and the cell size is 3 by 4 (either sign), the squared step length
is one of 0, 9, 16, 25 and the step is exact - no per-case evaluation needed on such rasters. -/
theorem cellDist_exact_d8 (ncol : Nat) (xres yres : Int) (i j : Nat)
    (hr : (Int.ofNat (j / ncol) - Int.ofNat (i / ncol)).natAbs ≤ 1)
    (hc : (Int.ofNat (j % ncol) - Int.ofNat (i % ncol)).natAbs ≤ 1)
    (hx : xres = 3 ∨ xres = -3) (hy : yres = 4 ∨ yres = -4) :
    cellDistExact ncol xres yres i j = true := by
  unfold cellDistExact cellDist2
  generalize (Int.ofNat (j / ncol) - Int.ofNat (i / ncol)).natAbs = a at hr
  generalize (Int.ofNat (j % ncol) - Int.ofNat (i % ncol)).natAbs = b at hc
  have ha : a = 0 ∨ a = 1 := by omega
  have hb : b = 0 ∨ b = 1 := by omega
  rcases ha with rfl | rfl <;> rcases hb with rfl | rfl <;> rcases hx with rfl | rfl <;>
    rcases hy with rfl | rfl <;> decide

theorem stream_distance_rec (ds : Array Nat) (seq : List Nat) (mask : Option (Array Bool))
    (step : Nat → Nat → Int) (htopo : Topo ds seq) (hb : ∀ i ∈ seq, i < ds.size) (i : Nat) (hi : i ∈ seq) :
    (streamDistanceModel ds seq mask step)[i]! =
      if stopAt_c14 ds mask i then 0 else (streamDistanceModel ds seq mask step)[ds[i]!]! + step i ds[i]! := by
  unfold streamDistanceModel
  rw [(sweepDown_initSeq ds _ seq _ _ htopo hb).2.1 i hi, gDist]
  by_cases hs : stopAt_c14 ds mask i = true
  · rw [if_pos hs, if_pos hs]
  · have hp : ds[i]! ≠ i := fun hp => hs (by simp [stopAt_c14, hp])
    rw [if_neg hs, if_neg hs, if_neg hp]

/-- Stream distance: the path length from each cell of the network to the next masked cell or
pit (`PathLen`, a functional relation along the flow path). -/
theorem stream_distance_def (ds : Array Nat) (seq : List Nat) (mask : Option (Array Bool))
    (step : Nat → Nat → Int) (htopo : Topo ds seq) (hb : ∀ i ∈ seq, i < ds.size) :
    ∀ i ∈ seq, PathLen ds (stopAt_c14 ds mask) step i (streamDistanceModel ds seq mask step)[i]! := by
  refine htopo.induction _ (fun i hi hd => ?_)
  rw [stream_distance_rec ds seq mask step htopo hb i hi]
  by_cases hs : stopAt_c14 ds mask i = true
  · simp only [hs, if_true]; exact PathLen.stop i hs
  · have hs' : stopAt_c14 ds mask i = false := by simpa using hs
    have hp : ds[i]! ≠ i := by
      intro hp; simp [stopAt_c14, hp] at hs
    simp only [hs', Bool.false_eq_true, if_false]
    exact PathLen.next i _ hs' (hd hp).2

theorem stream_distance_eq_spec (ds : Array Nat) (seq : List Nat) (mask : Option (Array Bool))
    (step : Nat → Nat → Int) (htopo : Topo ds seq) (hb : ∀ i ∈ seq, i < ds.size) (fuel : Nat) :
    ∀ i ∈ seq, ∀ v, walkDist ds mask step fuel i = some v → (streamDistanceModel ds seq mask step)[i]! = v :=
  fun i hi v hv => (stream_distance_def ds seq mask step htopo hb i hi).unique (walkDist_sound ds mask step fuel i v hv)

/-- With the driver's fuel the walk oracle returns a
value at every cell of the order and it is the model's. -/
theorem stream_distance_eq_spec_total (ds : Array Nat) (seq : List Nat) (mask : Option (Array Bool))
    (step : Nat → Nat → Int) (htopo : Topo ds seq) (hb : ∀ i ∈ seq, i < ds.size) :
    ∀ i ∈ seq, walkDist ds mask step (ds.size + 1) i = some (streamDistanceModel ds seq mask step)[i]! := by
  intro i hi
  obtain ⟨v, hv⟩ := walkDist_total_c14 ds mask step _ i (htopo.reach_size_c14 hb i hi)
  rw [hv, stream_distance_eq_spec ds seq mask step htopo hb _ i hi v hv]

theorem stream_distance_outside (ds : Array Nat) (seq : List Nat) (mask : Option (Array Bool))
    (step : Nat → Nat → Int) (htopo : Topo ds seq) (hb : ∀ i ∈ seq, i < ds.size) (i : Nat)
    (hi : i ∉ seq) (hn : i < ds.size) : (streamDistanceModel ds seq mask step)[i]! = -9999 := by
  unfold streamDistanceModel
  exact (sweepDown_initSeq ds _ seq _ _ htopo hb).2.2 i hi hn

theorem hand_rec (ds : Array Nat) (seq : List Nat) (drain : Array Bool) (elev : Array Int)
    (htopo : Topo ds seq) (hb : ∀ i ∈ seq, i < ds.size) (i : Nat) (hi : i ∈ seq) :
    (handModel ds seq drain elev)[i]! =
      if drain[i]! = true ∨ ds[i]! = i then 0
      else (handModel ds seq drain elev)[ds[i]!]! + (elev[i]! - elev[ds[i]!]!) := by
  unfold handModel
  rw [(sweepDown_initSeq ds _ seq _ _ htopo hb).2.1 i hi, gHand]
  by_cases hd : drain[i]! = true
  · rw [if_pos hd, if_pos (Or.inl hd)]
  · by_cases hp : ds[i]! = i
    · rw [if_neg hd, if_pos hp, if_pos (Or.inr hp), hp]; omega
    · rw [if_neg hd, if_neg hp, if_neg (fun h => h.elim hd hp)]

/-- HAND: the elevation difference between a cell and the first drainage cell on its downstream
path (the pit, if no drainage cell is met); in particular 0 on drainage cells. -/
theorem hand_def (ds : Array Nat) (seq : List Nat) (drain : Array Bool) (elev : Array Int)
    (htopo : Topo ds seq) (hb : ∀ i ∈ seq, i < ds.size) (i k : Nat) (hi : i ∈ seq)
    (hk : FirstHit ds (fun c => drain[c]!) i k) :
    (handModel ds seq drain elev)[i]! = elev[i]! - elev[k]! := by
  induction hk with
  | here i hs =>
    rw [hand_rec ds seq drain elev htopo hb i hi]
    have : drain[i]! = true ∨ ds[i]! = i := by simpa using hs
    rw [if_pos this, Int.sub_self]
  | next i k hn _ ih =>
    rw [hand_rec ds seq drain elev htopo hb i hi]
    have hn' : ¬ (drain[i]! = true ∨ ds[i]! = i) := by simpa using hn
    -- the differences along the path telescope
    rw [if_neg hn', ih (Topo.ds_mem htopo i hi)]
    omega

theorem hand_exists (ds : Array Nat) (seq : List Nat) (drain : Array Bool) (htopo : Topo ds seq) :
    ∀ i ∈ seq, ∃ k, FirstHit ds (fun c => drain[c]!) i k :=
  FirstHit.exists_of_topo htopo _

theorem hand_eq_spec (ds : Array Nat) (seq : List Nat) (drain : Array Bool) (elev : Array Int)
    (htopo : Topo ds seq) (hb : ∀ i ∈ seq, i < ds.size) (i : Nat) (hi : i ∈ seq) (v : Int)
    (hv : handSpec ds drain elev i = some v) : (handModel ds seq drain elev)[i]! = v := by
  simp only [handSpec, Option.map_eq_some_iff] at hv
  obtain ⟨k, hk, rfl⟩ := hv
  exact hand_def ds seq drain elev htopo hb i k hi (walkFirst_sound ds _ _ i k hk)

/-- The oracle `handSpec` (walk to the first drainage cell with
fuel `ds.size + 1`) is defined at every cell of the order and equals the model. -/
theorem hand_eq_spec_total (ds : Array Nat) (seq : List Nat) (drain : Array Bool) (elev : Array Int)
    (htopo : Topo ds seq) (hb : ∀ i ∈ seq, i < ds.size) (i : Nat) (hi : i ∈ seq) :
    handSpec ds drain elev i = some (handModel ds seq drain elev)[i]! := by
  obtain ⟨k, hk⟩ := walkFirst_total_c14 ds (fun c => drain[c]!) _ i (htopo.reach_size_c14 hb i hi)
  have hv : handSpec ds drain elev i = some (elev[i]! - elev[k]!) := by simp [handSpec, hk]
  rw [hv, hand_eq_spec ds seq drain elev htopo hb i hi _ hv]

/-! ### floodplains -/

theorem flood_rec (ds : Array Nat) (seq : List Nat) (P : FpParams)
    (htopo : Topo ds seq) (hb : ∀ i ∈ seq, i < ds.size) (i : Nat) (hi : i ∈ seq) :
    (floodState ds seq P)[i]! =
      if isStream P i = true then (1, P.elev[i]!, P.hnum[i]!)
      else if ds[i]! ≠ i ∧ (floodState ds seq P)[ds[i]!]!.1 = 1 ∧
          (P.elev[i]! - (floodState ds seq P)[ds[i]!]!.2.1) * P.hden ≤ (floodState ds seq P)[ds[i]!]!.2.2
        then (1, (floodState ds seq P)[ds[i]!]!.2.1, (floodState ds seq P)[ds[i]!]!.2.2)
        else (0, -9999, -9999) := by
  unfold floodState
  rw [(sweepDown_initSeq ds _ seq _ _ htopo hb).2.1 i hi, gFlood]
  by_cases hs : isStream P i = true
  · rw [if_pos hs, if_pos hs]
  · rw [if_neg hs, if_neg hs]
    by_cases hp : ds[i]! = i
    · rw [if_pos hp, if_neg (fun h => absurd h.1 (by decide)), if_neg (fun h => h.1 hp)]
    · rw [if_neg hp]
      simp only [ne_eq, hp, not_false_eq_true, true_and]

/-- invariant: the flag is 0 or 1, and a flagged cell carries elevation and threshold of the first
stream cell on its downstream path -/
theorem flood_inv (ds : Array Nat) (seq : List Nat) (P : FpParams)
    (htopo : Topo ds seq) (hb : ∀ i ∈ seq, i < ds.size) :
    ∀ i ∈ seq, ((floodState ds seq P)[i]!.1 = 1 ∨ (floodState ds seq P)[i]!.1 = 0) ∧
      ((floodState ds seq P)[i]!.1 = 1 → ∃ s, FirstHit ds (isStream P) i s ∧ isStream P s = true ∧
        (floodState ds seq P)[i]!.2 = (P.elev[s]!, P.hnum[s]!)) := by
  refine htopo.induction _ (fun i hi hd => ?_)
  rw [flood_rec ds seq P htopo hb i hi]
  by_cases hs : isStream P i = true
  · rw [if_pos hs]
    exact ⟨Or.inl rfl, fun _ => ⟨i, FirstHit.here i (by simp [hs]), hs, rfl⟩⟩
  · rw [if_neg hs]
    by_cases hc : ds[i]! ≠ i ∧ (floodState ds seq P)[ds[i]!]!.1 = 1 ∧
        (P.elev[i]! - (floodState ds seq P)[ds[i]!]!.2.1) * P.hden ≤ (floodState ds seq P)[ds[i]!]!.2.2
    · rw [if_pos hc]
      obtain ⟨s, hs1, hs2, hs3⟩ := (hd hc.1).2.2 hc.2.1
      exact ⟨Or.inl rfl, fun _ => ⟨s, FirstHit.next i s (by simp [hs, hc.1]) hs1, hs2, hs3⟩⟩
    · rw [if_neg hc]
      exact ⟨Or.inr rfl, fun h => absurd h (by decide)⟩

theorem floodplains_get (ds : Array Nat) (seq : List Nat) (P : FpParams) (i : Nat) (hi : i < ds.size) :
    (floodplainsModel ds seq P)[i]! = (floodState ds seq P)[i]!.1 := by
  have hsz : (floodState ds seq P).size = ds.size := by
    unfold floodState; rw [size_sweepDown, initSeq_size]
  simp [floodplainsModel, hsz, hi]

/-- The floodplain flag is set exactly for stream cells and for cells whose downstream cell is flagged
and whose height above the first stream cell downstream does not exceed that stream cell's threshold
(`hnum s / hden` = its upstream area raised to `b`); the flag is 0 otherwise. -/
theorem floodplain_def (ds : Array Nat) (seq : List Nat) (P : FpParams)
    (htopo : Topo ds seq) (hb : ∀ i ∈ seq, i < ds.size) (i : Nat) (hi : i ∈ seq) :
    ((floodplainsModel ds seq P)[i]! = 1 ∨ (floodplainsModel ds seq P)[i]! = 0) ∧
    ((floodplainsModel ds seq P)[i]! = 1 ↔
      isStream P i = true ∨
      (ds[i]! ≠ i ∧ (floodplainsModel ds seq P)[ds[i]!]! = 1 ∧
        ∃ s, FirstHit ds (isStream P) ds[i]! s ∧ (P.elev[i]! - P.elev[s]!) * P.hden ≤ P.hnum[s]!)) := by
  have hdm : ds[i]! ∈ seq := Topo.ds_mem htopo i hi
  rw [floodplains_get ds seq P i (hb i hi), floodplains_get ds seq P _ (hb _ hdm)]
  refine ⟨(flood_inv ds seq P htopo hb i hi).1, ?_⟩
  have hinv := (flood_inv ds seq P htopo hb _ hdm).2
  rw [flood_rec ds seq P htopo hb i hi]
  by_cases hs : isStream P i = true
  · rw [if_pos hs]; exact ⟨fun _ => Or.inl hs, fun _ => rfl⟩
  · rw [if_neg hs]
    by_cases hc : ds[i]! ≠ i ∧ (floodState ds seq P)[ds[i]!]!.1 = 1 ∧
        (P.elev[i]! - (floodState ds seq P)[ds[i]!]!.2.1) * P.hden ≤ (floodState ds seq P)[ds[i]!]!.2.2
    · rw [if_pos hc]
      obtain ⟨s, hs1, _, hs3⟩ := hinv hc.2.1
      exact ⟨fun _ => Or.inr ⟨hc.1, hc.2.1, s, hs1, by have := hc.2.2; rwa [hs3] at this⟩, fun _ => rfl⟩
    · rw [if_neg hc]
      refine ⟨fun h => absurd h (by decide), ?_⟩
      rintro (h | ⟨hp, h1, s, hs1, hle⟩)
      · exact absurd h hs
      · -- the downstream cell carries the values of its first stream cell, which is `s`
        obtain ⟨s', hs1', _, hs3⟩ := hinv h1
        cases hs1'.unique hs1
        exact absurd ⟨hp, h1, by rw [hs3]; exact hle⟩ hc

theorem floodplain_outside (ds : Array Nat) (seq : List Nat) (P : FpParams)
    (htopo : Topo ds seq) (hb : ∀ i ∈ seq, i < ds.size) (i : Nat) (hi : i ∉ seq) (hn : i < ds.size) :
    (floodplainsModel ds seq P)[i]! = -1 := by
  rw [floodplains_get ds seq P i hn]
  unfold floodState
  rw [(sweepDown_initSeq ds _ seq _ _ htopo hb).2.2 i hi hn]

/-- the unrolled oracle of the driver (`floodSpec`: walk to the first stream cell `s`, then test
every cell passed on the way against `s`'s threshold) agrees with the model -/
theorem flood_eq_spec (ds : Array Nat) (seq : List Nat) (P : FpParams)
    (htopo : Topo ds seq) (hb : ∀ i ∈ seq, i < ds.size) (i : Nat) (hi : i ∈ seq)
    (hne : floodSpec ds P i ≠ -2) : (floodplainsModel ds seq P)[i]! = floodSpec ds P i := by
  -- closed form of the state along the walk of the oracle: the cell is flagged, with the values of the first
  -- stream cell `s`, iff `s` is a stream cell and every cell passed is within its threshold
  have key : ∀ (fuel i s : Nat), i ∈ seq → walkFirst ds (isStream P) fuel i = some s →
      (floodState ds seq P)[i]! =
        if isStream P s = true ∧ floodWalk ds P s fuel i = true then (1, P.elev[s]!, P.hnum[s]!)
        else (0, -9999, -9999) := by
    intro fuel
    induction fuel with
    | zero => intro i s _ h; cases h
    | succ f ih =>
      intro i s hi h
      rw [flood_rec ds seq P htopo hb i hi]
      simp only [walkFirst] at h
      by_cases hs : (isStream P i || ds[i]! == i) = true
      · rw [if_pos hs] at h
        cases h
        have hw : floodWalk ds P i (f+1) i = true := by rw [floodWalk, if_pos rfl]
        by_cases hst : isStream P i = true
        · rw [if_pos hst, if_pos ⟨hst, hw⟩]
        · have hp : ds[i]! = i := by simpa [hst] using hs
          rw [if_neg hst, if_neg (fun h => h.1 hp), if_neg (fun h => hst h.1)]
      · rw [if_neg hs] at h
        have hst : ¬ isStream P i = true := fun e => hs (by simp [e])
        have hp : ds[i]! ≠ i := fun e => hs (by simp [e])
        have hd := ih _ s (Topo.ds_mem htopo i hi) h
        rw [if_neg hst]
        by_cases hc : isStream P s = true ∧ floodWalk ds P s f ds[i]! = true
        · -- the downstream cell is flagged with the values of `s`: the test of `i` is the oracle's test
          have his : i ≠ s := fun e => hst (e ▸ hc.1)
          have hfw : floodWalk ds P s (f+1) i = decide ((P.elev[i]! - P.elev[s]!) * P.hden ≤ P.hnum[s]!) := by
            rw [floodWalk, if_neg his, hc.2, Bool.and_true]
          rw [if_pos hc] at hd
          rw [hd, hfw]
          dsimp only
          by_cases hle : (P.elev[i]! - P.elev[s]!) * P.hden ≤ P.hnum[s]!
          · rw [if_pos ⟨hp, rfl, hle⟩, if_pos ⟨hc.1, decide_eq_true hle⟩]
          · rw [if_neg (fun h => hle h.2.2), if_neg (fun h => hle (of_decide_eq_true h.2))]
        · rw [if_neg hc] at hd
          rw [hd, if_neg (fun h => absurd h.2.1 (by decide)), if_neg]
          rintro ⟨h1, h2⟩
          have his : i ≠ s := fun e => hst (e ▸ h1)
          simp only [floodWalk, if_neg his, Bool.and_eq_true] at h2
          exact hc ⟨h1, h2.2⟩
  unfold floodSpec at hne ⊢
  cases hw : walkFirst ds (isStream P) (ds.size + 1) i with
  | none => simp [hw] at hne
  | some s =>
    rw [floodplains_get ds seq P i (hb i hi), key _ i s hi hw]
    simp only []
    by_cases hc : (isStream P s && floodWalk ds P s (ds.size + 1) i) = true
    · rw [if_pos hc, if_pos (Bool.and_eq_true _ _ ▸ hc)]
    · rw [if_neg hc, if_neg (fun h => hc (Bool.and_eq_true _ _ ▸ h))]

/-- the floodplain oracle never reports "fuel exhausted" (`-2`) on a cell of the order -/
theorem floodSpec_defined (ds : Array Nat) (seq : List Nat) (P : FpParams)
    (htopo : Topo ds seq) (hb : ∀ i ∈ seq, i < ds.size) (i : Nat) (hi : i ∈ seq) :
    floodSpec ds P i ≠ -2 := by
  obtain ⟨s, hs⟩ := walkFirst_total_c14 ds (isStream P) _ i (htopo.reach_size_c14 hb i hi)
  unfold floodSpec
  rw [hs]
  simp only []
  split <;> decide

/-- Model = unrolled walk oracle at every cell of every
downstream-first order, no side condition on the oracle. -/
theorem flood_eq_spec_total (ds : Array Nat) (seq : List Nat) (P : FpParams)
    (htopo : Topo ds seq) (hb : ∀ i ∈ seq, i < ds.size) (i : Nat) (hi : i ∈ seq) :
    (floodplainsModel ds seq P)[i]! = floodSpec ds P i :=
  flood_eq_spec ds seq P htopo hb i hi (floodSpec_defined ds seq P htopo hb i hi)

/-! ## smooth_rivlen (not part of the property text; an along-network operator modelled here)

`smoothRivlenModel … = (rivlen_out, flag)`; exact rationals. `inRivWindow ds usMain n idx0 k`: `k` is
`idx0` or one of the ≤ n cells up the main stem / downstream of it (`n = max_window // 2`). -/

/-- cells without a value are never written -/
theorem smooth_rivlen_nodata (ds usMain : Array Nat) (rivlen : Array Rat) (minLen : Rat) (maxWindow : Nat)
    (nd : Rat) (j : Nat) (h : rivlen[j]! = nd) :
    (smoothRivlenModel ds usMain rivlen minLen maxWindow nd).1[j]! = nd := by
  unfold smoothRivlenModel
  rw [smoothFold_frame ds usMain nd minLen (maxWindow / 2) j _ (rivlen, true) (Or.inl h)]
  exact h

/-- a cell that lies in the window of no cell is unchanged -/
theorem smooth_rivlen_frame (ds usMain : Array Nat) (rivlen : Array Rat) (minLen : Rat) (maxWindow : Nat)
    (nd : Rat) (j : Nat) (h : ∀ idx0, idx0 < rivlen.size → ¬ inRivWindow ds usMain (maxWindow / 2) idx0 j) :
    (smoothRivlenModel ds usMain rivlen minLen maxWindow nd).1[j]! = rivlen[j]! := by
  unfold smoothRivlenModel
  exact smoothFold_frame ds usMain nd minLen (maxWindow / 2) j _ (rivlen, true)
    (Or.inr (fun i hi => h i (List.mem_range.1 hi)))

/-- a cell whose length is already ≥ `min_rivlen` and that lies in no OTHER cell's window is unchanged -/
theorem smooth_rivlen_long_cell (ds usMain : Array Nat) (rivlen : Array Rat) (minLen : Rat) (maxWindow : Nat)
    (nd : Rat) (j : Nat) (hge : ¬ (rivlen[j]! < minLen))
    (h : ∀ idx0, idx0 < rivlen.size → idx0 ≠ j → ¬ inRivWindow ds usMain (maxWindow / 2) idx0 j) :
    (smoothRivlenModel ds usMain rivlen minLen maxWindow nd).1[j]! = rivlen[j]! := by
  unfold smoothRivlenModel
  exact smoothFold_frame_ge ds usMain nd minLen (maxWindow / 2) j _ (rivlen, true) hge
    (fun i hi => h i (List.mem_range.1 hi))

/-- `max_window < 4`: the loop `for i in range(1, n)` is empty and nothing is smoothed -/
theorem smooth_rivlen_small_window (ds usMain : Array Nat) (rivlen : Array Rat) (minLen : Rat)
    (maxWindow : Nat) (nd : Rat) (hw : maxWindow < 4) :
    smoothRivlenModel ds usMain rivlen minLen maxWindow nd = (rivlen, true) := by
  unfold smoothRivlenModel
  have hn : maxWindow / 2 ≤ 1 := by omega
  generalize List.range rivlen.size = l
  induction l with
  | nil => rfl
  | cons x l ih => rw [List.foldl_cons, smoothStep_small ds usMain nd minLen _ hn]; exact ih

/-- The total length is conserved (exactly, in rationals): provided the windows `core._window(idx0,
max_window//2)` are duplicate-free and in range (true on a loop-free network with a consistent
main-upstream map; both are decidable and reported by the driver per case),
`Σ_j rivlen_out[j] = Σ_j rivlen[j]`. -/
theorem smooth_rivlen_total (ds usMain : Array Nat) (rivlen : Array Rat) (minLen : Rat) (maxWindow : Nat)
    (nd : Rat)
    (hnd : ∀ idx0 < rivlen.size, (window ds usMain none (maxWindow / 2) idx0).Nodup)
    (hb : ∀ idx0 < rivlen.size, ∀ k ∈ window ds usMain none (maxWindow / 2) idx0, k < rivlen.size) :
    totalLen (smoothRivlenModel ds usMain rivlen minLen maxWindow nd).1 = totalLen rivlen := by
  unfold smoothRivlenModel
  exact smoothFold_total ds usMain nd minLen (maxWindow / 2) _ (rivlen, true)
    (fun i hi => Or.inr ⟨fun i' => rivSlice_nodup ds usMain _ i' i (hnd i (List.mem_range.1 hi)),
      fun k hk => hb i (List.mem_range.1 hi) k ((inRivWindow_iff ds usMain _ i k).1 hk)⟩)

/-! ## the window hypotheses derived from `Topo` + well-formedness

`usMainOK_c14 ds usMain` (executable, the driver's `usmain_ok`): every entry of `idxs_us_main` is the
missing value or an inflow cell of its index. -/

/-- The cells of `core._window` are pairwise distinct and in range. For every network, every
downstream-first order whose cells are in range, every well-formed main-stem array, every cell `i` of
the order, every half-width `n` and every stream-order restriction: the window of `i` has no repeated
cell and every cell of it is an index of the network. (Downstream part: each step lowers the distance to
the pit by one; upstream part: each step up the main stem raises it by one; so all distances differ.) -/
theorem window_nodup (ds usMain : Array Nat) (seq : List Nat) (strord : Option (Array Int)) (n i : Nat)
    (htopo : Topo ds seq) (hb : ∀ i ∈ seq, i < ds.size) (hus : usMainOK_c14 ds usMain = true)
    (hi : i ∈ seq) :
    (window ds usMain strord n i).Nodup ∧ ∀ k ∈ window ds usMain strord n i, k < ds.size := by
  obtain ⟨d, hd⟩ := htopo.pitDist_c14 i hi
  have hin := hb i hi
  have hgt : ∀ a b c : Nat, b < a → c < b → c < a := fun _ _ _ h1 h2 => Nat.lt_trans h2 h1
  have hfd : ∀ x a b, x ∈ seq ∧ PitDist_c14 ds x a → x ∈ seq ∧ PitDist_c14 ds x b → a = b :=
    fun _ _ _ h1 h2 => h1.2.unique h2.2
  have hfu : ∀ x a b, x < ds.size ∧ PitDist_c14 ds x a → x < ds.size ∧ PitDist_c14 ds x b → a = b :=
    fun _ _ _ h1 h2 => h1.2.unique h2.2
  rw [window_eq, downList_eq_iterWhile, upList_eq_iterWhile]
  have hdn := iterWhile_nodup ds _ _ (fun a b => b < a) hgt (fun a => Nat.lt_irrefl a) hfd
    (downOK_step_c14 htopo strord (strord0 strord i)) n i d ⟨hi, hd⟩
  have hup := iterWhile_nodup usMain _ _ (fun a b => a < b) (fun _ _ _ => Nat.lt_trans)
    (fun a => Nat.lt_irrefl a) hfu (upOK_step_c14 hus) n i d ⟨hin, hd⟩
  have hdd := iterWhile_measure ds _ _ (fun a b => b < a) hgt
    (downOK_step_c14 htopo strord (strord0 strord i)) n i d ⟨hi, hd⟩
  have hud := iterWhile_measure usMain _ _ (fun a b => a < b) (fun _ _ _ => Nat.lt_trans)
    (upOK_step_c14 hus) n i d ⟨hin, hd⟩
  constructor
  · rw [List.nodup_append]
    refine ⟨?_, hdn, ?_⟩
    · rw [List.nodup_append]
      refine ⟨(List.reverse_perm _).nodup_iff.2 hup, by simp, ?_⟩
      intro a ha b hb'
      simp only [List.mem_singleton] at hb'
      subst hb'
      intro e
      subst e
      obtain ⟨d', h1, _, h2⟩ := hud a (List.mem_reverse.1 ha)
      have := h2.unique hd
      omega
    · intro a ha b hb' e
      subst e
      obtain ⟨d2, h3, _, h4⟩ := hdd a hb'
      simp only [List.mem_append, List.mem_reverse, List.mem_singleton] at ha
      rcases ha with ha | ha
      · obtain ⟨d', h1, _, h2⟩ := hud a ha
        have := h2.unique h4
        omega
      · subst ha
        have := h4.unique hd
        omega
  · intro k hk
    simp only [List.mem_append, List.mem_reverse, List.mem_singleton] at hk
    rcases hk with (hk | hk) | hk
    · obtain ⟨_, _, h, _⟩ := hud k hk; exact h
    · subst hk; exact hin
    · obtain ⟨_, _, h, _⟩ := hdd k hk; exact hb k h

/-- the same for the iterate-based oracle `windowSpec` over which `moving_average_def` /
`moving_median_def` state the result: every cell of the order is averaged over pairwise distinct cells
of the network, each counted once. -/
theorem window_oracle_nodup (ds usMain : Array Nat) (seq : List Nat) (strord : Option (Array Int)) (n i : Nat)
    (htopo : Topo ds seq) (hb : ∀ i ∈ seq, i < ds.size) (hus : usMainOK_c14 ds usMain = true)
    (hi : i ∈ seq) :
    (windowSpec ds usMain strord n i).Nodup ∧ ∀ k ∈ windowSpec ds usMain strord n i, k < ds.size := by
  rw [← window_eq_oracle]
  exact window_nodup ds usMain seq strord n i htopo hb hus hi

/-- an index of the network that the order does not hold, when the order holds every cell of the
network: the cell lies outside the network and its window is the cell alone -/
theorem window_outside (ds usMain : Array Nat) (seq : List Nat) (strord : Option (Array Int)) (n i : Nat)
    (htopo : Topo ds seq) (hus : usMainOK_c14 ds usMain = true)
    (hcov : ∀ c, isValid ds c = true → c ∈ seq) (hi : i < ds.size) (hns : i ∉ seq) :
    window ds usMain strord n i = [i] := by
  have hnv : ds[i]! = ds.size := by
    apply Classical.byContradiction
    intro h
    have hv : isValid ds i = true := by
      simp only [isValid, Bool.and_eq_true, decide_eq_true_eq, bne_iff_ne, ne_eq]
      exact ⟨hi, h⟩
    exact hns (hcov i hv)
  have hum : usMain[i]! = ds.size := by
    apply Classical.byContradiction
    intro h
    obtain ⟨h1, _, h3⟩ := usMainOK_spec_c14 hus i hi h
    have hv : isValid ds usMain[i]! = true := by
      simp only [isValid, Bool.and_eq_true, decide_eq_true_eq, bne_iff_ne, ne_eq]
      exact ⟨h1, by rw [h3]; omega⟩
    exact hns (h3 ▸ Topo.ds_mem htopo _ (hcov _ hv))
  rw [window_eq]
  have hdown : downList ds strord (strord0 strord i) n i = [] := by
    cases n with
    | zero => rfl
    | succ n => simp [downList, downOK, hnv]
  have hupl : upList ds usMain n i = [] := by
    cases n with
    | zero => rfl
    | succ n => simp [upList, hum]
  rw [hdown, hupl]; rfl

/-- The model of `core.main_upstream` returns a well-formed main-stem array on every input (any
network, any upstream-area field, any threshold): the hypothesis `usMainOK_c14` of the window theorems
holds by construction for the main-stem array the library computes. -/
theorem main_upstream_ok (ds : Array Nat) (uparea : Array Int) (upaMin : Int) :
    usMainOK_c14 ds (mainUpstream ds uparea upaMin) = true := by
  refine usMainOK_iff_c14.2 ?_
  unfold mainUpstream
  refine foldl_inv _ (fun (st : Array Nat × Array Int) => UsInv_c14 ds st.1) _ (fun st x hx h => ?_) _
    (fun d hd => Or.inl (get!_replicate _ _ (Or.inl hd)))
  obtain ⟨um, upa⟩ := st
  simp only []
  by_cases hne : ds[x]! = x ∨ ds[x]! = ds.size
  · rw [if_pos hne]; exact h
  · rw [if_neg hne]
    by_cases hgt : uparea[x]! > upa[ds[x]!]!
    · -- entry `ds[x]` is set to `x`, an inflow cell of it
      rw [if_pos hgt]
      intro d hd
      simp only []
      rw [get!_setIfInBounds]
      by_cases hc : ds[x]! = d ∧ ds[x]! < um.size
      · rw [if_pos hc]
        exact Or.inr ⟨List.mem_range.1 hx, fun e => hne (Or.inl (by rw [hc.1, e])), hc.1⟩
      · rw [if_neg hc]; exact h d hd
    · rw [if_neg hgt]; exact h

/-- Conservation of the total length from the structural hypotheses alone. For every network, every downstream-first
order in range that holds every cell of the network, every well-formed main-stem array and every length
field of the size of the network: `Σ_j rivlen_out[j] = Σ_j rivlen[j]` exactly. -/
theorem smooth_rivlen_total_topo (ds usMain : Array Nat) (seq : List Nat) (rivlen : Array Rat) (minLen : Rat)
    (maxWindow : Nat) (nd : Rat) (htopo : Topo ds seq) (hb : ∀ i ∈ seq, i < ds.size)
    (hus : usMainOK_c14 ds usMain = true) (hcov : ∀ c, isValid ds c = true → c ∈ seq)
    (hsz : rivlen.size = ds.size) :
    totalLen (smoothRivlenModel ds usMain rivlen minLen maxWindow nd).1 = totalLen rivlen := by
  refine smooth_rivlen_total ds usMain rivlen minLen maxWindow nd (fun idx0 h0 => ?_) (fun idx0 h0 k hk => ?_)
  · by_cases hs : idx0 ∈ seq
    · exact (window_nodup ds usMain seq none _ idx0 htopo hb hus hs).1
    · rw [window_outside ds usMain seq none _ idx0 htopo hus hcov (hsz ▸ h0) hs]; simp
  · by_cases hs : idx0 ∈ seq
    · rw [hsz]; exact (window_nodup ds usMain seq none _ idx0 htopo hb hus hs).2 k hk
    · rw [window_outside ds usMain seq none _ idx0 htopo hus hcov (hsz ▸ h0) hs] at hk
      simp only [List.mem_singleton] at hk
      rw [hk]; exact h0

/-- Conservation when the order need not hold every cell of the network: it suffices that the cells it does
not hold carry no length (whatever their windows look like - e.g. cells on a loop outside the order). -/
theorem smooth_rivlen_total_seq (ds usMain : Array Nat) (seq : List Nat) (rivlen : Array Rat) (minLen : Rat)
    (maxWindow : Nat) (nd : Rat) (htopo : Topo ds seq) (hb : ∀ i ∈ seq, i < ds.size)
    (hus : usMainOK_c14 ds usMain = true) (hsz : rivlen.size = ds.size)
    (hout : ∀ idx0, idx0 < ds.size → idx0 ∉ seq → rivlen[idx0]! = nd) :
    totalLen (smoothRivlenModel ds usMain rivlen minLen maxWindow nd).1 = totalLen rivlen := by
  unfold smoothRivlenModel
  refine smoothFold_total ds usMain nd minLen (maxWindow / 2) _ (rivlen, true) (fun i hi => ?_)
  have hi' : i < ds.size := hsz ▸ List.mem_range.1 hi
  by_cases hs : i ∈ seq
  · obtain ⟨h1, h2⟩ := window_nodup ds usMain seq none (maxWindow / 2) i htopo hb hus hs
    exact Or.inr ⟨fun i' => rivSlice_nodup ds usMain _ i' i h1,
      fun k hk => by
        show k < rivlen.size
        rw [hsz]; exact h2 k ((inRivWindow_iff ds usMain _ i k).1 hk)⟩
  · exact Or.inl (hout i hi' hs)

/-- Conservation with every hypothesis in the executable form the driver reports per case (`topo` =
`isTopo`, `cover` = `coversNet_c14`, `usmain_ok` = `usMainOK_c14`; `isTopo` is sound by C03): whenever
the three flags are 1 and the field has the size of the network, the total length is conserved. -/
theorem smooth_rivlen_total_checked (ds usMain : Array Nat) (seq : List Nat) (rivlen : Array Rat) (minLen : Rat)
    (maxWindow : Nat) (nd : Rat) (htopo : isTopo ds seq = true) (hcov : coversNet_c14 ds seq = true)
    (hus : usMainOK_c14 ds usMain = true) (hsz : rivlen.size = ds.size) :
    totalLen (smoothRivlenModel ds usMain rivlen minLen maxWindow nd).1 = totalLen rivlen :=
  smooth_rivlen_total_topo ds usMain seq rivlen minLen maxWindow nd (isTopo_sound' ds seq htopo).1
    (isTopo_sound' ds seq htopo).2 hus (coversNet_sound_c14 ds seq hcov) hsz

/-- the flag `nodup` of the driver op (`smooth_rivlen_total`'s per-case hypothesis) is implied by the
three structural flags: windows of ALL indices of the network are duplicate-free and in range -/
theorem window_nodup_checked (ds usMain : Array Nat) (seq : List Nat) (strord : Option (Array Int)) (n : Nat)
    (htopo : isTopo ds seq = true) (hcov : coversNet_c14 ds seq = true)
    (hus : usMainOK_c14 ds usMain = true) (i : Nat) (hi : i < ds.size) :
    (window ds usMain strord n i).Nodup ∧ ∀ k ∈ window ds usMain strord n i, k < ds.size := by
  obtain ⟨ht, hb⟩ := isTopo_sound' ds seq htopo
  by_cases hs : i ∈ seq
  · exact window_nodup ds usMain seq strord n i ht hb hus hs
  · rw [window_outside ds usMain seq strord n i ht hus (coversNet_sound_c14 ds seq hcov) hi hs]
    exact ⟨by simp, fun k hk => by simp only [List.mem_singleton] at hk; rw [hk]; exact hi⟩

/-! ## fill 'down' is monotone in the field -/

/-- Fill 'down' is monotone in the field (all merge rules). Two fields with the same empty cells and
`data ≤ data'` at every cell holding a value are filled to arrays with `out ≤ out'` at every index
(cells that stay empty show the nodata value in both). Used for the river slope in `C14_riv`. -/
theorem fill_down_mono (ds : Array Nat) (seq : List Nat) (data data' : Array Int) (nd : Int) (how : Nat)
    (htopo : Topo ds seq) (hb : ∀ i ∈ seq, i < data.size) (hsz : data'.size = data.size)
    (hpat : ∀ j, j < data.size → (data[j]! = nd ↔ data'[j]! = nd))
    (hle : ∀ j, j < data.size → data[j]! ≠ nd → data[j]! ≤ data'[j]!) (j : Nat) (hj : j < data.size) :
    (fillDownModel ds seq data nd how)[j]! ≤ (fillDownModel ds seq data' nd how)[j]! :=
  fillDownModel_mono_c14 ds seq data data' nd how htopo hb hsz hpat hle j hj

/-! ## non-vacuity: one concrete network meets every hypothesis and the conclusions are non-trivial

network: 4 → 2 → 1 → 0 (pit), 3 → 1 (confluence at 1), cell 5 missing; main stem 0 ← 1 ← 2 ← 4 -/
def dsX : Array Nat := #[0, 0, 1, 1, 2, 6]
def seqX : List Nat := [0, 1, 2, 3, 4]
def usX : Array Nat := #[1, 2, 4, 6, 6, 6]

theorem topoX : Topo dsX seqX := by
  have h0 : Topo dsX [] := Topo.nil
  have h1 : Topo dsX ([] ++ [0]) := Topo.snoc h0 (by simp) (Or.inl (by decide))
  have h2 : Topo dsX ([0] ++ [1]) := Topo.snoc h1 (by simp) (Or.inr (by decide))
  have h3 : Topo dsX ([0, 1] ++ [2]) := Topo.snoc h2 (by simp) (Or.inr (by decide))
  have h4 : Topo dsX ([0, 1, 2] ++ [3]) := Topo.snoc h3 (by simp) (Or.inr (by decide))
  exact Topo.snoc h4 (by simp) (Or.inr (by decide))
theorem boundX : ∀ i ∈ seqX, i < 6 := by decide

-- downstream / upstream sum
example : downstreamModel dsX #[10, 20, 30, 40, 50, 60] = #[10, 10, 20, 20, 30, 60] := by decide +kernel
example : upstreamSumModel dsX #[1, 2, 3, 4, 5, 6] (-9999) = #[2, 7, 5, 0, 0, 0] := by decide
example : (upstreamSumModel dsX #[1, 2, 3, 4, 5, 6] (-9999))[1]! = 3 + 4 := by
  rw [upstream_sum_def dsX _ _ 1 (by decide) (by decide)]; decide
-- with missing values the statement is restricted to the `fixed` cells: cell 1 holds 2, its downstream
-- cell 0 is empty, and the model (as the code) returns nodata + 3 + 4 there
example : upstreamSumModel dsX #[-9999, 2, 3, 4, 5, 6] (-9999) = #[0, -9992, 5, 0, 0, 0] := by decide
example : upstreamSumExact dsX #[-9999, 2, 3, 4, 5, 6] (-9999) 1 = -9999 + 3 + 4 := by decide
-- the order dependence: 0 → 1 → 3 (pit, empty), 2 → 1. Cell 1 is flagged; inflow 0 (index < 1) is
-- added before the overwrite and lost, inflow 2 (index > 1) is added to nodata afterwards
example : upstreamSumModel #[1, 3, 1, 3] #[5, 1, 2, -9999] (-9999) = #[0, -9997, 0, 0] := by decide
example : upstreamSumExact #[1, 3, 1, 3] #[5, 1, 2, -9999] (-9999) 1 = -9999 + 2 := by decide
-- nodata filling
example : fillnodataUpstream dsX seqX #[-1, 7, -1, -1, -1, -1] (-1) = #[-1, 7, 7, 7, 7, -1] := by decide
example : FirstValid dsX #[-1, 7, -1, -1, -1, -1] (-1) 4 7 := by
  have h := fill_up_def dsX seqX #[-1, 7, -1, -1, -1, -1] (-1) topoX boundX 4 (by decide)
  have e : (fillnodataUpstream dsX seqX #[-1, 7, -1, -1, -1, -1] (-1))[4]! = 7 := by decide
  rwa [e] at h
example : fillDownModel dsX seqX #[-1, -1, -1, 4, 9, -1] (-1) 1 = #[4, 4, 9, 4, 9, -1] := by decide +kernel
example : fillDownModel dsX seqX #[-1, -1, -1, 4, 9, -1] (-1) 0 = #[9, 9, 9, 4, 9, -1] := by decide +kernel
example : fillDownModel dsX seqX #[-1, -1, -1, 4, 9, -1] (-1) 2 = #[13, 13, 9, 4, 9, -1] := by decide +kernel
example : kids dsX seqX 1 = [3, 2] := by decide
example : mergeBranches 2 [some 4, none, some 9] = some 13 := by
  rw [merge_sum_spec]; decide
-- regression for fix 49571fc: star 1,2,3 → 0, data [nd,5,-3,2], nd = -1.
-- The partial sum 2 + (-3) equals nodata but is a value: the result is 4.
example : mergeBranches 2 [some 2, some (-3), some 5] = some 4 := by decide
example : fillDownModel #[0, 0, 0, 0] [0, 1, 2, 3] #[-1, 5, -3, 2] (-1) 2 = #[4, 5, -3, 2] := by decide +kernel
-- a filled value equal to nodata stays a value: 2 + (-3) = -1 = nd at cell 0, and is passed on as such
example : fillOpt #[0, 0, 0] [0, 1, 2] #[-1, 2, -3] (-1) 2 0 = some (-1) := by decide +kernel
-- cell 3 (value 4) feeds cell 0 through the empty cells 1, 0; the min at cell 0 is ≤ its value
example : Feeds dsX #[-1, -1, -1, 4, 9, -1] (-1) 3 0 :=
  Feeds.next 1 (Feeds.step (by decide) (by decide)) (by decide) (by decide)
-- the hypothesis of the second half of `fill_down_sum_frontier` at cell 0 (cell 3 feeds it)
example : ∃ k ∈ seqX, #[-1, -1, -1, 4, 9, -1][k]! ≠ (-1 : Int) ∧ Feeds dsX #[-1, -1, -1, 4, 9, -1] (-1) k 0 :=
  ⟨3, by decide, by decide, Feeds.next 1 (Feeds.step (by decide) (by decide)) (by decide) (by decide)⟩
example : fillOpt dsX seqX #[-1, -1, -1, 4, 9, -1] (-1) 2 0 = some (4 + 9) := by decide +kernel
example : ∃ r, fillOpt dsX seqX #[-1, -1, -1, 4, 9, -1] (-1) 1 0 = some r ∧ r ≤ 4 :=
  (fill_down_min_frontier dsX seqX #[-1, -1, -1, 4, 9, -1] (-1) topoX boundX).1 3 (by decide) (by decide) 0
    (Feeds.next 1 (Feeds.step (by decide) (by decide)) (by decide) (by decide))
-- window: unrestricted, and stopped by a higher stream order at cell 1
example : window dsX usX none 2 2 = [4, 2, 1, 0] := by decide
example : window dsX usX (some #[2, 2, 1, 1, 1, 0]) 2 2 = [4, 2] := by decide
example : windowSpec dsX usX (some #[2, 2, 1, 1, 1, 0]) 2 2 = [4, 2] := by decide
example : (movingAverageModel dsX usX none #[3, -1, 5, 7, 8, 0] none 1 (-1))[2]! = (13, 2) := by
  rw [moving_average_def _ _ _ _ _ _ _ 2 (by decide)]; decide
example : (movingAverageModel dsX usX none #[3, 6, 5, 7, 8, 0] (some #[1, 0, 2, 1, 3, 1]) 1 (-1))[2]! = (34, 5) := by
  rw [moving_average_def _ _ _ _ _ _ _ 2 (by decide)]; decide
example : windowVals #[3, 6, 5, 7, 8, 0] (-1) (windowSpec dsX usX none 1 2) = [8, 5, 6] := by decide
example : median2 [8, 5, 6] = 2 * 6 := by
  rw [median2_def [8, 5, 6] [5, 6, 8] (by decide) (by decide)]; decide
example : median2 [8, 5, 6, 3] = 5 + 6 := by
  rw [median2_def [8, 5, 6, 3] [3, 5, 6, 8] (by decide) (by decide)]; decide
-- stream distance to the masked cell 1 / to the pit; HAND above drain cell 1
example : streamDistanceModel dsX seqX (some #[false, true, false, false, false, false]) (fun _ _ => 1)
    = #[0, 0, 1, 1, 2, -9999] := by decide
example : streamDistanceModel dsX seqX none (cellDist 2 3 (-4)) = #[0, 3, 8, 7, 12, -9999] := by decide
example : PathLen dsX (stopAt_c14 dsX none) (fun _ _ => 1) 4 3 := by
  have h := stream_distance_def dsX seqX none (fun _ _ => 1) topoX boundX 4 (by decide)
  have e : (streamDistanceModel dsX seqX none (fun _ _ => 1))[4]! = 3 := by decide
  rwa [e] at h
example : handModel dsX seqX #[false, true, false, false, false, false] #[0, 3, 5, 9, 6, 0]
    = #[0, 0, 2, 6, 3, -9999] := by decide
example : FirstHit dsX (fun c => #[false, true, false, false, false, false][c]!) 4 1 :=
  walkFirst_sound dsX _ 7 4 1 (by decide)
-- floodplains: streams = cells 0,1 (uparea ≥ 4); thresholds 5 and 2; cell 2 is 2 above cell 1
-- (flagged), cell 3 is 6 above (not), cell 4 is 3 above cell 1 (not, although its downstream cell is)
def PX : FpParams := { elev := #[0, 3, 5, 9, 6, 0], uparea := #[5, 4, 2, 1, 1, 0], upaMin := 4,
                       hnum := #[10, 4, 0, 0, 0, 0], hden := 2 }
example : floodplainsModel dsX seqX PX = #[1, 1, 1, 0, 0, -1] := by decide +kernel
example : (floodplainsModel dsX seqX PX)[2]! = 1 :=
  (floodplain_def dsX seqX PX topoX boundX 2 (by decide)).2.2
    (Or.inr ⟨by decide, by decide +kernel, 1, walkFirst_sound dsX _ 7 1 1 (by decide), by decide⟩)

-- smooth_rivlen on the example network: rivlen [6,1,5,-,2,-], min_rivlen 3, max_window 6: the total 14 is
-- conserved, the empty cells 3 and 5 are untouched
example : totalLen (smoothRivlenModel dsX usX #[6, 1, 5, -9999, 2, -9999] 3 6 (-9999)).1 =
    totalLen #[6, 1, 5, -9999, 2, -9999] :=
  smooth_rivlen_total dsX usX _ 3 6 (-9999) (by decide) (by decide)
example : (smoothRivlenModel dsX usX #[6, 1, 5, -9999, 2, -9999] 3 6 (-9999)).1[3]! = -9999 :=
  smooth_rivlen_nodata dsX usX _ 3 6 (-9999) 3 (by decide +kernel)
example : smoothRivlenModel dsX usX #[6, 1, 5, -9999, 2, -9999] 3 3 (-9999) = (#[6, 1, 5, -9999, 2, -9999], true) :=
  smooth_rivlen_small_window dsX usX _ 3 3 (-9999) (by decide)

-- full-strength oracle equalities (`…_eq_spec_total`): the walks are defined on the whole order
example : (seqX.map fun i => walkValid dsX #[-1, 7, -1, -1, -1, -1] (-1) (dsX.size + 1) i) =
    seqX.map fun i => some (fillnodataUpstream dsX seqX #[-1, 7, -1, -1, -1, -1] (-1))[i]! := by decide +kernel
example : (seqX.map fun i => walkDist dsX none (cellDist 2 3 (-4)) (dsX.size + 1) i) =
    [some 0, some 3, some 8, some 7, some 12] := by decide +kernel
example : (seqX.map fun i => handSpec dsX #[false, true, false, false, false, false] #[0, 3, 5, 9, 6, 0] i) =
    seqX.map fun i => some (handModel dsX seqX #[false, true, false, false, false, false] #[0, 3, 5, 9, 6, 0])[i]! := by
  decide +kernel
example : (seqX.map fun i => floodSpec dsX PX i) = [1, 1, 1, 0, 0] := by decide +kernel
example : pitWithin_c14 dsX 3 4 = false ∧ pitWithin_c14 dsX 4 4 = true := by decide

-- model = oracle for fill 'down' (whole arrays, three merge rules); hypotheses met
example : coversNet_c14 dsX seqX = true := by decide +kernel
example : fillDownSpec dsX #[-1, -1, -1, 4, 9, -1] (-1) 2 = #[13, 13, 9, 4, 9, -1] ∧
    fillDownSpec dsX #[-1, -1, -1, 4, 9, -1] (-1) 1 = #[4, 4, 9, 4, 9, -1] ∧
    fillDownSpec dsX #[-1, -1, -1, 4, 9, -1] (-1) 0 = #[9, 9, 9, 4, 9, -1] := by decide +kernel
example : feeders_c14 dsX #[-1, -1, -1, 4, 9, -1] (-1) 0 (List.range 6) = [3, 4] := by decide +kernel

-- `usX` is well formed (and is what the model of
-- `main_upstream` returns for the upstream cell counts); the windows are duplicate-free and in range
example : usMainOK_c14 dsX usX = true := by decide
example : mainUpstream dsX #[5, 4, 2, 1, 1, 0] 0 = usX := by decide +kernel
example : isTopo dsX seqX = true := by decide +kernel
example : (window dsX usX none 2 1).Nodup ∧ ∀ k ∈ window dsX usX none 2 1, k < dsX.size :=
  window_nodup dsX usX seqX none 2 1 topoX boundX (by decide) (by decide)
example : window dsX usX none 2 1 = [4, 2, 1, 0] ∧ window dsX usX none 2 5 = [5] := by decide
example : window dsX usX none 3 5 = [5] :=
  window_outside dsX usX seqX none 3 5 topoX (by decide) (coversNet_sound_c14 _ _ (by decide +kernel))
    (by decide) (by decide)
-- conservation from the three executable flags
example : totalLen (smoothRivlenModel dsX usX #[6, 1, 5, -9999, 2, -9999] 3 6 (-9999)).1 =
    totalLen #[6, 1, 5, -9999, 2, -9999] :=
  smooth_rivlen_total_checked dsX usX seqX _ 3 6 (-9999) (by decide +kernel) (by decide +kernel) (by decide)
    (by decide)
-- an order that misses the branch cell 3 (no cover): the cell holds no length, conservation still follows
example : totalLen (smoothRivlenModel dsX usX #[6, 1, 5, -9999, 2, -9999] 3 6 (-9999)).1 =
    totalLen #[6, 1, 5, -9999, 2, -9999] :=
  smooth_rivlen_total_seq dsX usX [0, 1, 2, 4] _ 3 6 (-9999)
    (by
      have h1 : Topo dsX ([] ++ [0]) := Topo.snoc Topo.nil (by simp) (Or.inl (by decide))
      have h2 : Topo dsX ([0] ++ [1]) := Topo.snoc h1 (by simp) (Or.inr (by decide))
      have h3 : Topo dsX ([0, 1] ++ [2]) := Topo.snoc h2 (by simp) (Or.inr (by decide))
      exact Topo.snoc h3 (by simp) (Or.inr (by decide)))
    (by decide) (by decide) (by decide) (by decide +kernel)
-- without a downstream-first order the statement is false: on the 2-cycle 0 <-> 1 (main stem 0 <-> 1) the
-- window of 0 repeats cells
example : usMainOK_c14 #[1, 0] #[1, 0] = true ∧ window #[1, 0] #[1, 0] none 2 0 = [0, 1, 0, 1, 0] := by decide
-- fill 'down' is monotone: raising the two values raises every filled cell (max rule)
example : fillDownModel dsX seqX #[-1, -1, -1, 4, 9, -1] (-1) 0 = #[9, 9, 9, 4, 9, -1] ∧
    fillDownModel dsX seqX #[-1, -1, -1, 12, 10, -1] (-1) 0 = #[12, 12, 10, 12, 10, -1] := by decide +kernel
example : (fillDownModel dsX seqX #[-1, -1, -1, 4, 9, -1] (-1) 0)[1]! ≤
    (fillDownModel dsX seqX #[-1, -1, -1, 12, 10, -1] (-1) 0)[1]! :=
  fill_down_mono dsX seqX #[-1, -1, -1, 4, 9, -1] #[-1, -1, -1, 12, 10, -1] (-1) 0 topoX boundX (by decide)
    (by decide) (by decide) 1 (by decide)

-- D8 steps on 3 x 4 cells are exact: cell 3 -> cell 0 of a 2-column raster is the diagonal of length 5
example : cellDistExact 2 3 (-4) 3 0 = true ∧ cellDist 2 3 (-4) 3 0 = 5 :=
  ⟨cellDist_exact_d8 2 3 (-4) 3 0 (by decide) (by decide) (Or.inl rfl) (Or.inr rfl), by decide⟩

end Pf.C14
