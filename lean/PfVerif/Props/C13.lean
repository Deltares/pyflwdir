import PfVerif.Props.C03
import PfVerif.Props.C06
import PfVerif.Props.C10
import PfVerif.Props.C11
import PfVerif.Props.C20
/-! # C13 — operations terminate, stay in bounds and never modify their inputs

The Lean half of C13 is the family of *totality* theorems: every `while True` / worklist loop of the
library is modelled as a structural recursion on a fuel argument that returns `none` when the fuel
runs out; the theorems below say that a fuel polynomial (in fact linear) in the number of cells
always suffices on the documented domain, for every input - i.e. the modelled loop terminates within
that many iterations. They are restated here (with the fuel bound made explicit) from the property
files in which they are proved. Purity is by construction: the models are pure functions, so
"inputs are never modified" is a statement about the code that only the harness can check
(byte-wise snapshots of every argument before/after each call, guard on the object's network).

Not restated here: `fill_depressions` with `max_depth >= 0` (`Pf.C06.fillModelDepth_total`, Props/C06.lean) and
IHU's iterative stages (`Pf.C09ihu.ihu_model_total`, Props/C09_ihuTotal.lean). `_adjust_elevation` has `for` loops
only; its indices are the subject of Props/C13_bounds2.lean. Not covered by a theorem (exploration only, see
`harness/props/c13.py`): the Pfafstetter worklist, whose model returns `none` when its fuel runs out and has no
theorem saying that it does not. -/
namespace Pf.C13
open Pf

/-- `core.rank` (explicit stack, nested `while True`) ends within fuel `n+1` per start cell on every
well-formed network, cycles included -/
theorem rank_total (ds : Array Nat) (hwf : WF ds) : (rank ds).isSome = true := by
  obtain ⟨r, c, h, _⟩ := C03.rank_cert ds hwf
  simp [h]

/-- `core.loop_indices` (runs `rank`) always returns -/
theorem loop_indices_total (ds : Array Nat) (hwf : WF ds) : (loopIndices ds).isSome = true := by
  obtain ⟨r, c, h, _⟩ := C03.rank_cert ds hwf
  simp [loopIndices, h]

/-- `core._trace` downstream on a loop-free network: at most `n` iterations, whatever mask, maximum
length and step lengths -/
theorem trace_down_total (ds : Array Nat) (seq : List Nat) (htopo : Topo ds seq)
    (mask : Option (Array Bool)) (maxLen : Option Int) (step : Nat → Nat → Int) (s : Nat) (hs : s ∈ seq) :
    (traceFrom ds mask maxLen step seq.length s).isSome = true :=
  C11.trace_total_topo ds seq htopo mask maxLen step seq.length s hs (Nat.le_refl _)

/-- `core._trace` upstream along the main-upstream cells of a loop-free network -/
theorem trace_up_total (ds : Array Nat) (seq : List Nat) (htopo : Topo ds seq)
    (hall : ∀ i, i < ds.size → ds[i]! < ds.size → i ∈ seq) (uparea : Array Int) (upaMin : Int)
    (mask : Option (Array Bool)) (maxLen : Option Int) (step : Nat → Nat → Int) (s : Nat) (hs : s < ds.size) :
    (traceFrom (mainUpstream ds uparea upaMin) mask maxLen step (seq.length + 1) s).isSome = true :=
  C11.trace_total_up_topo ds seq htopo hall uparea upaMin mask maxLen step (seq.length + 1) s hs (Nat.lt_succ_self _)

/-- on networks WITH loops a trace still ends if a positive minimum step length and a finite
`max_length` are given: at most `max_length / δ + 1` iterations -/
theorem trace_loops_total (nxt : Array Nat) (mask : Option (Array Bool)) (ml δ : Int)
    (step : Nat → Nat → Int) (hδ : 0 < δ) (hstep : ∀ i j, δ ≤ step i j) (s : Nat) :
    (traceFrom nxt mask (some ml) step ((ml / δ).toNat + 1) s).isSome = true :=
  C11.trace_total_maxlen_pos nxt mask ml δ step hδ hstep _ s (Nat.lt_succ_self _)

/-- the sub-grid segment walks (length / average / median / slope, direction "down") end within
`n+1` iterations on a loop-free network -/
theorem segment_walks_total (ds : Array Nat) (seq : List Nat) (isOut : Array Bool) (mask : Option (Array Bool))
    (htopo : Topo ds seq) (hb : ∀ i ∈ seq, i < ds.size) (s : Nat) (hs : s ∈ seq) :
    (∃ cells, C10.exclWalk ds isOut mask (ds.size + 1) s = some cells) ∧
    (∃ e, C10.lenWalk ds isOut mask (ds.size + 1) s = some e) :=
  C10.segment_down_total ds seq isOut mask htopo hb s hs

/-- priority-flood `fill_depressions` (unlimited depth): whenever it starts (a seed exists) the heap
loop runs empty within its fuel `n+1` pops -/
theorem fill_total {G : C06.Grid} {conn : Nat} {elev : Array Int} {nod : Array Bool} {f : Array Int}
    {d8 : Array Nat} {pits : Option (List Nat)} {minMode fin : Bool}
    (hN : nod.size = G.n) (hE : elev.size = G.n)
    (h : C06.fillModel G conn elev nod pits minMode = some (f, d8, fin)) : fin = true :=
  C06.fillModel_terminates hN hE h

/-- Dijkstra `spread2d`: ends within fuel `10 n + 1` heap pops for non-negative step costs -/
theorem spread_total (G : SpGrid) (hobs : G.obs.size = G.n) (hw : ∀ a d, 0 ≤ G.wgt a d) :
    ∃ st, spread2d G = some st :=
  C20.spread_terminates G hobs hw

/-- `region_dissolve` always returns -/
theorem dissolve_total (G0 : SpGrid) (regions : Array Int) (labels : List Int) (idxs : Option (List Nat))
    (hsz : regions.size = G0.n) (hw : ∀ a d, 0 ≤ G0.wgt a d) :
    ∃ res, regionDissolve G0 regions labels idxs = some res :=
  C20.dissolve_terminates G0 regions labels idxs hsz hw

/-- the order produced by the breadth-first `core.idxs_seq` has no repetition and holds only cells of the network
(hence at most `n` entries; that the reads and writes of `idxs_seq` stay inside its `n` slots is
`Pf.C13b.idxs_seq_in_bounds`, Props/C13_bounds.lean) -/
theorem idxs_seq_bounded (ds : Array Nat) (hwf : WF ds) :
    (orderWalk ds).Nodup ∧ ∀ i ∈ orderWalk ds, Valid ds i :=
  ⟨(C03.seq_walk_topo ds hwf).2.1, fun i hi => (((C03.seq_walk_topo ds hwf).2.2 i).1 hi).1⟩

/-! ### in-bounds access of the sweep kernels

Every down-to-upstream and up-to-downstream kernel (`fillnodata_upstream`, `accuflux`, `accuflux_ds`,
`stream_distance`, HAND, floodplains, basins, Strahler and classic order, unit catchments, …) touches,
for a cell `i` of the order, exactly the indices `i` and `ds[i]`. On a well-formed network with the
library's own order both are inside every per-cell array: -/

/-- the library's breadth-first order only contains cells whose own index and downstream index are in range -/
theorem sweep_indices_in_bounds_walk (ds : Array Nat) (hwf : WF ds) :
    ∀ i ∈ orderWalk ds, i < ds.size ∧ ds[i]! < ds.size := by
  intro i hi
  exact ((C03.seq_walk_topo ds hwf).2.2 i).1 hi |>.1

/-- for ANY downstream-first order whose members are cells of the network, the downstream index read
by a sweep step is again a member of the order (so a sweep never reads a cell it has not initialised) -/
theorem sweep_downstream_in_order (ds : Array Nat) (seq : List Nat) (htopo : Topo ds seq) :
    ∀ i ∈ seq, ds[i]! ∈ seq :=
  Topo.ds_mem htopo

/-- and every index of an order accepted by the executable check `isTopo` is in range -/
theorem sweep_indices_in_bounds_checked (ds : Array Nat) (seq : List Nat) (h : isTopo ds seq = true) :
    ∀ i ∈ seq, i < ds.size ∧ ds[i]! ∈ seq :=
  fun i hi => ⟨(C03.isTopo_sound ds seq h).2 i hi, Topo.ds_mem (C03.isTopo_sound ds seq h).1 i hi⟩

/-! non-vacuity -/
example : WF #[1, 2, 0, 3, 3, 6, 5, 7, 5, 10] := (C03.wfB_iff _).1 (by decide)
example : (rank #[1, 2, 0, 3, 3, 6, 5, 7, 5, 10]).isSome = true := by decide +kernel

end Pf.C13
