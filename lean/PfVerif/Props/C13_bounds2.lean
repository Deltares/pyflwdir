import PfVerif.Proofs.C13_bounds2
import PfVerif.Proofs.C13_bounds2Fill
import PfVerif.Proofs.C13_bounds2Adj
import PfVerif.Props.C03
/-! # C13_bounds2 - the kernels outside `core.py` never index outside an array

Extension of `Props/C13_bounds.lean` (which covers `pyflwdir/core.py`) to the sweep-shaped kernels of
`streams.py`, `dem.py`, `arithmetics.py`, the two `fillnodata` sweeps of `core.py`, and to the neighbour loop of
`dem.fill_depressions`. `Model/C13_bounds2.lean` holds the access-logging variants.

GENERIC (`sweepDown_*`, `sweepUp_*`): for ANY loop body given by its state function and its access trace, the
logging sweep returns exactly `Pf.sweepDown` / `Pf.sweepUp`, and if the trace is cell-shaped (`CellTr`: arrays of
`n` slots addressed at `i` or `ds[i]`) then every logged access addresses the cell `i` or `ds[i]` of some `i ∈ seq`;
hence in bounds when `seq` is closed (`Closed`: entries `< n` with downstream entries `< n`; follows from `Topo ds seq`
with entries `< n`, or from `WF ds` with `seq` inside the network).

PER KERNEL: `<kernel>_log_eq` (logging variant = the model the other properties use) and `<kernel>_in_bounds`. -/
namespace Pf.C13b2
open Pf

/-! ### the generic pair for `sweepDown` / `sweepUp` -/

theorem sweepDown_log_eq {α : Type} [Inhabited α] (ds : Array Nat) (g : Nat → α → α → α)
    (tr : Nat → Array α → List Acc) (seq : List Nat) (out : Array α) :
    (sweepDownL ds g tr seq out).1 = sweepDown ds g seq out := foldlL_fst _ _ _ _

theorem sweepUp_log_eq {α : Type} [Inhabited α] (ds : Array Nat) (upd : Nat → α → α → α)
    (tr : Nat → Array α → List Acc) (seq : List Nat) (out : Array α) :
    (sweepUpL ds upd tr seq out).1 = sweepUp ds upd seq out := foldrL_fst _ _ _ _

/-- the logging down-sweep touches only `i` and `ds[i]` for `i ∈ seq`, in arrays of `n` slots -/
theorem sweepDown_touch {α : Type} [Inhabited α] (ds : Array Nat) (g : Nat → α → α → α)
    (tr : Nat → Array α → List Acc) (seq : List Nat) (out : Array α) (n : Nat) (hsz : out.size = n)
    (htr : ∀ i o, o.size = n → CellTr ds n i (tr i o)) :
    ∀ e ∈ (sweepDownL ds g tr seq out).2, e.size = n ∧ ∃ i ∈ seq, e.idx = i ∨ e.idx = ds[i]! :=
  (foldlL_inv (stepDown ds g) tr (fun o => o.size = n) _ seq
    (fun s i hi hs => ⟨by simpa using hs, fun e he => ⟨(htr i s hs e he).1, i, hi, (htr i s hs e he).2⟩⟩)
    (out, []) hsz (fun _ h => nomatch h)).2

theorem sweepUp_touch {α : Type} [Inhabited α] (ds : Array Nat) (upd : Nat → α → α → α)
    (tr : Nat → Array α → List Acc) (seq : List Nat) (out : Array α) (n : Nat) (hsz : out.size = n)
    (htr : ∀ i o, o.size = n → CellTr ds n i (tr i o)) :
    ∀ e ∈ (sweepUpL ds upd tr seq out).2, e.size = n ∧ ∃ i ∈ seq, e.idx = i ∨ e.idx = ds[i]! :=
  (foldrL_inv (stepUp ds upd) tr (fun o => o.size = n) _ seq
    (fun s i hi hs => ⟨by unfold stepUp; split <;> simpa using hs,
      fun e he => ⟨(htr i s hs e he).1, i, hi, (htr i s hs e he).2⟩⟩)
    (out, []) hsz (fun _ h => nomatch h)).2

theorem sweepDown_in_bounds {α : Type} [Inhabited α] (ds : Array Nat) (g : Nat → α → α → α)
    (tr : Nat → Array α → List Acc) (seq : List Nat) (out : Array α) (n : Nat) (hsz : out.size = n)
    (htr : ∀ i o, o.size = n → CellTr ds n i (tr i o)) (hcl : Closed ds n seq) :
    InB (sweepDownL ds g tr seq out).2 :=
  inb_of_touch hcl (sweepDown_touch ds g tr seq out n hsz htr)

theorem sweepUp_in_bounds {α : Type} [Inhabited α] (ds : Array Nat) (upd : Nat → α → α → α)
    (tr : Nat → Array α → List Acc) (seq : List Nat) (out : Array α) (n : Nat) (hsz : out.size = n)
    (htr : ∀ i o, o.size = n → CellTr ds n i (tr i o)) (hcl : Closed ds n seq) :
    InB (sweepUpL ds upd tr seq out).2 :=
  inb_of_touch hcl (sweepUp_touch ds upd tr seq out n hsz htr)

/-- a downstream-first order of cells is closed (`Topo`: established by C03 for the library's `idxs_seq`) -/
theorem closed_topo {ds : Array Nat} {n : Nat} {seq : List Nat} (ht : Topo ds seq) (hb : ∀ i ∈ seq, i < n) :
    Closed ds n seq :=
  fun i hi => ⟨hb i hi, hb _ (Topo.ds_mem ht i hi)⟩

/-- cells inside a well-formed network (`idxs_ds[i] != mv`) are closed, in any order and with repetitions -/
theorem closed_wf {ds : Array Nat} {seq : List Nat} (hwf : WF ds) (hv : ∀ i ∈ seq, isValid ds i = true) :
    Closed ds ds.size seq := by
  intro i hi
  have h := hv i hi
  simp only [isValid, Bool.and_eq_true, decide_eq_true_eq, bne_iff_ne, ne_eq] at h
  have := (hwf i h.1).1
  exact ⟨h.1, by omega⟩

/-! ### instances -/

/-- `streams.accuflux` -/
theorem accuflux_log_eq (ds : Array Nat) (seq : List Nat) (data : Array Int) (nodata : Int) :
    (accufluxL ds seq data nodata).1 = accuflux ds seq data nodata := sweepUp_log_eq ..

theorem accuflux_in_bounds (ds : Array Nat) (seq : List Nat) (data : Array Int) (nodata : Int)
    (hd : data.size = ds.size) (hcl : Closed ds ds.size seq) : InB (accufluxL ds seq data nodata).2 :=
  sweepUp_in_bounds _ _ _ _ _ _ hd (fun i o ho => trLink_cell _ _ _ _ _ hd (by simp [ho])) hcl

/-- `streams.accuflux_ds` -/
theorem accuflux_ds_log_eq (ds : Array Nat) (seq : List Nat) (data : Array Int) (nodata : Int) :
    (accufluxDsL ds seq data nodata).1 = accufluxDs ds seq data nodata := sweepDown_log_eq ..

theorem accuflux_ds_in_bounds (ds : Array Nat) (seq : List Nat) (data : Array Int) (nodata : Int)
    (hd : data.size = ds.size) (hcl : Closed ds ds.size seq) : InB (accufluxDsL ds seq data nodata).2 :=
  sweepDown_in_bounds _ _ _ _ _ _ hd (fun i o ho => trLink_cell _ _ _ _ _ hd (by simp [ho])) hcl

/-- `streams.upstream_area` (kernel) -/
theorem upstream_area_log_eq (ds : Array Nat) (seq : List Nat) (ncol : Nat) (rowArea : Array Int) (nodata : Int) :
    (upstreamAreaL ds seq ncol rowArea nodata).1 = upstreamAreaKernel ds seq ncol rowArea nodata := sweepUp_log_eq ..

theorem upstream_area_in_bounds (ds : Array Nat) (seq : List Nat) (ncol : Nat) (rowArea : Array Int) (nodata : Int)
    (hcl : Closed ds ds.size seq) : InB (upstreamAreaL ds seq ncol rowArea nodata).2 := by
  unfold upstreamAreaL
  refine (InB_append ..).2 ⟨sweepUp_in_bounds _ _ _ _ _ ds.size
    ((size_foldl_set (fun idx => rowArea[idx / ncol]!) seq _).trans (by simp))
    (fun i o ho => by simp [trUparea, ho]) hcl, fun e he => ?_⟩
  obtain ⟨i, hi, rfl⟩ := List.mem_map.1 (List.mem_reverse.1 he)
  exact (hcl i hi).1

/-- `core.fillnodata_upstream` -/
theorem fillnodata_upstream_log_eq (ds : Array Nat) (seq : List Nat) (data : Array Int) (nodata : Int) :
    (fillnodataUpstreamL ds seq data nodata).1 = fillnodataUpstream ds seq data nodata := sweepDown_log_eq ..

theorem fillnodata_upstream_in_bounds (ds : Array Nat) (seq : List Nat) (data : Array Int) (nodata : Int)
    (hd : data.size = ds.size) (hcl : Closed ds ds.size seq) : InB (fillnodataUpstreamL ds seq data nodata).2 :=
  sweepDown_in_bounds _ _ _ _ _ _ hd (fun i o ho => by simp [trFillUp, ho]) hcl

/-- `core.fillnodata_downstream` (state = `(data_out, filled)` per cell) -/
theorem fillnodata_downstream_log_eq (ds : Array Nat) (seq : List Nat) (data : Array Int) (nd : Int) (how : Nat) :
    (fillnodataDownstreamL ds seq data nd how).1 = fillDownState ds seq data nd how := sweepUp_log_eq ..

theorem fillnodata_downstream_in_bounds (ds : Array Nat) (seq : List Nat) (data : Array Int) (nd : Int) (how : Nat)
    (hd : data.size = ds.size) (hcl : Closed ds ds.size seq) : InB (fillnodataDownstreamL ds seq data nd how).2 :=
  sweepUp_in_bounds _ _ _ _ _ ds.size (by simp [fillDownInit, hd]) (fun i o ho => by simp [trFillDown, ho, hd]) hcl

/-- `streams.stream_order` (classic) for any `nup` of `n` slots … -/
theorem stream_order_log_eq (ds : Array Nat) (seq : List Nat) (usMain : Array Nat) (nup : Array Int)
    (mask : Option (Array Bool)) :
    (classicOrderWithL ds seq usMain nup mask).1 = classicOrderWith ds seq usMain nup mask := sweepDown_log_eq ..

theorem stream_order_in_bounds (ds : Array Nat) (seq : List Nat) (usMain : Array Nat) (nup : Array Int)
    (mask : Option (Array Bool)) (hu : usMain.size = ds.size) (hn : nup.size = ds.size)
    (hm : ∀ m, mask = some m → m.size = ds.size) (hcl : Closed ds ds.size seq) :
    InB (classicOrderWithL ds seq usMain nup mask).2 :=
  sweepDown_in_bounds _ _ _ _ _ ds.size (by simp)
    (fun i o ho => by simp [trClassic, ho, hu, hn, CellTr_accOpt ds ds.size i Arr.mask mask hm]) hcl

/-- `streams.stream_distance` -/
theorem stream_distance_log_eq (ds : Array Nat) (seq : List Nat) (mask : Option (Array Bool)) (step : Nat → Nat → Int) :
    (streamDistanceL ds seq mask step).1 = streamDistanceModel ds seq mask step := sweepDown_log_eq ..

theorem stream_distance_in_bounds (ds : Array Nat) (seq : List Nat) (mask : Option (Array Bool))
    (step : Nat → Nat → Int) (hm : ∀ m, mask = some m → m.size = ds.size) (hcl : Closed ds ds.size seq) :
    InB (streamDistanceL ds seq mask step).2 :=
  sweepDown_in_bounds _ _ _ _ _ ds.size (initSeq_size ..)
    (fun i o ho => by simp [trDist, ho, CellTr_accOpt ds ds.size i Arr.mask mask hm]) hcl

/-- `dem.height_above_nearest_drain` -/
theorem hand_log_eq (ds : Array Nat) (seq : List Nat) (drain : Array Bool) (elev : Array Int) :
    (handL ds seq drain elev).1 = handModel ds seq drain elev := sweepDown_log_eq ..

theorem hand_in_bounds (ds : Array Nat) (seq : List Nat) (drain : Array Bool) (elev : Array Int)
    (hdr : drain.size = ds.size) (he : elev.size = ds.size) (hcl : Closed ds ds.size seq) :
    InB (handL ds seq drain elev).2 :=
  sweepDown_in_bounds _ _ _ _ _ ds.size (initSeq_size ..) (fun i o ho => by simp [trHand, ho, hdr, he]) hcl

/-- `dem.floodplains` (state = `(fldpln, drainz, drainh)` per cell) -/
theorem floodplains_log_eq (ds : Array Nat) (seq : List Nat) (P : FpParams) :
    (floodL ds seq P).1 = floodState ds seq P := sweepDown_log_eq ..

theorem floodplains_in_bounds (ds : Array Nat) (seq : List Nat) (P : FpParams)
    (hu : P.uparea.size = ds.size) (he : P.elev.size = ds.size) (hcl : Closed ds ds.size seq) :
    InB (floodL ds seq P).2 :=
  sweepDown_in_bounds _ _ _ _ _ ds.size (initSeq_size ..) (fun i o ho => by simp [trFlood, ho, hu, he]) hcl

/-! ### `streams.strahler_order`, `arithmetics.upstream_sum` (generic folds) -/

theorem strahler_log_eq (ds : Array Nat) (seq : List Nat) (mask : Option (Array Bool)) :
    (strahlerL ds seq mask).1 = strahlerState ds seq mask := foldrL_fst _ _ _ _

theorem strahler_in_bounds (ds : Array Nat) (seq : List Nat) (mask : Option (Array Bool))
    (hm : ∀ m, mask = some m → m.size = ds.size) (hcl : Closed ds ds.size seq) :
    InB (strahlerL ds seq mask).2 :=
  (foldrL_inv (strahlerStep ds mask) (trStrahler ds mask) (fun st => st.1.size = ds.size ∧ st.2.size = ds.size) _ seq
    (fun s i hi hs => ⟨⟨(size_strahlerStep ds mask i s).1.trans hs.1, (size_strahlerStep ds mask i s).2.trans hs.2⟩, (trStrahler_cell ds mask hm i s hs).inb (hcl i hi)⟩)
    (_, []) (by simp) InB_nil).2

theorem upstream_sum_log_eq (ds : Array Nat) (data : Array Int) (nodata : Int) :
    (upstreamSumL ds data nodata).1 = upstreamSumModel ds data nodata := foldlL_fst _ _ _ _

/-- all cells are visited, the cells outside the network included: the guard `idx_ds != mv` comes first -/
theorem upstream_sum_in_bounds (ds : Array Nat) (hwf : WF ds) (data : Array Int) (nodata : Int)
    (hd : data.size = ds.size) : InB (upstreamSumL ds data nodata).2 :=
  (foldlL_inv (upstreamSumStep ds data nodata) (trUpsum ds data nodata) (fun a => a.size = ds.size) _ _
    (fun s i hi hs => ⟨(upstreamSumStep_size ..).trans hs, trUpsum_inb ds hwf data nodata hd i (List.mem_range.1 hi) s hs⟩)
    (_, []) (by simp) InB_nil).2

/-! ### non-vacuity (part 1)

network of 10 cells: pits 3 and 7, confluences at 3 and 5, a cell outside the network (9, `ds = 10`);
`exSeq` is a downstream-first order of the 9 cells inside -/

def exDs : Array Nat := #[3, 0, 0, 3, 3, 6, 7, 7, 5, 10]
def exSeq : List Nat := [3, 7, 0, 4, 6, 1, 2, 5, 8]
def exData : Array Int := #[1, 2, -9999, 4, 5, 6, -9999, 8, 9, 3]
def exMask : Array Bool := #[true, false, true, true, true, true, false, true, true, false]

example : WF exDs := (C03.wfB_iff _).1 (by decide)
example : Closed exDs exDs.size exSeq := closed_wf ((C03.wfB_iff _).1 (by decide)) (by decide)
example : InB (accufluxL exDs exSeq exData (-9999)).2 ∧ (accufluxL exDs exSeq exData (-9999)).2.length > 30 := by
  decide +kernel
example : (accufluxL exDs exSeq exData (-9999)).1 = #[3, 2, -9999, 12, 5, 15, -9999, 8, 9, 3] := by decide +kernel
example : InB (fillnodataDownstreamL exDs exSeq exData (-9999) 2).2 := by decide +kernel
example : InB (classicOrderWithL exDs exSeq #[1, 10, 10, 0, 10, 8, 5, 6, 10, 10] (upstreamCount exDs (some exMask)) (some exMask)).2 := by
  decide +kernel
example : InB (strahlerL exDs exSeq (some exMask)).2 ∧ (strahlerL exDs exSeq (some exMask)).1.1[3]! = 2 := by
  decide +kernel
example : InB (upstreamSumL exDs exData (-9999)).2 := by decide +kernel
-- NEGATIVE: a sequence that is not closed (it holds cell 9, which lies outside the network): `data[idx_ds]` is
-- `data[10]` of a 10-slot array
example : ¬ InB (accufluxL exDs (exSeq ++ [9]) exData (-9999)).2 := by decide +kernel

/-! ### `dem.fill_depressions`: the neighbour loop

`fillL … lim md fuel queued` is the `while len(q) > 0` loop started from the outlets `queued`; `lim` says whether the
block `if max_depth >= 0:` of the source is executed. Every access is logged as an INTEGER pair `(r, c)`,
`r = r0 + dr`, `c = c0 + dc`, computed before the raster-bounds test as in the source. -/
open Pf.C06

/-- the raster-bounds test of the source (`r < 0 or r == nrow or c < 0 or c == ncol`, with `==`) is the `shift` of the
model (`>=`): a neighbour of a raster cell is at most one row / column outside -/
theorem fill_guard_eq_shift {G : Grid} {i0 : Nat} {conn : Nat} {o : Int × Int} (hi : i0 < G.n) (ho : o ∈ offsets conn) :
    shift G i0 o.1 o.2 =
      if outside G (((i0 / G.ncol : Nat) : Int) + o.1) (((i0 % G.ncol : Nat) : Int) + o.2) then none
      else some ((((i0 / G.ncol : Nat) : Int) + o.1).toNat * G.ncol + (((i0 % G.ncol : Nat) : Int) + o.2).toNat) :=
  shift_outside hi ho

/-- one neighbour visit, `max_depth >= 0`: the logging variant is `Pf.C06.visitD` -/
theorem fill_visit_log_eq_depth (G : Grid) (conn : Nat) (elev : Array Int) (nod : Array Bool) (md z0 : Int) (i0 : Nat)
    (s : StD) (o : Int × Int) (hi : i0 < G.n) (ho : o ∈ offsets conn) :
    (visitDL G conn elev nod true md z0 i0 s o).1 = visitD G conn elev nod md z0 i0 s o :=
  visitDL_fst_lim G conn elev nod md z0 i0 s o hi ho

/-- one neighbour visit, `max_depth < 0`: the logging variant is `Pf.C06.visit` -/
theorem fill_visit_log_eq (G : Grid) (conn : Nat) (elev : Array Int) (nod : Array Bool) (md z0 : Int) (i0 : Nat)
    (s : StD) (o : Int × Int) (hi : i0 < G.n) (ho : o ∈ offsets conn) :
    (visitDL G conn elev nod false md z0 i0 s o).1.toSt = visit G elev z0 i0 s.toSt o :=
  visitDL_fst_nolim G conn elev nod md z0 i0 s o hi ho

/-- one neighbour visit of a raster cell: every logged `(r, c)` lies in `[0, nrow) × [0, ncol)` - no hypothesis
on the rasters (`elevtn`, `done`, … may hold anything) -/
theorem fill_visit_in_bounds (G : Grid) (conn : Nat) (elev : Array Int) (nod : Array Bool) (lim : Bool) (md z0 : Int)
    (i0 : Nat) (s : StD) (o : Int × Int) (hi : i0 < G.n) (ho : o ∈ offsets conn) (hq : ∀ e ∈ s.q, e.idx < G.n) :
    InB2 G.nrow G.ncol (visitDL G conn elev nod lim md z0 i0 s o).2 :=
  (visitDL_inv G conn elev nod lim md z0 i0 s o hi ho hq).2

/-- the whole loop, `max_depth >= 0`: the state of the logging variant is the state of `fillLoopD` … -/
theorem fill_depressions_log_eq_depth (G : Grid) (conn : Nat) (elev : Array Int) (nod : Array Bool) (md : Int)
    (fuel : Nat) (queued : Array Bool) :
    (fillL G conn elev nod true md fuel queued).1 = fillLoopD G conn elev nod md fuel (initStateD G elev nod queued) :=
  (fillLoopDL_inv G conn elev nod true md fuel _ (initStateD_q G elev nod queued) (InB2_nil _ _)).2.1 rfl

/-- … hence `fillModelDepth` (the model of C06) is a projection of it -/
theorem fill_depressions_model_depth (G : Grid) (conn : Nat) (elev : Array Int) (nod : Array Bool)
    (pits : Option (List Nat)) (minMode : Bool) (elvMax : Option Int) (md : Int) (queued : Array Bool)
    (h : seedsOfE G conn elev nod pits minMode elvMax = .ok queued) :
    fillModelDepth G conn elev nod pits minMode elvMax md =
      .ok ((fillL G conn elev nod true md (fuelD G) queued).1.f, (fillL G conn elev nod true md (fuelD G) queued).1.d8,
           (fillL G conn elev nod true md (fuelD G) queued).1.q.isEmpty, (fillL G conn elev nod true md (fuelD G) queued).1.ev,
           (fillL G conn elev nod true md (fuelD G) queued).1.evc) := by
  unfold fillModelDepth
  rw [h, fill_depressions_log_eq_depth]

/-- the whole loop, `max_depth < 0`: `fillLoop` -/
theorem fill_depressions_log_eq (G : Grid) (conn : Nat) (elev : Array Int) (nod : Array Bool) (md : Int)
    (fuel : Nat) (queued : Array Bool) :
    (fillL G conn elev nod false md fuel queued).1.toSt = fillLoop G conn elev fuel (initState G elev nod queued) :=
  (fillLoopDL_inv G conn elev nod false md fuel _ (initStateD_q G elev nod queued) (InB2_nil _ _)).2.2 rfl

theorem fill_depressions_model (G : Grid) (conn : Nat) (elev : Array Int) (nod : Array Bool)
    (pits : Option (List Nat)) (minMode : Bool) (elvMax : Option Int) (md : Int) (queued : Array Bool)
    (h : seedsOfE G conn elev nod pits minMode elvMax = .ok queued) :
    fillModelE G conn elev nod pits minMode elvMax =
      .ok ((fillL G conn elev nod false md (G.n + 1) queued).1.f, (fillL G conn elev nod false md (G.n + 1) queued).1.d8,
           (fillL G conn elev nod false md (G.n + 1) queued).1.q.isEmpty) := by
  have e := fill_depressions_log_eq G conn elev nod md (G.n + 1) queued
  unfold fillModelE
  rw [h]
  dsimp only
  rw [← e]
  rfl

/-- every `(r, c)` the loop uses to index `elevtn`, `done`, `queued`, `delv`, `elevtn_out`, `d8`, `isnodata` lies in the
raster, the initial heap pushes included: for EVERY raster shape, elevation, nodata pattern, connectivity, depth
limit, outlet set and fuel - no hypothesis -/
theorem fill_depressions_in_bounds (G : Grid) (conn : Nat) (elev : Array Int) (nod : Array Bool) (lim : Bool) (md : Int)
    (fuel : Nat) (queued q0 : Array Bool) :
    InB2 G.nrow G.ncol ((fillL G conn elev nod lim md fuel queued).2 ++ initHeapLog G q0) := by
  rw [InB2_append]
  exact ⟨(fillLoopDL_inv G conn elev nod lim md fuel _ (initStateD_q G elev nod queued) (InB2_nil _ _)).1,
    initHeapLog_inb G q0⟩

/-! non-vacuity: a 3 x 4 raster with a nodata cell and a two-level depression; depth limit 1 -/

def exG : Grid := ⟨3, 4⟩
def exElev : Array Int := #[5, 5, 5, 5, 5, 1, 3, -9999, 5, 5, 5, 5]
def exNod : Array Bool := exElev.map (· == -9999)
def exSeeds : Array Bool := getEdge exG 8 exNod

example : InB2 3 4 (fillL exG 8 exElev exNod true 1 (fuelD exG) exSeeds).2 ∧
    (fillL exG 8 exElev exNod true 1 (fuelD exG) exSeeds).2.length > 40 ∧
    (fillL exG 8 exElev exNod true 1 (fuelD exG) exSeeds).1.ev > 0 := by decide +kernel
example : InB2 3 4 (fillL exG 4 exElev exNod false (-1) 13 exSeeds).2 ∧
    (fillL exG 4 exElev exNod false (-1) 13 exSeeds).1.f[5]! = 3 := by decide +kernel
-- NEGATIVE (F13): consulting `done[r, c]` before the raster-bounds test logs `(-1, -1)` at the corner cell 0 and
-- `(3, 4)` at the corner cell 11
example : ¬ InB2 3 4 (visitBadL exG 0 (-1, -1)) ∧ ¬ InB2 3 4 (visitBadL exG 11 (1, 1)) ∧
    InB2 3 4 (visitBadL exG 5 (1, 1)) := by decide +kernel
-- the guard of the current source skips these offsets without any access
example : (visitDL exG 8 exElev exNod true 1 5 0 (initStateD exG exElev exNod exSeeds) (-1, -1)).2 = [] := by
  decide +kernel

/-! ### `dem._adjust_elevation`: the index ranges stay within the profile

`imin .. i`, `0 .. imax`, `j0 .. max(imax + 1, j1)`, the scans `range(i0, imin + 1)` / `range(i1, i + 1)` and the scalar
reads `elevtn[i]`, `elevtn[imax]`, `elevtn[imin]`, `elevtn[0]`, `elevtn[-1]` -/

theorem adjust_elevation_1d_log_eq (l : List Int) : (adjust1dL l).1.e.toList = adjust1d l := by
  unfold adjust1dL adjust1d
  rw [foldlL_fst]

/-- for every non-empty profile (the source reads `elevtn[0]`: it fails on an empty one) every index used on the
profile is `<` its length -/
theorem adjust_elevation_1d_in_bounds (l : List Int) (hl : l ≠ []) : InB (adjust1dL l).2 := by
  have hn : 0 < l.length := List.length_pos_iff.2 hl
  refine (foldlL_inv (a1Step l.length) (a1StepLog l.length) (AdjInv l.length) _ _
    (fun s i hi hs => ⟨a1Step_inv _ s i (List.mem_range.1 hi) hs, a1StepLog_inb _ s i (List.mem_range.1 hi) hs⟩)
    (a1Init l.toArray, _) (by simp [AdjInv, a1Init, hn]) ?_).2
  simp only [← InB.eq_1, InB_cons, InB_nil, acc_idx, acc_size, List.size_toArray, and_true]
  omega

-- non-vacuity: a profile with two pits (dig / fill / dig & fill candidates are all formed)
example : InB (adjust1dL [9, 4, 7, 3, 8, 2, 5, 1]).2 ∧ (adjust1dL [9, 4, 7, 3, 8, 2, 5, 1]).2.length > 40 ∧
    (adjust1dL [9, 4, 7, 3, 8, 2, 5, 1]).1.e.toList ≠ [9, 4, 7, 3, 8, 2, 5, 1] := by decide +kernel

end Pf.C13b2
