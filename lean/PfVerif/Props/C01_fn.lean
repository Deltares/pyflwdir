import PfVerif.Generated.Funcs
import PfVerif.Model.C09
import PfVerif.Model.C10
import PfVerif.Model.C01_ext
import PfVerif.Proofs.C01_fn
import PfVerif.Proofs.C01_tables
/-! # C01_fn - translator tie for the straight-line integer functions

`Generated/Funcs.lean` is rewritten from /repo's working tree on every run (`harness/extract_fn.py`: Python `//` =
`Int.fdiv`, `%` = `Int.fmod`, statement by statement). Each obligation below says that the *generated* def equals the
*hand-written* model function the other properties' theorems are about (C09 / C10: `subidx2idx`, `inD8`, `cellEdge`,
`cellOf`; C01_ext: `downstreamIdx`), on the documented domain (non-negative indices and sizes, uint8 codes) - for ALL
such inputs, not for sampled ones. The proofs normalise `fdiv`/`fmod` on casts to `Nat` `/`, `%` and close with
`grind`, so an algebraically equivalent rewrite of the Python source still goes through; a different formula
makes the named theorem fail to build (check.py then searches a failing input with the escalated budget).
A function that leaves the translated fragment is emitted as `unsupported_<name>`; `Fn.<name>` is then unknown and
the obligation fails as well. -/
namespace Pf.C01fn
open Pf Pf.Generated Pf.FnBridge

/-! ## `upscale.subidx_2_idx`, `in_d8`, `cell_edge` -/

/-- generated `subidx_2_idx` = the model of C09 (`Pf.subidx2idx`), all non-negative arguments (zero sizes included:
`Int.fdiv x 0 = 0 = x / 0`; Python raises there) -/
theorem gen_subidx_2_idx_eq_model (subidx subncol cs ncol : Nat) :
    Fn.subidx_2_idx subidx subncol cs ncol = ((Pf.subidx2idx subidx subncol cs ncol : Nat) : Int) := by
  simp only [Fn.subidx_2_idx, Pf.subidx2idx, fdiv_nat, fmod_nat]
  -- what is left differs at most in how the sum and the product are written
  grind

/-- … = the model of C10 (`C10.cellOf`, other argument order) -/
theorem gen_subidx_2_idx_eq_model_C10 (subidx subncol cs ncol : Nat) :
    Fn.subidx_2_idx subidx subncol cs ncol = ((Pf.C10.cellOf subncol cs ncol subidx : Nat) : Int) :=
  gen_subidx_2_idx_eq_model subidx subncol cs ncol

/-- … = the division-free declarative definition: the coarse cell whose block of pixels contains `subidx` -/
theorem gen_subidx_2_idx_eq_spec (subidx subncol cs ncol : Nat) (h1 : 0 < subncol) (h2 : 0 < cs) :
    Fn.subidx_2_idx subidx subncol cs ncol = ((Pf.FnSpec.cellOf subidx subncol cs ncol : Nat) : Int) := by
  rw [FnSpec.cellOf_eq_model _ _ _ _ h1 h2]
  exact gen_subidx_2_idx_eq_model subidx subncol cs ncol

example : Fn.subidx_2_idx 57 10 3 4 = 6 := by decide
example : Pf.FnSpec.cellOf 57 10 3 4 = 6 := by decide

/-- generated `in_d8` = the model of C09 (`Pf.inD8`) -/
theorem gen_in_d8_eq_model (idx0 idxds ncol : Nat) :
    Fn.in_d8 idx0 idxds ncol = Pf.inD8 idx0 idxds ncol := by
  simp only [Fn.in_d8, FnSpec.inD8_int, Fn.pyAbs, fdiv_nat, fmod_nat]
  generalize ((idx0 / ncol : Nat) : Int) = r0
  generalize ((idxds / ncol : Nat) : Int) = r1
  generalize ((idx0 % ncol : Nat) : Int) = c0
  generalize ((idxds % ncol : Nat) : Int) = c1
  -- two Boolean combinations of linear comparisons over `r0 r1 c0 c1`, whatever their shape (`and`/`or`/`not`, `if`,
  -- early `return False`, `abs`)
  grind

/-- … = the declarative definition: some offset in `{-1,0,1}²` leads from the (row, column) of one to the other -/
theorem gen_in_d8_eq_spec (idx0 idxds ncol : Nat) (h : 0 < ncol) :
    Fn.in_d8 idx0 idxds ncol = Pf.FnSpec.near idx0 idxds ncol := by
  rw [FnSpec.near_eq_model _ _ _ h]
  exact gen_in_d8_eq_model idx0 idxds ncol

example : Fn.in_d8 11 17 5 = true ∧ Fn.in_d8 11 18 5 = false ∧ Fn.in_d8 9 10 5 = false := by decide

/-- generated `cell_edge` = the model of C09 (`Pf.cellEdge`) -/
theorem gen_cell_edge_eq_model (subidx subncol cs : Nat) :
    Fn.cell_edge subidx subncol cs = Pf.cellEdge subidx subncol cs := by
  simp only [Fn.cell_edge, Pf.cellEdge, fdiv_nat, fmod_nat]
  generalize (subidx / subncol) % cs = ri
  generalize (subidx % subncol) % cs = ci
  grind

/-- … = the model of C10 (`C10.cellEdge`) -/
theorem gen_cell_edge_eq_model_C10 (subidx subncol cs : Nat) :
    Fn.cell_edge subidx subncol cs = Pf.C10.cellEdge subncol cs subidx :=
  gen_cell_edge_eq_model subidx subncol cs

example : Fn.cell_edge 44 10 3 = false ∧ Fn.cell_edge 45 10 3 = true ∧ Fn.cell_edge 34 10 3 = true := by decide

/-! ## `core_d8._downstream_idx`, `core_ldd._downstream_idx` -/

/-- the extracted `drdc` tables equal the model's `drdc` on **all** 256 uint8 values (the obligation of `Props/C01`
covers the legal alphabet); `(99, 99)` is the default the generated lookup returns outside the table -/
theorem gen_d8_drdc_eq_model : ∀ v, v < 256 → Generated.d8Drdc.getD v (99, 99) = Fd.d8Drdc v := fun v hv => by
  rw [Fd.gen_d8Drdc_eq, Fd.getD_map_range _ hv]
theorem gen_ldd_drdc_eq_model : ∀ v, v < 256 → Generated.lddDrdc.getD v (99, 99) = Fd.lddDrdc v := fun v hv => by
  rw [Fd.gen_lddDrdc_eq, Fd.getD_map_range _ hv]

/-- generated `core_d8._downstream_idx` = the model of C01_ext (`Fd.downstreamIdxD8`) for every shape, every code
array read at a cell with a uint8 value, `mv` canonicalised to `nrow * ncol` as the harness does -/
theorem gen_d8_downstream_idx_eq_model (nrow ncol : Nat) (codes : Array Nat) (idx0 : Nat) (hc : codes[idx0]! < 256) :
    Fn.d8_downstream_idx idx0 (fun i => codes[i.toNat]!) (nrow, ncol) ((nrow * ncol : Nat) : Int)
      = ((Fd.downstreamIdxD8 nrow ncol codes idx0 : Nat) : Int) := by
  simp only [Fn.d8_downstream_idx, Fn.d8DrdcAt, Fd.downstreamIdxD8, downstreamIdx_cast, fdiv_nat, fmod_nat,
    Int.toNat_natCast, gen_d8_drdc_eq_model _ hc]
  generalize Fd.d8Drdc codes[idx0]! = d
  generalize ((idx0 / ncol : Nat) : Int) + d.1 = r
  generalize ((idx0 % ncol : Nat) : Int) + d.2 = c
  -- both sides choose between `c + r * ncol` and `nrow * ncol` by a bounds test on `r`, `c`, written in whatever way
  grind

theorem gen_ldd_downstream_idx_eq_model (nrow ncol : Nat) (codes : Array Nat) (idx0 : Nat) (hc : codes[idx0]! < 256) :
    Fn.ldd_downstream_idx idx0 (fun i => codes[i.toNat]!) (nrow, ncol) ((nrow * ncol : Nat) : Int)
      = ((Fd.downstreamIdxLdd nrow ncol codes idx0 : Nat) : Int) := by
  simp only [Fn.ldd_downstream_idx, Fn.lddDrdcAt, Fd.downstreamIdxLdd, downstreamIdx_cast, fdiv_nat, fmod_nat,
    Int.toNat_natCast, gen_ldd_drdc_eq_model _ hc]
  generalize Fd.lddDrdc codes[idx0]! = d
  generalize ((idx0 / ncol : Nat) : Int) + d.1 = r
  generalize ((idx0 % ncol : Nat) : Int) + d.2 = c
  grind

/-- the out-of-raster answer is whatever `mv` the caller passes (the library passes `core._mv`) -/
theorem gen_d8_downstream_idx_mv (nrow ncol : Nat) (codes : Array Nat) (idx0 : Nat) (mv : Int)
    (hc : codes[idx0]! < 256) (hout : Fd.downstreamIdxD8 nrow ncol codes idx0 = nrow * ncol) :
    Fn.d8_downstream_idx idx0 (fun i => codes[i.toNat]!) (nrow, ncol) mv = mv := by
  have h0 := gen_d8_downstream_idx_eq_model nrow ncol codes idx0 hc
  rw [hout] at h0
  simp only [Fn.d8_downstream_idx] at h0 ⊢
  generalize Int.fdiv (idx0 : Int) ncol + _ = r at *
  generalize Int.fmod (idx0 : Int) ncol + _ = c at *
  -- whichever way the source writes the bounds test: in the out-of-range branch the answer is `mv` itself; the in-range
  -- branch is impossible, because there the generated value for `mv = nrow * ncol` (`h0`) would be
  -- `c + r * ncol < nrow * ncol`
  have := @inb_lt r c nrow ncol
  grind

example : Fn.d8_downstream_idx 4 (fun i => (#[0, 1, 2, 4, 8, 16, 32, 64, 128] : Array Nat)[i.toNat]!) (3, 3) 9 = 6 ∧
    Fn.d8_downstream_idx 2 (fun i => (#[0, 1, 2, 4, 8, 16, 32, 64, 128] : Array Nat)[i.toNat]!) (3, 3) 9 = 9 ∧
    Fn.ldd_downstream_idx 4 (fun i => (#[5, 5, 5, 5, 9, 5, 5, 5, 5] : Array Nat)[i.toNat]!) (3, 3) 9 = 2 := by decide

end Pf.C01fn
