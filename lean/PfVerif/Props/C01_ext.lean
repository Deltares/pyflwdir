import PfVerif.Proofs.C01_ext
import PfVerif.Proofs.C01_extNup
import PfVerif.Props.C01
/-! # C01 extension — the per-cell helpers of the flow-direction formats, the degree queries and the
composed `from_array` theorem

Models: `Model/C01_ext.lean` (`core_d8|core_ldd._downstream_idx`, `core_d8|core_ldd._upstream_idx`, `ispit` /
`isnodata` of the three formats, `core.headwater_indices`, `core.confluence_indices`). Specification tables:
the hand-typed compass / keypad tables `Spec.d8Dirs`, `Spec.lddDirs`, pit and nodata codes of
`Model/C01.lean` — nothing is retyped.

Every theorem holds for **every** shape `nrow × ncol` (`1 × N`, `N × 1` included; a cell `i < nrow * ncol`
exists only when both are positive), every raster over `uint8` codes unless a legality hypothesis is written
out, and every cell. The missing value `core._mv` is `nrow * ncol` (`ds.size` for networks).

`_downstream_idx` is **not** the rule of `from_array`: a link that leaves the raster gives the missing value
(there: a pit), the target's nodata is not looked at (there: a pit); `d8_downstream_vs_decode` and its LDD twin
state the exact relation. At a *nodata code* the helper is outside the property (nodata cells are not part of the graph);
what the code does there is recorded by `d8_downstream_nodata` (the cell itself) and `ldd_downstream_nodata`
(`drdc(255) = (-1, -9)`: the cell nine columns to the left in the row above, or the missing value). -/
namespace Pf.C01x
open Pf Pf.Fd Pf.Fd.Spec Pf.Fd.Ext

/-! ## 1. regenerated tables -/

/-- the model's `drdc` functions are what /repo contains on **all** 256 `uint8` values (the obligation of
`Props/C01.lean` covers the legal alphabet; `_downstream_idx` is modelled on every code) -/
theorem drdc_all_codes_ok :
    (∀ v, v < 256 → Generated.d8Drdc[v]! = d8Drdc v) ∧ (∀ v, v < 256 → Generated.lddDrdc[v]! = lddDrdc v) :=
  ⟨fun _ => gen_d8Drdc_get!, fun _ => gen_lddDrdc_get!⟩

/-- the `_us` tables of /repo are the model's -/
theorem us_tables_ok : Generated.d8Us = d8Us ∧ Generated.lddUs = lddUs := by decide

/-- the `_us` tables agree with the hand-typed direction tables: the entry at offset `(dr, dc)` is the code
whose compass / keypad delta is `(-dr, -dc)`, every direction code occurs (at the opposite of its delta), no
direction code is a pit or nodata code -/
theorem d8_us_ok : usOK d8Dirs d8Pits d8Nodata d8Us = true := by decide +kernel
theorem ldd_us_ok : usOK lddDirs lddPits lddNodata lddUs = true := by decide +kernel

/-! ## 2. `_downstream_idx` -/

/-- D8 `_downstream_idx`, compass form: a cell with direction code `v ↦ (dr, dc)` of the compass table
(1=E, 2=SE, 4=S, 8=SW, 16=W, 32=NW, 64=N, 128=NE) gets the cell at `(row + dr, col + dc)` — proved to have
that row and column — iff this position is on the raster, and the missing value otherwise. -/
theorem d8_downstream_idx (nrow ncol : Nat) (codes : Array Nat) (i : Nat) (hi : i < nrow * ncol)
    (dr dc : Int) (hv : (codes[i]!, (dr, dc)) ∈ d8Dirs) :
    let k := downstreamIdxD8 nrow ncol codes i
    let r : Int := (i / ncol : Nat) + dr
    let c : Int := (i % ncol : Nat) + dc
    (inRaster nrow ncol r c = true →
      k = cellIdx ncol r c ∧ k < nrow * ncol ∧ ((k / ncol : Nat) : Int) = r ∧ ((k % ncol : Nat) : Int) = c) ∧
    (inRaster nrow ncol r c = false → k = nrow * ncol) :=
  (tab_downstream_cases C01.d8_drdc_ok d8_us_ok nrow ncol codes i hi).2 (dr, dc) hv

/-- the same for LDD, keypad `7 8 9 / 4 5 6 / 1 2 3` -/
theorem ldd_downstream_idx (nrow ncol : Nat) (codes : Array Nat) (i : Nat) (hi : i < nrow * ncol)
    (dr dc : Int) (hv : (codes[i]!, (dr, dc)) ∈ lddDirs) :
    let k := downstreamIdxLdd nrow ncol codes i
    let r : Int := (i / ncol : Nat) + dr
    let c : Int := (i % ncol : Nat) + dc
    (inRaster nrow ncol r c = true →
      k = cellIdx ncol r c ∧ k < nrow * ncol ∧ ((k / ncol : Nat) : Int) = r ∧ ((k % ncol : Nat) : Int) = c) ∧
    (inRaster nrow ncol r c = false → k = nrow * ncol) :=
  (tab_downstream_cases C01.ldd_drdc_ok ldd_us_ok nrow ncol codes i hi).2 (dr, dc) hv

/-- a pit code (D8: 0 and 255, LDD: 5) gives the cell itself -/
theorem downstream_idx_pit (nrow ncol : Nat) (codes : Array Nat) (i : Nat) (hi : i < nrow * ncol) :
    (codes[i]! ∈ d8Pits → downstreamIdxD8 nrow ncol codes i = i) ∧
    (codes[i]! ∈ lddPits → downstreamIdxLdd nrow ncol codes i = i) :=
  ⟨(tab_downstream_cases C01.d8_drdc_ok d8_us_ok nrow ncol codes i hi).1,
   (tab_downstream_cases C01.ldd_drdc_ok ldd_us_ok nrow ncol codes i hi).1⟩

/-- `_downstream_idx` = the declarative reading `Spec.downOf` on every legal code other than nodata, both
formats (the statement the driver's `spec.down` is compared under) -/
theorem downstream_eq_spec (nrow ncol : Nat) (codes : Array Nat) (i : Nat) (hi : i < nrow * ncol) :
    (codes[i]! ∈ d8Alphabet → codes[i]! ≠ d8Nodata →
      downstreamIdxD8 nrow ncol codes i = downOf nrow ncol (readD8 ncol codes) i) ∧
    (codes[i]! ∈ lddAlphabet → codes[i]! ≠ lddNodata →
      downstreamIdxLdd nrow ncol codes i = downOf nrow ncol (readLdd ncol codes) i) :=
  ⟨tab_downstream_eq C01.d8_drdc_ok nrow ncol codes i hi, tab_downstream_eq C01.ldd_drdc_ok nrow ncol codes i hi⟩

/-- what the code does at a D8 nodata code (outside the property): `drdc(247) = (0, 0)`, the cell itself -/
theorem d8_downstream_nodata (nrow ncol : Nat) (codes : Array Nat) (i : Nat) (hi : i < nrow * ncol)
    (h : codes[i]! = d8Nodata) : downstreamIdxD8 nrow ncol codes i = i :=
  downstreamIdx_zero nrow ncol codes i hi (by rw [h]; decide +kernel)

/-- what the code does at an LDD nodata code (outside the property): `drdc(255) = (-1, -9)`, so the result is
the cell nine columns to the left in the row above when that is on the raster, and the missing value
otherwise — *not* the cell itself -/
theorem ldd_downstream_nodata (nrow ncol : Nat) (codes : Array Nat) (i : Nat) (h : codes[i]! = lddNodata) :
    downstreamIdxLdd nrow ncol codes i =
      if inRaster nrow ncol (((i / ncol : Nat) : Int) + -1) (((i % ncol : Nat) : Int) + -9)
      then cellIdx ncol (((i / ncol : Nat) : Int) + -1) (((i % ncol : Nat) : Int) + -9) else nrow * ncol := by
  have hd : lddDrdc codes[i]! = (-1, -9) := by rw [h]; decide +kernel
  unfold downstreamIdxLdd
  rw [downstreamIdx_eq, hd]

/-- `_downstream_idx` next to the decoded graph of `core_d8.from_array` (legal rasters), case by case:
* nodata cell: outside the decoded graph;
* pit code: both give the cell itself;
* direction code whose designated neighbour is on the raster and not nodata: `_downstream_idx` **equals** the
  decoded `idxs_ds` (and is that neighbour);
* neighbour on the raster but nodata: decoded as a pit, `_downstream_idx` still returns the neighbour;
* neighbour off the raster: decoded as a pit, `_downstream_idx` returns the missing value. -/
theorem d8_downstream_vs_decode (nrow ncol : Nat) (codes : Array Nat)
    (hlegal : ∀ i, i < nrow * ncol → codes[i]! ∈ d8Alphabet) (i : Nat) (hi : i < nrow * ncol) :
    let dec := (fromArrayD8 nrow ncol codes).ds[i]!
    let k := downstreamIdxD8 nrow ncol codes i
    (codes[i]! = d8Nodata → dec = nrow * ncol) ∧
    (codes[i]! ∈ d8Pits → dec = i ∧ k = i) ∧
    (∀ d, (codes[i]!, d) ∈ d8Dirs →
      let r : Int := ((i / ncol : Nat) : Int) + d.1
      let c : Int := ((i % ncol : Nat) : Int) + d.2
      (inRaster nrow ncol r c = true → codes[cellIdx ncol r c]! ≠ d8Nodata → dec = cellIdx ncol r c ∧ k = cellIdx ncol r c) ∧
      (inRaster nrow ncol r c = true → codes[cellIdx ncol r c]! = d8Nodata → dec = i ∧ k = cellIdx ncol r c) ∧
      (inRaster nrow ncol r c = false → dec = i ∧ k = nrow * ncol)) :=
  tab_down_vs_decode C01.d8_drdc_ok d8_us_ok nrow ncol codes hlegal i hi

/-- the same for `core_ldd` -/
theorem ldd_downstream_vs_decode (nrow ncol : Nat) (codes : Array Nat)
    (hlegal : ∀ i, i < nrow * ncol → codes[i]! ∈ lddAlphabet) (i : Nat) (hi : i < nrow * ncol) :
    let dec := (fromArrayLdd nrow ncol codes).ds[i]!
    let k := downstreamIdxLdd nrow ncol codes i
    (codes[i]! = lddNodata → dec = nrow * ncol) ∧
    (codes[i]! ∈ lddPits → dec = i ∧ k = i) ∧
    (∀ d, (codes[i]!, d) ∈ lddDirs →
      let r : Int := ((i / ncol : Nat) : Int) + d.1
      let c : Int := ((i % ncol : Nat) : Int) + d.2
      (inRaster nrow ncol r c = true → codes[cellIdx ncol r c]! ≠ lddNodata → dec = cellIdx ncol r c ∧ k = cellIdx ncol r c) ∧
      (inRaster nrow ncol r c = true → codes[cellIdx ncol r c]! = lddNodata → dec = i ∧ k = cellIdx ncol r c) ∧
      (inRaster nrow ncol r c = false → dec = i ∧ k = nrow * ncol)) :=
  tab_down_vs_decode C01.ldd_drdc_ok ldd_us_ok nrow ncol codes hlegal i hi

/-- the headline relation: for a non-nodata, non-pit cell (direction code) whose designated neighbour is on
the raster and not nodata, `_downstream_idx` is the decoded `idxs_ds` of `from_array` -/
theorem downstream_eq_decoded (nrow ncol : Nat) (codes : Array Nat) (i : Nat) (hi : i < nrow * ncol) :
    ((∀ j, j < nrow * ncol → codes[j]! ∈ d8Alphabet) → ∀ d, (codes[i]!, d) ∈ d8Dirs →
      inRaster nrow ncol (((i / ncol : Nat) : Int) + d.1) (((i % ncol : Nat) : Int) + d.2) = true →
      codes[cellIdx ncol (((i / ncol : Nat) : Int) + d.1) (((i % ncol : Nat) : Int) + d.2)]! ≠ d8Nodata →
      downstreamIdxD8 nrow ncol codes i = (fromArrayD8 nrow ncol codes).ds[i]!) ∧
    ((∀ j, j < nrow * ncol → codes[j]! ∈ lddAlphabet) → ∀ d, (codes[i]!, d) ∈ lddDirs →
      inRaster nrow ncol (((i / ncol : Nat) : Int) + d.1) (((i % ncol : Nat) : Int) + d.2) = true →
      codes[cellIdx ncol (((i / ncol : Nat) : Int) + d.1) (((i % ncol : Nat) : Int) + d.2)]! ≠ lddNodata →
      downstreamIdxLdd nrow ncol codes i = (fromArrayLdd nrow ncol codes).ds[i]!) := by
  constructor
  · intro hl d hd hin hne
    obtain ⟨e1, e2⟩ := ((d8_downstream_vs_decode nrow ncol codes hl i hi).2.2 d hd).1 hin hne
    rw [e1]; exact e2
  · intro hl d hd hin hne
    obtain ⟨e1, e2⟩ := ((ldd_downstream_vs_decode nrow ncol codes hl i hi).2.2 d hd).1 hin hne
    rw [e1]; exact e2

/-- `Spec.downOf` next to `Spec.dsOf` for **any** reading (D8, LDD, NEXTXY, masked): they agree exactly on pits
and on links whose target is on the raster and not nodata -/
theorem downOf_vs_graph (nrow ncol : Nat) (read : Nat → Code) (i : Nat) :
    (read i = .nodata → dsOf nrow ncol read i = nrow * ncol ∧ downOf nrow ncol read i = i) ∧
    (read i = .pit → dsOf nrow ncol read i = i ∧ downOf nrow ncol read i = i) ∧
    (∀ r c, read i = .to r c →
      (inRaster nrow ncol r c = true → read (cellIdx ncol r c) ≠ .nodata →
        dsOf nrow ncol read i = cellIdx ncol r c ∧ downOf nrow ncol read i = cellIdx ncol r c) ∧
      (inRaster nrow ncol r c = true → read (cellIdx ncol r c) = .nodata →
        dsOf nrow ncol read i = i ∧ downOf nrow ncol read i = cellIdx ncol r c) ∧
      (inRaster nrow ncol r c = false → dsOf nrow ncol read i = i ∧ downOf nrow ncol read i = nrow * ncol)) :=
  downOf_vs_dsOf nrow ncol read i

/-! ## 3. `_upstream_idx` -/

/-- loop order: the list `_upstream_idx` returns is the list of accepted candidates of the eight offsets
`(-1,-1), (-1,0), (-1,1), (0,-1), (0,1), (1,-1), (1,0), (1,1)` in this (increasing `(dr, dc)`) order; a candidate
is accepted iff it is on the raster and its code equals the `_us` entry of the offset -/
theorem upstream_loop_order (us : List Nat) (nrow ncol : Nat) (codes : Array Nat) (i : Nat) :
    upstreamIdx us nrow ncol codes i = offs8.filterMap (fun o => usCand us nrow ncol codes i o.1 o.2) ∧
    ∀ dr dc j, usCand us nrow ncol codes i dr dc = some j ↔
      ¬ (dr = 0 ∧ dc = 0) ∧ inRaster nrow ncol (((i / ncol : Nat) : Int) + dr) (((i % ncol : Nat) : Int) + dc) = true ∧
      j = cellIdx ncol (((i / ncol : Nat) : Int) + dr) (((i % ncol : Nat) : Int) + dc) ∧
      codes[j]! = us[((dr + 1) * 3 + (dc + 1)).toNat]! :=
  ⟨upstreamIdx_eq_filterMap us nrow ncol codes i, fun _ _ _ => usCand_some⟩

/-- order and duplicates: the returned indices are strictly increasing — the loop order `(dr, dc)` is the
order of the linear indices — hence duplicate free; at most eight. For every `_us` table, raster and cell. -/
theorem upstream_sorted_nodup (us : List Nat) (nrow ncol : Nat) (codes : Array Nat) (i : Nat) :
    (upstreamIdx us nrow ncol codes i).Pairwise (· < ·) ∧ (upstreamIdx us nrow ncol codes i).Nodup ∧
    (upstreamIdx us nrow ncol codes i).length ≤ 8 := by
  have h := upstreamIdx_sorted us nrow ncol codes i
  refine ⟨h, h.imp (fun hab => Nat.ne_of_lt hab), ?_⟩
  rw [upstreamIdx_eq_filterMap]
  exact List.length_filterMap_le _ _

/-- D8 `_upstream_idx`, full characterisation (every raster over `uint8`, no legality hypothesis):
`j` is returned for cell `i` iff `j` is a cell of the raster, `j ≠ i`, `j` is an 8-neighbour of `i`, the code of
`j` is a direction code of the compass table (not a pit code, not nodata, not an illegal value) and
`_downstream_idx(j) = i` -/
theorem d8_upstream_iff (nrow ncol : Nat) (codes : Array Nat) (i : Nat) (hi : i < nrow * ncol) (j : Nat) :
    j ∈ upstreamIdxD8 nrow ncol codes i ↔
      j < nrow * ncol ∧ j ≠ i ∧ nbr8 ncol i j ∧ (∃ d, (codes[j]!, d) ∈ d8Dirs) ∧
      downstreamIdxD8 nrow ncol codes j = i :=
  tab_upstream_iff C01.d8_drdc_ok d8_us_ok nrow ncol codes i hi j

/-- the same for LDD -/
theorem ldd_upstream_iff (nrow ncol : Nat) (codes : Array Nat) (i : Nat) (hi : i < nrow * ncol) (j : Nat) :
    j ∈ upstreamIdxLdd nrow ncol codes i ↔
      j < nrow * ncol ∧ j ≠ i ∧ nbr8 ncol i j ∧ (∃ d, (codes[j]!, d) ∈ lddDirs) ∧
      downstreamIdxLdd nrow ncol codes j = i :=
  tab_upstream_iff C01.ldd_drdc_ok ldd_us_ok nrow ncol codes i hi j

/-- on a legal D8 raster the code condition is implied: `j` is returned iff `j ≠ i` is a cell with
`_downstream_idx(j) = i` (pit and nodata codes give `j` itself). Not true for LDD, where a nodata cell has
`_downstream_idx` = the cell at `(-1, -9)` (`ldd_downstream_nodata`). -/
theorem d8_upstream_iff_legal (nrow ncol : Nat) (codes : Array Nat)
    (hlegal : ∀ j, j < nrow * ncol → codes[j]! ∈ d8Alphabet) (i : Nat) (hi : i < nrow * ncol) (j : Nat) :
    j ∈ upstreamIdxD8 nrow ncol codes i ↔ j < nrow * ncol ∧ j ≠ i ∧ downstreamIdxD8 nrow ncol codes j = i := by
  rw [d8_upstream_iff nrow ncol codes i hi j]
  constructor
  · rintro ⟨h1, h2, _, _, h5⟩; exact ⟨h1, h2, h5⟩
  · rintro ⟨h1, h2, h5⟩
    have hd : ∃ d, (codes[j]!, d) ∈ d8Dirs := by
      have hl := hlegal j h1
      simp only [d8Alphabet, alphabet, List.mem_append, List.mem_map, List.mem_singleton] at hl
      rcases hl with (⟨p, hp, e⟩ | hp) | hn
      · exact ⟨p.2, by rw [← e]; exact hp⟩
      · exact absurd ((downstream_idx_pit nrow ncol codes j h1).1 hp ▸ h5) (fun e => h2 e)
      · exact absurd ((d8_downstream_nodata nrow ncol codes j h1 hn) ▸ h5) (fun e => h2 e)
    have hm : j ∈ upstreamIdxD8 nrow ncol codes i := by
      rw [upstreamIdxD8, tab_mem_upstream d8_us_ok nrow ncol codes i hi j]
      obtain ⟨d, hd'⟩ := hd
      obtain ⟨n1, _, _⟩ := usOK_mem d8_us_ok hd'
      refine ⟨h1, h2, ?_⟩
      rw [← tab_downstream_eq C01.d8_drdc_ok nrow ncol codes j h1 (mem_alphabet_of_dir hd') n1]; exact h5
    exact (d8_upstream_iff nrow ncol codes i hi j).1 hm

/-- `_upstream_idx` = the declarative upstream list `Spec.upOf` (all cells `j ≠ i` of the raster that
designate `i` under the hand-typed tables, in increasing order) — equality of lists, every raster over
`uint8`, both formats (the statement the driver's `spec.up` is compared under) -/
theorem upstream_eq_spec (nrow ncol : Nat) (codes : Array Nat) (i : Nat) (hi : i < nrow * ncol) :
    upstreamIdxD8 nrow ncol codes i = upOf nrow ncol (readD8 ncol codes) i ∧
    upstreamIdxLdd nrow ncol codes i = upOf nrow ncol (readLdd ncol codes) i :=
  ⟨tab_upstream_eq d8_us_ok nrow ncol codes i hi, tab_upstream_eq ldd_us_ok nrow ncol codes i hi⟩

/-! ## 4. `ispit`, `isnodata` -/

/-- `ispit` / `isnodata` of the three formats are membership in the pit / nodata code sets of the property
statement (D8 pits 0 and 255, nodata 247; LDD pit 5, nodata 255; NEXTXY pits -9 and -10, nodata -9999) -/
theorem ispit_isnodata_iff :
    (∀ v, d8IsPit v = true ↔ v ∈ d8Pits) ∧ (∀ v, d8IsNodata v = true ↔ v = d8Nodata) ∧
    (∀ v, lddIsPit v = true ↔ v ∈ lddPits) ∧ (∀ v, lddIsNodata v = true ↔ v = lddNodata) ∧
    (∀ x, xyIsPit x = true ↔ x ∈ xyPits) ∧ (∀ x, xyIsNodata x = true ↔ x = xyNodata) := by
  refine ⟨?_, ?_, ?_, ?_, ?_, ?_⟩
  · intro v; simp [d8IsPit, d8Pv, d8Pits]
  · intro v; simp [d8IsNodata, d8Mv, d8Nodata]
  · intro v; simp [lddIsPit, lddPv, lddPits]
  · intro v; simp [lddIsNodata, lddMv, lddNodata]
  · intro x; simp [xyIsPit, xyPv0, xyPv1, xyPits]
  · intro x; simp [xyIsNodata, xyMv, xyNodata]

/-- the predicates classify the cells as the declarative reading does: on a legal code, `isnodata` ⇔ the cell
reads as nodata and `ispit` ⇔ it reads as a pit (NEXTXY: no legality needed, the `x` layer decides) -/
theorem ispit_isnodata_reading (ncol : Nat) (codes : Array Nat) (xs ys : Array Int) (i : Nat) :
    (codes[i]! ∈ d8Alphabet →
      (readD8 ncol codes i = .nodata ↔ d8IsNodata codes[i]! = true) ∧
      (readD8 ncol codes i = .pit ↔ d8IsPit codes[i]! = true)) ∧
    (codes[i]! ∈ lddAlphabet →
      (readLdd ncol codes i = .nodata ↔ lddIsNodata codes[i]! = true) ∧
      (readLdd ncol codes i = .pit ↔ lddIsPit codes[i]! = true)) ∧
    (readXY xs ys i = .nodata ↔ xyIsNodata xs[i]! = true) ∧
    (readXY xs ys i = .pit ↔ xyIsPit xs[i]! = true) := by
  obtain ⟨p8, n8, pl, nl, px, nx⟩ := ispit_isnodata_iff
  have hne : (∀ v ∈ d8Pits, v ≠ d8Nodata) ∧ (∀ v ∈ lddPits, v ≠ lddNodata) := by decide
  refine ⟨fun h => ⟨(readTab_nodata_iff h).trans (n8 _).symm, readTab_pit_iff.trans ?_⟩,
    fun h => ⟨(readTab_nodata_iff h).trans (nl _).symm, readTab_pit_iff.trans ?_⟩,
    readXY_nodata_iff.trans (nx _).symm, readXY_pit_iff.trans (px _).symm⟩
  · exact ⟨fun h => (p8 _).2 h.2, fun h => ⟨hne.1 _ ((p8 _).1 h), (p8 _).1 h⟩⟩
  · exact ⟨fun h => (pl _).2 h.2, fun h => ⟨hne.2 _ ((pl _).1 h), (pl _).1 h⟩⟩

/-! ## 5. `core.headwater_indices`, `core.confluence_indices` -/

/-- `core.upstream_count` on **every** cell of **every** index array (no well-formedness): the number of
inflowing cells `j ≠ v`, `ds[j] = v` that the mask admits if `v` is a cell of the network or something flows
into it, and `-9` otherwise. (`upstream_count(mask=)` tests the mask at the *inflowing* cell only.) -/
theorem upstream_count_every_cell (ds : Array Nat) (mask : Option (Array Bool)) (v : Nat) (hv : v < ds.size) :
    (upstreamCount ds mask)[v]! =
      if ds[v]! ≠ ds.size ∨ 0 < inflowCount ds mask v then (inflowCount ds mask v : Int) else -9 :=
  upstreamCount_get ds mask v hv

/-- `headwater_indices` (with and without `mask`), every index array: `i` is returned iff `i` is a cell of
the network (`ds[i] ≠ mv`) and no admitted cell `j ≠ i` drains into it; `i` itself need not be admitted by the
mask. Returned in increasing order, and the list is the declarative `Spec.headwaters`. -/
theorem headwater_iff (ds : Array Nat) (mask : Option (Array Bool)) :
    (∀ i, i ∈ headwaterIndices ds mask ↔
      i < ds.size ∧ ds[i]! ≠ ds.size ∧ ∀ j, j < ds.size → j ≠ i → ds[j]! = i → maskAt mask j = false) ∧
    (headwaterIndices ds mask).Pairwise (· < ·) ∧
    headwaterIndices ds mask = headwaters ds mask := by
  have hmem : ∀ i, i ∈ headwaterIndices ds mask ↔ i < ds.size ∧ ds[i]! ≠ ds.size ∧ inflowCount ds mask i = 0 :=
    mem_headwaterIndices ds mask
  refine ⟨?_, ?_, ?_⟩
  · intro i
    rw [hmem i]
    unfold inflowCount
    rw [count_zero_iff]
    constructor
    · rintro ⟨h1, h2, h3⟩
      refine ⟨h1, h2, fun j hj hji hd => ?_⟩
      have := h3 j hj
      simpa [hji, hd] using this
    · rintro ⟨h1, h2, h3⟩
      refine ⟨h1, h2, fun j hj => ?_⟩
      by_cases hji : j = i
      · simp [hji]
      · by_cases hd : ds[j]! = i
        · simp [hd, h3 j hj hji hd]
        · simp [hd]
  · unfold headwaterIndices
    exact range_filter_sorted _ _
  · apply sorted_ext
    · unfold headwaterIndices; exact range_filter_sorted _ _
    · exact range_filter_sorted _ _
    · intro i
      rw [hmem i]
      simp [headwaters]

/-- `confluence_indices` (with and without `mask`), every index array: `i` is returned iff `i` is an index
with two or more admitted inflowing cells, i.e. there are `j < k`, both `≠ i`, both admitted by the mask, with
`ds[j] = ds[k] = i`. Returned in increasing order. -/
theorem confluence_iff (ds : Array Nat) (mask : Option (Array Bool)) :
    (∀ i, i ∈ confluenceIndices ds mask ↔
      i < ds.size ∧ ∃ j k, j < k ∧ k < ds.size ∧ j ≠ i ∧ k ≠ i ∧ ds[j]! = i ∧ ds[k]! = i ∧
        maskAt mask j = true ∧ maskAt mask k = true) ∧
    (∀ i, i ∈ confluenceIndices ds mask ↔ i < ds.size ∧ 2 ≤ inflowCount ds mask i) ∧
    (confluenceIndices ds mask).Pairwise (· < ·) := by
  refine ⟨?_, mem_confluenceIndices ds mask, ?_⟩
  · intro i
    rw [mem_confluenceIndices ds mask i]
    unfold inflowCount
    rw [two_le_count_iff]
    constructor
    · rintro ⟨h1, j, k, hjk, hk, hpj, hpk⟩
      simp only [Bool.and_eq_true, bne_iff_ne, ne_eq, beq_iff_eq] at hpj hpk
      exact ⟨h1, j, k, hjk, hk, hpj.1.1, hpk.1.1, hpj.1.2, hpk.1.2, hpj.2, hpk.2⟩
    · rintro ⟨h1, j, k, hjk, hk, a1, a2, a3, a4, a5, a6⟩
      refine ⟨h1, j, k, hjk, hk, ?_, ?_⟩
      · simp only [Bool.and_eq_true, bne_iff_ne, ne_eq, beq_iff_eq]; exact ⟨⟨a1, a3⟩, a5⟩
      · simp only [Bool.and_eq_true, bne_iff_ne, ne_eq, beq_iff_eq]; exact ⟨⟨a2, a4⟩, a6⟩
  · unfold confluenceIndices
    exact range_filter_sorted _ _

/-- in a well-formed network (`Pf.WF`: no cell drains into a missing cell; `C01.decode_wf` proves the
last clause of it for every decoded raster) the confluences are cells of the network and the list is the declarative `Spec.confluences`.
Without well-formedness a *missing* cell with two inflowing cells is returned too (`confluence_iff` is the
statement that holds unconditionally). -/
theorem confluence_wf (ds : Array Nat) (hwf : WF ds) (mask : Option (Array Bool)) :
    (∀ i, i ∈ confluenceIndices ds mask ↔ i < ds.size ∧ ds[i]! ≠ ds.size ∧ 2 ≤ inflowCount ds mask i) ∧
    confluenceIndices ds mask = confluences ds mask := by
  have hmem : ∀ i, i ∈ confluenceIndices ds mask ↔ i < ds.size ∧ ds[i]! ≠ ds.size ∧ 2 ≤ inflowCount ds mask i := by
    intro i
    rw [mem_confluenceIndices ds mask i]
    constructor
    · rintro ⟨h1, h2⟩; exact ⟨h1, inflow_valid ds hwf mask i h1 (by omega), h2⟩
    · rintro ⟨h1, _, h2⟩; exact ⟨h1, h2⟩
  refine ⟨hmem, ?_⟩
  apply sorted_ext
  · unfold confluenceIndices; exact range_filter_sorted _ _
  · exact range_filter_sorted _ _
  · intro i
    rw [hmem i]
    simp [confluences]

/-! ## 6. `pyflwdir.from_array`: the returned graph is the declarative graph of the masked reading -/

/-- the stages of `pyflwdir.from_array` composed, for the three formats: whenever `pyflwdir.from_array(data, ftype, check_ftype, mask)` returns an object,
the container has the shape and reading of the selected format and the object's `idxs_ds` **is the declarative
graph of the masked reading** (hidden cells are nodata, so cells draining into them become pits), its pit list
is exactly the list of self-draining cells of that graph in increasing order, `n` counts the cells that are
neither nodata nor hidden, the raster has at least two cells and the graph at least one pit.

Hypotheses: the arrays have one entry per cell; a data-shaped 3-D mask on NEXTXY data hides the same cells in
both layers; and *only when a format is given with `check_ftype=False`* the raster must be legal for it (with
`check_ftype=True` or `ftype="infer"` legality is established by the call itself, `C01.from_array_ftype`). -/
theorem from_array_graph (ft : Option Ftype) (check : Bool) (data : Data)
    (mask : Option (List Nat × Array Bool)) (p : Parsed)
    (h : fromArrayApi ft check data mask = .ok p)
    (hshape : data.WellShaped) (hlayers : MaskLayersAgree data mask)
    (hvalid : ft ≠ none → check = false → Spec.valid p.ftype data = true) :
    ∃ nrow ncol read, Spec.read p.ftype data = some (nrow, ncol, read) ∧
      p.dec.ds = graph nrow ncol (maskRead (maskFun mask) read) ∧
      p.dec.pits.toList = pitsOf (graph nrow ncol (maskRead (maskFun mask) read)) ∧
      p.dec.n = nvalidOf (nrow * ncol) (maskRead (maskFun mask) read) ∧
      2 ≤ nrow * ncol ∧ pitsOf (graph nrow ncol (maskRead (maskFun mask) read)) ≠ [] := by
  -- legality of the raster for the selected format
  have hv : Spec.valid p.ftype data = true := by
    rcases (C01.from_array_ftype ft check data mask).1 p h with ⟨h1, h2⟩ | ⟨_, _, h3⟩
    · cases hc : check with
      | true => rw [← (C01.valid_infer_eq_spec p.ftype data).1]; exact h2 hc
      | false => exact hvalid (by rw [h1]; simp) hc
    · rw [← (C01.valid_infer_eq_spec p.ftype data).1]; exact h3
  obtain ⟨data', hm, hd, h2, h3⟩ := C01.from_array_result ft check data mask p h
  obtain ⟨t, dec⟩ := p
  simp only at hv hm hd h2 h3 ⊢
  -- in every case the mask lines hand the kernel a container of the same kind that reads as the masked input
  -- (`maskData_tab`, `maskData_xy`); a format that does not fit the container makes `decodeData` fail
  cases data with
  | other => cases mask <;> cases t <;> simp [maskData] at hm <;> subst hm <;> simp [decodeData] at hd
  | u8 nrow ncol codes =>
    simp only [Data.WellShaped] at hshape
    cases t with
    | nextxy =>
      obtain ⟨codes', rfl⟩ := maskData_u8_kind hm
      simp [decodeData] at hd
    | d8 =>
      have hlegal := legal_of_valid hshape (by simpa [Spec.valid] using hv)
      obtain ⟨codes', rfl, hleg', hread⟩ := maskData_tab d8Dirs d8Pits (Or.inl ⟨rfl, rfl⟩) hm hshape hlegal
      simp only [decodeData] at hd
      injection hd with hd; subst hd
      exact ⟨nrow, ncol, readD8 ncol codes, rfl,
        graph_result (decoded_congr hread (C01.d8_decode nrow ncol codes' hleg')) h2 h3⟩
    | ldd =>
      have hlegal := legal_of_valid hshape (by simpa [Spec.valid] using hv)
      obtain ⟨codes', rfl, hleg', hread⟩ := maskData_tab lddDirs lddPits (Or.inr ⟨rfl, rfl⟩) hm hshape hlegal
      simp only [decodeData] at hd
      injection hd with hd; subst hd
      exact ⟨nrow, ncol, readLdd ncol codes, rfl,
        graph_result (decoded_congr hread (C01.ldd_decode nrow ncol codes' hleg')) h2 h3⟩
  | xy nrow ncol xs ys =>
    simp only [Data.WellShaped] at hshape
    obtain ⟨xs', ys', rfl, hread⟩ := maskData_xy hm hshape.1 hshape.2 hlayers
    cases t with
    | d8 => simp [decodeData] at hd
    | ldd => simp [decodeData] at hd
    | nextxy =>
      simp only [decodeData] at hd
      injection hd with hd; subst hd
      exact ⟨nrow, ncol, readXY xs ys, rfl,
        graph_result (decoded_congr hread (C01.nextxy_decode nrow ncol xs' ys')) h2 h3⟩

/-! ## non-vacuity -/

-- 3x3 D8 raster, every neighbour points at the centre (pit 0), the SE corner is nodata:
--   2 4 8 / 1 0 16 / 128 64 247
example : (List.range 9).map (downstreamIdxD8 3 3 #[2, 4, 8, 1, 0, 16, 128, 64, 247]) = [4, 4, 4, 4, 4, 4, 4, 4, 8] := by
  decide +kernel
example : upstreamIdxD8 3 3 #[2, 4, 8, 1, 0, 16, 128, 64, 247] 4 = [0, 1, 2, 3, 5, 6, 7] := by decide +kernel
example : upOf 3 3 (readD8 3 #[2, 4, 8, 1, 0, 16, 128, 64, 247]) 4 = [0, 1, 2, 3, 5, 6, 7] := by decide +kernel
-- 2x3 D8 raster E SE nodata / NE pit(255) N: cell 5 (N) points at the nodata cell 2: `from_array` makes it a
-- pit, `_downstream_idx` still returns 2; in the 1x3 raster E E E below, cell 2 leaves the raster: missing value 3
example : (List.range 6).map (downstreamIdxD8 2 3 #[1, 2, 247, 128, 255, 64]) = [1, 5, 2, 1, 4, 2] ∧
    (fromArrayD8 2 3 #[1, 2, 247, 128, 255, 64]).ds = #[1, 5, 6, 1, 4, 5] := by decide +kernel
example : (List.range 3).map (downstreamIdxD8 1 3 #[1, 1, 1]) = [1, 2, 3] := by decide +kernel
example : upstreamIdxD8 2 3 #[1, 2, 247, 128, 255, 64] 1 = [0, 3] := by decide +kernel
-- LDD 2x3: 3 (SE) 2 (S) 1 (SW) / 6 (E) 5 (pit) 4 (W): all drain to cell 4; N x 1 and 1 x N shapes
example : (List.range 6).map (downstreamIdxLdd 2 3 #[3, 2, 1, 6, 5, 4]) = [4, 4, 4, 4, 4, 4] ∧
    upstreamIdxLdd 2 3 #[3, 2, 1, 6, 5, 4] 4 = [0, 1, 2, 3, 5] := by decide +kernel
example : (List.range 3).map (downstreamIdxLdd 3 1 #[2, 2, 2]) = [1, 2, 3] ∧ upstreamIdxLdd 3 1 #[2, 2, 2] 1 = [0] := by
  decide +kernel
-- LDD nodata code on a 2x10 raster: cell 19 = (1, 9) gets cell 0 = (0, 0); cell 3 gets the missing value
example : downstreamIdxLdd 2 10 (Array.replicate 20 255) 19 = 0 ∧ downstreamIdxLdd 2 10 (Array.replicate 20 255) 3 = 20 := by
  decide +kernel
-- illegal D8 code 3 acts like S (4) in `_downstream_idx` but is in no `_us` table
example : downstreamIdxD8 2 1 #[3, 0] 0 = 1 ∧ upstreamIdxD8 2 1 #[3, 0] 1 = [] ∧ upstreamIdxD8 2 1 #[4, 0] 1 = [0] := by
  decide +kernel
-- degree queries on 0<-1<-2, 0<-3, 3<-4, 3<-5, cell 6 missing; mask hides cells 1 and 4
example : headwaterIndices #[0, 0, 1, 0, 3, 3, 7] none = [2, 4, 5] ∧ confluenceIndices #[0, 0, 1, 0, 3, 3, 7] none = [0, 3] ∧
    headwaterIndices #[0, 0, 1, 0, 3, 3, 7] (some #[true, false, true, true, false, true, true]) = [2, 4, 5] ∧
    confluenceIndices #[0, 0, 1, 0, 3, 3, 7] (some #[true, false, true, true, false, true, true]) = [] ∧
    headwaterIndices #[0, 0, 1, 0, 3, 3, 7] (some #[true, true, false, true, true, true, true]) = [1, 2, 4, 5] := by
  decide +kernel
-- a network that is not well formed: cells 0 and 1 drain into the missing cell 2, which is then reported
example : confluenceIndices #[2, 2, 3] none = [2] ∧ confluences #[2, 2, 3] none = [] := by decide +kernel
-- from_array_graph is not vacuous: LDD raster, inferred type, user mask hiding the middle cell
example : (fromArrayApi none true (.u8 1 3 #[6, 6, 5]) (some ([1, 3], #[true, false, true]))).toOption.map
    (fun p => (p.ftype, p.dec.ds)) = some (.ldd, #[0, 3, 2]) ∧
    graph 1 3 (maskRead (maskFun (some ([1, 3], #[true, false, true]))) (readLdd 3 #[6, 6, 5])) = #[0, 3, 2] := by
  decide +kernel

end Pf.C01x
