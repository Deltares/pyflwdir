import PfVerif.Proofs.C11_fn
import PfVerif.Props.C11
/-! # C11_fn — translator tie for the `while` loop of `core._trace`

`Pf.Generated.Tr._trace` / `_trace_loop` are produced by `harness/extract_while.py` from the source text of
`core._trace` on every run (structural recursion on an explicit fuel over the loop-carried variables
`idx0, idxs, dist, d`; `gis_utils.distance` is an explicit function parameter, `1.0` the scale parameter `one`).
The obligations below are checked against the text of the code on every run: for ALL inputs and ALL fuel the generated
recursion equals the hand-written model `Pf.traceFrom` (on which every theorem of `Props/C11.lean` is stated), and
the theorems of C11 are transported to the translated code. The model's missing value is `nxt.size` (the harness'
`canon_idx`), so the generated def is instantiated with `mv := nxt.size`. -/
namespace Pf.C11fn
open Pf Pf.C11 Pf.Generated

/-- The generated loop is the model's loop, from every loop state (all inputs, all fuel): the list built with
`++ [x]` is the reversed accumulator, and `d` is either re-computed in every iteration or still `one`. -/
theorem gen__trace_loop_eq_model {Opaque : Type} (nxt : Array Nat) (ncol : Option Nat) (mask : Option (Array Bool))
    (maxLen : Option Int) (real latlon : Bool) (transform : Opaque) (one : Int)
    (distance : Nat → Nat → Nat → Bool → Opaque → Int) (fuel idx0 : Nat) (acc : List Nat) (dist d : Int)
    (hd : (real && ncol.isSome) = false → d = one) :
    (Tr._trace_loop nxt ncol mask maxLen real latlon transform nxt.size one distance fuel idx0 acc.reverse dist d).map
        (fun st => (st.2.1, st.2.2.1))
      = trace nxt mask maxLen (genStep ncol real latlon transform one distance) fuel idx0 acc dist := by
  induction fuel generalizing idx0 acc dist d with
  | zero => rfl
  | succ f ih =>
    rw [gen_loop_succ, trace_succ]
    cases maskHit mask idx0
    case true => rfl
    rw [if_pos rfl, if_neg Bool.false_ne_true]
    by_cases h2 : nxt[idx0]! = idx0 ∨ nxt[idx0]! = nxt.size
    · rw [if_pos h2, if_pos h2]; rfl
    rw [if_neg h2, if_neg h2]
    -- the rest of the iteration, once the step length `d'` of the code is known to be the model's
    have rest : ∀ d', d' = genStep ncol real latlon transform one distance idx0 nxt[idx0]! →
        ((real && ncol.isSome) = false → d' = one) →
        (if overLen maxLen (dist + d') then some (idx0, acc.reverse, dist, d')
          else Tr._trace_loop nxt ncol mask maxLen real latlon transform nxt.size one distance f nxt[idx0]!
            (acc.reverse ++ [nxt[idx0]!]) (dist + d') d').map (fun st => (st.2.1, st.2.2.1)) =
        if overLen maxLen (dist + genStep ncol real latlon transform one distance idx0 nxt[idx0]!) then
          some (acc.reverse, dist)
        else trace nxt mask maxLen (genStep ncol real latlon transform one distance) f nxt[idx0]!
          (nxt[idx0]! :: acc) (dist + genStep ncol real latlon transform one distance idx0 nxt[idx0]!) := by
      rintro d' rfl hd'
      split
      · rfl
      · rw [← List.reverse_cons]; exact ih _ _ _ _ hd'
    -- `d` is re-computed iff `real_length and ncol is not None`, and is still `one` otherwise
    cases hrc : (real && ncol.isSome)
    · exact rest d (by rw [hd hrc, genStep, if_neg (hrc ▸ Bool.false_ne_true)]; rfl) hd
    · exact rest _ (by rw [genStep, if_pos hrc]) fun h => nomatch hrc.symm.trans h

/-- For all inputs and all fuel the generated `_trace` equals the model `traceFrom` with the
step-length function the code's flags select (`genStep`); in particular it runs out of fuel exactly when the model does. -/
theorem gen__trace_eq_model {Opaque : Type} (idx0 : Nat) (nxt : Array Nat) (ncol : Option Nat)
    (mask : Option (Array Bool)) (maxLen : Option Int) (real latlon : Bool) (transform : Opaque) (one : Int)
    (distance : Nat → Nat → Nat → Bool → Opaque → Int) (fuel : Nat) :
    Tr._trace idx0 nxt ncol mask maxLen real latlon transform nxt.size one distance fuel
      = traceFrom nxt mask maxLen (genStep ncol real latlon transform one distance) fuel idx0 := by
  have h := gen__trace_loop_eq_model nxt ncol mask maxLen real latlon transform one distance fuel idx0 [idx0] 0 one
    (fun _ => rfl)
  simpa [Tr._trace, traceFrom] using h

/-- cell units (`real_length=False`, every `Flwdir.path(unit='cell')`): the step length is the constant `one` -/
theorem gen__trace_cells {Opaque : Type} (idx0 : Nat) (nxt : Array Nat) (ncol : Option Nat)
    (mask : Option (Array Bool)) (maxLen : Option Int) (latlon : Bool) (transform : Opaque) (one : Int)
    (distance : Nat → Nat → Nat → Bool → Opaque → Int) (fuel : Nat) :
    Tr._trace idx0 nxt ncol mask maxLen false latlon transform nxt.size one distance fuel
      = traceFrom nxt mask maxLen (stepConst one) fuel idx0 := by
  rw [gen__trace_eq_model]; simp [genStep]

/-- `ncol=None` (vector networks): cell units whatever `real_length` says -/
theorem gen__trace_no_ncol {Opaque : Type} (idx0 : Nat) (nxt : Array Nat) (mask : Option (Array Bool))
    (maxLen : Option Int) (real latlon : Bool) (transform : Opaque) (one : Int)
    (distance : Nat → Nat → Nat → Bool → Opaque → Int) (fuel : Nat) :
    Tr._trace idx0 nxt none mask maxLen real latlon transform nxt.size one distance fuel
      = traceFrom nxt mask maxLen (stepConst one) fuel idx0 := by
  rw [gen__trace_eq_model]; simp [genStep]

/-- metric lengths (`real_length=True` on a raster): every step is `gis_utils.distance(idx0, idx1, ncol, latlon,
transform)`; with the projected branch of `distance` (`Pf.distProj`, C11 `distProj_exact`) this is the model the
C11 harness drives with `stepmode = 1` -/
theorem gen__trace_metric {Opaque : Type} (idx0 : Nat) (nxt : Array Nat) (c : Nat) (mask : Option (Array Bool))
    (maxLen : Option Int) (latlon : Bool) (transform : Opaque) (one : Int)
    (distance : Nat → Nat → Nat → Bool → Opaque → Int) (fuel : Nat) :
    Tr._trace idx0 nxt (some c) mask maxLen true latlon transform nxt.size one distance fuel
      = traceFrom nxt mask maxLen (fun i j => distance i j c latlon transform) fuel idx0 := by
  rw [gen__trace_eq_model]; simp [genStep]

theorem gen__trace_projected (idx0 : Nat) (nxt : Array Nat) (c : Nat) (xres yres : Int) (mask : Option (Array Bool))
    (maxLen : Option Int) (one : Int) (fuel : Nat) :
    Tr._trace idx0 nxt (some c) mask maxLen true false (xres, yres) nxt.size one
        (fun i j c _ (t : Int × Int) => distProj c t.1 t.2 i j) fuel
      = traceFrom nxt mask maxLen (distProj c xres yres) fuel idx0 := by
  rw [gen__trace_metric]

/-! ## the theorems of C11 transported to the translated code -/

/-- C11 `trace_char` for the translated code: it returns `(p, d)` iff for the least stopping index
`m` (then `< fuel`) `p = [iter 0 s, …, iter m s]` and `d` is the sum of the first `m` step lengths. -/
theorem gen__trace_char {Opaque : Type} (s : Nat) (nxt : Array Nat) (ncol : Option Nat)
    (mask : Option (Array Bool)) (maxLen : Option Int) (real latlon : Bool) (transform : Opaque) (one : Int)
    (distance : Nat → Nat → Nat → Bool → Opaque → Int) (fuel : Nat) (p : List Nat) (d : Int) :
    let step := genStep ncol real latlon transform one distance
    Tr._trace s nxt ncol mask maxLen real latlon transform nxt.size one distance fuel = some (p, d) ↔
      ∃ m, m < fuel ∧ stopAt nxt mask maxLen step s m = true ∧
        (∀ k, k < m → stopAt nxt mask maxLen step s k = false) ∧
        p = pathTo nxt s m ∧ d = cumLen nxt step s m := by
  intro step
  rw [gen__trace_eq_model]
  exact trace_char nxt mask maxLen step fuel s p d

/-- Out of fuel exactly when no stop exists below `fuel` (C11 `trace_total_iff`): `none` is never a guess. -/
theorem gen__trace_none_iff {Opaque : Type} (s : Nat) (nxt : Array Nat) (ncol : Option Nat)
    (mask : Option (Array Bool)) (maxLen : Option Int) (real latlon : Bool) (transform : Opaque) (one : Int)
    (distance : Nat → Nat → Nat → Bool → Opaque → Int) (fuel : Nat) :
    Tr._trace s nxt ncol mask maxLen real latlon transform nxt.size one distance fuel = none ↔
      ∀ k, k < fuel → stopAt nxt mask maxLen (genStep ncol real latlon transform one distance) s k = false := by
  rw [gen__trace_eq_model, ← Option.not_isSome_iff_eq_none, trace_total_iff]
  simp only [not_exists, not_and, Bool.not_eq_true]

/-- Loop-free networks (C11 `trace_total_topo` + `trace_char`): from a cell of a downstream-first order `seq` of
the network, with `fuel ≥ seq.length`, the translated code does not run out of fuel and returns the prefix of the
iterates up to the LEAST stopping index, with the summed step lengths - whatever mask, `max_length`, flags. -/
theorem gen__trace_topo {Opaque : Type} (ds : Array Nat) (seq : List Nat) (htopo : Topo ds seq) (s : Nat)
    (hs : s ∈ seq) (ncol : Option Nat) (mask : Option (Array Bool)) (maxLen : Option Int) (real latlon : Bool)
    (transform : Opaque) (one : Int) (distance : Nat → Nat → Nat → Bool → Opaque → Int) (fuel : Nat)
    (hfuel : seq.length ≤ fuel) :
    let step := genStep ncol real latlon transform one distance
    ∃ m, m < fuel ∧ stopAt ds mask maxLen step s m = true ∧ (∀ k, k < m → stopAt ds mask maxLen step s k = false) ∧
      Tr._trace s ds ncol mask maxLen real latlon transform ds.size one distance fuel
        = some (pathTo ds s m, cumLen ds step s m) := by
  intro step
  obtain ⟨⟨p, d⟩, ht⟩ := Option.isSome_iff_exists.1 (trace_total_topo ds seq htopo mask maxLen step fuel s hs hfuel)
  obtain ⟨m, hm, hstop, hleast, rfl, rfl⟩ := (trace_char ds mask maxLen step fuel s p d).1 ht
  exact ⟨m, hm, hstop, hleast, (gen__trace_eq_model ..).trans ht⟩

/-- the same with `fuel ≥ n`, for an order whose cells are in range -/
theorem gen__trace_topo_size {Opaque : Type} (ds : Array Nat) (seq : List Nat) (htopo : Topo ds seq)
    (hb : ∀ i ∈ seq, i < ds.size) (s : Nat)
    (hs : s ∈ seq) (ncol : Option Nat) (mask : Option (Array Bool)) (maxLen : Option Int) (real latlon : Bool)
    (transform : Opaque) (one : Int) (distance : Nat → Nat → Nat → Bool → Opaque → Int) (fuel : Nat)
    (hfuel : ds.size ≤ fuel) :
    let step := genStep ncol real latlon transform one distance
    ∃ m, m < fuel ∧ stopAt ds mask maxLen step s m = true ∧ (∀ k, k < m → stopAt ds mask maxLen step s k = false) ∧
      Tr._trace s ds ncol mask maxLen real latlon transform ds.size one distance fuel
        = some (pathTo ds s m, cumLen ds step s m) := by
  have hlen : seq.length ≤ ds.size := by
    have := List.Nodup.length_le_of_subset htopo.nodup (l₂ := List.range ds.size)
      (fun i hi => List.mem_range.2 (hb i hi))
    rwa [List.length_range] at this
  exact gen__trace_topo ds seq htopo s hs ncol mask maxLen real latlon transform one distance fuel (by omega)

/-- C11 `trace_stop` for the translated code: the last returned cell is flagged / a pit / has no
next cell / the next step would exceed `max_length`, and no earlier cell satisfies any of these. -/
theorem gen__trace_stop {Opaque : Type} (s : Nat) (nxt : Array Nat) (ncol : Option Nat)
    (mask : Option (Array Bool)) (maxLen : Option Int) (real latlon : Bool) (transform : Opaque) (one : Int)
    (distance : Nat → Nat → Nat → Bool → Opaque → Int) (fuel : Nat) (p : List Nat) (d : Int)
    (h : Tr._trace s nxt ncol mask maxLen real latlon transform nxt.size one distance fuel = some (p, d)) :
    let step := genStep ncol real latlon transform one distance
    let m := p.length - 1
    let c := iterA nxt m s
    (maskHit mask c = true ∨ nxt[c]! = c ∨ nxt[c]! = nxt.size ∨
      (∃ ml, maxLen = some ml ∧ cumLen nxt step s m + step c nxt[c]! > ml)) ∧
    ∀ k, k < m →
      maskHit mask (iterA nxt k s) = false ∧ nxt[iterA nxt k s]! ≠ iterA nxt k s ∧
      nxt[iterA nxt k s]! ≠ nxt.size ∧ (∀ ml, maxLen = some ml → cumLen nxt step s (k+1) ≤ ml) := by
  rw [gen__trace_eq_model] at h
  exact trace_stop nxt mask maxLen _ fuel s p d h

/-- C11 `dist_le_max` for the translated code -/
theorem gen__trace_dist_le_max {Opaque : Type} (s : Nat) (nxt : Array Nat) (ncol : Option Nat)
    (mask : Option (Array Bool)) (ml : Int) (real latlon : Bool) (transform : Opaque) (one : Int)
    (distance : Nat → Nat → Nat → Bool → Opaque → Int) (fuel : Nat) (p : List Nat) (d : Int) (hml : 0 ≤ ml)
    (h : Tr._trace s nxt ncol mask (some ml) real latlon transform nxt.size one distance fuel = some (p, d)) :
    d ≤ ml := by
  rw [gen__trace_eq_model] at h
  exact dist_le_max nxt mask ml _ fuel s p d hml h

/-! ## non-vacuity: the generated def evaluated on concrete inputs (kernel evaluation of the translated text) -/

-- chain 4 → 3 → 2 → 1 → 0 (pit), cell units scaled by 4, max_length 2.5 cells: two steps (cf. `Props/C11`)
example : Tr._trace 4 #[0,0,1,2,3] none none (some 10) false false () 5 4 (fun _ _ _ _ _ => 7) 6
    = some ([4,3,2], 8) := by decide
-- the external is used iff `real_length and ncol is not None`: lengths 7 per step, max_length 15 -> two steps, 14
example : Tr._trace 4 #[0,0,1,2,3] (some 3) none (some 15) true false () 5 4 (fun _ _ _ _ _ => 7) 6
    = some ([4,3,2], 14) := by decide
example : Tr._trace 4 #[0,0,1,2,3] none none (some 15) true false () 5 4 (fun _ _ _ _ _ => 7) 6
    = some ([4,3,2,1], 12) := by decide
-- mask: the first flagged cell ends the walk, a flagged start cell returns immediately; missing next cell (mv = 5)
example : Tr._trace 4 #[0,0,1,2,3] none (some #[false,true,false,false,false]) none false false () 5 4
    (fun _ _ _ _ _ => 7) 6 = some ([4,3,2,1], 12) := by decide
example : Tr._trace 4 #[0,0,1,2,3] none (some #[false,false,false,false,true]) none false false () 5 4
    (fun _ _ _ _ _ => 7) 6 = some ([4], 0) := by decide
example : Tr._trace 4 #[0,0,5,2,3] none none none false false () 5 4 (fun _ _ _ _ _ => 7) 6
    = some ([4,3,2], 8) := by decide
-- the fuel: the loop 0 → 1 → 2 → 0 never ends without `max_length` (`none`, not a wrong answer), and the bound of
-- `seq.length` iterations of `gen__trace_topo` is attained on the chain (5 cells: fuel 5 suffices, 4 does not)
example : Tr._trace 0 #[1,2,0] none none none false false () 3 4 (fun _ _ _ _ _ => 7) 50 = none := by decide
example : Tr._trace 4 #[0,0,1,2,3] none none none false false () 5 4 (fun _ _ _ _ _ => 7) 5
    = some ([4,3,2,1,0], 16) ∧
    Tr._trace 4 #[0,0,1,2,3] none none none false false () 5 4 (fun _ _ _ _ _ => 7) 4 = none := by decide
-- projected metric lengths on 12 x 16 cells (3-4-5): C11's example, through the translated code
example : Tr._trace 8 #[0,0,1,2,0,4,7,4,7] (some 3) none (some 48) true false ((12 : Int), (-16 : Int)) 9 1
    (fun i j c _ t => distProj c t.1 t.2 i j) 9 =
    some ([8,7,4,0], 48) := by decide +kernel

end Pf.C11fn
