import PfVerif.Proofs.C18
import PfVerif.Proofs.C18Pfaf
import PfVerif.Proofs.C18Digits
import PfVerif.Proofs.C18Part
import PfVerif.Proofs.C18AreaSize
import PfVerif.Proofs.C18PfLoop
import PfVerif.Proofs.C18PfLinkLoop
import PfVerif.Proofs.C18PfRefine
/-! # C18 — sub-basin maps are upstream-closed partitions consistent with their outlets

All theorems quantify over every network `ds`, every downstream-first cell order `seq` (`Topo`,
what C03 establishes and the harness re-checks with `isTopo` on the order actually used), every
order / area field, every threshold and mask; no bound on sizes.

`LabelOK ds isOut labOf i v` (Proofs/C18.lean) is the statement of the property for one cell:
`v = 0` and no outlet lies on the downstream path of `i`, or `v` is the label of the FIRST outlet on
that path. Outlet labels are non-zero, so "unlabelled ⇔ no returned outlet downstream" is the
corollary `…_unlabelled_iff`. -/
namespace Pf.C18
open Pf

/-! ## stream-order sub-basins -/

/-- A cell is returned as an outlet iff it is a cell of the network, is not masked
out, has order `≥ min_sto` and the order changes at the downstream cell (or it is a pit) —
"sub-basins start where the order rises downstream". -/
theorem streamorder_outlets_iff (ds : Array Nat) (seq : List Nat) (strord : Array Int)
    (mask : Option (Array Bool)) (minSto : Int) (o : Nat) :
    o ∈ (subbasinsStreamorder ds seq strord mask minSto).2 ↔
      o ∈ seq ∧ maskAt mask o = true ∧ strord[o]! ≥ soMinSto strord minSto ∧
        (strord[o]! ≠ strord[ds[o]!]! ∨ ds[o]! = o) := by
  unfold subbasinsStreamorder soSeeds
  simp only
  rw [pushFold_filter]
  simp [soIsOutlet, List.mem_filter, and_assoc]

theorem soSeeds_inv (ds : Array Nat) (seq : List Nat) (strord : Array Int)
    (mask : Option (Array Bool)) (m : Int) (htopo : Topo ds seq) (hb : ∀ i ∈ seq, i < ds.size) :
    SeedInv ds.size (soSeeds ds seq strord mask m) := by
  unfold soSeeds
  apply pushFold_inv
  · exact nodup_reverse' htopo.nodup
  · intro x hx; exact ⟨hb x (List.mem_reverse.1 hx), by simp⟩
  · exact SeedInv.init _

/-- The `k`-th returned outlet carries the label `k+1`; every cell of the network
carries the label of the first returned outlet on its downstream path, 0 if there is none; cells
outside the network are 0. -/
theorem streamorder_partition (ds : Array Nat) (seq : List Nat) (strord : Array Int)
    (mask : Option (Array Bool)) (minSto : Int) (htopo : Topo ds seq) (hb : ∀ i ∈ seq, i < ds.size) :
    let r := subbasinsStreamorder ds seq strord mask minSto
    (∀ (k o : Nat), r.2[k]? = some o → r.1[o]! = (k : Int) + 1) ∧
    (∀ i ∈ seq, LabelOK ds (· ∈ r.2) (fun o => r.1[o]!) i r.1[i]!) ∧
    (∀ i, i ∉ seq → r.1[i]! = 0) := by
  intro r
  have hsub : ∀ o ∈ r.2, o ∈ seq := fun o ho =>
    ((streamorder_outlets_iff ds seq strord mask minSto o).1 ho).1
  exact fill_seeds_partition ds seq _ htopo hb (soSeeds_inv ds seq strord mask _ htopo hb) hsub

theorem streamorder_unlabelled_iff (ds : Array Nat) (seq : List Nat) (strord : Array Int)
    (mask : Option (Array Bool)) (minSto : Int) (htopo : Topo ds seq) (hb : ∀ i ∈ seq, i < ds.size)
    (i : Nat) (hi : i ∈ seq) :
    let r := subbasinsStreamorder ds seq strord mask minSto
    r.1[i]! = 0 ↔ ∀ m, iterA ds m i ∉ r.2 := by
  obtain ⟨h1, h2, _⟩ := streamorder_partition ds seq strord mask minSto htopo hb
  exact (h2 i hi).zero_iff_of_ids h1

/-- A cell of the network that is not a returned outlet carries the label of its downstream cell. -/
theorem streamorder_upstream_closed (ds : Array Nat) (seq : List Nat) (strord : Array Int)
    (mask : Option (Array Bool)) (minSto : Int) (htopo : Topo ds seq) (hb : ∀ i ∈ seq, i < ds.size)
    (j : Nat) (hj : j ∈ seq) :
    let r := subbasinsStreamorder ds seq strord mask minSto
    j ∉ r.2 → r.1[j]! = r.1[ds[j]!]! := by
  intro r hout
  obtain ⟨_, h2, _⟩ := streamorder_partition ds seq strord mask minSto htopo hb
  exact (h2 j hj).eq_down (h2 _ (htopo.ds_mem j hj)) hout

/-- For an order field that never decreases downstream (Strahler), a
returned outlet that is not a pit has a strictly higher order at its downstream cell. -/
theorem streamorder_rises (ds : Array Nat) (seq : List Nat) (strord : Array Int)
    (mask : Option (Array Bool)) (minSto : Int) (o : Nat)
    (ho : o ∈ (subbasinsStreamorder ds seq strord mask minSto).2) (hnp : ds[o]! ≠ o)
    (hmono : strord[o]! ≤ strord[ds[o]!]!) : strord[o]! < strord[ds[o]!]! := by
  have h := ((streamorder_outlets_iff ds seq strord mask minSto o).1 ho).2.2.2
  rcases h with h | h
  · omega
  · exact absurd h hnp

/-- the declarative outlet set the harness compares the implementation with (`soOutletSpec`, no
cell order involved) is the model's outlet set whenever `seq` holds exactly the cells of the network -/
theorem streamorder_spec_agrees (ds : Array Nat) (seq : List Nat) (strord : Array Int)
    (mask : Option (Array Bool)) (minSto : Int) (hseq : ∀ o, o ∈ seq ↔ isValid ds o = true) (o : Nat) :
    o ∈ (subbasinsStreamorder ds seq strord mask minSto).2 ↔ o ∈ soOutletSpec ds strord mask minSto := by
  rw [streamorder_outlets_iff, hseq]
  unfold soOutletSpec
  simp only [List.mem_filter, List.mem_range, Bool.and_eq_true, decide_eq_true_eq, Bool.or_eq_true,
    beq_iff_eq, bne_iff_ne, ne_eq]
  constructor
  · rintro ⟨hv, hm, hs, hc⟩
    have hlt : o < ds.size := by
      simp only [isValid, Bool.and_eq_true, decide_eq_true_eq] at hv; exact hv.1
    refine ⟨hlt, ⟨⟨hv, hm⟩, hs⟩, ?_⟩
    rcases hc with hc | hc
    · exact Or.inr (fun h => hc h.symm)
    · exact Or.inl hc
  · rintro ⟨_, ⟨⟨hv, hm⟩, hs⟩, hc⟩
    refine ⟨hv, hm, hs, ?_⟩
    rcases hc with hc | hc
    · exact Or.inr hc
    · exact Or.inl (fun h => hc h.symm)

/-! ## minimum-area sub-basins -/

theorem areaDec_imp (ds usMain : Array Nat) (uparea : Array Int) (amin : Int) (s : Array Int)
    (x : Nat) (h : areaDec ds usMain uparea amin s x = true) :
    ds[x]! = x ∨ uparea[x]! > amin :=
  (areaDec_true h).imp id And.left

/-- Every returned outlet is a cell of the network
and is a pit or has upstream area `> area_min`. -/
theorem area_outlet_gt (ds : Array Nat) (seq : List Nat) (usMain : Array Nat) (uparea : Array Int)
    (amin : Int) (o : Nat) (ho : o ∈ (subbasinsArea ds seq usMain uparea amin).2) :
    o ∈ seq ∧ (ds[o]! = o ∨ uparea[o]! > amin) := by
  unfold subbasinsArea areaSeeds at ho
  simp only at ho
  rcases pushFold_mem _ _ (fun x => ds[x]! = x ∨ uparea[x]! > amin)
    (areaDec_imp ds usMain uparea amin) seq _ o ho with h | h
  · simp at h
  · exact h

theorem areaDec_main (ds usMain : Array Nat) (uparea : Array Int) (amin : Int) (s : Array Int)
    (x : Nat) (h : areaDec ds usMain uparea amin s x = true) :
    ds[x]! = x ∨ usMain[ds[x]!]! ≠ x ∨ uparea[ds[x]!]! - uparea[x]! ≤ amin :=
  (areaDec_true h).imp id And.right

/-- An outlet that is the main upstream cell
of its downstream cell `d` is only created when everything else draining to `d` (the cell itself
and its tributaries) is at most `area_min` (`not conf`). -/
theorem area_main_cut_small_rest (ds : Array Nat) (seq : List Nat) (usMain : Array Nat)
    (uparea : Array Int) (amin : Int) (o : Nat) (ho : o ∈ (subbasinsArea ds seq usMain uparea amin).2)
    (hnp : ds[o]! ≠ o) (hmain : usMain[ds[o]!]! = o) : uparea[ds[o]!]! - uparea[o]! ≤ amin := by
  unfold subbasinsArea areaSeeds at ho
  simp only at ho
  rcases pushFold_mem _ _
      (fun x => ds[x]! = x ∨ usMain[ds[x]!]! ≠ x ∨ uparea[ds[x]!]! - uparea[x]! ≤ amin)
      (areaDec_main ds usMain uparea amin) seq _ o ho with h | h
  · simp at h
  · rcases h.2 with h1 | h1 | h1
    · exact absurd h1 hnp
    · exact absurd hmain h1
    · exact h1

/-- Every pit of the order is a returned outlet. -/
theorem area_pits_outlets (ds : Array Nat) (seq : List Nat) (usMain : Array Nat) (uparea : Array Int)
    (amin : Int) (p : Nat) (hp : p ∈ seq) (hpit : ds[p]! = p) :
    p ∈ (subbasinsArea ds seq usMain uparea amin).2 := by
  unfold subbasinsArea areaSeeds
  simp only
  apply pushFold_mem_of_dec _ _ seq _ p hp
  intro s
  simp [areaDec, hpit]

theorem areaSeeds_inv (ds : Array Nat) (seq : List Nat) (usMain : Array Nat) (uparea : Array Int)
    (amin : Int) (htopo : Topo ds seq) (hb : ∀ i ∈ seq, i < ds.size) :
    SeedInv ds.size (areaSeeds ds seq usMain uparea amin) := by
  unfold areaSeeds
  apply pushFold_inv
  · exact htopo.nodup
  · intro x hx; exact ⟨hb x hx, by simp⟩
  · exact SeedInv.init _

theorem area_partition (ds : Array Nat) (seq : List Nat) (usMain : Array Nat) (uparea : Array Int)
    (amin : Int) (htopo : Topo ds seq) (hb : ∀ i ∈ seq, i < ds.size) :
    let r := subbasinsArea ds seq usMain uparea amin
    (∀ (k o : Nat), r.2[k]? = some o → r.1[o]! = (k : Int) + 1) ∧
    (∀ i ∈ seq, LabelOK ds (· ∈ r.2) (fun o => r.1[o]!) i r.1[i]!) ∧
    (∀ i, i ∉ seq → r.1[i]! = 0) := by
  intro r
  have hsub : ∀ o ∈ r.2, o ∈ seq := fun o ho => (area_outlet_gt ds seq usMain uparea amin o ho).1
  exact fill_seeds_partition ds seq _ htopo hb (areaSeeds_inv ds seq usMain uparea amin htopo hb) hsub

/-- A cell is unlabelled iff no returned outlet lies on its downstream path (by `area_pits_outlets` the pit of a cell
whose path ends in a pit of the order is one, but that consequence is not stated here). -/
theorem area_unlabelled_iff (ds : Array Nat) (seq : List Nat) (usMain : Array Nat) (uparea : Array Int)
    (amin : Int) (htopo : Topo ds seq) (hb : ∀ i ∈ seq, i < ds.size) (i : Nat) (hi : i ∈ seq) :
    let r := subbasinsArea ds seq usMain uparea amin
    r.1[i]! = 0 ↔ ∀ m, iterA ds m i ∉ r.2 := by
  obtain ⟨h1, h2, _⟩ := area_partition ds seq usMain uparea amin htopo hb
  exact (h2 i hi).zero_iff_of_ids h1

theorem area_upstream_closed (ds : Array Nat) (seq : List Nat) (usMain : Array Nat) (uparea : Array Int)
    (amin : Int) (htopo : Topo ds seq) (hb : ∀ i ∈ seq, i < ds.size) (j : Nat) (hj : j ∈ seq) :
    let r := subbasinsArea ds seq usMain uparea amin
    j ∉ r.2 → r.1[j]! = r.1[ds[j]!]! := by
  intro r hout
  obtain ⟨_, h2, _⟩ := area_partition ds seq usMain uparea amin htopo hb
  exact (h2 j hj).eq_down (h2 _ (htopo.ds_mem j hj)) hout

/-- "Area-based sub-basins that do not end at a pit are larger than the threshold", at algorithm level: for every network, every downstream-first order `seq` that is sorted by the
distance to the pit (`rk`; both `order_cells` methods produce such an order, and the loop needs it:
with an arbitrary downstream-first order the clause is false, see the 12-cell example below), every main-upstream map
`usMain` accepted by `usMainOK` (one inflowing cell per cell, or the out-of-range index `n` for none, in which case the
model drops the write `upa_out[idx1] = …`), and every upstream-area field that is the
accumulation of non-negative cell areas over the cells of `seq`
(`uparea[d] = area[d] + Σ_{c ∈ seq, ds c = d, c ≠ d} uparea[c]`, `csum` = conditional sum over a list),
the total cell area carrying the label of a returned outlet that is not a pit exceeds `area_min`.
Proof: loop invariant of `areaSeeds` (`SInv`, `UInv`: `upa_out` of a cell
whose inflowing cells are being processed is bounded above by the area its sub-basin would have if
the loop stopped now and below by what is left of its own catchment; the big cells of a sub-basin
form a chain), then `Σ area over the label = uparea[o] - Σ uparea of the outlets directly upstream` (`region_sum`). -/
theorem area_size (ds : Array Nat) (seq : List Nat) (usMain : Array Nat) (uparea area : Array Int)
    (amin : Int) (rk : Nat → Nat)
    (htopo : Topo ds seq) (hb : ∀ i ∈ seq, i < ds.size) (hus : usMainOK ds usMain = true)
    (hsz : uparea.size = ds.size)
    (hrk : ∀ i ∈ seq, ds[i]! ≠ i → rk i = rk ds[i]! + 1)
    (hsorted : seq.Pairwise (fun x y => rk x ≤ rk y))
    (ha0 : ∀ i ∈ seq, 0 ≤ area[i]!)
    (hacc : ∀ d ∈ seq, uparea[d]! = area[d]! +
      csum (fun c => decide (ds[c]! = d ∧ c ≠ d)) (fun c => uparea[c]!) seq) :
    let r := subbasinsArea ds seq usMain uparea amin
    ∀ o ∈ r.2, ds[o]! ≠ o → labelArea area r.1 r.1[o]! > amin := by
  intro r
  obtain ⟨h1, _, h3⟩ := area_partition ds seq usMain uparea amin htopo hb
  have hlab : ∀ o ∈ r.2, ∃ k : Nat, r.2[k]? = some o ∧ r.1[o]! = (k : Int) + 1 := fun o ho =>
    (List.mem_iff_getElem?.1 ho).imp fun k hk => ⟨hk, h1 k o hk⟩
  have hsize : r.1.size = ds.size := by
    show (fillnodataUpstream ds seq (areaSeeds ds seq usMain uparea amin).1 0).size = ds.size
    simp [fillnodataUpstream, (areaSeeds_inv ds seq usMain uparea amin htopo hb).size]
  refine area_size_of_labels ds usMain uparea area amin seq rk htopo hb hus hsz hrk hsorted ha0 hacc
    r.1 hsize h3 (area_upstream_closed ds seq usMain uparea amin htopo hb) (fun o ho o' ho' heq => ?_)
    (fun o ho => ?_)
  · -- equal labels `k+1 = k'+1` name the same position of the outlet list
    obtain ⟨k, hk, hl⟩ := hlab o ho
    obtain ⟨k', hk', hl'⟩ := hlab o' ho'
    obtain rfl : k = k' := by omega
    exact Option.some.inj (hk.symm.trans hk')
  · obtain ⟨k, _, hl⟩ := hlab o ho
    omega

/-- size clause under the executable hypotheses the op `c18_area` reports (`topo`, `rank_sorted`, `usok`) -/
theorem area_size_of_check (ds : Array Nat) (seq : List Nat) (usMain : Array Nat) (uparea area : Array Int)
    (amin : Int) (htopo : isTopo ds seq = true) (hord : rankOrderOK ds seq = true)
    (hus : usMainOK ds usMain = true) (hsz : uparea.size = ds.size)
    (ha0 : ∀ i ∈ seq, 0 ≤ area[i]!)
    (hacc : ∀ d ∈ seq, uparea[d]! = area[d]! +
      csum (fun c => decide (ds[c]! = d ∧ c ≠ d)) (fun c => uparea[c]!) seq) :
    let r := subbasinsArea ds seq usMain uparea amin
    ∀ o ∈ r.2, ds[o]! ≠ o → labelArea area r.1 r.1[o]! > amin :=
  area_size ds seq usMain uparea area amin (fun i => (seqRanks ds seq)[i]!)
    (isTopo_sound ds seq htopo).1 (isTopo_sound ds seq htopo).2 hus hsz
    (rankOrderOK_sound ds seq hord).1 (rankOrderOK_sound ds seq hord).2 ha0 hacc

/-- size clause with every hypothesis executable (`topo`, `rank_sorted`, `usok`, `acc_ok` of the op
`c18_area`; the last one is evaluated on networks of at most 64 cells) -/
theorem area_size_of_checks (ds : Array Nat) (seq : List Nat) (usMain : Array Nat) (uparea area : Array Int)
    (amin : Int) (htopo : isTopo ds seq = true) (hord : rankOrderOK ds seq = true)
    (hus : usMainOK ds usMain = true) (hacc : accumOK ds seq area uparea = true) :
    let r := subbasinsArea ds seq usMain uparea amin
    ∀ o ∈ r.2, ds[o]! ≠ o → labelArea area r.1 r.1[o]! > amin := by
  unfold accumOK at hacc
  simp only [Bool.and_eq_true, beq_iff_eq, List.all_eq_true, decide_eq_true_eq] at hacc
  exact area_size_of_check ds seq usMain uparea area amin htopo hord hus hacc.1
    (fun i hi => (hacc.2 i hi).1) (fun d hd => (hacc.2 d hd).2)

/-- the executable size check, read back -/
theorem area_size_cert (ds : Array Nat) (area : Array Int) (amin : Int) (outlets : List Nat)
    (labels : Array Int) (h : areaSizeOK ds area amin outlets labels = true) :
    ∀ o ∈ outlets, ds[o]! = o ∨ labelArea area labels labels[o]! > amin := by
  intro o ho
  unfold areaSizeOK at h
  have := (List.all_eq_true.1 h) o ho
  simpa using this

/-! ## the order hypothesis is what the harness checks -/

/-- The executable test `isTopo` (reported as `topo` by every op, on the cell order
the implementation actually used) implies both hypotheses of the partition theorems. -/
theorem order_check_sound (ds : Array Nat) (seq : List Nat) (h : isTopo ds seq = true) :
    Topo ds seq ∧ ∀ i ∈ seq, i < ds.size := isTopo_sound ds seq h

theorem streamorder_partition_of_check (ds : Array Nat) (seq : List Nat) (strord : Array Int)
    (mask : Option (Array Bool)) (minSto : Int) (h : isTopo ds seq = true) :
    let r := subbasinsStreamorder ds seq strord mask minSto
    (∀ (k o : Nat), r.2[k]? = some o → r.1[o]! = (k : Int) + 1) ∧
    (∀ i ∈ seq, LabelOK ds (· ∈ r.2) (fun o => r.1[o]!) i r.1[i]!) ∧
    (∀ i, i ∉ seq → r.1[i]! = 0) :=
  streamorder_partition ds seq strord mask minSto (isTopo_sound ds seq h).1 (isTopo_sound ds seq h).2

theorem area_partition_of_check (ds : Array Nat) (seq : List Nat) (usMain : Array Nat)
    (uparea : Array Int) (amin : Int) (h : isTopo ds seq = true) :
    let r := subbasinsArea ds seq usMain uparea amin
    (∀ (k o : Nat), r.2[k]? = some o → r.1[o]! = (k : Int) + 1) ∧
    (∀ i ∈ seq, LabelOK ds (· ∈ r.2) (fun o => r.1[o]!) i r.1[i]!) ∧
    (∀ i, i ∉ seq → r.1[i]! = 0) :=
  area_partition ds seq usMain uparea amin (isTopo_sound ds seq h).1 (isTopo_sound ds seq h).2

/-! ## certificate for any of the three methods (evaluated on the implementation's output) -/

/-- If the executable check `subOK` accepts `(outlets, labels)` then every outlet
carries a non-zero label and every cell of the network carries the label of the first returned
outlet on its (unbounded) downstream path, 0 iff there is none. -/
theorem subOK_sound (ds : Array Nat) (outlets : List Nat) (labels : Array Int)
    (h : subOK ds outlets labels = true) :
    (∀ o ∈ outlets, labels[o]! ≠ 0) ∧
    (∀ i, isValid ds i = true → LabelOK ds (· ∈ outlets) (fun o => labels[o]!) i labels[i]!) ∧
    (∀ i, isValid ds i = true → (labels[i]! = 0 ↔ ∀ m, iterA ds m i ∉ outlets)) := by
  unfold subOK at h
  simp only [Bool.and_eq_true, List.all_eq_true, decide_eq_true_eq, bne_iff_ne, ne_eq,
    List.mem_range, Bool.or_eq_true, Bool.not_eq_true'] at h
  obtain ⟨hout, hcell⟩ := h
  have hflag : ∀ j, (outletFlags ds.size outlets)[j]! = true ↔ j ∈ outlets := by
    intro j
    rw [outletFlags_iff]
    exact ⟨fun h => h.1, fun h => ⟨h, (hout j h).1⟩⟩
  have hlab : ∀ i, isValid ds i = true → LabelOK ds (· ∈ outlets) (fun o => labels[o]!) i labels[i]! := by
    intro i hv
    have hi : i < ds.size := by
      simp only [isValid, Bool.and_eq_true, decide_eq_true_eq] at hv; exact hv.1
    rcases hcell i hi with hc | hc
    · rw [hv] at hc; cases hc
    · cases hw : firstOutletWalk ds (outletFlags ds.size outlets) (ds.size + 1) i with
      | none => rw [hw] at hc; cases hc
      | some r =>
        rw [hw] at hc
        have hs := (firstOutletWalk_labelOK ds _ (fun o => labels[o]!) _ i r hw).congr hflag (fun _ _ => rfl)
        cases r <;> simp only [beq_iff_eq] at hc <;> rw [hc] <;> exact hs
  refine ⟨fun o ho => (hout o ho).2, hlab, fun i hv => ?_⟩
  exact (hlab i hv).zero_iff (fun o ho => (hout o ho).2)

/-- In a map accepted by `subOK` a network cell that is not a
returned outlet carries the label of its downstream cell. -/
theorem subOK_upstream_closed (ds : Array Nat) (outlets : List Nat) (labels : Array Int)
    (h : subOK ds outlets labels = true) (j : Nat) (hj : isValid ds j = true)
    (hd : isValid ds ds[j]! = true) (hout : j ∉ outlets) : labels[j]! = labels[ds[j]!]! := by
  obtain ⟨_, h2, _⟩ := subOK_sound ds outlets labels h
  exact (h2 j hj).eq_down (h2 _ hd) hout

/-- the executable check `idsOK`, read back -/
theorem idsOK_sound (outlets : List Nat) (labels : Array Int) (h : idsOK outlets labels = true) :
    ∀ k, k < outlets.length → labels[outlets[k]!]! = (k : Int) + 1 := by
  intro k hk
  unfold idsOK at h
  have := (List.all_eq_true.1 h) k (List.mem_range.2 hk)
  simpa using this

/-! ## Pfafstetter -/

/-- Relative to the branch seeds `pfaf_branch` the worklist loop leaves behind, for every input on which the model
terminates: every cell of the network carries, modulo `10^depth`, the seed of the first *seeded* cell on its downstream
path, 0 if there is none. (That the first *returned outlet* carries the same code is `pfaf_partition`.) -/
theorem pfaf_fill_partial (pits : List Nat) (ds : Array Nat) (seq : List Nat) (usMain : Array Nat)
    (uparea : Array Int) (mask : Option (Array Bool)) (depth : Nat)
    (htopo : Topo ds seq) (hb : ∀ i ∈ seq, i < ds.size)
    (br : Array Int) (idxs : List Nat) (tie ok : Bool)
    (h : pfBranch pits ds seq usMain uparea mask depth = some (br, idxs, tie, ok)) :
    ∃ lab, subbasinsPfafstetter pits ds seq usMain uparea mask depth = some (lab, idxs, tie, ok) ∧
      ∀ i ∈ seq, LabelOK ds (fun o => br[o]! ≠ 0) (fun o => br[o]! % (10 : Int) ^ depth) i lab[i]! := by
  have hb' : ∀ i ∈ seq, i < br.size := fun i hi => by
    rw [pfBranch_size _ _ _ _ _ _ _ _ _ _ _ h]; exact hb i hi
  refine ⟨amap (fun v => v % (10 : Int) ^ depth) (fillnodataUpstream ds seq br 0),
    by simp [subbasinsPfafstetter, h], fun i hi => ?_⟩
  rw [amap_fill_get! _ (hb' i hi)]
  exact (fill_labelOK htopo hb' (isOut := fun o => br[o]! ≠ 0) (fun s _ hne hs => absurd hne hs)
    (fun v => v % (10 : Int) ^ depth) (by simp) i hi).congr (fun _ => Iff.rfl)
    (fun o ho => congrArg (· % (10 : Int) ^ depth) (fill_of_ne htopo hb' ho))

/-- Digits 1–9 per level, for every input on which the model terminates: with `depth ≥ 1`, every cell of the
network carries 0 or a code with exactly `depth` digits, each in 1..9 (`dig k` = digit of level `k`,
0 = deepest). Invariant of the worklist loop: every code written to `pfaf_branch` is `11…1` plus
increments `δ·10^e`, `δ ∈ 1..8`, at a level `e` whose digit was still 1. -/
theorem pfaf_digits (pits : List Nat) (ds : Array Nat) (seq : List Nat) (usMain : Array Nat)
    (uparea : Array Int) (mask : Option (Array Bool)) (depth : Nat) (hd : 1 ≤ depth)
    (htopo : Topo ds seq) (hb : ∀ i ∈ seq, i < ds.size)
    (lab : Array Int) (idxs : List Nat) (tie ok : Bool)
    (h : subbasinsPfafstetter pits ds seq usMain uparea mask depth = some (lab, idxs, tie, ok)) :
    ∀ i ∈ seq, lab[i]! = 0 ∨
      (0 < lab[i]! ∧ lab[i]! < (10 : Int) ^ depth ∧
        ∀ k, k < depth → 1 ≤ dig k lab[i]! ∧ dig k lab[i]! ≤ 9) := by
  intro i hi
  obtain ⟨br, hbr, _⟩ := subbasinsPfafstetter_some h
  obtain ⟨lab', hl', hlab⟩ := pfaf_fill_partial pits ds seq usMain uparea mask depth htopo hb br idxs tie ok hbr
  obtain rfl : lab = lab' := by rw [h] at hl'; exact (Prod.mk.inj (Option.some.inj hl')).1
  rcases hlab i hi with ⟨hv, _⟩ | ⟨m, hm, hv, _⟩
  · exact Or.inl hv
  · rw [hv]
    exact Or.inr (((pfBranch_good pits ds seq usMain uparea mask depth hd br idxs tie ok hbr _).resolve_left
      hm).emod_dig hd)

/-- First-returned-outlet partition of the Pfafstetter map, for every input for which
the model run meets its side condition `ok = true`, the 4th component: every inter-basin outlet
`idx1` was, when it was created, a raster cell whose code was 0 or the code of the inter-basin
below it — i.e. the (at most four) tributaries of a stem were visited from down- to upstream:
every returned outlet carries a non-zero code and every cell of the network carries the code of
the FIRST returned outlet on its downstream path, 0 iff there is none.
Loop invariant (`PfafInv`): a coded cell that is not a returned outlet is the main upstream cell of its
downstream cell, is a stream cell, and carries its downstream cell's code.
`pfaf_ok` shows the side condition under the documented preconditions (`pfaf_partition_total`, `pfaf_closure`). -/
theorem pfaf_partition (pits : List Nat) (ds : Array Nat) (seq : List Nat) (usMain : Array Nat)
    (uparea : Array Int) (mask : Option (Array Bool)) (depth : Nat) (hd : 1 ≤ depth)
    (htopo : Topo ds seq) (hb : ∀ i ∈ seq, i < ds.size) (hus : usMainOK ds usMain = true)
    (lab : Array Int) (idxs : List Nat) (tie : Bool)
    (h : subbasinsPfafstetter pits ds seq usMain uparea mask depth = some (lab, idxs, tie, true)) :
    (∀ o ∈ idxs, lab[o]! ≠ 0) ∧
    (∀ i ∈ seq, LabelOK ds (· ∈ idxs) (fun o => lab[o]!) i lab[i]!) ∧
    (∀ i ∈ seq, lab[i]! = 0 ↔ ∀ m, iterA ds m i ∉ idxs) := by
  obtain ⟨br, hbr, rfl⟩ := subbasinsPfafstetter_some h
  have hinv := pfBranch_inv pits ds seq usMain uparea mask depth hus hb br idxs tie hbr
  have hgood := pfBranch_good pits ds seq usMain uparea mask depth hd br idxs tie true hbr
  have hb' : ∀ i ∈ seq, i < br.size := fun i hi => by rw [hinv.size]; exact hb i hi
  have hget : ∀ j, j < ds.size →
      (amap (fun v => v % (10 : Int) ^ depth) (fillnodataUpstream ds seq br 0))[j]! =
        (fillnodataUpstream ds seq br 0)[j]! % (10 : Int) ^ depth :=
    fun j hj => amap_fill_get! _ (hinv.size ▸ hj)
  have hout : ∀ o ∈ idxs,
      (amap (fun v => v % (10 : Int) ^ depth) (fillnodataUpstream ds seq br 0))[o]! ≠ 0 := by
    intro o ho
    obtain ⟨hlt, hne⟩ := hinv.out o ho
    rw [hget o hlt, fill_of_ne htopo hb' hne]
    rcases hgood o with h0 | hg
    · exact absurd h0 hne
    · have := (hg.emod_dig hd).1; omega
  have hlab : ∀ i ∈ seq, LabelOK ds (· ∈ idxs)
      (fun o => (amap (fun v => v % (10 : Int) ^ depth) (fillnodataUpstream ds seq br 0))[o]!) i
      (amap (fun v => v % (10 : Int) ^ depth) (fillnodataUpstream ds seq br 0))[i]! := by
    intro i hi
    rw [hget i (hb i hi)]
    exact (hinv.partition htopo hb (fun v => v % (10 : Int) ^ depth) (by simp) i hi).congr
      (fun _ => Iff.rfl) (fun o ho => (hget o (hinv.out o ho).1).symm)
  exact ⟨hout, hlab, fun i hi => (hlab i hi).zero_iff hout⟩

/-- One step of the side condition: in a state that satisfies the partition invariant, the check `idx1 < n ∧ (pfaf_branch[idx1] = 0 ∨ pfaf_branch[idx1] = pfaf_int_ds)` made
when the inter-basin outlet `idx1 = idxs_us_main[d]` above the confluence cell `d` is created succeeds
whenever `idx1` is a cell, is not yet a returned outlet, and `d` carries `pfaf_int_ds`. -/
theorem pfaf_ok_step_partial {ds usMain : Array Nat} {so br : Array Int} {idxs : List Nat}
    (hinv : PfafInv ds usMain so br idxs) (hus : usMainOK ds usMain = true)
    {d : Nat} {intDs : Int} (hd : d < ds.size) (h1 : usMain[d]! < ds.size) (hni : usMain[d]! ∉ idxs)
    (hconf : br[d]! = intDs) :
    (decide (usMain[d]! < ds.size) && (br[usMain[d]!]! == 0 || br[usMain[d]!]! == intDs)) = true := by
  -- a coded cell that is not an outlet carries the code of its downstream cell, here `d`
  simp only [Bool.and_eq_true, decide_eq_true_eq, Bool.or_eq_true, beq_iff_eq]
  refine ⟨h1, ?_⟩
  by_cases hz : br[usMain[d]!]! = 0
  · exact Or.inl hz
  · obtain ⟨_, h2, _, _⟩ := hinv.down _ h1 hz hni
    rw [(usMainOK_spec hus d hd h1).2] at h2
    exact Or.inr (h2.symm.trans hconf)

/-- Under the same side condition a cell of the network that is
not a returned outlet carries the code of its downstream cell. -/
theorem pfaf_upstream_closed (pits : List Nat) (ds : Array Nat) (seq : List Nat) (usMain : Array Nat)
    (uparea : Array Int) (mask : Option (Array Bool)) (depth : Nat) (hd : 1 ≤ depth)
    (htopo : Topo ds seq) (hb : ∀ i ∈ seq, i < ds.size) (hus : usMainOK ds usMain = true)
    (lab : Array Int) (idxs : List Nat) (tie : Bool)
    (h : subbasinsPfafstetter pits ds seq usMain uparea mask depth = some (lab, idxs, tie, true))
    (j : Nat) (hj : j ∈ seq) (hout : j ∉ idxs) : lab[j]! = lab[ds[j]!]! := by
  obtain ⟨_, h2, _⟩ := pfaf_partition pits ds seq usMain uparea mask depth hd htopo hb hus lab idxs tie h
  exact (h2 j hj).eq_down (h2 _ (htopo.ds_mem j hj)) hout

/-- Under the same side condition, on every link that does not leave a returned outlet the two codes are equal, so the
rule "at the first level where the codes differ the downstream digit is odd and smaller" holds trivially there
(`pfaf_link` covers every link). -/
theorem pfaf_link_nonoutlet (pits : List Nat) (ds : Array Nat) (seq : List Nat) (usMain : Array Nat)
    (uparea : Array Int) (mask : Option (Array Bool)) (depth : Nat) (hd : 1 ≤ depth)
    (htopo : Topo ds seq) (hb : ∀ i ∈ seq, i < ds.size) (hus : usMainOK ds usMain = true)
    (lab : Array Int) (idxs : List Nat) (tie : Bool)
    (h : subbasinsPfafstetter pits ds seq usMain uparea mask depth = some (lab, idxs, tie, true))
    (j : Nat) (hj : j ∈ seq) (hout : j ∉ idxs) (k : Nat) : linkOKAt ds lab k j = true := by
  have := pfaf_upstream_closed pits ds seq usMain uparea mask depth hd htopo hb hus lab idxs tie h j hj hout
  unfold linkOKAt
  simp [this]

/-! ### under the documented preconditions the side condition is met -/

/-- The side condition holds for every input that satisfies the documented preconditions and on which the model
terminates: `depth ≥ 1`, a downstream-first cell order that holds every cell of the network,
a main-upstream map that is a map to inflowing cells (`usMainOK`) and is defined wherever there is an inflow,
an upstream-area field that is strictly larger at the downstream cell (accumulation of positive cell areas;
equal areas of sibling cells are allowed: the model orders them by the stable sort `sortDesc`, and the theorem is about
that order), distinct pits. Any mask. Then the model's flag `ok` is `true`: whenever an
inter-basin outlet is created it is a raster cell whose code is 0 or the code of the inter-basin below.
Proof: one joint invariant of `pfPits` / `pfLoop` / `pfInner` (`pfBranch_link`):
(1) `PfFresh`/`PfFreshIn`: every pending entry `(c, d)` of `labs` owns the block `[c, c + 10^(depth-d+1))`, blocks are
pairwise disjoint and hold no code other than their root, the unused part of the popped block holds no code at all;
(2) `PfG`: the partition invariant `PfafInv`, distinct returned outlets carry distinct codes, every coded cell has a
coded downstream cell; hence (`PfG.chain`, `PfG.chain_above`) the cells of one code form one contiguous chain of
main-upstream links above the code's outlet, ordered by upstream area, and an inter-basin fill relabels exactly the
cells of `pfaf_int_ds` above the confluence and no returned outlet (`PfG.step_int`);
(3) `PfRem`: every remaining tributary is an unassigned non-main inflow (`tributaries_nonmain`, from the recurrence of
the classic stream order) whose confluence cell carries `pfaf_int_ds` or whose inter-basin outlet was returned already,
kept by the inter-basin fill because the confluences are sorted by upstream area (`sortDesc_sorted`). -/
theorem pfaf_ok (pits : List Nat) (ds : Array Nat) (seq : List Nat) (usMain : Array Nat)
    (uparea : Array Int) (mask : Option (Array Bool)) (depth : Nat) (hd : 1 ≤ depth)
    (htopo : Topo ds seq) (hb : ∀ i ∈ seq, i < ds.size)
    (hall : ∀ i, i < ds.size → ds[i]! < ds.size → i ∈ seq)
    (hus : usMainOK ds usMain = true)
    (htot : ∀ i ∈ seq, ds[i]! ≠ i → usMain[ds[i]!]! < ds.size)
    (hmono : ∀ i ∈ seq, ds[i]! ≠ i → uparea[i]! < uparea[ds[i]!]!)
    (hpn : pits.Nodup) (hpits : ∀ p ∈ pits, p ∈ seq ∧ ds[p]! = p)
    (lab : Array Int) (idxs : List Nat) (tie ok : Bool)
    (h : subbasinsPfafstetter pits ds seq usMain uparea mask depth = some (lab, idxs, tie, ok)) :
    ok = true := by
  obtain ⟨br, hbr, _⟩ := subbasinsPfafstetter_some h
  exact (pfBranch_link pits ds seq usMain uparea mask depth hd
    ⟨htopo, hb, hall, usMainOK_spec hus, htot, hmono⟩ hpn hpits br idxs tie ok hbr).1

/-- `pfaf_partition` without the flag hypothesis (`pfaf_ok`): under the documented preconditions every returned outlet carries a non-zero
code, every cell of the network carries the code of the FIRST returned outlet on its downstream path, and a cell is
unlabelled iff no returned outlet lies on that path. -/
theorem pfaf_partition_total (pits : List Nat) (ds : Array Nat) (seq : List Nat) (usMain : Array Nat)
    (uparea : Array Int) (mask : Option (Array Bool)) (depth : Nat) (hd : 1 ≤ depth)
    (htopo : Topo ds seq) (hb : ∀ i ∈ seq, i < ds.size)
    (hall : ∀ i, i < ds.size → ds[i]! < ds.size → i ∈ seq)
    (hus : usMainOK ds usMain = true)
    (htot : ∀ i ∈ seq, ds[i]! ≠ i → usMain[ds[i]!]! < ds.size)
    (hmono : ∀ i ∈ seq, ds[i]! ≠ i → uparea[i]! < uparea[ds[i]!]!)
    (hpn : pits.Nodup) (hpits : ∀ p ∈ pits, p ∈ seq ∧ ds[p]! = p)
    (lab : Array Int) (idxs : List Nat) (tie ok : Bool)
    (h : subbasinsPfafstetter pits ds seq usMain uparea mask depth = some (lab, idxs, tie, ok)) :
    (∀ o ∈ idxs, lab[o]! ≠ 0) ∧
    (∀ i ∈ seq, LabelOK ds (· ∈ idxs) (fun o => lab[o]!) i lab[i]!) ∧
    (∀ i ∈ seq, lab[i]! = 0 ↔ ∀ m, iterA ds m i ∉ idxs) := by
  have hok := pfaf_ok pits ds seq usMain uparea mask depth hd htopo hb hall hus htot hmono hpn hpits
    lab idxs tie ok h
  subst hok
  exact pfaf_partition pits ds seq usMain uparea mask depth hd htopo hb hus lab idxs tie h

/-- Under the documented preconditions a cell of the
network that is not a returned outlet carries the code of its downstream cell. -/
theorem pfaf_closure (pits : List Nat) (ds : Array Nat) (seq : List Nat) (usMain : Array Nat)
    (uparea : Array Int) (mask : Option (Array Bool)) (depth : Nat) (hd : 1 ≤ depth)
    (htopo : Topo ds seq) (hb : ∀ i ∈ seq, i < ds.size)
    (hall : ∀ i, i < ds.size → ds[i]! < ds.size → i ∈ seq)
    (hus : usMainOK ds usMain = true)
    (htot : ∀ i ∈ seq, ds[i]! ≠ i → usMain[ds[i]!]! < ds.size)
    (hmono : ∀ i ∈ seq, ds[i]! ≠ i → uparea[i]! < uparea[ds[i]!]!)
    (hpn : pits.Nodup) (hpits : ∀ p ∈ pits, p ∈ seq ∧ ds[p]! = p)
    (lab : Array Int) (idxs : List Nat) (tie ok : Bool)
    (h : subbasinsPfafstetter pits ds seq usMain uparea mask depth = some (lab, idxs, tie, ok))
    (j : Nat) (hj : j ∈ seq) (hout : j ∉ idxs) : lab[j]! = lab[ds[j]!]! := by
  obtain ⟨_, h2, _⟩ := pfaf_partition_total pits ds seq usMain uparea mask depth hd htopo hb hall hus htot
    hmono hpn hpits lab idxs tie ok h
  exact (h2 j hj).eq_down (h2 _ (htopo.ds_mem j hj)) hout

/-- Link rule of the Pfafstetter map on every link: under the documented preconditions, for every level `k < depth` and
every cell `j` of the network: if `j` and its downstream cell are labelled, lie in the same basin of the level above
(`pre k` equal) and their digits at level `k` differ, then the downstream digit is odd (an inter-basin on the main stem)
and smaller than the digit of `j` — including the links `o → ds o` that leave a returned outlet.
Proof (`pfBranch_link`): the joint invariant of `pfaf_ok` extended by
(a) `PfQ`: the worklist is processed level by level (sorted by level, at most two levels pending) and the digits
`0 .. depth-d` of a pending code of level `d` are all 1; (b) `PfH`/`PfHIn`: every returned outlet `o` that is not a pit was
created at some level `e < depth` with `LinkE e code(o) code(ds o)` (the codes agree above `e`, the digit of `ds o` at `e` is
odd and smaller: the confluence cell carries `pfaf0 + 2k·10^e`, the tributary `pfaf0 + (2i+1)·10^e`, the inter-basin above
`pfaf0 + (2i+2)·10^e`, `k ≤ i ≤ 3`); no pending entry is shallower than `e`, so a later inter-basin fill relabels `ds o` only
below level `e` (`quot_refine`), except at level `e` itself, which is excluded for outlets created by an earlier `pfInner`
because their downstream code lies outside the popped block, and for outlets of the running `pfInner` because the fill stays
strictly above the current confluence (upstream areas). `LinkE.final` turns `LinkE e` into the rule for the codes reduced
modulo `10^depth` at every level `k` (`k > e`: digits equal; `k = e`: the rule; `k < e`: prefixes differ). -/
theorem pfaf_link (pits : List Nat) (ds : Array Nat) (seq : List Nat) (usMain : Array Nat)
    (uparea : Array Int) (mask : Option (Array Bool)) (depth : Nat) (hd : 1 ≤ depth)
    (htopo : Topo ds seq) (hb : ∀ i ∈ seq, i < ds.size)
    (hall : ∀ i, i < ds.size → ds[i]! < ds.size → i ∈ seq)
    (hus : usMainOK ds usMain = true)
    (htot : ∀ i ∈ seq, ds[i]! ≠ i → usMain[ds[i]!]! < ds.size)
    (hmono : ∀ i ∈ seq, ds[i]! ≠ i → uparea[i]! < uparea[ds[i]!]!)
    (hpn : pits.Nodup) (hpits : ∀ p ∈ pits, p ∈ seq ∧ ds[p]! = p)
    (lab : Array Int) (idxs : List Nat) (tie ok : Bool)
    (h : subbasinsPfafstetter pits ds seq usMain uparea mask depth = some (lab, idxs, tie, ok))
    (k : Nat) (hk : k < depth) (j : Nat) (hj : j ∈ seq) : linkOKAt ds lab k j = true := by
  have hok := pfaf_ok pits ds seq usMain uparea mask depth hd htopo hb hall hus htot hmono hpn hpits
    lab idxs tie ok h
  subst hok
  by_cases hout : j ∈ idxs
  · by_cases hp : ds[j]! = j
    · unfold linkOKAt; simp [hp]
    · obtain ⟨br, hbr, rfl⟩ := subbasinsPfafstetter_some h
      obtain ⟨_, g, hh⟩ := pfBranch_link pits ds seq usMain uparea mask depth hd
        ⟨htopo, hb, hall, usMainOK_spec hus, htot, hmono⟩ hpn hpits br idxs tie true hbr
      obtain ⟨e, he, hl, _⟩ := hh j hout hp
      obtain ⟨jlt, jne⟩ := g.inv.out j hout
      have hdne := g.dn j jlt jne
      have hlj := pfaf_lab_seed ds seq br depth htopo hb g.inv.size j hj jne
      have hld := pfaf_lab_seed ds seq br depth htopo hb g.inv.size _ (htopo.ds_mem j hj) hdne
      unfold linkOKAt
      simp only [hlj, hld]
      simp only [Bool.or_eq_true, Bool.and_eq_true, beq_iff_eq, bne_iff_ne, ne_eq, decide_eq_true_eq]
      rcases hl.final he k hk with h3 | h3 | h3
      · exact Or.inl (Or.inl (Or.inr h3))
      · exact Or.inl (Or.inr h3)
      · exact Or.inr h3
  · exact pfaf_link_nonoutlet pits ds seq usMain uparea mask depth hd htopo hb hus lab idxs tie h j hj hout k

/-- the executable link certificate accepts the model's output for every input that satisfies the documented
preconditions (the order holds every cell of the network) -/
theorem pfaf_linkOK (pits : List Nat) (ds : Array Nat) (seq : List Nat) (usMain : Array Nat)
    (uparea : Array Int) (mask : Option (Array Bool)) (depth : Nat) (hd : 1 ≤ depth)
    (htopo : Topo ds seq) (hb : ∀ i ∈ seq, i < ds.size)
    (hall : ∀ i, i < ds.size → ds[i]! < ds.size → i ∈ seq)
    (hval : ∀ i, isValid ds i = true → i ∈ seq)
    (hus : usMainOK ds usMain = true)
    (htot : ∀ i ∈ seq, ds[i]! ≠ i → usMain[ds[i]!]! < ds.size)
    (hmono : ∀ i ∈ seq, ds[i]! ≠ i → uparea[i]! < uparea[ds[i]!]!)
    (hpn : pits.Nodup) (hpits : ∀ p ∈ pits, p ∈ seq ∧ ds[p]! = p)
    (lab : Array Int) (idxs : List Nat) (tie ok : Bool)
    (h : subbasinsPfafstetter pits ds seq usMain uparea mask depth = some (lab, idxs, tie, ok)) :
    linkOK ds depth lab = true := by
  unfold linkOK
  simp only [List.all_eq_true, List.mem_range, Bool.or_eq_true, Bool.not_eq_true']
  intro k hk i _
  by_cases hv : isValid ds i = true
  · exact Or.inr (pfaf_link pits ds seq usMain uparea mask depth hd htopo hb hall hus htot hmono hpn hpits
      lab idxs tie ok h k hk i (hval i hv))
  · left; simpa using hv

/-- Refinement across depths: under the documented preconditions the
map for `depth + 1`, integer-divided by 10, is the map for `depth` — in every cell of the raster.
Proof (`pfBranch_refine`): a simulation between the two runs of the model.
(a) While levels `≤ depth` are processed, the run for `depth + 1` is in lock-step with the run for `depth`: same
outlets, codes `phi c = 10·c + 1`, same worklist plus entries of level `depth + 1` at its end (`pfPits_sim`, `pfInner_sim`,
`pfLoop_sim`). The two reduced stream orders differ only on cells of order `depth + 2`; the stem fills never meet such a
cell (`stemFill_sim_sub`: the main upstream cell keeps the order), and no tributary of order `depth + 2` hangs on a cell
that carries a code of level `≤ depth` (`trib_filter_eq`, from the invariant `PfOrd`: the cells of a pending code of
level `d` have order `≤ d`). (b) What the deeper run does afterwards (level `depth + 1` only) changes the last digit of a
coded cell, and gives a newly coded cell a code that agrees with its downstream cell above the last digit (`PfEvo`: one
`pfInner` moves codes inside the popped block only; `pfLoop_ref`). (c) `fill_refine`: hence the filled seeds of the
deeper run, divided by 10, are the filled seeds of the shallower run; reduction modulo `10^(depth+1)` / `10^depth`
commutes with the division (`quot_mod`). -/
theorem pfaf_refine (pits : List Nat) (ds : Array Nat) (seq : List Nat) (usMain : Array Nat)
    (uparea : Array Int) (mask : Option (Array Bool)) (depth : Nat) (hd : 1 ≤ depth)
    (htopo : Topo ds seq) (hb : ∀ i ∈ seq, i < ds.size)
    (hall : ∀ i, i < ds.size → ds[i]! < ds.size → i ∈ seq)
    (hus : usMainOK ds usMain = true)
    (htot : ∀ i ∈ seq, ds[i]! ≠ i → usMain[ds[i]!]! < ds.size)
    (hmono : ∀ i ∈ seq, ds[i]! ≠ i → uparea[i]! < uparea[ds[i]!]!)
    (hpn : pits.Nodup) (hpits : ∀ p ∈ pits, p ∈ seq ∧ ds[p]! = p)
    (lab lab' : Array Int) (idxs idxs' : List Nat) (tie ok tie' ok' : Bool)
    (h : subbasinsPfafstetter pits ds seq usMain uparea mask depth = some (lab, idxs, tie, ok))
    (h' : subbasinsPfafstetter pits ds seq usMain uparea mask (depth + 1) = some (lab', idxs', tie', ok')) :
    lab.size = lab'.size ∧ ∀ i : Nat, lab'[i]! / 10 = lab[i]! := by
  have c : PfCtx ds usMain seq uparea := ⟨htopo, hb, hall, usMainOK_spec hus, htot, hmono⟩
  obtain ⟨brA, hbr, rfl⟩ := subbasinsPfafstetter_some h
  obtain ⟨brB, hbr', rfl⟩ := subbasinsPfafstetter_some h'
  obtain ⟨k1, k2, gB, hszA⟩ := pfBranch_refine pits ds seq usMain uparea mask depth hd c hpn hpits
    brA brB idxs idxs' tie ok tie' ok' hbr hbr'
  obtain ⟨_, gA, _⟩ := pfBranch_link pits ds seq usMain uparea mask depth hd c hpn hpits brA idxs tie ok hbr
  have hszB := gB.inv.size
  have hbA : ∀ i ∈ seq, i < brA.size := fun i hi => by rw [hszA]; exact hb i hi
  have hbB : ∀ i ∈ seq, i < brB.size := fun i hi => by rw [hszB]; exact hb i hi
  have hfill : ∀ i : Nat, (fillnodataUpstream ds seq brB 0)[i]! / 10 = (fillnodataUpstream ds seq brA 0)[i]! := by
    intro i
    by_cases hi : i ∈ seq
    · exact fill_refine ds seq brA brB htopo hbA hbB k1 k2 (fun s hs => gB.dn s (gB.lt hs) hs) i hi
    · -- outside the order nothing is filled, and no cell there carries a code
      have e1 : (fillnodataUpstream ds seq brA 0)[i]! = brA[i]! := fill_untouched ds brA 0 seq htopo hbA i hi
      have e2 : (fillnodataUpstream ds seq brB 0)[i]! = brB[i]! := fill_untouched ds brB 0 seq htopo hbB i hi
      have hA0 : brA[i]! = 0 := Classical.byContradiction fun hne => hi (gA.coded_mem c hne)
      have hB0 : brB[i]! = 0 := Classical.byContradiction fun hne => hi (gB.coded_mem c hne)
      rw [e1, e2, hA0, hB0]; rfl
  refine ⟨by rw [size_amap_fill, size_amap_fill, hszA, hszB], fun i => ?_⟩
  by_cases hi : i < ds.size
  · rw [amap_fill_get! _ (hszB ▸ hi), amap_fill_get! _ (hszA ▸ hi), ← hfill i]
    have := quot_mod (A := (fillnodataUpstream ds seq brB 0)[i]!) (D := depth + 1) (k := 1) (by omega)
    simp only [Int.pow_one, Nat.add_sub_cancel] at this
    exact this
  · have hA : ¬ i < (amap (fun v => v % (10 : Int) ^ depth) (fillnodataUpstream ds seq brA 0)).size := by
      rw [size_amap_fill, hszA]; exact hi
    have hB : ¬ i < (amap (fun v => v % (10 : Int) ^ (depth + 1)) (fillnodataUpstream ds seq brB 0)).size := by
      rw [size_amap_fill, hszB]; exact hi
    simp [hA, hB]

/-- the executable form of the preconditions (reported by the op `c18_pfaf` as `pre_ok` on the arrays the
implementation was run with) implies the hypotheses of `pfaf_ok` -/
theorem pfPreOK_sound (pits : List Nat) (ds : Array Nat) (seq : List Nat) (usMain : Array Nat)
    (uparea : Array Int) (h : pfPreOK pits ds seq usMain uparea = true) :
    Topo ds seq ∧ (∀ i ∈ seq, i < ds.size) ∧ (∀ i, i < ds.size → ds[i]! < ds.size → i ∈ seq) ∧
    usMainOK ds usMain = true ∧ (∀ i ∈ seq, ds[i]! ≠ i → usMain[ds[i]!]! < ds.size) ∧
    (∀ i ∈ seq, ds[i]! ≠ i → uparea[i]! < uparea[ds[i]!]!) ∧ pits.Nodup ∧
    (∀ p ∈ pits, p ∈ seq ∧ ds[p]! = p) := by
  unfold pfPreOK at h
  simp only [Bool.and_eq_true, List.all_eq_true, List.mem_range, Bool.or_eq_true, Bool.not_eq_true',
    decide_eq_false_iff_not, List.contains_iff_mem, beq_iff_eq, decide_eq_true_eq] at h
  obtain ⟨⟨⟨⟨⟨h1, h2⟩, h3⟩, h4⟩, h5⟩, h6⟩ := h
  obtain ⟨t1, t2⟩ := isTopo_sound ds seq h1
  refine ⟨t1, t2, fun i hi hd => ?_, h2, fun i hi hp => ?_, fun i hi hp => ?_, h5, h6⟩
  · rcases h3 i hi with h | h
    · exact absurd hd h
    · exact h
  · rcases h4 i hi with h | h
    · exact absurd h hp
    · exact h.1
  · rcases h4 i hi with h | h
    · exact absurd h hp
    · exact h.2

theorem pfaf_ok_of_check (pits : List Nat) (ds : Array Nat) (seq : List Nat) (usMain : Array Nat)
    (uparea : Array Int) (mask : Option (Array Bool)) (depth : Nat) (hd : 1 ≤ depth)
    (hpre : pfPreOK pits ds seq usMain uparea = true)
    (lab : Array Int) (idxs : List Nat) (tie ok : Bool)
    (h : subbasinsPfafstetter pits ds seq usMain uparea mask depth = some (lab, idxs, tie, ok)) :
    ok = true := by
  obtain ⟨h1, h2, h3, h4, h5, h6, h7, h8⟩ := pfPreOK_sound pits ds seq usMain uparea hpre
  exact pfaf_ok pits ds seq usMain uparea mask depth hd h1 h2 h3 h4 h5 h6 h7 h8 lab idxs tie ok h

theorem pfaf_refineOK (pits : List Nat) (ds : Array Nat) (seq : List Nat) (usMain : Array Nat)
    (uparea : Array Int) (mask : Option (Array Bool)) (depth : Nat) (hd : 1 ≤ depth)
    (hpre : pfPreOK pits ds seq usMain uparea = true)
    (lab lab' : Array Int) (idxs idxs' : List Nat) (tie ok tie' ok' : Bool)
    (h : subbasinsPfafstetter pits ds seq usMain uparea mask depth = some (lab, idxs, tie, ok))
    (h' : subbasinsPfafstetter pits ds seq usMain uparea mask (depth + 1) = some (lab', idxs', tie', ok')) :
    refineOK lab lab' = true := by
  obtain ⟨h1, h2, h3, h4, h5, h6, h7, h8⟩ := pfPreOK_sound pits ds seq usMain uparea hpre
  obtain ⟨hs, hv⟩ := pfaf_refine pits ds seq usMain uparea mask depth hd h1 h2 h3 h4 h5 h6 h7 h8
    lab lab' idxs idxs' tie ok tie' ok' h h'
  unfold refineOK
  simp only [Bool.and_eq_true, beq_iff_eq, List.all_eq_true, List.mem_range]
  exact ⟨hs, fun i _ => hv i⟩

/-- A code map accepted by `digitsOK` has, in every labelled cell, exactly `depth`
digits, each in 1..9. -/
theorem pfaf_digits_cert (depth : Nat) (labels : Array Int) (h : digitsOK depth labels = true) :
    ∀ i, i < labels.size → labels[i]! = 0 ∨
      (0 < labels[i]! ∧ labels[i]! < (10 : Int) ^ depth ∧
        ∀ k, k < depth → 1 ≤ dig k labels[i]! ∧ dig k labels[i]! ≤ 9) :=
  digitsOK_sound depth labels h

/-- If `linkOK` accepts then along every downstream path
that stays inside one basin of the level above (same code prefix, all cells labelled) the digit of
level `k` never increases going downstream, and wherever it differs from the start cell's digit
it is odd — i.e. flow passes from a sub-basin (even digit) or an upstream inter-basin into
inter-basins (odd digits) with smaller digits: odd digits increase upstream along the main stem. -/
theorem pfaf_link_cert (ds : Array Nat) (depth : Nat) (labels : Array Int)
    (h : linkOK ds depth labels = true) (k : Nat) (hk : k < depth) (m i : Nat)
    (hpath : ∀ t, t ≤ m → isValid ds (iterA ds t i) = true ∧ labels[iterA ds t i]! ≠ 0 ∧
      pre k labels[iterA ds t i]! = pre k labels[i]!) :
    dig k labels[iterA ds m i]! ≤ dig k labels[i]! ∧
    (dig k labels[iterA ds m i]! ≠ dig k labels[i]! → dig k labels[iterA ds m i]! % 2 = 1) :=
  pfLink_path ds labels k (linkOK_sound ds depth labels h k hk) m i hpath

/-- the executable check `refineOK`, read back -/
theorem pfaf_refine_cert (shallow deep : Array Int) (h : refineOK shallow deep = true) :
    shallow.size = deep.size ∧ ∀ i, i < deep.size → deep[i]! / 10 = shallow[i]! := by
  unfold refineOK at h
  simp only [Bool.and_eq_true, beq_iff_eq, List.all_eq_true, List.mem_range] at h
  exact h

/-! ### non-vacuity: concrete networks meet the hypotheses and the conclusions are non-trivial -/
-- binary tree 0 ← 1 ← {2, 3}, 2 ← {4, 5}, 3 ← 6 ; Strahler order 2 on 0,1,2
def exDs : Array Nat := #[0, 0, 1, 1, 2, 2, 3]
def exSeq : List Nat := [0, 1, 2, 3, 4, 5, 6]

theorem exTopo : Topo exDs exSeq := (isTopo_sound exDs exSeq (by decide)).1

example : isTopo exDs exSeq = true := by decide
example : subbasinsStreamorder exDs exSeq #[2, 2, 2, 1, 1, 1, 1] none 1 =
    (#[4, 4, 4, 3, 2, 1, 3], [5, 4, 3, 0]) := by decide
example : subOK exDs [5, 4, 3, 0] #[4, 4, 4, 3, 2, 1, 3] = true ∧
    idsOK [5, 4, 3, 0] #[4, 4, 4, 3, 2, 1, 3] = true := by decide
-- upstream areas 7,6,3,2,1,1,1 (cell counts), threshold 1: cells 2 and 3 start sub-basins
example : subbasinsArea exDs exSeq #[1, 2, 4, 6, 7, 7, 7] #[7, 6, 3, 2, 1, 1, 1] 1 =
    (#[1, 1, 1, 2, 1, 1, 2], [0, 3]) := by decide
example : areaSizeOK exDs #[1, 1, 1, 1, 1, 1, 1] 1 [0, 3] #[1, 1, 1, 2, 1, 1, 2] = true := by decide
-- `area_size` applies to this run (all hypotheses hold) and speaks about the non-pit outlet 3
example : isTopo exDs exSeq = true ∧ rankOrderOK exDs exSeq = true ∧
    usMainOK exDs #[1, 2, 4, 6, 7, 7, 7] = true ∧
    (∀ d ∈ exSeq, #[7, 6, 3, 2, 1, 1, 1][d]! = #[1, 1, 1, 1, 1, 1, 1][d]! +
      csum (fun c => decide (exDs[c]! = d ∧ c ≠ d)) (fun c => #[7, 6, 3, 2, 1, 1, 1][c]!) exSeq) ∧
    (3 ∈ (subbasinsArea exDs exSeq #[1, 2, 4, 6, 7, 7, 7] #[7, 6, 3, 2, 1, 1, 1] 1).2 ∧ exDs[3]! ≠ 3) := by
  decide
example : labelArea #[1, 1, 1, 1, 1, 1, 1]
    (subbasinsArea exDs exSeq #[1, 2, 4, 6, 7, 7, 7] #[7, 6, 3, 2, 1, 1, 1] 1).1
    (subbasinsArea exDs exSeq #[1, 2, 4, 6, 7, 7, 7] #[7, 6, 3, 2, 1, 1, 1] 1).1[3]! > 1 :=
  area_size_of_check exDs exSeq #[1, 2, 4, 6, 7, 7, 7] #[7, 6, 3, 2, 1, 1, 1] #[1, 1, 1, 1, 1, 1, 1] 1
    (by decide) (by decide) (by decide) (by decide) (by decide) (by decide) 3 (by decide) (by decide)
-- the rank-order hypothesis of `area_size` cannot be dropped: on this 12-cell network the order below is
-- downstream-first but visits cell 9 (two steps above cell 3) before cell 5 (one step above cell 3); the
-- model then cuts 4, 9 and 5 out of the sub-basin of the non-pit outlet 3, which keeps area 3 = area_min
-- (uparea = accumulation of `area`, all other hypotheses of `area_size` hold)
example :
    let ds : Array Nat := #[0, 0, 0, 0, 3, 3, 3, 0, 0, 6, 5, 9]
    let seq := [0, 2, 1, 3, 6, 4, 8, 7, 9, 5, 11, 10]
    let usMain : Array Nat := #[7, 12, 12, 6, 12, 10, 9, 12, 12, 11, 12, 12]
    let uparea : Array Int := #[33, 3, 4, 18, 4, 5, 7, 3, 2, 6, 4, 3]
    let area : Array Int := #[3, 3, 4, 2, 4, 1, 1, 3, 2, 3, 4, 3]
    isTopo ds seq = true ∧ usMainOK ds usMain = true ∧ rankOrderOK ds seq = false ∧
    (∀ d ∈ seq, uparea[d]! = area[d]! + csum (fun c => decide (ds[c]! = d ∧ c ≠ d)) (fun c => uparea[c]!) seq) ∧
    (subbasinsArea ds seq usMain uparea 3).2 = [0, 2, 3, 4, 9, 5] ∧
    areaSizeOK ds area 3 (subbasinsArea ds seq usMain uparea 3).2 (subbasinsArea ds seq usMain uparea 3).1 = false := by
  decide +kernel
example : accumOK exDs exSeq #[1, 1, 1, 1, 1, 1, 1] #[7, 6, 3, 2, 1, 1, 1] = true ∧
    accumOK exDs exSeq #[1, 1, 1, 1, 1, 1, 1] #[7, 6, 3, 2, 1, 2, 1] = false := by decide
-- a downstream-first order that is NOT sorted by the distance to the pit is rejected by the order check
example : isTopo exDs [0, 1, 2, 4, 5, 3, 6] = true ∧ rankOrderOK exDs [0, 1, 2, 4, 5, 3, 6] = false := by decide
-- Pfafstetter, depth 1 and 2
example : subbasinsPfafstetter [0] exDs exSeq #[1, 2, 4, 6, 7, 7, 7] #[7, 6, 3, 2, 1, 1, 1] none 1 =
    some (#[1, 1, 3, 2, 5, 4, 2], [0, 3, 2, 5, 4], false, true) := by decide
example : subOK exDs [0, 3, 2, 5, 4] #[1, 1, 3, 2, 5, 4, 2] = true ∧
    digitsOK 1 #[1, 1, 3, 2, 5, 4, 2] = true ∧ linkOK exDs 1 #[1, 1, 3, 2, 5, 4, 2] = true := by decide
example : refineOK #[1, 1, 3, 2, 5, 4, 2] #[11, 11, 31, 21, 51, 41, 21] = true := by decide

-- a nested network (tributary 4 of the main stem 0-1-2-8-9 has its own tributary 7): depth 2
-- subdivides basin 2 into 21, 22, 23; a minimum-area mask (upa_min = 2) removes the small streams
def exDs2 : Array Nat := #[0, 0, 1, 2, 1, 4, 5, 5, 2, 8]
def exSeq2 : List Nat := [0, 1, 2, 4, 3, 8, 5, 9, 6, 7]
def exUpa2 : Array Int := #[10, 9, 4, 1, 4, 3, 1, 1, 2, 1]
def exMain2 : Array Nat := #[1, 2, 8, 10, 5, 6, 10, 10, 9, 10]
example : isTopo exDs2 exSeq2 = true ∧ mainUpstream exDs2 exUpa2 0 = exMain2 := by decide
example : subbasinsPfafstetter [0] exDs2 exSeq2 exMain2 exUpa2 none 1 =
    some (#[1, 1, 3, 4, 2, 2, 2, 2, 5, 5], [0, 4, 2, 3, 8], false, true) := by decide +kernel
example : subbasinsPfafstetter [0] exDs2 exSeq2 exMain2 exUpa2 none 2 =
    some (#[11, 11, 31, 41, 21, 21, 23, 22, 51, 51], [0, 4, 2, 3, 8, 7, 6], false, true) := exRun2
example : subbasinsPfafstetter [0] exDs2 exSeq2 exMain2 exUpa2 (pfMask exUpa2 (some 2)) 2 =
    some (#[11, 11, 31, 31, 21, 21, 21, 21, 31, 31], [0, 4, 2], false, true) := by decide +kernel
example : subOK exDs2 [0, 4, 2, 3, 8, 7, 6] #[11, 11, 31, 41, 21, 21, 23, 22, 51, 51] = true ∧
    digitsOK 2 #[11, 11, 31, 41, 21, 21, 23, 22, 51, 51] = true ∧
    linkOK exDs2 2 #[11, 11, 31, 41, 21, 21, 23, 22, 51, 51] = true ∧
    refineOK #[1, 1, 3, 4, 2, 2, 2, 2, 5, 5] #[11, 11, 31, 41, 21, 21, 23, 22, 51, 51] = true := by decide
-- `pfaf_ok_step_partial` on the state after the pit stem (code 11 on 0-1-2-8-9) and the first tributary
-- (code 12 on 4-5-6) have been labelled: the inter-basin outlet above the confluence cell 1 is cell 2
example : (decide (exMain2[1]! < exDs2.size) &&
      ((#[11, 11, 11, 0, 12, 12, 12, 0, 11, 11] : Array Int)[exMain2[1]!]! == 0 ||
       (#[11, 11, 11, 0, 12, 12, 12, 0, 11, 11] : Array Int)[exMain2[1]!]! == 11)) = true :=
  pfaf_ok_step_partial (so := Array.replicate 10 1) (idxs := [0, 4])
    ⟨by decide, by decide, by decide⟩ (by decide) (by decide) (by decide) (by decide) (by decide)
-- `pfaf_ok` / `pfaf_partition_total` / `pfaf_closure` on the nested network: the preconditions hold (executable form),
-- so the flag of the depth-2 run is `true` by the theorem (it is also `true` by evaluation, see above) and the
-- unconditional partition / closure statements apply to its output (7 outlets, 7 distinct codes)
example : pfPreOK [0] exDs2 exSeq2 exMain2 exUpa2 = true := exPre2
example : ∀ lab idxs tie ok, subbasinsPfafstetter [0] exDs2 exSeq2 exMain2 exUpa2 none 2 = some (lab, idxs, tie, ok) →
    ok = true :=
  fun lab idxs tie ok h => pfaf_ok_of_check _ _ _ _ _ _ 2 (by decide) exPre2 lab idxs tie ok h
example : (∀ o ∈ [0, 4, 2, 3, 8, 7, 6], (#[11, 11, 31, 41, 21, 21, 23, 22, 51, 51] : Array Int)[o]! ≠ 0) ∧
    (#[11, 11, 31, 41, 21, 21, 23, 22, 51, 51] : Array Int)[9]! =
      (#[11, 11, 31, 41, 21, 21, 23, 22, 51, 51] : Array Int)[exDs2[9]!]! := by
  obtain ⟨h1, h2, h3, h4, h5, h6, h7, h8⟩ := pfPreOK_sound [0] exDs2 exSeq2 exMain2 exUpa2 exPre2
  have hrun : subbasinsPfafstetter [0] exDs2 exSeq2 exMain2 exUpa2 none 2 =
      some (#[11, 11, 31, 41, 21, 21, 23, 22, 51, 51], [0, 4, 2, 3, 8, 7, 6], false, true) := exRun2
  exact ⟨(pfaf_partition_total _ _ _ _ _ _ 2 (by decide) h1 h2 h3 h4 h5 h6 h7 h8 _ _ _ _ hrun).1,
    pfaf_closure _ _ _ _ _ _ 2 (by decide) h1 h2 h3 h4 h5 h6 h7 h8 _ _ _ _ hrun 9 (by decide) (by decide)⟩
-- `pfaf_link` on a link that leaves a returned outlet: cell 7 (code 22, a sub-basin of basin 2) drains to cell 5 (code 21):
-- same prefix at level 0, digits 2 and 1 differ, the downstream digit 1 is odd and smaller
example : linkOKAt exDs2 #[11, 11, 31, 41, 21, 21, 23, 22, 51, 51] 0 7 = true ∧
    pre 0 (#[11, 11, 31, 41, 21, 21, 23, 22, 51, 51] : Array Int)[7]! =
      pre 0 (#[11, 11, 31, 41, 21, 21, 23, 22, 51, 51] : Array Int)[exDs2[7]!]! ∧
    dig 0 (#[11, 11, 31, 41, 21, 21, 23, 22, 51, 51] : Array Int)[7]! ≠
      dig 0 (#[11, 11, 31, 41, 21, 21, 23, 22, 51, 51] : Array Int)[exDs2[7]!]! := by
  obtain ⟨h1, h2, h3, h4, h5, h6, h7, h8⟩ := pfPreOK_sound [0] exDs2 exSeq2 exMain2 exUpa2 exPre2
  have hrun : subbasinsPfafstetter [0] exDs2 exSeq2 exMain2 exUpa2 none 2 =
      some (#[11, 11, 31, 41, 21, 21, 23, 22, 51, 51], [0, 4, 2, 3, 8, 7, 6], false, true) := exRun2
  exact ⟨pfaf_link _ _ _ _ _ _ 2 (by decide) h1 h2 h3 h4 h5 h6 h7 h8 _ _ _ _ hrun 0 (by decide) 7 (by decide),
    by decide, by decide⟩
-- `pfaf_refine` on the nested network, depths 1 and 2 (the statement is non-trivial: depth 2 splits basin 2 into 21, 22, 23)
example : refineOK #[1, 1, 3, 4, 2, 2, 2, 2, 5, 5] #[11, 11, 31, 41, 21, 21, 23, 22, 51, 51] = true :=
  pfaf_refineOK [0] exDs2 exSeq2 exMain2 exUpa2 none 1 (by decide) exPre2 _ _
    [0, 4, 2, 3, 8] [0, 4, 2, 3, 8, 7, 6] false true false true (by decide +kernel) exRun2
-- the strict monotonicity of the upstream area cannot be dropped from `pfaf_ok`: with the area of cell 8 raised
-- above that of its downstream cell 2 the confluences of the stem 0-1-2-8-9 are no longer met from down- to
-- upstream and the preconditions are rejected
example : pfPreOK [0] exDs2 exSeq2 exMain2 #[10, 9, 4, 1, 4, 3, 1, 1, 5, 1] = false := by decide +kernel
-- … and on this 5-cell star (cells 1, 2 drain to the pit 3; cells 0, 4 drain to 2) with the area of cell 2 raised above
-- that of the pit, every other precondition holding, the flag is cleared: the main stem 3-2-0 is cut twice
example : subbasinsPfafstetter [3] #[2, 3, 3, 3, 2] [3, 2, 1, 4, 0] #[5, 5, 0, 2, 5] #[1, 1, 8, 5, 1] none 1 =
    some (#[5, 4, 5, 1, 2], [3, 4, 0, 1, 2], false, false) := by decide +kernel
-- the certificates reject wrong maps: a swapped pair of inter-basin digits, a digit 0
example : linkOK exDs2 1 #[3, 3, 1, 4, 2, 2, 2, 2, 5, 5] = false := by decide
example : digitsOK 2 #[11, 10, 31, 41, 21, 21, 23, 22, 51, 51] = false := by decide
example : subOK exDs2 [0, 4, 2, 3, 8] #[1, 1, 3, 4, 2, 2, 1, 2, 5, 5] = false := by decide

end Pf.C18
