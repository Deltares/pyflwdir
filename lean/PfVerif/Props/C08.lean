import PfVerif.Proofs.C08Unique
import PfVerif.Proofs.C08Classic
import PfVerif.Proofs.C08Bound
import PfVerif.Proofs.C08Nup
import PfVerif.Proofs.C11Main
import PfVerif.Proofs.C03Topo
/-! # C08 — Strahler and classic stream orders follow their recursive definitions

All theorems quantify over every network `ds`, every downstream-first cell order `seq` (`Topo`,
established by C03 and re-checked by the harness on the order actually used), every mask and every
upstream-area field; there is no bound on sizes or on the number of tributaries of a junction.
`kidsM ds seq mask j` = the cells of the network that drain directly into `j` and lie in the mask.
Orders are natural numbers in the model (the code stores `uint8`; see `strahler_pow_le_count`). -/
namespace Pf.C08
open Pf

/-! ## Strahler order -/

/-- junction update = Strahler rule, in any arrival order. Folding the update of
`strahler_order` over the orders of the inflowing streams, in whatever order they arrive, yields
`max l + [max attained at least twice]` (and the running maximum) — for any number of tributaries. -/
theorem junction_fold (l : List Nat) (hpos : ∀ x ∈ l, 0 < x) :
    l.foldl phi (0, 0) = (strahler l, mx l) := phi_fold l hpos

/-- the Strahler rule spelled out: the maximum is attained, bounds every inflowing order, and the
result is that maximum, plus one iff at least two inflowing streams attain it -/
theorem strahler_rule_spelled (l : List Nat) (hne : l ≠ []) (hpos : ∀ x ∈ l, 0 < x) :
    mx l ∈ l ∧ (∀ x ∈ l, x ≤ mx l) ∧
    strahler l = mx l + (if 2 ≤ l.count (mx l) then 1 else 0) := by
  refine ⟨mx_mem l hpos hne, le_mx l, ?_⟩
  unfold strahler
  simp only [hne, if_false]
  split <;> rfl

theorem strahler_rule_perm {l1 l2 : List Nat} (h : l1.Perm l2) : strahler l1 = strahler l2 :=
  strahler_perm h

/-- recursive definition (main theorem). For every cell `j`: let `l` be the final orders of the
masked cells draining into `j`. If `l` is empty the order is 1 when `j` is a cell of the considered
network (headwater) and 0 otherwise; if not, it is the Strahler rule applied to `l`. -/
theorem strahler_rec (ds : Array Nat) (seq : List Nat) (mask : Option (Array Bool))
    (htopo : Topo ds seq) (hb : ∀ i ∈ seq, i < ds.size) (j : Nat) :
    (strahlerOrder ds seq mask)[j]! =
      strahlerRule (decide (j ∈ seq) && maskAt mask j)
        ((kidsM ds seq mask j).map ((strahlerOrder ds seq mask)[·]!)) :=
  (strahlerOrder_rec ds mask seq htopo hb).2 j

/-- every cell of the considered network has order ≥ 1 -/
theorem strahler_pos (ds : Array Nat) (seq : List Nat) (mask : Option (Array Bool))
    (htopo : Topo ds seq) (hb : ∀ i ∈ seq, i < ds.size) (j : Nat) (hj : j ∈ seq)
    (hm : maskAt mask j = true) : 0 < (strahlerOrder ds seq mask)[j]! :=
  (strahlerOrder_rec ds mask seq htopo hb).1 j hj hm

/-- headwaters have order 1: a cell of the network in the mask without masked inflow -/
theorem strahler_headwater (ds : Array Nat) (seq : List Nat) (mask : Option (Array Bool))
    (htopo : Topo ds seq) (hb : ∀ i ∈ seq, i < ds.size) (j : Nat) (hj : j ∈ seq)
    (hm : maskAt mask j = true)
    (hhead : ∀ c ∈ seq, ds[c]! = j → c ≠ j → maskAt mask c = false) :
    (strahlerOrder ds seq mask)[j]! = 1 := by
  rw [strahler_rec ds seq mask htopo hb j]
  have : kidsM ds seq mask j = [] := by
    rw [List.eq_nil_iff_forall_not_mem]
    intro c hc
    have hc' := (mem_kidsM ds seq mask j c).1 hc
    have := hhead c hc'.1 hc'.2.1 hc'.2.2.1
    simp [hc'.2.2.2] at this
  simp [this, strahlerRule, hj, hm]

/-- junctions: a cell with at least one masked inflow gets the maximum of the inflowing orders,
plus one iff that maximum is attained by at least two of them (any number of tributaries) -/
theorem strahler_junction (ds : Array Nat) (seq : List Nat) (mask : Option (Array Bool))
    (htopo : Topo ds seq) (hb : ∀ i ∈ seq, i < ds.size) (j : Nat)
    (hne : kidsM ds seq mask j ≠ []) :
    let l := (kidsM ds seq mask j).map ((strahlerOrder ds seq mask)[·]!)
    (strahlerOrder ds seq mask)[j]! = mx l + (if 2 ≤ l.count (mx l) then 1 else 0) ∧
    mx l ∈ l ∧ ∀ x ∈ l, x ≤ mx l := by
  intro l
  have hl : l ≠ [] := by simpa [l] using hne
  have hpos : ∀ x ∈ l, 0 < x := by
    intro x hx
    obtain ⟨c, hc, rfl⟩ := List.mem_map.1 hx
    have hc' := (mem_kidsM ds seq mask j c).1 hc
    exact strahler_pos ds seq mask htopo hb c hc'.1 hc'.2.2.2
  obtain ⟨h1, h2, h3⟩ := strahler_rule_spelled l hl hpos
  refine ⟨?_, h1, h2⟩
  rw [strahler_rec ds seq mask htopo hb j]
  show strahlerRule _ l = _
  simp only [strahlerRule, hl, if_false]
  exact h3

/-- 0 outside the network or the mask, for a downstream-closed mask -/
theorem strahler_outside (ds : Array Nat) (seq : List Nat) (mask : Option (Array Bool))
    (htopo : Topo ds seq) (hb : ∀ i ∈ seq, i < ds.size)
    (hclosed : ∀ c ∈ seq, maskAt mask c = true → maskAt mask ds[c]! = true)
    (j : Nat) (hj : ¬ (j ∈ seq ∧ maskAt mask j = true)) :
    (strahlerOrder ds seq mask)[j]! = 0 := by
  rw [strahler_rec ds seq mask htopo hb j]
  have hk : kidsM ds seq mask j = [] := by
    rw [List.eq_nil_iff_forall_not_mem]
    intro c hc
    have hc' := (mem_kidsM ds seq mask j c).1 hc
    have h1 := htopo.ds_mem c hc'.1
    have h2 := hclosed c hc'.1 hc'.2.2.2
    rw [hc'.2.1] at h1 h2
    exact hj ⟨h1, h2⟩
  have hflag : (decide (j ∈ seq) && maskAt mask j) = false := by
    by_cases h1 : j ∈ seq
    · have : maskAt mask j = false := by
        cases h : maskAt mask j
        · rfl
        · exact absurd ⟨h1, h⟩ hj
      simp [this]
    · simp [h1]
  simp [hk, hflag, strahlerRule]

/-- the recursive definition has a unique solution, and it is the model's output -/
theorem strahler_unique_solution (ds : Array Nat) (mask : Option (Array Bool)) (seq : List Nat)
    (htopo : Topo ds seq) (hb : ∀ i ∈ seq, i < ds.size) (o : Nat → Nat) (L : Nat → List Nat)
    (hL : ∀ j, (L j).Perm (kidsM ds seq mask j))
    (ho : ∀ j, o j = strahlerRule (decide (j ∈ seq) && maskAt mask j) ((L j).map o)) (j : Nat) :
    o j = (strahlerOrder ds seq mask)[j]! := by
  obtain ⟨_, hrec⟩ := strahlerOrder_rec ds mask seq htopo hb
  have key : ∀ j, (∀ c ∈ seq, ds[c]! = j → c ≠ j → o c = (strahlerOrder ds seq mask)[c]!) →
      o j = (strahlerOrder ds seq mask)[j]! := by
    intro j ih
    rw [ho j, hrec j, strahlerRule_perm _ ((hL j).map o)]
    congr 1
    apply List.map_congr_left
    intro c hc
    have hc' := (mem_kidsM ds seq mask j c).1 hc
    exact ih c hc'.1 hc'.2.1 hc'.2.2.1
  have hseq : ∀ j ∈ seq, o j = (strahlerOrder ds seq mask)[j]! :=
    htopo.induction_up _ (fun j _ ih => key j ih)
  exact key j (fun c hc _ _ => hseq c hc)

/-- the result does not depend on the cell order: any two downstream-first orders of the same
cells (hence any arrival order of the tributaries at every junction) give the same orders -/
theorem strahler_order_independent (ds : Array Nat) (mask : Option (Array Bool)) (seq1 seq2 : List Nat)
    (h1 : Topo ds seq1) (h2 : Topo ds seq2) (hb : ∀ i ∈ seq1, i < ds.size)
    (hsame : ∀ i, i ∈ seq1 ↔ i ∈ seq2) (j : Nat) :
    (strahlerOrder ds seq2 mask)[j]! = (strahlerOrder ds seq1 mask)[j]! := by
  have hb2 : ∀ i ∈ seq2, i < ds.size := fun i hi => hb i ((hsame i).2 hi)
  obtain ⟨_, hrec2⟩ := strahlerOrder_rec ds mask seq2 h2 hb2
  refine strahler_unique_solution ds mask seq1 h1 hb (fun j : Nat => (strahlerOrder ds seq2 mask)[j]!)
    (fun j => kidsM ds seq2 mask j) (fun j => ?_) (fun j => ?_) j
  · rw [List.perm_ext_iff_of_nodup (kidsM_nodup ds seq2 mask j h2.nodup)
      (kidsM_nodup ds seq1 mask j h1.nodup)]
    intro c
    simp only [mem_kidsM, hsame]
  · have : decide (j ∈ seq1) = decide (j ∈ seq2) := by simp [hsame]
    rw [this]; exact hrec2 j

/-- the model equals the order-free declarative recursion over the upstream tree (the `spec`
output of the driver) when `seq` lists exactly the valid cells (loop-free network) -/
theorem strahler_eq_spec (ds : Array Nat) (mask : Option (Array Bool)) (seq : List Nat)
    (htopo : Topo ds seq) (hb : ∀ i ∈ seq, i < ds.size) (hc : Complete ds seq) (j : Nat) :
    strahlerSpec ds mask j = (strahlerOrder ds seq mask)[j]! := by
  refine strahlerSpecF_eq ds mask seq htopo hb hc ds.size ?_ j
  have := List.Nodup.length_le_of_subset htopo.nodup
    (fun i hi => List.mem_range.2 (hb i hi) : seq ⊆ List.range ds.size)
  simpa using this

/-- certificate theorem: whatever array passes the local check `strahlerCert` (evaluated by the
driver on the implementation's output in every case) is the Strahler order of the network -/
theorem strahler_cert_sound (ds : Array Nat) (mask : Option (Array Bool)) (seq : List Nat)
    (htopo : Topo ds seq) (hb : ∀ i ∈ seq, i < ds.size) (hc : Complete ds seq)
    (ord : Array Nat) (hcert : strahlerCert ds mask ord = true) (j : Nat) :
    ord[j]! = (strahlerOrder ds seq mask)[j]! := by
  simp only [strahlerCert, Bool.and_eq_true, beq_iff_eq, List.all_eq_true, List.mem_range] at hcert
  obtain ⟨hsz, hloc⟩ := hcert
  refine strahler_unique_solution ds mask seq htopo hb (fun j : Nat => ord[j]!) (inflowsM ds mask)
    (inflowsM_perm ds mask seq htopo hb hc) (fun j => ?_) j
  rw [← isValid_iff_mem ds seq htopo hb hc j]
  by_cases hj : j < ds.size
  · exact hloc j hj
  · -- outside the array: order 0, no inflowing cell
    have h0 : ord[j]! = 0 := by
      have : ¬ j < ord.size := by omega
      simp [this]
    have hnv : isValid ds j = false := by simp [isValid, hj]
    have hnil : inflowsM ds mask j = [] := by
      have hk : kidsM ds seq mask j = [] := by
        rw [List.eq_nil_iff_forall_not_mem]
        intro c hcm
        have hc' := (mem_kidsM ds seq mask j c).1 hcm
        have := hb _ (htopo.ds_mem c hc'.1)
        rw [hc'.2.1] at this
        exact hj this
      have := inflowsM_perm ds mask seq htopo hb hc j
      rw [hk] at this
      exact this.eq_nil
    show ord[j]! = strahlerRule _ ((inflowsM ds mask j).map _)
    rw [h0, hnil, hnv]
    simp [strahlerRule]

/-- a stream of Strahler order `k` has `maskedCount ≥ 2^(k-1)`, where `maskedCount` (`Proofs/C08Bound.lean`) is the
up-to-downstream accumulation of the constant field 1 over the masked cells; that this count is at most the number of
cells is `maskedCount_le` in `Proofs/C16_val.lean` -/
theorem strahler_pow_le_count (ds : Array Nat) (seq : List Nat) (mask : Option (Array Bool))
    (htopo : Topo ds seq) (hb : ∀ i ∈ seq, i < ds.size) (j : Nat) (hj : j ∈ seq)
    (hm : maskAt mask j = true) :
    2 ^ ((strahlerOrder ds seq mask)[j]! - 1) ≤ (maskedCount ds seq mask)[j]! := by
  obtain ⟨hpos, hrec⟩ := strahlerOrder_rec ds mask seq htopo hb
  refine htopo.induction_up (fun j => maskAt mask j = true →
    2 ^ ((strahlerOrder ds seq mask)[j]! - 1) ≤ (maskedCount ds seq mask)[j]!) (fun j hj ih hm => ?_) j hj hm
  have hcnt := maskedCount_rec ds seq mask htopo hb j hj
  have hkids : ∀ c ∈ kidsM ds seq mask j,
      2 ^ ((strahlerOrder ds seq mask)[c]! - 1) ≤ (maskedCount ds seq mask)[c]! := by
    intro c hc
    have hc' := (mem_kidsM ds seq mask j c).1 hc
    exact ih c hc'.1 hc'.2.1 hc'.2.2.1 hc'.2.2.2
  obtain ⟨l, hl⟩ : ∃ l, l = (kidsM ds seq mask j).map ((strahlerOrder ds seq mask)[·]!) := ⟨_, rfl⟩
  have hsum := count_pow_le_sum (kidsM ds seq mask j) ((strahlerOrder ds seq mask)[·]!)
    ((maskedCount ds seq mask)[·]!) (mx l) hkids
  rw [← hl] at hsum
  rw [hrec j, ← hl, hcnt]
  have hflag : (decide (j ∈ seq) && maskAt mask j) = true := by simp [hj, hm]
  rw [hflag]
  unfold strahlerRule
  by_cases hnil : l = []
  · simp [hnil]
  · have hlpos : ∀ x ∈ l, 0 < x := by
      intro x hx
      rw [hl] at hx
      obtain ⟨c, hc, rfl⟩ := List.mem_map.1 hx
      have hc' := (mem_kidsM ds seq mask j c).1 hc
      exact hpos c hc'.1 hc'.2.2.2
    have hmem := mx_mem l hlpos hnil
    have hM : 0 < mx l := hlpos _ hmem
    have hc1 : 1 ≤ l.count (mx l) := List.count_pos_iff.2 hmem
    simp only [hnil, if_false, strahler]
    obtain ⟨S, hS⟩ : ∃ S, S = ((kidsM ds seq mask j).map ((maskedCount ds seq mask)[·]!)).sum := ⟨_, rfl⟩
    rw [← hS] at hsum ⊢
    obtain ⟨p, hp⟩ : ∃ p, p = 2 ^ (mx l - 1) := ⟨_, rfl⟩
    have hpow : 2 ^ mx l = 2 * p := by
      rw [hp, ← Nat.pow_succ']; congr 1; omega
    rw [← hp] at hsum
    by_cases h2 : 2 ≤ l.count (mx l)
    · simp only [h2, if_true, Nat.add_sub_cancel, hpow]
      have : 2 * p ≤ l.count (mx l) * p := Nat.mul_le_mul_right p h2
      omega
    · simp only [h2, if_false, ← hp]
      have : 1 * p ≤ l.count (mx l) * p := Nat.mul_le_mul_right p hc1
      omega

/-- no `uint8` overflow where `maskedCount < 2^255`: a Strahler order above 255 would need `maskedCount ≥ 2^255`
(`strahler_pow_le_count` contraposed). Since `maskedCount ≤ ds.size` (`maskedCount_le`, `Proofs/C16_val.lean`) the
hypothesis holds on every raster of fewer than `2^255` cells. -/
theorem strahler_no_u8_overflow (ds : Array Nat) (seq : List Nat) (mask : Option (Array Bool))
    (htopo : Topo ds seq) (hb : ∀ i ∈ seq, i < ds.size) (j : Nat) (hj : j ∈ seq)
    (hm : maskAt mask j = true) (hsmall : (maskedCount ds seq mask)[j]! < 2 ^ 255) :
    (strahlerOrder ds seq mask)[j]! ≤ 255 := by
  have h := strahler_pow_le_count ds seq mask htopo hb j hj hm
  apply Classical.byContradiction
  intro hgt
  have : 2 ^ 255 ≤ 2 ^ ((strahlerOrder ds seq mask)[j]! - 1) :=
    Nat.pow_le_pow_right (by decide) (by omega)
  omega

/-! ## classic (Hack) order -/

/-- recursive definition (main theorem): order 1 at every (masked) pit; otherwise the order of
the downstream cell, plus one iff the downstream cell is a confluence (more than one inflowing
stream) and this cell is not its main upstream cell; 0 outside the mask or the network. -/
theorem classic_rec (ds : Array Nat) (seq : List Nat) (usMain : Array Nat) (mask : Option (Array Bool))
    (htopo : Topo ds seq) (hb : ∀ i ∈ seq, i < ds.size) :
    let ord := classicOrder ds seq usMain mask
    let nup := upstreamCount ds mask
    (∀ i ∈ seq, maskAt mask i = true → ds[i]! = i → ord[i]! = 1) ∧
    (∀ i ∈ seq, maskAt mask i = true → ds[i]! ≠ i →
      ord[i]! = ord[ds[i]!]! + (if nup[ds[i]!]! > 1 ∧ usMain[ds[i]!]! ≠ i then 1 else 0)) ∧
    (∀ i, i ∉ seq ∨ maskAt mask i = false → ord[i]! = 0) := by
  intro ord nup
  obtain ⟨h1, h2⟩ := classicOrderWith_rec ds seq usMain nup mask htopo hb
  refine ⟨fun i hi hm hp => ?_, fun i hi hm hp => ?_, fun i hi => ?_⟩
  · have := h1 i hi; simp only [hm, hp, if_true, Bool.true_eq_false, if_false] at this; exact this
  · have := h1 i hi; simp only [hm, hp, if_false, Bool.true_eq_false, nonMain] at this; exact this
  · by_cases hs : i ∈ seq
    · have hm : maskAt mask i = false := by
        rcases hi with h | h
        · exact absurd hs h
        · exact h
      have := h1 i hs; simp only [hm, if_true] at this; exact this
    · exact h2 i hs

/-- the main upstream branch inherits the order unchanged (also a lone inflow) -/
theorem classic_main_inherits (ds : Array Nat) (seq : List Nat) (usMain : Array Nat)
    (mask : Option (Array Bool)) (htopo : Topo ds seq) (hb : ∀ i ∈ seq, i < ds.size)
    (i : Nat) (hi : i ∈ seq) (hm : maskAt mask i = true) (hp : ds[i]! ≠ i)
    (hmain : usMain[ds[i]!]! = i ∨ (upstreamCount ds mask)[ds[i]!]! ≤ 1) :
    (classicOrder ds seq usMain mask)[i]! = (classicOrder ds seq usMain mask)[ds[i]!]! := by
  have := (classic_rec ds seq usMain mask htopo hb).2.1 i hi hm hp
  rw [this, if_neg (by omega)]
  rfl

/-- every other branch of a confluence is one higher -/
theorem classic_tributary_plus_one (ds : Array Nat) (seq : List Nat) (usMain : Array Nat)
    (mask : Option (Array Bool)) (htopo : Topo ds seq) (hb : ∀ i ∈ seq, i < ds.size)
    (i : Nat) (hi : i ∈ seq) (hm : maskAt mask i = true) (hp : ds[i]! ≠ i)
    (hconf : (upstreamCount ds mask)[ds[i]!]! > 1) (hnot : usMain[ds[i]!]! ≠ i) :
    (classicOrder ds seq usMain mask)[i]! = (classicOrder ds seq usMain mask)[ds[i]!]! + 1 := by
  have := (classic_rec ds seq usMain mask htopo hb).2.1 i hi hm hp
  rw [this, if_pos ⟨hconf, hnot⟩]

/-- `uint8` storage (the wrap-free bound is a hypothesis for the classic order — it fails on
crafted area fields, known finding F08): while no order exceeds 255, the code's `uint8` loop
(`classicOrderU8`, which wraps modulo 256) returns exactly the unbounded orders of the theorems above -/
theorem classic_u8_exact (ds : Array Nat) (seq : List Nat) (usMain : Array Nat)
    (mask : Option (Array Bool)) (htopo : Topo ds seq) (hb : ∀ i ∈ seq, i < ds.size)
    (hle : ∀ i ∈ seq, (classicOrder ds seq usMain mask)[i]! ≤ 255) (i : Nat) :
    (classicOrderU8 ds seq usMain mask)[i]! = (classicOrder ds seq usMain mask)[i]! := by
  obtain ⟨h1, h2⟩ := classicOrderWith_rec ds seq usMain (upstreamCount ds mask) mask htopo hb
  have hspec := sweepDown_spec ds (gClassicU8 ds (upstreamCount ds mask) usMain mask)
    (Array.replicate ds.size 0) (fun i => (classicOrder ds seq usMain mask)[i]!) seq htopo
    (fun i hi => by simpa using hb i hi) (fun i hi => by
      have hr := h1 i hi
      have hl := hle i hi
      unfold classicOrder at hl ⊢
      simp only [get!_replicate (a := (0 : Nat)) _ _ (.inr rfl), gClassicU8]
      rw [hr] at hl ⊢
      by_cases hm : maskAt mask i = true
      · by_cases hp : ds[i]! = i
        · simp [hm, hp]
        · simp only [hm, hp, if_false, Bool.true_eq_false, Bool.not_true, Bool.false_eq_true, nonMain] at hl ⊢
          by_cases hc : (upstreamCount ds mask)[ds[i]!]! > 1 ∧ usMain[ds[i]!]! ≠ i
          · rw [if_pos hc] at hl ⊢; rw [if_pos hc]; omega
          · rw [if_neg hc, if_neg hc]; omega
      · simp [hm])
  by_cases hi : i ∈ seq
  · exact hspec.1 i hi
  · unfold classicOrderU8
    rw [hspec.2 i hi, get!_replicate (a := (0 : Nat)) _ _ (.inr rfl)]
    exact (h2 i hi).symm

/-- path form: the order is related to the cell by the inductive relation "1 + number of non-main
confluence steps down to the pit" (`ClassicOrd`, a functional relation: `ClassicOrd.unique`) -/
theorem classic_path (ds : Array Nat) (seq : List Nat) (usMain : Array Nat) (mask : Option (Array Bool))
    (htopo : Topo ds seq) (hb : ∀ i ∈ seq, i < ds.size) (i : Nat) (hi : i ∈ seq) :
    ClassicOrd ds mask (nonMain (upstreamCount ds mask) usMain) i (classicOrder ds seq usMain mask)[i]! := by
  obtain ⟨hrec, _⟩ := classicOrderWith_rec ds seq usMain (upstreamCount ds mask) mask htopo hb
  refine htopo.induction (fun i => ClassicOrd ds mask (nonMain (upstreamCount ds mask) usMain) i
    (classicOrder ds seq usMain mask)[i]!) (fun i hi hd => ?_) i hi
  show ClassicOrd _ _ _ i (classicOrderWith ds seq usMain (upstreamCount ds mask) mask)[i]!
  rw [hrec i hi]
  by_cases hm : maskAt mask i = true
  · by_cases hp : ds[i]! = i
    · simp only [hm, hp, if_true, Bool.true_eq_false, if_false]
      exact ClassicOrd.pit i hm hp
    · simp only [hm, hp, if_false, Bool.true_eq_false]
      exact ClassicOrd.down i _ hm hp (hd hp).2
  · have hm' : maskAt mask i = false := by simpa using hm
    simp only [hm', if_true]
    exact ClassicOrd.off i hm'

/-- count form: if the flow path of `i` stays in the mask and reaches its pit after `k` steps then
the order of `i` is 1 + the number of steps that join a confluence from a non-main branch -/
theorem classic_count (ds : Array Nat) (seq : List Nat) (usMain : Array Nat) (mask : Option (Array Bool))
    (htopo : Topo ds seq) (hb : ∀ i ∈ seq, i < ds.size) :
    ∀ (k i : Nat), i ∈ seq →
      (∀ m, m < k → maskAt mask (iterA ds m i) = true ∧ ds[iterA ds m i]! ≠ iterA ds m i) →
      maskAt mask (iterA ds k i) = true → ds[iterA ds k i]! = iterA ds k i →
      (classicOrder ds seq usMain mask)[i]! =
        1 + nonMainSteps ds (nonMain (upstreamCount ds mask) usMain) k i := by
  obtain ⟨h1, h2, _⟩ := classic_rec ds seq usMain mask htopo hb
  intro k
  induction k with
  | zero =>
    intro i hi _ hm hp
    simp only [iterA] at hm hp
    simp [h1 i hi hm hp, nonMainSteps]
  | succ k ih =>
    intro i hi hpre hm hp
    have h0 := hpre 0 (Nat.succ_pos k)
    simp only [iterA] at h0
    have hd : ds[i]! ∈ seq := htopo.ds_mem i hi
    rw [h2 i hi h0.1 h0.2]
    have := ih ds[i]! hd (fun m hm => by simpa [iterA] using hpre (m+1) (Nat.succ_lt_succ hm))
      (by simpa [iterA] using hm) (by simpa [iterA] using hp)
    rw [this]
    simp only [nonMainSteps, nonMain]
    omega

/-- the model agrees with the executable downstream walk (the `spec` output of the driver)
wherever the walk terminates -/
theorem classic_eq_spec (ds : Array Nat) (seq : List Nat) (usMain : Array Nat) (mask : Option (Array Bool))
    (htopo : Topo ds seq) (hb : ∀ i ∈ seq, i < ds.size) (fuel i v : Nat) (hi : i ∈ seq)
    (hw : classicWalk ds mask (fun d => ((upstreamCount ds mask)[d]!).toNat) (usMain[·]!) fuel i = some v) :
    (classicOrder ds seq usMain mask)[i]! = v := by
  have h1 := classic_path ds seq usMain mask htopo hb i hi
  have h2 := classicWalk_sound ds mask _ _ fuel i v hw
  have hnm : (fun d i => if ((upstreamCount ds mask)[d]!).toNat > 1 ∧ usMain[d]! ≠ i then 1 else 0) =
      nonMain (upstreamCount ds mask) usMain := by
    funext d i
    simp only [nonMain]
    have : ((upstreamCount ds mask)[d]!).toNat > 1 ↔ (upstreamCount ds mask)[d]! > 1 := by omega
    simp only [this]
  rw [hnm] at h2
  exact h1.unique h2

/-- main upstream cell = least-index inflow of maximal upstream area (`core.main_upstream`):
either no inflow of `d` has an area above `upaMin` and the result is "none", or the result is an
inflow whose area exceeds `upaMin`, is maximal among the inflows, and has the least index among
the inflows attaining that maximum. -/
theorem main_argmax (ds : Array Nat) (uparea : Array Int) (upaMin : Int)
    (hwf : ∀ i < ds.size, ds[i]! ≤ ds.size) (d : Nat) (hd : d < ds.size)
    (m : Nat) (hm : m = (mainUpstream ds uparea upaMin)[d]!) :
    (m = ds.size ∧ ∀ j < ds.size, IsInflow ds j d → uparea[j]! ≤ upaMin) ∨
    (m < ds.size ∧ IsInflow ds m d ∧ upaMin < uparea[m]! ∧
      ∀ j < ds.size, IsInflow ds j d → uparea[j]! ≤ uparea[m]! ∧ (uparea[j]! = uparea[m]! → m ≤ j)) := by
  subst hm
  obtain ⟨upa, _, _, hc⟩ := C11.mainUpstream_inv ds uparea upaMin
  obtain ⟨hcell, hle⟩ : C11.MainCell ds uparea upaMin ds.size d (mainUpstream ds uparea upaMin)[d]! upa[d]! := hc d hd
  have hne : ∀ {j}, IsInflow ds j d → j ≠ d := fun hin e => hin.2.1 (hin.1.trans e.symm)
  rcases hcell with ⟨hu, ha⟩ | ⟨hu, hdu, hmd, ha, hmin, hlow⟩
  · exact Or.inl ⟨hu, fun j hj hin => ha ▸ hle j hj hin.1 (hne hin)⟩
  · refine Or.inr ⟨hu, ⟨hdu, by rw [hdu]; exact Ne.symm hmd, by rw [hdu]; omega⟩, ha ▸ hmin, fun j hj hin => ?_⟩
    refine ⟨ha ▸ hle j hj hin.1 (hne hin), fun he => Nat.le_of_not_lt fun hlt => ?_⟩
    have := hlow j hlt hin.1 (hne hin)
    omega

/-- `core.upstream_count(mask)` counts the inflowing streams: on a valid cell `d` the counter
equals the number of masked cells draining into `d` (`nupSpec`, the declarative count used by the
driver's oracle); `-9` only on missing cells without inflow. Hence "confluence" in `classic_rec`
(`nup > 1`) means: at least two inflowing streams. -/
theorem upstream_count_spec (ds : Array Nat) (mask : Option (Array Bool))
    (hwf : ∀ i < ds.size, ds[i]! ≤ ds.size) (d : Nat) (hd : d < ds.size) :
    (upstreamCount ds mask)[d]! =
      if ds[d]! ≠ ds.size ∨ 0 < nupSpec ds mask d then (nupSpec ds mask d : Int) else -9 := by
  rw [C19.upstreamCount_eq, C19.nup_fold ds mask d hd _ _ (by simp) (fun j hj => List.mem_range.mp hj),
    ← nupSpec_eq_inflow_count]
  have h9 : (Array.replicate ds.size (-9 : Int))[d]! = -9 := by simp [hd]
  simp only [List.mem_range, hd, true_and, h9]
  split <;> omega

/-- stream masks by area threshold contain the main stem: if the mask is `uparea ≥ t` (with
`t > upaMin`) for the same field that selects the main stem, then at every cell with a masked inflow
the main upstream cell lies in the mask, so exactly one masked branch inherits the order -/
theorem main_in_threshold_mask (ds : Array Nat) (uparea : Array Int) (upaMin t : Int)
    (mask : Option (Array Bool)) (hwf : ∀ i < ds.size, ds[i]! ≤ ds.size) (ht : upaMin < t)
    (hmask : ∀ i < ds.size, maskAt mask i = decide (t ≤ uparea[i]!))
    (d c : Nat) (hd : d < ds.size) (hc : c < ds.size) (hin : IsInflow ds c d)
    (hcm : maskAt mask c = true) :
    (mainUpstream ds uparea upaMin)[d]! < ds.size ∧
    IsInflow ds (mainUpstream ds uparea upaMin)[d]! d ∧
    maskAt mask (mainUpstream ds uparea upaMin)[d]! = true := by
  have hct : t ≤ uparea[c]! := by simpa [hmask c hc] using hcm
  rcases main_argmax ds uparea upaMin hwf d hd _ rfl with ⟨_, h2⟩ | ⟨h1, h2, _, h4⟩
  · have := h2 c hc hin; omega
  · refine ⟨h1, h2, ?_⟩
    rw [hmask _ h1]
    have := (h4 c hc hin).1
    simp only [decide_eq_true_eq]; omega

/-! ### non-vacuity: concrete networks meet the hypotheses and the conclusions are non-trivial -/
-- cells 1,2,3 drain into the pit 0 (a junction of three tributaries), cells 4,5 drain into 1
theorem topo_example : Topo #[0, 0, 0, 0, 1, 1] [0, 1, 2, 3, 4, 5] := (isTopo_sound' _ _ (by decide)).1
-- orders 2,1,1 meet at the pit: maximum attained once -> 2; orders 1,1 meet at cell 1 -> 2
example : strahlerOrder #[0, 0, 0, 0, 1, 1] [0, 1, 2, 3, 4, 5] none = #[2, 2, 1, 1, 1, 1] := by decide
-- another arrival order of the tributaries, same result
example : strahlerOrder #[0, 0, 0, 0, 1, 1] [0, 3, 1, 5, 2, 4] none = #[2, 2, 1, 1, 1, 1] := by decide
-- three tributaries of equal order -> 2 (not 3); four equal -> 2
example : strahlerOrder #[0, 0, 0, 0] [0, 1, 2, 3] none = #[2, 1, 1, 1] := by decide
example : strahler [1, 1, 1, 1] = 2 ∧ strahler [2, 1, 2, 1, 1, 2, 1, 1] = 3 ∧ strahler [3, 1, 2] = 3 := by decide
-- a downstream-closed mask {0,1,4}: a single stream of order 1, 0 elsewhere
example : strahlerOrder #[0, 0, 0, 0, 1, 1] [0, 1, 2, 3, 4, 5]
    (some #[true, true, false, false, true, false]) = #[1, 1, 0, 0, 1, 0] := by decide
example : strahlerCert #[0, 0, 0, 0, 1, 1] none #[2, 2, 1, 1, 1, 1] = true ∧
    strahlerCert #[0, 0, 0, 0, 1, 1] none #[3, 2, 1, 1, 1, 1] = false := by decide
example : (List.range 6).map (strahlerSpec #[0, 0, 0, 0, 1, 1] none) = [2, 2, 1, 1, 1, 1] := by decide
-- classic order: main stem 0 <- 1 <- 4 (areas 6, 3, tie 1 = 1 broken towards the least index)
example : mainUpstream #[0, 0, 0, 0, 1, 1] #[6, 3, 1, 1, 1, 1] 0 = #[1, 4, 6, 6, 6, 6] := by decide
example : classicOrder #[0, 0, 0, 0, 1, 1] [0, 1, 2, 3, 4, 5]
    (mainUpstream #[0, 0, 0, 0, 1, 1] #[6, 3, 1, 1, 1, 1] 0) none = #[1, 1, 2, 2, 1, 2] := by decide

-- uint8 loop = unbounded loop on a small network; the accumulated cell counts bound the order
example : classicOrderU8 #[0, 0, 0, 0, 1, 1] [0, 1, 2, 3, 4, 5]
    (mainUpstream #[0, 0, 0, 0, 1, 1] #[6, 3, 1, 1, 1, 1] 0) none = #[1, 1, 2, 2, 1, 2] := by decide
example : maskedCount #[0, 0, 0, 0, 1, 1] [0, 1, 2, 3, 4, 5] none = #[6, 3, 1, 1, 1, 1] := by decide

end Pf.C08
