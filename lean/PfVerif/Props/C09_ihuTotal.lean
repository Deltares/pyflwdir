import PfVerif.Proofs.C09_ihuStg
import PfVerif.Proofs.C09_ihuSync
import PfVerif.Props.C09_ihu
/-! # C09 extension — the iterative stages of IHU keep the coarse network well formed and terminate

For the loop-for-loop models of `Model/C09_ihu.lean` (`ihu_relocate_outlets`, `ihu_optimize_rivlen`,
`ihu_minimize_error`, `upscale_check`, the `niter` loop of `ihu`):

* `LinksOK e cds out` — both arrays have one entry per coarse cell, every coarse link is the missing value or a coarse
  cell of the 3×3 neighbourhood, a cell has a link exactly where it has an outlet pixel, outlet pixels are valid fine
  cells — is preserved by every stage (`*_links`), hence holds for the output of `ihu` (`ihu_links`): "valid iff outlet",
  "links in range" and "8-neighbour adjacency" are theorems about the algorithm, not per-run observations;
* every `while` of the stages stops: the bottleneck loop of STEP 4 within `ncell + 2` rounds
  (`reloc_bottleneck_fuel`), the walks down the fine network at the pit; with the fuel the models use none of them is
  ever exhausted (`relocate_outlets_total`, `optimize_rivlen_total`, `minimize_error_total`, `upscale_check_total`,
  `ihu_model_total`).

Domain: a well-formed fine network (`FineWF`) on which every valid pixel reaches a pit (`ReachesPit`, from the
downstream-first order of C03), an upstream-area array that is not above `minupa` on missing pixels (`-9999` in the
library), the coarse grid of the fine grid (`EnvOK`). All theorems hold for every `np.argsort` tie order (`Sorts`). -/
namespace Pf.C09ihu
open Pf

/-! ## vocabulary -/

/-- the stage environment is consistent: valid fine cells point to valid fine cells and lie in coarse cells of the raster -/
structure EnvOK (e : Env) : Prop where
  wf : FineWF e.ds
  cell : ∀ p, ValidPx e.ds p → e.cell p < e.ncell

/-- weak form of an acceptable (link `v`, outlet pixel `p`) pair of coarse cell `c`: the link is in range, the outlet
pixel is missing or a valid fine cell, a linked cell has an outlet pixel -/
def LinkTot (e : Env) (_c v p : Nat) : Prop :=
  v ≤ e.ncell ∧ (p = e.ds.size ∨ ValidPx e.ds p) ∧ (v ≠ e.ncell → p ≠ e.ds.size)

/-- full form: no link and no outlet pixel, or a link to a cell of the 3×3 neighbourhood and a valid outlet pixel -/
def LinkFull (e : Env) (c v p : Nat) : Prop :=
  (v = e.ncell ∧ p = e.ds.size) ∨ (v < e.ncell ∧ inD8 c v e.ncol = true ∧ ValidPx e.ds p)

/-- what the stages need to run (weak well-formedness) -/
def StateOK (e : Env) (cds out : Array Nat) : Prop :=
  cds.size = e.ncell ∧ out.size = e.ncell ∧ ∀ c, c < e.ncell → LinkTot e c cds[c]! out[c]!

/-- the coarse network is well formed: valid ⇔ outlet, links in range and 8-neighbour, outlet pixels valid -/
def LinksOK (e : Env) (cds out : Array Nat) : Prop :=
  cds.size = e.ncell ∧ out.size = e.ncell ∧ ∀ c, c < e.ncell → LinkFull e c cds[c]! out[c]!

theorem LinkFull.tot {e : Env} {c v p : Nat} (h : LinkFull e c v p) : LinkTot e c v p := by
  rcases h with ⟨h1, h2⟩ | ⟨h1, _, h3⟩
  · exact ⟨by omega, Or.inl h2, fun hne => absurd h1 hne⟩
  · exact ⟨by omega, Or.inr h3, fun _ => by have := h3.1; omega⟩

theorem LinksOK.state {e : Env} {cds out : Array Nat} (h : LinksOK e cds out) : StateOK e cds out :=
  ⟨h.1, h.2.1, fun c hc => (h.2.2 c hc).tot⟩

theorem wctx_tot {e : Env} (h : EnvOK e) : WCtx e e.ncell (LinkTot e) where
  w1 := fun _ v p _ hv _ hp => ⟨by omega, Or.inr hp, fun _ => by have := hp.1; omega⟩
  w2 := fun _ _ _ h => h
  w3 := fun _ _ _ _ h _ hp => ⟨h.1, Or.inr hp, fun _ => by have := hp.1; omega⟩
  cell := h.cell
  wf := h.wf
  ncell := rfl

theorem wctx_full {e : Env} (h : EnvOK e) : WCtx e e.ncell (LinkFull e) where
  w1 := fun _ _ _ _ hv hd hp => Or.inr ⟨hv, hd, hp⟩
  w2 := fun _ _ _ h => h.tot
  w3 := fun _ _ _ _ h hne hp => by
    rcases h with ⟨h1, _⟩ | ⟨h1, h2, _⟩
    · exact absurd h1 hne
    · exact Or.inr ⟨h1, h2, hp⟩
  cell := h.cell
  wf := h.wf
  ncell := rfl

theorem wok_iff {e : Env} {W : Nat → Nat → Nat → Prop} {cds out : Array Nat} :
    WOK e e.ncell W cds out ↔ cds.size = e.ncell ∧ out.size = e.ncell ∧ ∀ c, c < e.ncell → W c cds[c]! out[c]! :=
  ⟨fun h => ⟨h.szc, h.szo, h.ok⟩, fun h => ⟨h.1, h.2.1, h.2.2, fun _ _ hh => hh.elim, fun _ _ hh => hh.elim⟩⟩

/-- `LinksOK` is exactly what the driver evaluates on the implementation's arrays (`chkLinksOK`): the bits
`validiff`, `range`, `d8` plus sizes and validity of the outlet pixels -/
theorem chkLinksOK_iff (e : Env) (cds out : Array Nat) : chkLinksOK e cds out = true ↔ LinksOK e cds out := by
  unfold chkLinksOK chkSizes chkCdsRange chkValidIff chkD8 chkOutValid okD8 LinksOK
  simp only [Bool.and_eq_true, beq_iff_eq, allCells_iff, decide_eq_true_eq, Bool.or_eq_true, bne_iff_ne, ne_eq]
  constructor
  · rintro ⟨⟨⟨⟨⟨h1, h2⟩, h3⟩, h4⟩, h5⟩, h6⟩
    refine ⟨h1, h2, fun c hc => ?_⟩
    have a3 := h3 c (h1 ▸ hc)
    have a4 := h4 c (h1 ▸ hc)
    have a5 := h5 c (h1 ▸ hc)
    have a6 := h6 c (h2 ▸ hc)
    rw [h1] at a4 a5
    by_cases hv : cds[c]! = e.ncell
    · left
      refine ⟨hv, ?_⟩
      simp only [hv, bne_self_eq_false] at a4
      simpa using a4
    · right
      rcases a5 with a5 | a5
      · exact absurd a5 hv
      · refine ⟨a5.1, a5.2, ?_⟩
        have hne : out[c]! ≠ e.ds.size := by
          intro heq
          simp [hv, heq] at a4
        rcases a6 with a6 | a6
        · exact absurd a6 hne
        · exact a6
  · rintro ⟨h1, h2, h3⟩
    refine ⟨⟨⟨⟨⟨h1, h2⟩, fun c hc => ?_⟩, fun c hc => ?_⟩, fun c hc => ?_⟩, fun c hc => ?_⟩
    · have := (h3 c (h1 ▸ hc)).tot.1; omega
    · rcases h3 c (h1 ▸ hc) with ⟨a, b⟩ | ⟨a, _, b⟩
      · simp [a, b, h1]
      · have := b.1
        have h4 : cds[c]! ≠ cds.size := by omega
        have h5 : out[c]! ≠ e.ds.size := by omega
        rw [bne_iff_ne.mpr h4, bne_iff_ne.mpr h5]
    · rcases h3 c (h1 ▸ hc) with ⟨a, _⟩ | ⟨a, b, _⟩
      · left; omega
      · right; exact ⟨by omega, b⟩
    · rcases h3 c (h2 ▸ hc) with ⟨_, b⟩ | ⟨_, _, b⟩
      · left; exact b
      · right; exact b

/-! ## 1. `ihu_relocate_outlets` -/

/-- the bottleneck loop of STEP 4 (`while len(bottleneck) > nbottlenecks`) runs at most `ncell + 2` times.
On a well-formed state, with trace lists and tributary cells as STEPS 1-3 produce them (trace cells and tributary cells
are linked cells of the raster, alternative outlet pixels are valid, the flagged cell has an outlet pixel), for a
bottleneck list without duplicates that holds only values of coarse links: every fuel `≥ ncell + 2 - len(bottleneck)`
gives the same defined result as fuel `ncell + 2` (the model calls the loop with `ncell + 3` and an empty list), and the
result is well formed again. The reason: `bottleneck` only receives values of coarse links (`≤ ncell`) that it does not
contain yet, so it never holds more than `ncell + 1` entries (pigeonhole `nodup_le_length`), and the loop goes on only
while it grows. -/
theorem reloc_bottleneck_fuel (e : Env) (hE : EnvOK e) (hr : Pf.C09.ReachesPit e.ds) (idx00 : Nat) (cells pixs : List Nat)
    (tr : Tribs) (s : S4) (hs : StateOK e s.cds s.out) (h00 : s.out[idx00]! ≠ e.ds.size)
    (htw : ∀ j, j < pixs.length → cells[j]! < e.ncell ∧ s.cds[cells[j]!]! ≠ e.ncell ∧ ValidPx e.ds pixs[j]!)
    (htr : ∀ k, k < tr.conn.size → tr.us0[k]! < e.ncell ∧ s.cds[tr.us0[k]!]! ≠ e.ncell)
    (hn : s.bott.Nodup) (hl : ∀ b ∈ s.bott, b ≤ e.ncell) (fuel : Nat) (hf : e.ncell + 2 ≤ fuel + s.bott.length) :
    ∃ r, step4 e idx00 cells pixs tr fuel s = some r ∧ step4 e idx00 cells pixs tr (e.ncell + 2) s = some r ∧
      StateOK e r.cds r.out := by
  have hw := wctx_tot hE
  have hs' : WArr e e.ncell (LinkTot e) (fun c => s.cds[c]! ≠ e.ncell) (fun c => s.out[c]! ≠ e.ds.size) s.cds s.out :=
    ⟨hs.1, hs.2.1, hs.2.2, fun _ _ hh => hh, fun _ _ hh => hh⟩
  have htw' : TrW e e.ncell (fun c => s.cds[c]! ≠ e.ncell) (fun c => s.out[c]! ≠ e.ds.size) cells pixs := by
    refine ⟨fun j hj => ?_⟩
    obtain ⟨h1, h2, h3⟩ := htw j hj
    refine ⟨h1, h2, ?_, h3⟩
    have := (hs'.valid_of_link hw _ h1 h2).1
    omega
  obtain ⟨r, h1, h2, _⟩ := step4_tot hw hr idx00 h00 cells pixs tr htw' htr (e.ncell + 2 - s.bott.length) s hs' hn hl
    (by have := nodup_le_length _ _ hn hl; omega)
  exact ⟨r, reloc_bottleneck_fuel_partial e idx00 cells pixs tr _ fuel s r h1 (by omega),
    reloc_bottleneck_fuel_partial e idx00 cells pixs tr _ (e.ncell + 2) s r h1 (by omega), h2.szc, h2.szo, h2.ok⟩

/-- `ihu_relocate_outlets` never runs out of fuel (trace @1A, connect loop @3B, tributary loop @4D with the nested
`next_outlet`, bottleneck loop of STEP 4, each with the fuel the model gives it) on a well-formed state whose flagged
cells have outlet pixels; the state it returns is well formed again -/
theorem relocate_outlets_total (e : Env) (hE : EnvOK e) (hr : Pf.C09.ReachesPit e.ds) (fix : List Nat) (cds out : Array Nat)
    (sorts : Sorts) (hs : StateOK e cds out) (hfix : ∀ c ∈ fix, c < e.ncell ∧ out[c]! ≠ e.ds.size) :
    ∃ r, relocateOutlets e fix cds out sorts = some r ∧ StateOK e r.cds r.out := by
  obtain ⟨r, h1, h2⟩ := relocateOutlets_tot (wctx_tot hE) hr fix cds out sorts
    (A := fun _ => False) (B := fun c => out[c]! ≠ e.ds.size)
    (wok_iff.mpr hs).keepOut hfix
  exact ⟨r, h1, h2.szc, h2.szo, h2.ok⟩

/-- `ihu_relocate_outlets` keeps the coarse network well formed (valid ⇔ outlet, links in range and 8-neighbour) -/
theorem relocate_outlets_links (e : Env) (hE : EnvOK e) (hr : Pf.C09.ReachesPit e.ds) (fix : List Nat) (cds out : Array Nat)
    (sorts : Sorts) (r : RelSt) (h : relocateOutlets e fix cds out sorts = some r) (hs : LinksOK e cds out)
    (hfix : ∀ c ∈ fix, c < e.ncell ∧ out[c]! ≠ e.ds.size) : LinksOK e r.cds r.out := by
  obtain ⟨r', h1, h2⟩ := relocateOutlets_tot (wctx_full hE) hr fix cds out sorts
    (A := fun _ => False) (B := fun c => out[c]! ≠ e.ds.size)
    (wok_iff.mpr hs).keepOut hfix
  rw [h] at h1
  cases h1
  exact ⟨h2.szc, h2.szo, h2.ok⟩

/-! ## 2. `ihu_optimize_rivlen`, `ihu_minimize_error`, `upscale_check` -/

/-- `ihu_optimize_rivlen` never runs out of fuel (the walks of `new_outlet`) and returns a well-formed state -/
theorem optimize_rivlen_total (e : Env) (par : Par) (hE : EnvOK e) (hf : FineOK e par) (short : List Nat)
    (valid : Array Bool) (hvs : valid.size ≤ e.ncell) (streams : Array Int) (cds out : Array Nat)
    (hs : StateOK e cds out) :
    ∃ st', optimizeRivlen e par short valid (streams, cds, out) = some st' ∧ StateOK e st'.2.1 st'.2.2 := by
  obtain ⟨st', h1, h2⟩ := optimizeRivlen_tot (wctx_tot hE) par hf short valid hvs (streams, cds, out)
    (wok_iff.mpr hs)
  exact ⟨st', h1, wok_iff.mp h2⟩

/-- `ihu_optimize_rivlen` keeps the coarse network well formed -/
theorem optimize_rivlen_links (e : Env) (par : Par) (hE : EnvOK e) (hf : FineOK e par) (short : List Nat)
    (valid : Array Bool) (hvs : valid.size ≤ e.ncell) (streams : Array Int) (cds out : Array Nat) (st' : Tri)
    (h : optimizeRivlen e par short valid (streams, cds, out) = some st') (hs : LinksOK e cds out) :
    LinksOK e st'.2.1 st'.2.2 := by
  obtain ⟨st2, h1, h2⟩ := optimizeRivlen_tot (wctx_full hE) par hf short valid hvs (streams, cds, out)
    (wok_iff.mpr hs)
  rw [h] at h1
  cases h1
  exact wok_iff.mp h2

/-- `ihu_minimize_error` never runs out of fuel and returns a well-formed state, for every `pit_out_of_cell` -/
theorem minimize_error_total (e : Env) (par : Par) (hE : EnvOK e) (hf : FineOK e par) (poc : Nat) (fix : List Nat)
    (streams : Array Int) (cds out : Array Nat) (sorts : Sorts) (hs : StateOK e cds out)
    (hfix : ∀ c ∈ fix, c < e.ncell ∧ out[c]! ≠ e.ds.size) :
    ∃ r, minimizeError e par poc fix (streams, cds, out) sorts = some r ∧ StateOK e r.1.2.1 r.1.2.2 := by
  obtain ⟨r, h1, h2⟩ := minimizeError_tot (wctx_tot hE) par hf poc fix (streams, cds, out) sorts
    (A := fun _ => False) (B := fun c => out[c]! ≠ e.ds.size) hfix
    (wok_iff.mpr hs).keepOut
  exact ⟨r, h1, h2.szc, h2.szo, h2.ok⟩

/-- `ihu_minimize_error` keeps the coarse network well formed, for every `pit_out_of_cell` (a cell whose outlet is
moved to a pit becomes a coarse pit; the F09c loop is a loop of well-formed links) -/
theorem minimize_error_links (e : Env) (par : Par) (hE : EnvOK e) (hf : FineOK e par) (poc : Nat) (fix : List Nat)
    (streams : Array Int) (cds out : Array Nat) (sorts : Sorts) (r : Tri × Sorts)
    (h : minimizeError e par poc fix (streams, cds, out) sorts = some r) (hs : LinksOK e cds out)
    (hfix : ∀ c ∈ fix, c < e.ncell ∧ out[c]! ≠ e.ds.size) : LinksOK e r.1.2.1 r.1.2.2 := by
  obtain ⟨r', h1, h2⟩ := minimizeError_tot (wctx_full hE) par hf poc fix (streams, cds, out) sorts
    (A := fun _ => False) (B := fun c => out[c]! ≠ e.ds.size) hfix
    (wok_iff.mpr hs).keepOut
  rw [h] at h1
  cases h1
  exact ⟨h2.szc, h2.szo, h2.ok⟩

/-- `upscale_check` never runs out of fuel on a well-formed state; `valid` has one entry per coarse cell and the
cells it reports as erroneous are linked cells (hence have an outlet pixel) -/
theorem upscale_check_total (e : Env) (hE : EnvOK e) (hr : Pf.C09.ReachesPit e.ds) (cds out : Array Nat) (minNum minDen : Nat)
    (hs : StateOK e cds out) :
    ∃ r, upscaleCheck e.ds out cds minNum minDen = some r ∧ r.1.size = e.ncell ∧
      ∀ c ∈ r.2.2.1, c < e.ncell ∧ out[c]! ≠ e.ds.size := by
  have hw := wok_iff.mpr hs
  obtain ⟨r, h1, h2, h3⟩ := upscaleCheck_tot e.ds out cds minNum minDen hr
    (fun c hc hne => hw.valid_of_link (wctx_tot hE) c (by rw [← hs.1]; exact hc) (by rw [← hs.1]; exact hne))
  refine ⟨r, h1, by rw [h2, hs.1], fun c hc => ?_⟩
  have := h3 c hc
  rw [hs.1] at this
  have hv := (hw.valid_of_link (wctx_tot hE) c this.1 this.2).1
  exact ⟨this.1, by omega⟩

/-! ## 3. The whole of `ihu` -/

/-- the environment `ihuModel` builds from the fine grid is consistent -/
theorem envOK_of_geo (ds : Array Nat) (upa : Array Int) (g : Geo) (hg : g.OK ds) (hwf : FineWF ds) :
    EnvOK ⟨ds, upa, g.subncol, g.cs, g.nrow, g.ncol⟩ := by
  refine ⟨hwf, fun p hp => ?_⟩
  have hp1 : p < ds.size := hp.1
  show (if p < ds.size then subidx2idx p g.subncol g.cs g.ncol else g.nrow * g.ncol) < g.nrow * g.ncol
  rw [if_pos hp1]
  exact g.cell_lt ds hg p hp1

/-- the cells `ihu_nextidx` flags are coarse cells with an outlet pixel -/
theorem eamPlus_fix (ds : Array Nat) (upa : Array Int) (ea : Array Bool) (g : Geo) (cds out : Array Nat)
    (fix : List Nat) (hwf : FineWF ds) (h : eamPlusModel ds upa ea g = some (cds, out, fix)) :
    ∀ c ∈ fix, c < g.ncell ∧ out[c]! ≠ ds.size := by
  have hown := Pf.C09.eam_plus_outlets ds upa ea g cds out fix hwf h
  unfold eamPlusModel at h
  simp only at h
  split at h
  · cases h
  · rename_i out' hout
    simp only [Option.map_eq_some_iff, Prod.mk.injEq] at h
    obtain ⟨r, hn, rfl, rfl, rfl⟩ := h
    unfold ihuNextidx at hn
    simp only [Option.map_eq_some_iff] at hn
    obtain ⟨a, ha, rfl⟩ := hn
    obtain ⟨hsa, hf⟩ := collect_some _ _ _ ha
    intro c hc
    simp only [List.mem_filter, List.mem_range] at hc
    have hso : out'.size = g.ncell := hown.size_out
    have hlt : c < out'.size := by rw [← hsa]; exact hc.1
    refine ⟨hso ▸ hlt, fun heq => ?_⟩
    have hfc := hf c hlt
    rw [if_pos heq] at hfc
    have e1 : a[c]! = (out'.size, false) := (Option.some.inj hfc).symm
    rw [e1] at hc
    exact absurd hc.2 (by simp)

/-- the model of `ihu` is total: on a well-formed fine network of the right size on which every
valid pixel reaches a pit, with an upstream-area array that is not above `minupa = cellsize²` (quarter units) on missing
pixels, `ihuModel` returns — whatever `niter`, `opt_rivlen`, `min_error`, `pit_out_of_cell` and the order of `np.argsort`
ties are, none of the `while` loops of the first pass, `ihu_relocate_outlets`, `upscale_check`, `ihu_optimize_rivlen`,
`ihu_minimize_error`, `new_outlet`, `next_outlet` exhausts the fuel the model gives it -/
theorem ihu_model_total (ds : Array Nat) (upa : Array Int) (ea : Array Bool) (g : Geo) (o : IhuOpt) (sorts : Sorts)
    (hg : g.OK ds) (hwf : FineWF ds) (hr : Pf.C09.ReachesPit ds)
    (hup : ∀ p, p < ds.size → ds[p]! = ds.size → upa[p]! ≤ Int.ofNat (g.cs * g.cs)) :
    (ihuModel ds upa ea g o sorts).isSome = true := by
  obtain ⟨⟨cds0, out0, fix0⟩, hfirst⟩ := Option.isSome_iff_exists.mp (Pf.C09.eam_plus_total ds upa ea g hwf hr)
  have hE := envOK_of_geo ds upa g hg hwf
  have hown := Pf.C09.eam_plus_outlets ds upa ea g cds0 out0 fix0 hwf hfirst
  have hun := Pf.C09.eam_plus_unflagged ds upa ea g cds0 out0 fix0 hg hwf hfirst
  have hs : StateOK ⟨ds, upa, g.subncol, g.cs, g.nrow, g.ncol⟩ cds0 out0 := by
    refine ⟨hown.size_cds, hown.size_out, fun c hc => ?_⟩
    have hc' : c < g.ncell := hc
    obtain ⟨h1, h2, _⟩ := hun c hc'
    refine ⟨h2, ?_, fun hne heq => hne (h1 heq)⟩
    by_cases hv : out0[c]! = ds.size
    · exact Or.inl hv
    · exact Or.inr (hown.own c hc' hv).1
  obtain ⟨r, h1, _⟩ := ihuLoop_tot (wctx_tot hE) ⟨g.cs, 4, Int.ofNat (g.cs * g.cs)⟩ ⟨hr, hup⟩ o o.niter fix0 cds0 out0
    sorts (wok_iff.mpr hs) (eamPlus_fix ds upa ea g cds0 out0 fix0 hwf hfirst)
  unfold ihuModel
  rw [hfirst]
  simp only [h1, Option.isSome_some]

/-- valid ⇔ outlet, links in range, 8-neighbour adjacency after the iterative stages (`chkValidIff`, `chkCdsRange`,
`chkD8` as theorems about `ihuModel`): under the hypotheses of `eam_plus_valid_iff_outlet` (fine links join 8-neighbours,
the effective-area map contains the centre cross of every coarse cell) and of `ihu_model_total`, whatever the options and
the order of ties are, in the result of `ihu` a coarse cell has a link exactly where it has an outlet pixel, every link
is a coarse cell of the 3×3 neighbourhood, every outlet pixel is a valid fine cell. (Loop-freeness is NOT claimed: F09c.) -/
theorem ihu_links (ds : Array Nat) (upa : Array Int) (ea : Array Bool) (g : Geo) (o : IhuOpt) (sorts sorts' : Sorts)
    (cds out : Array Nat) (hg : g.OK ds) (hwf : FineWF ds) (hd8 : FineD8 ds g.subncol) (hea : EaCross g ea ds.size)
    (hr : Pf.C09.ReachesPit ds) (hup : ∀ p, p < ds.size → ds[p]! = ds.size → upa[p]! ≤ Int.ofNat (g.cs * g.cs))
    (h : ihuModel ds upa ea g o sorts = some (cds, out, sorts')) :
    cds.size = g.ncell ∧ out.size = g.ncell ∧ ∀ c, c < g.ncell →
      (cds[c]! ≠ g.ncell ↔ out[c]! ≠ ds.size) ∧ cds[c]! ≤ g.ncell ∧
      (cds[c]! ≠ g.ncell → cds[c]! < g.ncell ∧ inD8 c cds[c]! g.ncol = true) ∧
      (out[c]! ≠ ds.size → ValidPx ds out[c]!) := by
  unfold ihuModel at h
  split at h
  · cases h
  · rename_i cds0 out0 fix0 hfirst
    have hE := envOK_of_geo ds upa g hg hwf
    have hown := Pf.C09.eam_plus_outlets ds upa ea g cds0 out0 fix0 hwf hfirst
    have hvi := Pf.C09.eam_plus_valid_iff_outlet ds upa ea g cds0 out0 fix0 hg hwf hd8 hea hfirst
    have hs : LinksOK ⟨ds, upa, g.subncol, g.cs, g.nrow, g.ncol⟩ cds0 out0 := by
      refine ⟨hown.size_cds, hown.size_out, fun c hc => ?_⟩
      have hc' : c < g.ncell := hc
      obtain ⟨h1, h2⟩ := hvi c hc'
      by_cases hv : out0[c]! = ds.size
      · left
        refine ⟨?_, hv⟩
        apply Classical.byContradiction
        intro hne
        exact (h1.mp hne) hv
      · right
        exact ⟨(h2 hv).1, (h2 hv).2, (hown.own c hc' hv).1⟩
    obtain ⟨r, h1, h2⟩ := ihuLoop_tot (wctx_full hE) ⟨g.cs, 4, Int.ofNat (g.cs * g.cs)⟩ ⟨hr, hup⟩ o o.niter fix0 cds0
      out0 sorts (wok_iff.mpr hs) (eamPlus_fix ds upa ea g cds0 out0 fix0 hwf hfirst)
    rw [h] at h1
    cases h1
    obtain ⟨hz1, hz2, hz3⟩ := wok_iff.mp h2
    refine ⟨hz1, hz2, fun c hc => ?_⟩
    have hc' : c < Env.ncell ⟨ds, upa, g.subncol, g.cs, g.nrow, g.ncol⟩ := hc
    rcases hz3 c hc' with ⟨a, b⟩ | ⟨a, b, d⟩
    · have a' : cds[c]! = g.ncell := a
      have b' : out[c]! = ds.size := b
      exact ⟨by simp [a', b'], by omega, fun hne => absurd a' hne, fun hne => absurd b' hne⟩
    · have a' : cds[c]! < g.ncell := a
      have d1 : out[c]! < ds.size := d.1
      have hne : out[c]! ≠ ds.size := by omega
      exact ⟨⟨fun _ => hne, fun _ => by omega⟩, by omega, fun _ => ⟨a', b⟩, fun _ => d⟩

/-! ## 4. Outlet pixels stay pairwise distinct when `pit_out_of_cell > 0`

With `pit_out_of_cell > 0` `ihu_minimize_error` may move the outlet pixel of a cell to the pit its stream ends in, OUTSIDE
the cell (`Props/C09_ihu.lean`, `exMEnv`), so "one outlet per cell because every outlet lies in its own cell" is lost.
Can two coarse cells then report the same pixel? No: the stage works on the `streams` array of `upscale_check`, in which
the entry of every outlet pixel is its coarse cell (`SyncD`); `new_outlet` only selects pixels with `streams = -9`, the
pit is only taken when the walk from the old outlet pixel met no pixel with `streams ≥ 0` (`errPath_res`), and every
change of the outlet array is mirrored in `streams` (`move_sync`). So the stages keep `SyncD`, and `SyncD` implies that
the in-range outlet pixels are pairwise distinct. -/

/-- `upscale_check` puts `streams` in step with a duplicate-free outlet array -/
theorem upscale_check_sync (ds out cds : Array Nat) (minNum minDen : Nat)
    (r : Array Bool × Array Int × List Nat × List Nat) (h : upscaleCheck ds out cds minNum minDen = some r)
    (hd : DistinctD ds out) : r.2.1.size = ds.size ∧ SyncD ds r.2.1 out :=
  ⟨(upscaleCheck_sync ds out cds minNum minDen r h hd).2.1, (upscaleCheck_sync ds out cds minNum minDen r h hd).2.2.1⟩

/-- `ihu_optimize_rivlen` keeps `streams` in step with the outlet array (hence the outlets distinct) -/
theorem optimize_rivlen_sync (e : Env) (par : Par) (short : List Nat) (valid : Array Bool) (streams streams' : Array Int)
    (cds out cds' out' : Array Nat)
    (h : optimizeRivlen e par short valid (streams, cds, out) = some (streams', cds', out'))
    (hvs : valid.size ≤ out.size) (hsz : streams.size = e.ds.size) (hs : SyncD e.ds streams out) :
    streams'.size = e.ds.size ∧ out'.size = out.size ∧ SyncD e.ds streams' out' :=
  optimizeRivlen_sync e par out.size short valid hvs _ _ h ⟨hsz, rfl, hs⟩

/-- for EVERY `pit_out_of_cell`, `ihu_minimize_error` keeps `streams` in step with
the outlet array, so no two coarse cells share an (in-range) outlet pixel afterwards — also when outlets are moved to
pits outside their cells. Hypotheses: `streams` has one entry per pixel and is in step before (what `upscale_check`
establishes, `upscale_check_sync`), the erroneous cells are cells of the coarse raster. -/
theorem minimize_error_outlets_distinct (e : Env) (par : Par) (poc : Nat) (fix : List Nat) (streams streams' : Array Int)
    (cds out cds' out' : Array Nat) (sorts sorts' : Sorts)
    (h : minimizeError e par poc fix (streams, cds, out) sorts = some ((streams', cds', out'), sorts'))
    (hn : e.nrow * e.ncol = out.size) (hfix : ∀ c ∈ fix, c < out.size) (hsz : streams.size = e.ds.size)
    (hs : SyncD e.ds streams out) :
    out'.size = out.size ∧ SyncD e.ds streams' out' ∧
      ∀ c c', c < out'.size → c' < out'.size → out'[c]! < e.ds.size → out'[c]! = out'[c']! → c = c' := by
  have := minimizeError_sync e par out.size poc fix _ _ sorts sorts' hn hfix h ⟨hsz, rfl, hs⟩
  exact ⟨this.2.1, this.2.2, SyncD.distinct this.2.2⟩

/-- the outlet pixels of `ihu` are pairwise distinct for every `pit_out_of_cell` (completes `ihu_outlets`, which
proves it for `pit_out_of_cell = 0`) -/
theorem ihu_outlets_distinct (ds : Array Nat) (upa : Array Int) (ea : Array Bool) (g : Geo) (o : IhuOpt)
    (sorts sorts' : Sorts) (cds out : Array Nat) (hwf : FineWF ds)
    (h : ihuModel ds upa ea g o sorts = some (cds, out, sorts')) :
    ∀ c c', c < g.ncell → c' < g.ncell → out[c]! ≠ ds.size → out[c]! = out[c']! → c = c' := by
  have hout := ihu_outlets ds upa ea g o sorts sorts' cds out hwf h
  unfold ihuModel at h
  split at h
  · cases h
  · rename_i cds0 out0 fix0 hfirst
    have h0 := Pf.C09.eam_plus_outlets ds upa ea g cds0 out0 fix0 hwf hfirst
    have hd := ihuLoop_distinct ⟨ds, upa, g.subncol, g.cs, g.nrow, g.ncol⟩ _ o g.ncell rfl o.niter fix0 cds0 out0 sorts
      _ h h0.size_cds h0.size_out (by
        intro c hc
        by_cases hv : out0[c]! = ds.size
        · exact Or.inl hv
        · have := h0.own c (h0.size_out ▸ hc) hv
          refine Or.inr ⟨this.1.1, ?_⟩
          show (if out0[c]! < ds.size then subidx2idx out0[c]! g.subncol g.cs g.ncol else g.nrow * g.ncol) = c
          rw [if_pos this.1.1]
          exact this.2)
    intro c c' hc hc' hv heq
    have hlt : out[c]! < ds.size := by
      rcases hout.2.2.1 c hc with h1 | h1 | h1
      · exact absurd h1 hv
      · exact h1.1
      · apply Classical.byContradiction
        intro hge
        rw [get!_oob ds out[c]! hge] at h1
        omega
    exact hd c c' (by rw [hout.2.1]; exact hc) (by rw [hout.2.1]; exact hc') hlt heq

/-! ## 5. The hypotheses can be checked (evaluated by the driver on every case: `hyp.*` outputs) -/

theorem chkReach_sound (ds : Array Nat) (h : chkReach ds = true) : Pf.C09.ReachesPit ds := by
  intro p hp
  have := (allCells_iff _ _).mp h p hp.1
  simp only [Bool.or_eq_true, beq_iff_eq] at this
  rcases this with h0 | h1
  · exact absurd h0 hp.2
  · exact ⟨ds.size, Nat.le_refl _, h1⟩

theorem chkEnvOK_sound (e : Env) (h1 : chkFineWF e.ds = true) (h2 : chkEnvCells e = true) : EnvOK e := by
  refine ⟨(Pf.C09.hyp_checks_sound e.ds e.upa #[] ⟨0, 0, 0⟩).1 h1, fun p hp => ?_⟩
  have := (allCells_iff _ _).mp h2 p hp.1
  simp only [Bool.or_eq_true, beq_iff_eq, decide_eq_true_eq] at this
  rcases this with h0 | h0
  · exact absurd h0 hp.2
  · exact h0

theorem chkUpaNodata_sound (e : Env) (par : Par) (hr : Pf.C09.ReachesPit e.ds) (h : chkUpaNodata e par.minupa = true) :
    FineOK e par := by
  refine ⟨hr, fun p hp hv => ?_⟩
  have := (allCells_iff _ _).mp h p hp
  simp only [Bool.or_eq_true, bne_iff_ne, ne_eq, decide_eq_true_eq] at this
  rcases this with h0 | h0
  · exact absurd hv h0
  · exact h0

theorem chkFixOK_sound (e : Env) (fix : List Nat) (out : Array Nat) (h : chkFixOK e fix out = true) :
    ∀ c ∈ fix, c < e.ncell ∧ out[c]! ≠ e.ds.size := by
  intro c hc
  have := List.all_eq_true.mp h c hc
  simpa using this

theorem chkSync_iff (e : Env) (streams : Array Int) (out : Array Nat) :
    chkSync e streams out = true ↔ streams.size = e.ds.size ∧ SyncD e.ds streams out := by
  unfold chkSync SyncD
  simp only [Bool.and_eq_true, beq_iff_eq, allCells_iff, Bool.or_eq_true, Bool.not_eq_true', decide_eq_false_iff_not]
  constructor
  · rintro ⟨h1, h2⟩
    exact ⟨h1, fun c hc hlt => (h2 c hc).resolve_left (fun hn => hn hlt)⟩
  · rintro ⟨h1, h2⟩
    refine ⟨h1, fun c hc => ?_⟩
    by_cases hlt : out[c]! < e.ds.size
    · exact Or.inr (h2 c hc hlt)
    · exact Or.inl hlt

theorem chkDistinct_iff (e : Env) (out : Array Nat) :
    chkDistinct e out = true ↔
      ∀ c c', c < out.size → c' < out.size → out[c]! ≠ e.ds.size → out[c]! = out[c']! → c = c' := by
  unfold chkDistinct
  simp only [allCells_iff, Bool.or_eq_true, beq_iff_eq, bne_iff_ne, ne_eq]
  constructor
  · intro h c c' hc hc' hv heq
    rcases h c hc with h1 | h1
    · exact absurd h1 hv
    · rcases h1 c' hc' with h2 | h2
      · exact h2
      · exact absurd heq h2
  · intro h c hc
    by_cases hv : out[c]! = e.ds.size
    · exact Or.inl hv
    · refine Or.inr (fun c' hc' => ?_)
      by_cases heq : out[c]! = out[c']!
      · exact Or.inl (h c c' hc hc' hv heq)
      · exact Or.inr heq

/-! ## 6. Concrete inputs (non-vacuity) -/

/-- a 1×16 raster, scale 6 (coarse 1×3): the only flagged cell is 2; the tributary cell 0 cannot be connected to the
alternative outlet pixel 11 of cell 1, so coarse link value 1 enters `bottleneck` and the loop of STEP 4 runs twice -/
def bEnv : Env :=
  { ds := #[1, 2, 3, 4, 5, 6, 6, 6, 7, 10, 11, 11, 11, 12, 13, 15],
    upa := #[1, 2, 3, 4, 5, 6, 9, 2, 1, 1, 2, 6, 3, 2, 1, 1],
    subncol := 16, cs := 6, nrow := 1, ncol := 3 }
def bCds : Array Nat := #[1, 1, 1]
def bOut : Array Nat := #[5, 6, 12]
def bTr : Tribs := { us0 := #[0], sds0 := #[6], conn := #[0], conn1 := #[0] }
def bS0 : S4 :=
  { cds := bCds, out := bOut, outEd := [], dsEd := [], idx0 := 2, j0 := 0, k0 := 0, nextiter := false, bott := [], idx1 := 1 }

/-- STEPS 1-3 of the model produce exactly the data STEP 4 is run on below -/
example : (relocTrace bEnv bCds bOut 17 11 (bEnv.cell 11) 1 [] []).map (fun t => (t.cells, t.pixs, t.idx1)) =
      some ([1], [11], 1) ∧
    relocTribs bEnv bCds bOut 2 ⟨true, 11, 1, [1], [11]⟩ = [0] ∧
    relocConn bEnv bOut [11] [0] 1 = some ([0], [0], 1) := by decide +kernel

/-- one round is not enough (fuel 1 is exhausted), two are; `ncell + 2 = 5` rounds give the same result, with
`bottleneck = [1]` and the arrays restored -/
example : (step4 bEnv 2 [1] [11] bTr 1 bS0).isNone = true ∧
    (step4 bEnv 2 [1] [11] bTr 2 bS0).map (fun s => (s.cds, s.out, s.bott, s.nextiter)) =
      some (#[1, 1, 1], #[5, 6, 12], [1], true) ∧
    (step4 bEnv 2 [1] [11] bTr (bEnv.ncell + 2) bS0).map (fun s => (s.cds, s.out, s.bott, s.nextiter)) =
      some (#[1, 1, 1], #[5, 6, 12], [1], true) := by decide +kernel

/-- the hypotheses of `reloc_bottleneck_fuel` / `relocate_outlets_total` / `relocate_outlets_links` on it -/
example : chkFineWF bEnv.ds = true ∧ chkEnvCells bEnv = true ∧ chkReach bEnv.ds = true ∧
    chkLinksOK bEnv bCds bOut = true ∧ chkFixOK bEnv [2] bOut = true ∧
    (1 < bEnv.ncell ∧ bCds[1]! ≠ bEnv.ncell ∧ ValidPx bEnv.ds 11) ∧ (0 < bEnv.ncell ∧ bCds[0]! ≠ bEnv.ncell) := by
  unfold ValidPx; decide +kernel

/-- the conclusion of `relocate_outlets_total` / `relocate_outlets_links` on `bEnv`: the whole relocation is defined (the cell stays unresolved) and the state well formed -/
example : (relocateOutlets bEnv [2] bCds bOut ⟨[[0], [0]], 0⟩).map (fun r => (r.cds, r.out, r.fixOut, r.sorts.bad)) =
      some (#[1, 1, 1], #[5, 6, 12], [2], 0) ∧ chkLinksOK bEnv #[1, 1, 1] #[5, 6, 12] = true := by decide +kernel

/-- the 3×7 raster of `Props/C09_ihu.lean` (scale 2, upstream areas in quarter units): hypotheses of `ihu_model_total`
and `ihu_links` … -/
example : chkFineWF exEnv.ds = true ∧ chkReach exEnv.ds = true ∧ chkFineD8 exEnv.ds 7 = true ∧
    chkEaCross ⟨3, 7, 2⟩ (Array.replicate 21 true) 21 = true ∧
    chkUpaNodata { exEnv with upa := exEnv.upa.map (· * 4) } 4 = true ∧ exEnv.ds.size = 3 * 7 := by decide +kernel

/-- the conclusions of `ihu_model_total` and `ihu_links` on it: `ihu` returns (see the example in `Props/C09_ihu.lean`) and its result, in which the outlet
of coarse cell 2 has moved and cell 6 is re-linked, is well formed -/
example : (ihuModel exEnv.ds (exEnv.upa.map (· * 4)) (Array.replicate 21 true) ⟨3, 7, 2⟩ ⟨5, true, true, 2⟩
      ⟨[[0], [0, 1, 2], []], 0⟩).isSome = true ∧
    chkLinksOK exEnv #[1, 1, 1, 2, 0, 0, 1, 6] #[8, 9, 4, 6, 14, 16, 18, 20] = true := by decide +kernel

/-- a state that is NOT well formed is rejected by the check: cell 3 linked to the non-adjacent cell 0 -/
example : chkLinksOK exEnv #[1, 1, 1, 0, 0, 0, 1, 6] #[8, 9, 4, 6, 14, 16, 18, 20] = false := by decide +kernel

/-- `minimize_error_outlets_distinct` on the 1×7 raster of `Props/C09_ihu.lean` (`pit_out_of_cell = 2`): `streams` is in
step with the outlets before; the outlet of coarse cell 3 moves to the pit 5 in coarse cell 2 — outside its own cell —
and `streams` is in step again, the four outlets stay distinct -/
example : chkSync exMEnv exMStreams #[7, 2, 4, 6] = true ∧ exMEnv.nrow * exMEnv.ncol = 4 ∧
    (minimizeError exMEnv ⟨2, 4, 1⟩ 2 [3] (exMStreams, #[4, 1, 2, 2], #[7, 2, 4, 6]) ⟨[[0]], 0⟩).map
      (fun r => (r.1.1, r.1.2.2)) = some (#[-9, -9, 1, -9, 2, 3, -1], #[7, 2, 4, 5]) ∧
    chkSync exMEnv #[-9, -9, 1, -9, 2, 3, -1] #[7, 2, 4, 5] = true ∧
    chkDistinct exMEnv #[7, 2, 4, 5] = true ∧ chkOwnCell exMEnv #[7, 2, 4, 5] = false := by decide +kernel

/-- a `streams` array that is NOT in step is rejected: pixel 5 marked for cell 2 while cell 3 reports it -/
example : chkSync exMEnv #[-9, -9, 1, -9, 2, 2, -1] #[7, 2, 4, 5] = false ∧
    chkDistinct exMEnv #[7, 2, 5, 5] = false := by decide +kernel

end Pf.C09ihu
