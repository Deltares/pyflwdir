import PfVerif.Proofs.C20Alg
import PfVerif.Proofs.C20Term
import PfVerif.Proofs.C20Dissolve
/-! # C20 — nearest-source spreading returns true least-cost distances and sources

`SpWalk G s c k` : there is a walk by 8-neighbour steps from the observation cell `s` (observation
value ≠ nodata, allowed by the mask) to `c`, entering allowed cells only, whose accumulated cost —
geometric step length at the row of the cell stepped from × friction of the cell stepped from — is `k`.
All theorems quantify over every raster size, observation raster, mask, friction field and per-row
cell geometry (square or not, projected or geographic: the per-row cell sizes are arbitrary
rationals); no size bound.

Two groups:
 * `spread_*` : about the model of the algorithm itself (`Pf.spread2d`, heap loop with fuel `10 n + 1`).
   `spread_terminates` shows that the fuel always suffices (Dijkstra argument: settled cells are never
   updated again, `|heap| + 8 · #unsettled` decreases); the other theorems are stated for the result
   `st` of the run and are partial-correctness statements that do not depend on the pop order;
   `spread_total_correct` puts both together.
 * `spreadCert_*` : certificate theorems about ANY output `(src, dst, out)` that passes the decidable
   local check `spreadCert` — this is what the harness evaluates on the implementation's output in
   every case. -/
namespace Pf.C20
open Pf SpGrid

/-- non-negative friction and diagonal give non-negative step costs -/
theorem wgt_nonneg (G : SpGrid) (hf : ∀ i, 0 ≤ G.fric i) (hg : ∀ r : Nat, 0 ≤ G.dgs[r]!) :
    ∀ a d, 0 ≤ G.wgt a d := by
  intro a d
  unfold SpGrid.wgt
  apply Rat.mul_nonneg _ (hf a)
  unfold SpGrid.stepLen
  split
  · exact Rat.abs_nonneg
  · split
    · exact Rat.abs_nonneg
    · exact hg _

/-- a decidable sufficient condition for non-negative step costs (closed inputs: `by decide +kernel`) -/
def nonnegCheck (G : SpGrid) : Bool :=
  (match G.frc with
   | none => true
   | some f => f.all fun x => decide (0 ≤ x)) && G.dgs.all fun x => decide (0 ≤ x)

theorem wgt_nonneg_of_check (G : SpGrid) (h : nonnegCheck G = true) : ∀ a d, 0 ≤ G.wgt a d := by
  unfold nonnegCheck at h
  rw [Bool.and_eq_true] at h
  apply wgt_nonneg G
  · intro i
    unfold SpGrid.fric
    cases hf : G.frc with
    | none => exact Rat.le_of_lt (by decide : (0 : Rat) < 1)
    | some f => rw [hf] at h; exact get!_nonneg_of_all f h.1 i
  · exact get!_nonneg_of_all _ h.2

/-! ## the algorithm (model of `gis_utils.spread2d`) -/

/-- with non-negative step costs the heap loop ends within its fuel, for every input -/
theorem spread_terminates (G : SpGrid) (hobs : G.obs.size = G.n) (hw : ∀ a d, 0 ≤ G.wgt a d) :
    ∃ st, spread2d G = some st :=
  spread2d_terminates hobs hw

/-- every cell that a walk from an observation reaches is marked reached,
and its distance is at most the cost of that walk — for every walk. -/
theorem spread_least (G : SpGrid) (hobs : G.obs.size = G.n) (hw : ∀ a d, 0 ≤ G.wgt a d)
    (st : SpState) (hrun : spread2d G = some st) (s c : Nat) (k : Rat) (hwalk : SpWalk G s c k) :
    st.src[c]! ≠ -1 ∧ st.dst[c]! ≤ k :=
  (spread2d_leastCost hobs hw hrun).lower hwalk

/-- for every reached allowed cell the reported origin `s`
is an observation cell, the reported distance is the cost of a walk from `s` to the cell, and the
output value is the observation at `s`. With `spread_least`: `dst c` is the minimum over all walks
and `src c` is an observation attaining it. -/
theorem spread_attained (G : SpGrid) (hobs : G.obs.size = G.n) (hw : ∀ a d, 0 ≤ G.wgt a d)
    (st : SpState) (hrun : spread2d G = some st) (c : Nat) (hc : c < G.n) (hca : G.allowed c = true)
    (hcs : st.src[c]! ≠ -1) :
    ∃ s : Nat, st.src[c]! = (s : Int) ∧ G.isSource s = true ∧ SpWalk G s c st.dst[c]! ∧ st.out[c]! = G.obs[s]! := by
  obtain ⟨s, h1, h2, h3⟩ := (spread2d_leastCost hobs hw hrun).attained c hc hca hcs
  exact ⟨s, h1, h2.facts.1, h2, h3⟩

/-- the run ends, and in its result the distance of every cell
reachable from an observation is the minimum of the accumulated cost over all walks (a lower bound for
every walk, attained by a walk from the reported origin), the origin is an observation cell attaining
it and the value is that observation's value. -/
theorem spread_total_correct (G : SpGrid) (hobs : G.obs.size = G.n) (hw : ∀ a d, 0 ≤ G.wgt a d) :
    ∃ st, spread2d G = some st ∧
      (∀ s c k, SpWalk G s c k → st.src[c]! ≠ -1 ∧ st.dst[c]! ≤ k) ∧
      (∀ c, c < G.n → G.allowed c = true → st.src[c]! ≠ -1 →
        ∃ s : Nat, st.src[c]! = (s : Int) ∧ G.isSource s = true ∧ SpWalk G s c st.dst[c]! ∧
          st.out[c]! = G.obs[s]!) := by
  obtain ⟨st, hrun⟩ := spread_terminates G hobs hw
  exact ⟨st, hrun, fun s c k h => spread_least G hobs hw st hrun s c k h,
    fun c hc hca hcs => spread_attained G hobs hw st hrun c hc hca hcs⟩

/-- an allowed cell is marked reached iff some walk from an observation ends there -/
theorem spread_reached_iff (G : SpGrid) (hobs : G.obs.size = G.n) (hw : ∀ a d, 0 ≤ G.wgt a d)
    (st : SpState) (hrun : spread2d G = some st) (c : Nat) (hc : c < G.n) (hca : G.allowed c = true) :
    st.src[c]! ≠ -1 ↔ ∃ s k, SpWalk G s c k :=
  (spread2d_leastCost hobs hw hrun).reached_iff hc hca

/-- observation cells keep their value, have distance 0 and are their own origin -/
theorem spread_sources (G : SpGrid) (hobs : G.obs.size = G.n) (hw : ∀ a d, 0 ≤ G.wgt a d)
    (st : SpState) (hrun : spread2d G = some st) (i : Nat) (hi : G.isSource i = true) :
    st.src[i]! = (i : Int) ∧ st.dst[i]! = 0 ∧ st.out[i]! = G.obs[i]! :=
  (spread2d_fixed hobs hw hrun i ((G.isSource_iff i).1 hi).1).srcs hi

/-- unreachable or disallowed cells are left unchanged: value = input value, distance = initial 0,
origin = none (−1), except that an observation inside a disallowed cell reports itself -/
theorem spread_unchanged (G : SpGrid) (hobs : G.obs.size = G.n) (hw : ∀ a d, 0 ≤ G.wgt a d)
    (st : SpState) (hrun : spread2d G = some st) (c : Nat) (hc : c < G.n)
    (h : G.allowed c = false ∨ ¬ ∃ s k, SpWalk G s c k) :
    st.out[c]! = G.obs[c]! ∧ st.dst[c]! = 0 ∧
      st.src[c]! = (if G.allowed c = false ∧ G.obs[c]! ≠ G.nodata then (c : Int) else -1) :=
  (spread2d_fixed hobs hw hrun).unchanged (spread2d_leastCost hobs hw hrun) hc h

/-! ### non-vacuity: 2 × 3 raster, cells 3 wide and 4 high (diagonal 5), an obstacle at cell 2, friction
field `[1, 2, 1, 1/2, 1, 1]`, observations 5 at cell 0 and 7 at cell 5 -/
def exGrid : SpGrid :=
  { nrow := 2, ncol := 3, obs := #[5, 0, 0, 0, 0, 7]
    msk := some #[true, true, false, true, true, true]
    nodata := 0, frc := some #[1, 2, 1, 1 / 2, 1, 1], dxs := #[3, 3], dys := #[4, 4], dgs := #[5, 5] }

-- the hypotheses of the `spread_*` theorems hold and the run terminates with a non-trivial result:
-- cell 4 is nearer to observation 7 (cost 3) than to observation 5 (cost 5), cell 2 is untouched
example : exGrid.obs.size = exGrid.n := by decide
example : ∀ a d, 0 ≤ exGrid.wgt a d := wgt_nonneg_of_check exGrid (by decide +kernel)
example : (spread2d exGrid).map (fun st => (st.src, st.dst, st.out)) =
    some (#[0, 0, -1, 0, 5, 5], #[0, 3, 0, 4, 3, 0], #[5, 5, 0, 5, 7, 7]) := by decide +kernel
-- a walk: observation cell 0 → cell 1 (east, cost 3·1) → cell 4 (south, cost 4·2)
example : SpWalk exGrid 0 4 (0 + exGrid.wgt 0 (0, 1) + exGrid.wgt 1 (1, 0)) :=
  SpWalk.step (1, 0) (SpWalk.step (0, 1) (SpWalk.src 0 (by decide)) (by decide) (by decide) (by decide))
    (by decide) (by decide) (by decide)

/-! ## the certificate (what the harness evaluates on the implementation's output) -/

/-- the lower bound of `spread_least`, for ANY output accepted by the local check -/
theorem spreadCert_least_cert (G : SpGrid) (o : SpOut) (hc : spreadCert G o = true)
    (s c : Nat) (k : Rat) (hwalk : SpWalk G s c k) : o.src[c]! ≠ -1 ∧ o.dst[c]! ≤ k :=
  walk_lower (spreadCert_imp G o hc).fixed (spreadCert_imp G o hc).feas hwalk

/-- the conclusion of `spread_attained`, for any accepted output; needs positive step costs
(`certPositive`, also decidable and evaluated by the driver) so that tight-predecessor chains end -/
theorem spreadCert_attained_cert (G : SpGrid) (o : SpOut) (hc : spreadCert G o = true)
    (hp : certPositive G = true) (c : Nat) (hcn : c < G.n) (hca : G.allowed c = true) (hcs : o.src[c]! ≠ -1) :
    ∃ s : Nat, o.src[c]! = (s : Int) ∧ G.isSource s = true ∧ SpWalk G s c o.dst[c]! ∧ o.out[c]! = G.obs[s]! := by
  obtain ⟨s, h1, h2, h3⟩ := cert_attained (spreadCert_imp G o hc) (certPositive_imp G hp) c hcn hca hcs
  exact ⟨s, h1, h2.facts.1, h2, h3⟩

/-- for any accepted output (positive step costs): observation cells keep their value, have distance 0 and are
their own origin; disallowed cells and cells no walk reaches keep their value and distance 0 -/
theorem spreadCert_unchanged_cert (G : SpGrid) (o : SpOut) (hc : spreadCert G o = true)
    (hp : certPositive G = true) (c : Nat) (hcn : c < G.n) :
    (G.isSource c = true → o.src[c]! = (c : Int) ∧ o.dst[c]! = 0 ∧ o.out[c]! = G.obs[c]!) ∧
    ((G.allowed c = false ∨ ¬ ∃ s k, SpWalk G s c k) → o.out[c]! = G.obs[c]! ∧ o.dst[c]! = 0) := by
  have hP := spreadCert_imp G o hc
  refine ⟨(hP.fixed c hcn).srcs, fun h => ?_⟩
  have hu := hP.fixed.unchanged (cert_leastCost hP (certPositive_imp G hp)) hcn h
  exact ⟨hu.1, hu.2.1⟩

/-- why `dst` is compared exactly while `src`/`out` are only required to pass the certificate: the
algorithm's result and ANY certified output mark the same allowed cells as reached and report the same
distance there. -/
theorem spread_dst_eq_cert (G : SpGrid) (hobs : G.obs.size = G.n) (hw : ∀ a d, 0 ≤ G.wgt a d)
    (st : SpState) (hrun : spread2d G = some st) (o : SpOut) (hc : spreadCert G o = true)
    (hp : certPositive G = true) (c : Nat) (hcn : c < G.n) (hca : G.allowed c = true) :
    (st.src[c]! ≠ -1 ↔ o.src[c]! ≠ -1) ∧ (st.src[c]! ≠ -1 → st.dst[c]! = o.dst[c]!) :=
  (spread2d_leastCost hobs hw hrun).dst_unique (cert_leastCost (spreadCert_imp G o hc) (certPositive_imp G hp))
    hcn hca

-- non-vacuity: the certificate accepts the (non-trivial) output above and rejects a wrong distance / origin
example : certPositive exGrid = true := by decide +kernel
example : spreadCert exGrid ⟨#[0, 0, -1, 0, 5, 5], #[0, 3, 0, 4, 3, 0], #[5, 5, 0, 5, 7, 7]⟩ = true := by
  decide +kernel
example : spreadCert exGrid ⟨#[0, 0, -1, 0, 0, 5], #[0, 3, 0, 4, 5, 0], #[5, 5, 0, 5, 5, 7]⟩ = false := by
  decide +kernel
example : spreadCert exGrid ⟨#[0, 0, -1, 0, 0, 5], #[0, 3, 0, 4, 3, 0], #[5, 5, 0, 5, 5, 7]⟩ = false := by
  decide +kernel

/-! ## geographic grids: row latitudes use the signed y-resolution -/

/-- consecutive rows differ by `transform[4]` (southwards on a north-up raster) and row 0 is half a cell
below `north` -/
theorem rowLat_step (north t4 : Rat) (r : Nat) :
    rowLat north t4 0 = north + t4 / 2 ∧ rowLat north t4 (r + 1) = rowLat north t4 r + t4 := by
  unfold rowLat
  constructor
  · have : ((0 : Nat) : Rat) = 0 := rfl
    rw [this]; grind
  · have : ((r + 1 : Nat) : Rat) = (r : Rat) + 1 := by simp [Rat.natCast_add]
    rw [this]; grind

-- north-up raster, north = 60, 5 degree cells: 57.5, 52.5 (not 62.5, 67.5); southern hemisphere, south-up
example : (List.range 3).map (rowLat 60 (-5)) = [115 / 2, 105 / 2, 95 / 2] := by decide +kernel
example : (List.range 2).map (rowLat (-10) 5) = [-15 / 2, -5 / 2] := by decide +kernel

/-! ## `regions.region_dissolve` -/

/-- the grid `region_dissolve` spreads on: dissolved regions and background are "no observation" (0),
every cell of a surviving region is an observation carrying its label -/
def dissolveGrid (G0 : SpGrid) (regions : Array Int) (labels : List Int) : SpGrid :=
  { G0 with obs := dissolveSeeds regions labels, nodata := 0 }

/-- every cell whose label is not listed keeps its label
(background included); the result has the shape of the input -/
theorem dissolve_only (G0 : SpGrid) (regions : Array Int) (labels : List Int) (idxs : Option (List Nat))
    (res : Array Int) (h : regionDissolve G0 regions labels idxs = some res) :
    res.size = regions.size ∧ ∀ c, c < regions.size → regions[c]! ∉ labels → res[c]! = regions[c]! := by
  rw [regionDissolve_eq, Option.map_eq_some_iff] at h
  obtain ⟨st, _, rfl⟩ := h
  exact ⟨relabel_size .., fun c hc hn => (relabel_get _ _ _ c hc).trans (relabelVal_of_not_mem hn)⟩

/-- `region_dissolve` always produces a result (spreading terminates) -/
theorem dissolve_terminates (G0 : SpGrid) (regions : Array Int) (labels : List Int) (idxs : Option (List Nat))
    (hsz : regions.size = G0.n) (hw : ∀ a d, 0 ≤ G0.wgt a d) :
    ∃ res, regionDissolve G0 regions labels idxs = some res := by
  obtain ⟨st, hst⟩ := spread_terminates (dissolveGrid G0 regions labels) (seeds_obs_size rfl hsz) hw
  exact ⟨_, (regionDissolve_eq ..).trans (congrArg (Option.map _) hst)⟩

/-- the value spreading delivers at a reached location is the label of a surviving region from which
a walk of cost `dst[loc]` arrives -/
theorem dissolve_value (G0 : SpGrid) (regions : Array Int) (labels : List Int)
    (hsz : regions.size = G0.n) (hw : ∀ a d, 0 ≤ G0.wgt a d) (st : SpState)
    (hrun : spread2d (dissolveGrid G0 regions labels) = some st) (loc : Nat) (hloc : loc < regions.size)
    (hla : G0.allowed loc = true) (hreach : ∃ s κ, SpWalk (dissolveGrid G0 regions labels) s loc κ) :
    ∃ s : Nat, s < regions.size ∧ SpWalk (dissolveGrid G0 regions labels) s loc st.dst[loc]! ∧
      st.out[loc]! = regions[s]! ∧ regions[s]! ∉ labels ∧ regions[s]! ≠ 0 := by
  exact seeds_value (G := dissolveGrid G0 regions labels) rfl rfl hsz hw hrun hloc hla hreach

/-- by label (`idxs = none`): every cell of the `k`-th dissolved region gets the label of one surviving
region (not background, not itself dissolved), and that region is nearest: a walk of cost `κ` leads
from one of its cells `s` to a cell of the dissolved region, and no walk from any surviving cell to
any cell of the dissolved region is cheaper. (Hypotheses: labels pairwise distinct — the code raises
`ValueError` otherwise; the region is non-empty, allowed and reachable from a surviving region.) -/
theorem dissolve_nearest_labels (G0 : SpGrid) (regions : Array Int) (labels : List Int) (res : Array Int)
    (hsz : regions.size = G0.n) (hw : ∀ a d, 0 ≤ G0.wgt a d) (hnd : labels.Nodup)
    (h : regionDissolve G0 regions labels none = some res) (k : Nat) (hk : k < labels.length)
    (hne : ∃ c, c < regions.size ∧ regions[c]! = labels[k])
    (hreach : ∀ c, c < regions.size → regions[c]! = labels[k] →
      G0.allowed c = true ∧ ∃ s κ, SpWalk (dissolveGrid G0 regions labels) s c κ) :
    ∃ (loc s : Nat) (κ : Rat), loc < regions.size ∧ regions[loc]! = labels[k] ∧ s < regions.size ∧
      SpWalk (dissolveGrid G0 regions labels) s loc κ ∧ regions[s]! ∉ labels ∧ regions[s]! ≠ 0 ∧
      (∀ c, c < regions.size → regions[c]! = labels[k] → res[c]! = regions[s]!) ∧
      (∀ c s' κ', c < regions.size → regions[c]! = labels[k] →
        SpWalk (dissolveGrid G0 regions labels) s' c κ' → κ ≤ κ') := by
  rw [regionDissolve_eq, Option.map_eq_some_iff] at h
  obtain ⟨st, hrun, rfl⟩ := h
  have hrun' : spread2d (dissolveGrid G0 regions labels) = some st := hrun
  -- the location of the region is one of its cells of least distance
  obtain ⟨p1, p2, p3⟩ := minPosition_spec st.dst regions labels[k] hne
  have hloc : (labels.map (minPosition st.dst regions))[k]! = minPosition st.dst regions labels[k] := by
    simp [hk]
  obtain ⟨hla, hrc⟩ := hreach _ p1 p2
  rw [← hloc] at p1 p2 p3 hla hrc
  obtain ⟨s, hs1, hs2, hs4, hs5, hs6, _⟩ := dissolve_nearest_at (G := dissolveGrid G0 regions labels) rfl rfl
    hsz hw hrun' hnd (List.length_map _) hk p1 hla hrc
  exact ⟨_, s, _, p1, p2, hs1, hs2, hs4, hs5, hs6, fun c s' κ' hc hl hwk => Rat.le_trans (p3 c hc hl)
    (spread_least (dissolveGrid G0 regions labels) (seeds_obs_size rfl hsz) hw st hrun' s' c κ' hwk).2⟩

/-- by location: with one location `idxs[k]` per listed label, every cell labelled `labels[k]` gets the
label of the surviving region nearest to that location. -/
theorem dissolve_nearest_idxs (G0 : SpGrid) (regions : Array Int) (labels : List Int) (idxs : List Nat)
    (res : Array Int) (hsz : regions.size = G0.n) (hw : ∀ a d, 0 ≤ G0.wgt a d) (hnd : labels.Nodup)
    (hlen : idxs.length = labels.length)
    (h : regionDissolve G0 regions labels (some idxs) = some res) (k : Nat) (hk : k < labels.length)
    (hloc : idxs[k]! < regions.size) (hla : G0.allowed idxs[k]! = true)
    (hreach : ∃ s κ, SpWalk (dissolveGrid G0 regions labels) s idxs[k]! κ) :
    ∃ (s : Nat) (κ : Rat), s < regions.size ∧
      SpWalk (dissolveGrid G0 regions labels) s idxs[k]! κ ∧ regions[s]! ∉ labels ∧ regions[s]! ≠ 0 ∧
      (∀ c, c < regions.size → regions[c]! = labels[k] → res[c]! = regions[s]!) ∧
      (∀ s' κ', SpWalk (dissolveGrid G0 regions labels) s' idxs[k]! κ' → κ ≤ κ') := by
  rw [regionDissolve_eq, Option.map_eq_some_iff] at h
  obtain ⟨st, hrun, rfl⟩ := h
  obtain ⟨s, hs⟩ := dissolve_nearest_at (G := dissolveGrid G0 regions labels) rfl rfl hsz hw hrun hnd hlen hk
    hloc hla hreach
  exact ⟨s, _, hs⟩

/-! ### non-vacuity: regions `[[1,1,3],[2,2,7]]`, dissolve 1 and 2: region 1 goes to 3 (cost 3 from cell 2
to cell 1), region 2 goes to 7 (cost 3 from cell 5 to cell 4) -/
def exGeo : SpGrid :=
  { nrow := 2, ncol := 3, obs := #[], msk := none
    nodata := 0, frc := none, dxs := #[3, 3], dys := #[4, 4], dgs := #[5, 5] }
example : regionDissolve exGeo #[1, 1, 3, 2, 2, 7] [1, 2] none = some #[3, 3, 3, 7, 7, 7] := by decide +kernel
example : regionDissolve exGeo #[1, 1, 3, 2, 2, 7] [1, 2] (some [0, 3]) = some #[3, 3, 3, 7, 7, 7] := by
  decide +kernel
example : ([1, 2] : List Int).Nodup := by decide
example : ∀ a d, 0 ≤ exGeo.wgt a d := wgt_nonneg_of_check exGeo (by decide +kernel)
example : SpWalk (dissolveGrid exGeo #[1, 1, 3, 2, 2, 7] [1, 2]) 2 1 (0 + exGeo.wgt 2 (0, -1)) :=
  SpWalk.step (0, -1) (SpWalk.src 2 (by decide +kernel)) (by decide) (by decide) (by decide)

end Pf.C20
