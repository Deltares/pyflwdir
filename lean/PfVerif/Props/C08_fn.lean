import PfVerif.Proofs.C08_fn
import PfVerif.Model.C18
import PfVerif.Props.C08
import PfVerif.Props.C04_fn
/-! Translator tie for more kernels (extension `C08_fn`, hooked under C08; serves C03 / C18 too).
`harness/extract_fn.py` (fragment 2b: tuple assignment, an initialisation that calls another translated kernel,
list-append scans) translates `streams.strahler_order`, `streams.stream_order`, `core.pit_indices` and
`basins._tributaries` from the Python AST of /repo into `Generated/Sweeps2.lean` on every run. The obligations below
state that the generated defs ARE the hand-written models the theorems of C08 / C18 / C03 are about, for all arrays,
sequences and masks, and transport C08's main theorems (Strahler recursion, classic recurrence) to the generated defs.

Value arrays are unbounded `Int` in the generated defs (`toI` embeds the models' `Array Nat` orders): the `uint8`
storage of `strord` / `strmax` (wrap-around of `strord[idx_ds] + 1` at 256 in the classic order) is NOT covered here -
it is the subject of `C16_val` and of the open finding F08; see also `Pf.C08.strahler_no_u8_overflow`,
`Pf.C08.classic_u8_exact`. Each obligation is split into a per-iteration `…_step_eq` and the fold. -/
-- on a rewritten Python source some lemmas of the normal-form lists below may find nothing to rewrite
set_option linter.unusedSimpArgs false
namespace Pf.C08fn
open Pf Pf.SwBridge Pf.Sw2Bridge


/-! ### `streams.strahler_order` -/
/-- one generated loop iteration on embedded `Nat` work arrays is the model's `strahlerStep` -/
theorem gen_strahler_order_step_eq (ds : Array Nat) (seq : List Nat) (mask : Option (Array Bool))
    (st : Array Nat × Array Nat) (idx0 : Nat) :
    Generated.Sw.strahler_order_step ds seq mask (toI st.1, toI st.2) idx0 =
      (toI (strahlerStep ds mask idx0 st).1, toI (strahlerStep ds mask idx0 st).2) := by
  obtain ⟨so, sm⟩ := st
  -- the generated `Int` code runs on embedded `Nat` arrays: reads are casts, a written value is a cast
  -- (`1 = ↑1`, `↑a + ↑b = ↑(a + b)`) so the write is `toI` of a `Nat` write, comparisons of casts are `Nat` comparisons
  simp only [Generated.Sw.strahler_order_step, strahlerStep, mask_invalid, toI_get, ← Int.natCast_one,
    ← Int.natCast_add, ← toI_set, Int.ofNat_lt, Int.natCast_inj, Int.natCast_eq_zero]
  -- the translator copies the rest of the body into both branches of `if strord[idx0] == 0`, the model shares it;
  -- once that test is decided both sides are the same decisions over the same arrays
  by_cases h0 : so[idx0]! = 0 <;>
    simp only [h0, if_true, if_false, decide_true, decide_false, Bool.false_eq_true] <;> grind

/-- the generated `strahler_order` (orders as unbounded `Int`; uint8 storage: C16_val / F08) is the model
`strahlerOrder` of `Model/C08.lean` -/
theorem gen_strahler_order_eq_model (ds : Array Nat) (seq : List Nat) (mask : Option (Array Bool)) :
    Generated.Sw.strahler_order ds seq mask = toI (strahlerOrder ds seq mask) := by
  simp only [Generated.Sw.strahler_order, strahlerOrder, strahlerState, toI_replicate]
  have := foldl_reverse_sim (fun (s : Array Int × Array Int) (t : Array Nat × Array Nat) => s = (toI t.1, toI t.2))
    (Generated.Sw.strahler_order_step ds seq mask) (strahlerStep ds mask)
    (fun s t a h => by rw [h]; exact gen_strahler_order_step_eq ds seq mask t a) seq
    (toI (Array.replicate ds.size 0), toI (Array.replicate ds.size 0))
    (Array.replicate ds.size 0, Array.replicate ds.size 0) rfl
  rw [this]

/-! ### `streams.stream_order` (classic) -/
theorem gen_stream_order_step_eq (ds : Array Nat) (seq : List Nat) (usMain : Array Nat) (mask : Option (Array Bool))
    (mv : Nat) (nup : Array Int) (so : Array Nat) (idx0 : Nat) :
    Generated.Sw.stream_order_step ds seq usMain mask mv nup (toI so) idx0 =
      toI (stepDown ds (gClassic ds nup usMain mask) so idx0) := by
  simp only [Generated.Sw.stream_order_step, stepDown, gClassic, setIfInBounds_ite, setIfInBounds_self, mask_invalid,
    toI_get, ← Int.natCast_one, ← Int.natCast_add, ← toI_set]
  grind

/-- the generated `stream_order` - INCLUDING its initialisation `nup = core.upstream_count(…)`, which is the generated
`upstream_count` of `Sweeps.lean` - is the model `classicOrder` of `Model/C08.lean` (`mv` = `ds.size`; orders unbounded, the uint8
wrap of `strord[idx_ds] + 1` is C16_val / F08) -/
theorem gen_stream_order_eq_model (ds : Array Nat) (seq : List Nat) (usMain : Array Nat) (mask : Option (Array Bool)) :
    Generated.Sw.stream_order ds seq usMain mask ds.size = toI (classicOrder ds seq usMain mask) := by
  simp only [Generated.Sw.stream_order, classicOrder, classicOrderWith, sweepDown, toI_replicate,
    Pf.C04fn.gen_upstream_count_eq_model]
  exact foldl_sim (fun (s : Array Int) (t : Array Nat) => s = toI t) _ _
    (fun s t a h => by rw [h]; exact gen_stream_order_step_eq ds seq usMain mask ds.size _ t a) seq _ _ rfl

/-- … and it is the second hand-written model of the same kernel, the one `subbasins_pfafstetter` (C18) is built on -/
theorem gen_stream_order_eq_c18_model (ds : Array Nat) (seq : List Nat) (usMain : Array Nat)
    (mask : Option (Array Bool)) :
    Generated.Sw.stream_order ds seq usMain mask ds.size = streamOrderClassic ds seq usMain mask := by
  simp only [Generated.Sw.stream_order, streamOrderClassic, Pf.C04fn.gen_upstream_count_eq_model]
  apply foldl_congr_step
  intro so idx0
  simp only [Generated.Sw.stream_order_step, mask_invalid]
  grind

/-! ### list-append scans: `core.pit_indices` (C03), `basins._tributaries` (C18) -/
theorem gen_pit_indices_step_eq (ds : Array Nat) (acc : List Nat) (idx0 : Nat) :
    Generated.Sw.pit_indices_step ds acc idx0 = if (ds[idx0]! == idx0) then acc ++ [idx0] else acc := by
  grind [Generated.Sw.pit_indices_step]

theorem gen_pit_indices_eq_model (ds : Array Nat) : Generated.Sw.pit_indices ds = pitIndices ds := by
  simp only [Generated.Sw.pit_indices, pitIndices]
  rw [foldl_congr_step _ _ (gen_pit_indices_step_eq ds), foldl_snoc_filter]; simp

theorem gen_tributaries_step_eq (ds : Array Nat) (seq : List Nat) (strord : Array Int) (acc : List Nat) (idx0 : Nat) :
    Generated.Sw.tributaries_step ds seq strord acc idx0 =
      if (decide (strord[idx0]! > 0) && decide (strord[idx0]! > strord[ds[idx0]!]!)) then acc ++ [idx0] else acc := by
  grind [Generated.Sw.tributaries_step]

theorem gen_tributaries_eq_model (ds : Array Nat) (seq : List Nat) (strord : Array Int) :
    Generated.Sw.tributaries ds seq strord = tributaries ds seq strord := by
  simp only [Generated.Sw.tributaries, tributaries]
  rw [foldl_congr_step _ _ (gen_tributaries_step_eq ds seq strord), foldl_snoc_filter]; simp

/-! ### C08's main theorems, transported to the translated code -/

/-- Strahler recursion for the code as translated (`Pf.C08.strahler_rec`): on a downstream-first order every entry
of the GENERATED `strahler_order` is the Strahler rule applied to the generated orders of the masked cells draining
into the cell (1 at a headwater of the network, 0 outside). Orders are unbounded here (uint8: C16_val / F08). -/
theorem gen_strahler_rec (ds : Array Nat) (seq : List Nat) (mask : Option (Array Bool))
    (htopo : Topo ds seq) (hb : ∀ i ∈ seq, i < ds.size) (j : Nat) :
    (Generated.Sw.strahler_order ds seq mask)[j]! =
      ((strahlerRule (decide (j ∈ seq) && maskAt mask j)
        ((kidsM ds seq mask j).map fun k => ((Generated.Sw.strahler_order ds seq mask)[k]!).toNat) : Nat) : Int) := by
  rw [gen_strahler_order_eq_model]
  simp only [toI_get, Int.toNat_natCast]
  exact congrArg _ (Pf.C08.strahler_rec ds seq mask htopo hb j)

/-- the generated Strahler orders are the order-free declarative recursion over the upstream tree (the `spec` output
of the driver) when `seq` lists exactly the valid cells -/
theorem gen_strahler_eq_spec (ds : Array Nat) (mask : Option (Array Bool)) (seq : List Nat)
    (htopo : Topo ds seq) (hb : ∀ i ∈ seq, i < ds.size) (hc : Complete ds seq) (j : Nat) :
    (Generated.Sw.strahler_order ds seq mask)[j]! = (strahlerSpec ds mask j : Int) := by
  rw [gen_strahler_order_eq_model, toI_get, Pf.C08.strahler_eq_spec ds mask seq htopo hb hc j]

/-- classic recurrence for the code as translated (`Pf.C08.classic_rec`), with the GENERATED `upstream_count` as
`nup`: 1 at every masked pit; otherwise the order of the downstream cell plus one iff that cell is a confluence and
this cell is not its main upstream cell; 0 outside the mask or the order. (uint8 wrap: C16_val / F08.) -/
theorem gen_classic_rec (ds : Array Nat) (seq : List Nat) (usMain : Array Nat) (mask : Option (Array Bool))
    (htopo : Topo ds seq) (hb : ∀ i ∈ seq, i < ds.size) :
    let ord := Generated.Sw.stream_order ds seq usMain mask ds.size
    let nup := Generated.Sw.upstream_count ds ds.size mask
    (∀ i ∈ seq, maskAt mask i = true → ds[i]! = i → ord[i]! = 1) ∧
    (∀ i ∈ seq, maskAt mask i = true → ds[i]! ≠ i →
      ord[i]! = ord[ds[i]!]! + (if nup[ds[i]!]! > 1 ∧ usMain[ds[i]!]! ≠ i then 1 else 0)) ∧
    (∀ i, i ∉ seq ∨ maskAt mask i = false → ord[i]! = 0) := by
  intro ord nup
  have hord : ord = toI (classicOrder ds seq usMain mask) := gen_stream_order_eq_model ds seq usMain mask
  have hnup : nup = upstreamCount ds mask := Pf.C04fn.gen_upstream_count_eq_model ds mask
  obtain ⟨h1, h2, h3⟩ := Pf.C08.classic_rec ds seq usMain mask htopo hb
  rw [hord, hnup]
  refine ⟨fun i hi hm hp => ?_, fun i hi hm hp => ?_, fun i hi => ?_⟩
  · rw [toI_get, h1 i hi hm hp]; rfl
  · rw [toI_get, toI_get, h2 i hi hm hp]; split <;> simp
  · rw [toI_get, h3 i hi]; rfl

/-- the tributaries found by the generated `_tributaries` on the generated classic order: the generated pipeline is the
models' pipeline (first two lines of `subbasins_pfafstetter`, without the `depth` cut) -/
theorem gen_tributaries_of_gen_order (ds : Array Nat) (seq : List Nat) (usMain : Array Nat) (mask : Option (Array Bool)) :
    Generated.Sw.tributaries ds seq (Generated.Sw.stream_order ds seq usMain mask ds.size) =
      tributaries ds seq (streamOrderClassic ds seq usMain mask) := by
  rw [gen_tributaries_eq_model, gen_stream_order_eq_c18_model]

/-- membership in the generated pit list -/
theorem gen_pit_indices_mem (ds : Array Nat) (i : Nat) :
    i ∈ Generated.Sw.pit_indices ds ↔ i < ds.size ∧ ds[i]! = i := by
  rw [gen_pit_indices_eq_model]; simp [pitIndices]

/-! ### non-vacuity: the generated defs compute on concrete networks
`#[0,0,0,0,1,1]`: pit 0 with inflows 1, 2, 3; cell 1 with inflows 4, 5 (the example network of `Props/C08`). -/
example : Generated.Sw.strahler_order #[0, 0, 0, 0, 1, 1] [0, 1, 2, 3, 4, 5] none = #[2, 2, 1, 1, 1, 1] := by decide
example : Generated.Sw.strahler_order #[0, 0, 0, 0, 1, 1] [0, 3, 1, 5, 2, 4] none = #[2, 2, 1, 1, 1, 1] := by decide
/-- two order-2 streams meeting: order 3 at cell 0 (cells 1 and 2 drain into 0, each is fed by two headwaters) -/
example : Generated.Sw.strahler_order #[0, 0, 0, 1, 1, 2, 2] [0, 1, 2, 3, 4, 5, 6] none = #[3, 2, 2, 1, 1, 1, 1] := by
  decide
/-- with a mask (cell 5 outside): cell 1 has one masked inflow only and keeps order 1 -/
example : Generated.Sw.strahler_order #[0, 0, 0, 0, 1, 1] [0, 1, 2, 3, 4, 5]
    (some #[true, true, true, true, true, false]) = #[2, 1, 1, 1, 1, 0] := by decide
/-- classic order: main stem 0 ← 1 ← 4 (order 1), tributaries 2, 3 of the pit and 5 of cell 1 (order 2) -/
example : Generated.Sw.stream_order #[0, 0, 0, 0, 1, 1] [0, 1, 2, 3, 4, 5] #[1, 4, 6, 6, 6, 6] none 6 =
    #[1, 1, 2, 2, 1, 2] := by decide
example : Generated.Sw.pit_indices #[0, 0, 2, 4, 4, 6] = [0, 2, 4] := by decide
example : Generated.Sw.tributaries #[0, 0, 0, 0, 1, 1] [0, 1, 2, 3, 4, 5] #[1, 1, 2, 2, 1, 2] = [2, 3, 5] := by decide
/-- the hypotheses of `gen_strahler_rec` / `gen_classic_rec` are satisfiable on that network -/
example : Topo #[0, 0, 0, 0, 1, 1] [0, 1, 2, 3, 4, 5] ∧ ∀ i ∈ [0, 1, 2, 3, 4, 5], i < (#[0, 0, 0, 0, 1, 1] : Array Nat).size :=
  ⟨Pf.C08.topo_example, by decide⟩

end Pf.C08fn
