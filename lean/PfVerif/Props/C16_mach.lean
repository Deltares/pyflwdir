import PfVerif.Proofs.C16_machArith
import PfVerif.Props.C16
/-! # C16 extension `C16_mach` — machine-integer refinement of the index-generic kernels

Property C16: a network object built from `int32`, `int64`, `uint32` or `uint64` downstream indices
supports the same operations and returns the same values; only the missing-value sentinel differs
(`-1` for the signed types, the type's maximum for the unsigned ones).

All kernel models of `Model/*.lean` use `ds : Array Nat` of size `n` with `ds[i] = n` as the missing
value. This file connects a *machine-integer* reading of the kernels with those models:

1. the four index dtypes, their sentinel (one bit pattern, all ones), encoding / decoding, the
   capacity condition guaranteed by the library's own dtype selection, order comparisons;
2. the two generic sweeps and the generic trace on arrays of `BitVec w` (positions by `.toNat`, pit
   test and missing-value test by machine equality) compute exactly what `Pf.sweepDown`, `Pf.sweepUp`,
   `Pf.trace` compute on the abstract network - for every body function that is the same on both sides
   (`sweepDown_refines`, `sweepUp_refines`), and for a machine-level body that reads the index array once it is
   shown to agree with the abstract body on the cells of the order (`*_refines_body`); instantiated for
   `fillnodata_upstream`, `accuflux`, `accuflux_ds` and `_trace`;
3. the index arithmetic sites of the library (`c + r*ncol` of the `from_array` decoders, neighbour
   computation `idx0 ± ncol ± 1`, `//`, `%`, `abs(np.int64(idx0) - np.int64(idx_ds))`,
   `subidx_2_idx`, `in_d8`, `_local_d4`): under capacity the machine computation equals the
   mathematical one; the *unrepaired* unsigned subtraction wraps (every link to a larger index, plus the
   kernel-checked witnesses of `Props/C16.lean`).

Apart from the tables of concrete dtypes (`std_types`, `cap_values`, `mv_values`, `promotion_tables`,
`repaired_sites_stay_int64`) and `from_array_fill_sentinel` (`t.Std`) the theorems are generic in the dtype
`t : IdxTy` - in fact in the width: the capacity condition
`Cap t n` is the only hypothesis on the type (it excludes width 0); conversions to `int64`
additionally need `t.w ≤ 64` and / or `n < 2^63` (true of every array NumPy can allocate) where stated. `n` is the number
of cells, unbounded. -/
namespace Pf.C16m
open Pf

/-! ## 1. index dtypes, sentinel, encoding, order -/

/-- the four dtypes are the standard widths -/
theorem std_types : i32.Std ∧ i64.Std ∧ u32.Std ∧ u64.Std := by decide

/-- the capacity bounds are the constants of `pyflwdir.from_array` (32 bit) and their 64-bit analogues -/
theorem cap_values : i32.cap = 2147483647 ∧ u32.cap = 4294967294 ∧
    i64.cap = 9223372036854775807 ∧ u64.cap = 18446744073709551614 := by decide

/-- the library's dtype selection guarantees capacity (`int32 if n < 2147483647 else (uint32 if
n < 4294967294 else uint64)`), for every raster size a `uint64` sentinel leaves room for -/
theorem select_dtype_cap (n : Nat) (h : n < 2 ^ 64 - 2) :
    Cap (selectDtype n) n ∧ (selectDtype n).Std := by
  unfold selectDtype
  split
  · next h1 => exact ⟨h1, Or.inl rfl⟩
  · split
    · next h2 => exact ⟨h2, Or.inl rfl⟩
    · exact ⟨h, Or.inr rfl⟩

/-- one sentinel bit pattern for all dtypes: all ones -/
theorem mv_all_ones (t : IdxTy) : t.mv = BitVec.allOnes t.w := mv_eq_allOnes t

/-- … which reads `-1` under the signed types and as the type's maximum under the unsigned ones -/
theorem mv_value (t : IdxTy) (hw : 0 < t.w) :
    val t t.mv = if t.signed then -1 else ((2 ^ t.w - 1 : Nat) : Int) := val_mv hw

theorem mv_values : val i32 i32.mv = -1 ∧ val i64 i64.mv = -1 ∧ val u32 u32.mv = 4294967295 ∧
    val u64 u64.mv = 18446744073709551615 := by decide

/-- decoding inverts encoding on cells and on the missing value -/
theorem dec_enc {t : IdxTy} {n i : Nat} (hc : Cap t n) (hi : i ≤ n) : dec t n (enc t n i) = i := by
  rcases Nat.lt_or_eq_of_le hi with h | rfl
  · rw [dec_cell hc (by rw [enc_toNat hc h]; exact h), enc_toNat hc h]
  · exact if_pos (enc_missing (Nat.le_refl _))

/-- encoding inverts decoding on every machine value that can occur in an index array (no capacity
condition needed) -/
theorem enc_dec {t : IdxTy} {n : Nat} {v : BitVec t.w} (hv : WfM t n v) : enc t n (dec t n v) = v :=
  enc_dec_wf hv

/-- the machine missing-value test `idx == mv` is the abstract one -/
theorem enc_eq_mv_iff {t : IdxTy} {n i : Nat} (hc : Cap t n) (hi : i ≤ n) :
    enc t n i = t.mv ↔ i = n := by
  rw [enc_eq_mv hc]
  exact ⟨Nat.le_antisymm hi, Nat.le_of_eq ∘ Eq.symm⟩

/-- machine equality of indices (`idx_ds == idx0`, the pit test) is abstract equality -/
theorem enc_inj {t : IdxTy} {n i j : Nat} (hc : Cap t n) (hi : i ≤ n) (hj : j ≤ n) :
    enc t n i = enc t n j ↔ i = j := by
  rcases Nat.lt_or_eq_of_le hj with h | rfl
  · exact enc_eq_cell hc h i
  · rw [enc_missing (Nat.le_refl _), enc_eq_mv_iff hc hi]

/-- a cell index has the same numeric value under every dtype; its position is `.toNat` -/
theorem val_cell {t : IdxTy} {n i : Nat} (hc : Cap t n) (hi : i < n) :
    val t (enc t n i) = (i : Int) ∧ (enc t n i).toNat = i :=
  ⟨val_enc_cell hc hi, enc_toNat hc hi⟩

/-- order comparisons of cell indices agree with the abstract order for every dtype (signed
comparison for the signed types, unsigned for the unsigned ones) -/
theorem cmp_cells {t : IdxTy} {n i j : Nat} (hc : Cap t n) (hi : i < n) (hj : j < n) :
    ltM t (enc t n i) (enc t n j) = decide (i < j) := by
  rw [Bool.eq_iff_iff, ltM_iff_val, val_enc_cell hc hi, val_enc_cell hc hj, decide_eq_true_iff, Int.ofNat_lt]

/-- under the capacity of a signed type the signed and the unsigned comparison instruction agree on
cell indices (the bit patterns are below `2^(w-1)`) -/
theorem cmp_instr_agree {t : IdxTy} {n i j : Nat} (hc : Cap t n) (hs : t.signed = true) (hi : i < n)
    (hj : j < n) : (enc t n i).slt (enc t n j) = (enc t n i).ult (enc t n j) := by
  have h1 := val_enc_cell hc hi
  have h2 := val_enc_cell hc hj
  rw [val, if_pos hs] at h1 h2
  rw [Bool.eq_iff_iff, BitVec.slt_iff_toInt_lt, BitVec.ult_iff_toNat_lt, h1, h2, enc_toNat hc hi,
    enc_toNat hc hj, Int.ofNat_lt]

/-- the range test `0 <= idx < size` accepts exactly the cells, under the signed and the unsigned
reading alike -/
theorem in_range_iff {t : IdxTy} {n i : Nat} (hc : Cap t n) (hi : i ≤ n) :
    (0 ≤ val t (enc t n i) ∧ val t (enc t n i) < (n : Int)) ↔ i < n := by
  rcases Nat.lt_or_eq_of_le hi with h | rfl
  · rw [val_enc_cell hc h]
    exact iff_of_true ⟨Int.natCast_nonneg i, Int.ofNat_lt.2 h⟩ h
  · rw [enc_missing (Nat.le_refl i), val_mv (cap_bound hc).2]
    refine iff_of_false (fun h' => ?_) (Nat.lt_irrefl i)
    split at h'
    · exact absurd h'.1 (by decide)
    · exact absurd (Int.ofNat_lt.1 h'.2) (Nat.not_lt.2 (Nat.le_sub_one_of_lt (cap_lt hc (Nat.le_refl i))))

/-- … whereas the bare test `idx < size` separates the dtypes on the sentinel: it holds of `-1` and
fails for the unsigned maximum (the F16c class: `distnc[-1]` wrapped silently for the signed types and
raised `IndexError` for the unsigned ones) -/
theorem lt_size_sentinel {t : IdxTy} {n : Nat} (hc : Cap t n) :
    val t t.mv < (n : Int) ↔ t.signed = true := by
  rw [val_mv (cap_bound hc).2]
  split
  · next h => exact iff_of_true (Int.lt_of_lt_of_le (by decide) (Int.natCast_nonneg n)) h
  · next h =>
    refine iff_of_false (fun h' => ?_) h
    exact absurd (Int.ofNat_lt.1 h') (Nat.not_lt.2 (Nat.le_sub_one_of_lt (cap_lt hc (Nat.le_refl n))))

/-! ## 2. refinement of the generic sweeps and of the generic trace

The sweep theorems carry `hsafe`: the sweep never follows a missing value out of the array - the cells of the
order have a downstream cell, or the array is no longer than the network; both hold in every kernel call. -/

section sweeps
variable {α : Type} [Inhabited α]

/-- down-to-upstream sweep, machine = abstract, with a machine-level body `gM` (pit / nodata tests on
machine values inside the body) that agrees with the abstract body on the cells of the order -/
theorem sweepDown_refines_body {t : IdxTy} {n : Nat} (hc : Cap t n) (ds : Array Nat) (hsz : ds.size = n)
    (g gM : Nat → α → α → α) (seq : List Nat) (out : Array α) (hseq : ∀ i ∈ seq, i < n)
    (hsafe : ∀ i ∈ seq, ds[i]! < n ∨ out.size ≤ n) (hg : ∀ i ∈ seq, ∀ a b, gM i a b = g i a b) :
    sweepDownM (ds.map (enc t n)) gM (seq.map (enc t n)) out = sweepDown ds g seq out := by
  induction seq generalizing out with
  | nil => rfl
  | cons i rest ih =>
    have hi := List.mem_cons_self (a := i) (l := rest)
    have hr : ∀ j ∈ rest, j ∈ i :: rest := fun j => List.mem_cons_of_mem i
    rw [List.map_cons, sweepDownM, List.foldl_cons, stepDownM_eq hc ds hsz g gM out i (hseq i hi) (hsafe i hi) (hg i hi)]
    exact ih _ (fun j hj => hseq j (hr j hj)) (fun j hj => size_stepDown ds g out i ▸ hsafe j (hr j hj))
      (fun j hj => hg j (hr j hj))

/-- down-to-upstream sweep, machine = abstract. For every dtype with capacity for `n` cells, every
network `ds` of `n` cells, every body function `g`, every cell list `seq` and every start array: the
machine sweep on the encoded network returns exactly the array the `Nat` sweep returns. -/
theorem sweepDown_refines {t : IdxTy} {n : Nat} (hc : Cap t n) (ds : Array Nat) (hsz : ds.size = n)
    (g : Nat → α → α → α) (seq : List Nat) (out : Array α) (hseq : ∀ i ∈ seq, i < n)
    (hsafe : ∀ i ∈ seq, ds[i]! < n ∨ out.size ≤ n) :
    sweepDownM (ds.map (enc t n)) g (seq.map (enc t n)) out = sweepDown ds g seq out :=
  sweepDown_refines_body hc ds hsz g g seq out hseq hsafe (fun _ _ _ _ => rfl)

/-- up-to-downstream sweep, machine = abstract (the pit test `idxs_ds[idx0] == idx0` is a machine
equality), with a machine-level body -/
theorem sweepUp_refines_body {t : IdxTy} {n : Nat} (hc : Cap t n) (ds : Array Nat) (hsz : ds.size = n)
    (upd updM : Nat → α → α → α) (seq : List Nat) (out : Array α) (hseq : ∀ i ∈ seq, i < n)
    (hsafe : ∀ i ∈ seq, ds[i]! < n ∨ out.size ≤ n) (hu : ∀ i ∈ seq, ∀ a b, updM i a b = upd i a b) :
    sweepUpM (ds.map (enc t n)) updM (seq.map (enc t n)) out = sweepUp ds upd seq out := by
  induction seq with
  | nil => rfl
  | cons i rest ih =>
    have hi := List.mem_cons_self (a := i) (l := rest)
    have hr : ∀ j ∈ rest, j ∈ i :: rest := fun j => List.mem_cons_of_mem i
    rw [List.map_cons, sweepUpM, List.foldr_cons, ← sweepUpM,
      ih (fun j hj => hseq j (hr j hj)) (fun j hj => hsafe j (hr j hj)) (fun j hj => hu j (hr j hj))]
    exact stepUpM_eq hc ds hsz upd updM _ i (hseq i hi) (size_sweepUp ds upd rest out ▸ hsafe i hi) (hu i hi)

/-- … for every body function `upd` -/
theorem sweepUp_refines {t : IdxTy} {n : Nat} (hc : Cap t n) (ds : Array Nat) (hsz : ds.size = n)
    (upd : Nat → α → α → α) (seq : List Nat) (out : Array α) (hseq : ∀ i ∈ seq, i < n)
    (hsafe : ∀ i ∈ seq, ds[i]! < n ∨ out.size ≤ n) :
    sweepUpM (ds.map (enc t n)) upd (seq.map (enc t n)) out = sweepUp ds upd seq out :=
  sweepUp_refines_body hc ds hsz upd upd seq out hseq hsafe (fun _ _ _ _ => rfl)

/-- dtype independence of a down-sweep whose body does not read the index array: two dtypes with capacity
for the network give the same result array -/
theorem sweepDown_dtype_indep {t1 t2 : IdxTy} {n : Nat} (h1 : Cap t1 n) (h2 : Cap t2 n) (ds : Array Nat)
    (hsz : ds.size = n) (g : Nat → α → α → α) (seq : List Nat) (out : Array α) (hseq : ∀ i ∈ seq, i < n)
    (hsafe : ∀ i ∈ seq, ds[i]! < n ∨ out.size ≤ n) :
    sweepDownM (ds.map (enc t1 n)) g (seq.map (enc t1 n)) out
      = sweepDownM (ds.map (enc t2 n)) g (seq.map (enc t2 n)) out := by
  rw [sweepDown_refines h1 ds hsz g seq out hseq hsafe, sweepDown_refines h2 ds hsz g seq out hseq hsafe]

theorem sweepUp_dtype_indep {t1 t2 : IdxTy} {n : Nat} (h1 : Cap t1 n) (h2 : Cap t2 n) (ds : Array Nat)
    (hsz : ds.size = n) (upd : Nat → α → α → α) (seq : List Nat) (out : Array α) (hseq : ∀ i ∈ seq, i < n)
    (hsafe : ∀ i ∈ seq, ds[i]! < n ∨ out.size ≤ n) :
    sweepUpM (ds.map (enc t1 n)) upd (seq.map (enc t1 n)) out
      = sweepUpM (ds.map (enc t2 n)) upd (seq.map (enc t2 n)) out := by
  rw [sweepUp_refines h1 ds hsz upd seq out hseq hsafe, sweepUp_refines h2 ds hsz upd seq out hseq hsafe]

/-- machine arrays that come from outside (what the harness sends: the raw values of a NumPy index
array whose entries are the sentinel or in range): the machine sweep equals the `Nat` sweep on the
DECODED arrays - decoding is the harness' `canon_idx` -/
theorem sweepDown_of_machine {t : IdxTy} {n : Nat} (hc : Cap t n) (dsM : Array (BitVec t.w))
    (hsz : dsM.size = n) (hwf : ∀ v ∈ dsM, WfM t n v) (g : Nat → α → α → α) (seqM : List (BitVec t.w))
    (out : Array α) (hseq : ∀ v ∈ seqM, v.toNat < n)
    (hsafe : ∀ v ∈ seqM, dec t n dsM[v.toNat]! < n ∨ out.size ≤ n) :
    sweepDownM dsM g seqM out = sweepDown (dsM.map (dec t n)) g (seqM.map (dec t n)) out := by
  have h := decoded_hyps hc dsM hsz seqM out.size hseq hsafe
  rw [← sweepDown_refines hc _ (Array.size_map.trans hsz) g _ out (fun i hi => (h i hi).1) (fun i hi => (h i hi).2),
    map_enc_dec dsM hwf, list_map_enc_dec seqM (fun v hv => Or.inr (hseq v hv))]

theorem sweepUp_of_machine {t : IdxTy} {n : Nat} (hc : Cap t n) (dsM : Array (BitVec t.w))
    (hsz : dsM.size = n) (hwf : ∀ v ∈ dsM, WfM t n v) (upd : Nat → α → α → α) (seqM : List (BitVec t.w))
    (out : Array α) (hseq : ∀ v ∈ seqM, v.toNat < n)
    (hsafe : ∀ v ∈ seqM, dec t n dsM[v.toNat]! < n ∨ out.size ≤ n) :
    sweepUpM dsM upd seqM out = sweepUp (dsM.map (dec t n)) upd (seqM.map (dec t n)) out := by
  have h := decoded_hyps hc dsM hsz seqM out.size hseq hsafe
  rw [← sweepUp_refines hc _ (Array.size_map.trans hsz) upd _ out (fun i hi => (h i hi).1) (fun i hi => (h i hi).2),
    map_enc_dec dsM hwf, list_map_enc_dec seqM (fun v hv => Or.inr (hseq v hv))]

end sweeps

/-- trace, machine = abstract: `core._trace` on the encoded array (stop tests `idx1 == idx0`,
`idx1 == mv` on machine values) returns the encoding of what `Pf.trace` returns on the abstract array -
for every mask, length limit, step-length function, fuel, start cell and accumulator -/
theorem trace_refines {t : IdxTy} {n : Nat} (hc : Cap t n) (nxt : Array Nat) (hsz : nxt.size = n)
    (hwf : ∀ i, i < n → nxt[i]! ≤ n) (mask : Option (Array Bool)) (maxLen : Option Int)
    (step : Nat → Nat → Int) (fuel i0 : Nat) (acc : List Nat) (dist : Int) (hi0 : i0 < n) :
    traceM (nxt.map (enc t n)) t.mv mask maxLen step fuel (enc t n i0) (acc.map (enc t n)) dist
      = encRes t n (trace nxt mask maxLen step fuel i0 acc dist) := by
  induction fuel generalizing i0 acc dist with
  | zero => rfl
  | succ fuel ih =>
    have hle := hwf i0 hi0
    -- the two stop tests `idx1 == idx0 or idx1 == mv` on machine values are the abstract ones
    have htest : (enc t n nxt[i0]! = enc t n i0 ∨ enc t n nxt[i0]! = t.mv) ↔ (nxt[i0]! = i0 ∨ nxt[i0]! = nxt.size) := by
      rw [enc_eq_cell hc hi0, enc_eq_mv hc, hsz]
      exact or_congr Iff.rfl ⟨Nat.le_antisymm hle, fun h => Nat.le_of_eq h.symm⟩
    rw [traceM_succ, trace_succ, enc_toNat hc hi0, map_get! nxt (enc t n) (hsz ▸ hi0)]
    by_cases hstop : stopAt mask i0 = true
    · rw [if_pos hstop, if_pos hstop, encRes_some]
    rw [if_neg hstop, if_neg hstop]
    by_cases hend : nxt[i0]! = i0 ∨ nxt[i0]! = nxt.size
    · rw [if_pos hend, if_pos (htest.2 hend), encRes_some]
    rw [if_neg hend, if_neg (mt htest.1 hend)]
    have h1 : nxt[i0]! < n := Nat.lt_of_le_of_ne hle fun h => hend (Or.inr (hsz ▸ h))
    rw [enc_toNat hc h1]
    by_cases hover : overAt maxLen (dist + step i0 nxt[i0]!) = true
    · rw [if_pos hover, if_pos hover, encRes_some]
    rw [if_neg hover, if_neg hover]
    exact ih nxt[i0]! (nxt[i0]! :: acc) _ h1

/-- the traced cells and the traced length do not depend on the dtype: the machine runs under two
dtypes are the two encodings of one abstract result -/
theorem trace_dtype_indep {t1 t2 : IdxTy} {n : Nat} (h1 : Cap t1 n) (h2 : Cap t2 n) (nxt : Array Nat)
    (hsz : nxt.size = n) (hwf : ∀ i, i < n → nxt[i]! ≤ n) (mask : Option (Array Bool))
    (maxLen : Option Int) (step : Nat → Nat → Int) (fuel i0 : Nat) (hi0 : i0 < n) :
    ∃ r, traceFromM (nxt.map (enc t1 n)) t1.mv mask maxLen step fuel (enc t1 n i0) = encRes t1 n r ∧
         traceFromM (nxt.map (enc t2 n)) t2.mv mask maxLen step fuel (enc t2 n i0) = encRes t2 n r :=
  ⟨traceFrom nxt mask maxLen step fuel i0,
   trace_refines h1 nxt hsz hwf mask maxLen step fuel i0 [i0] 0 hi0,
   trace_refines h2 nxt hsz hwf mask maxLen step fuel i0 [i0] 0 hi0⟩

/-- trace on machine arrays that come from outside: equals the abstract trace on the decoded array -/
theorem trace_of_machine {t : IdxTy} {n : Nat} (hc : Cap t n) (nxtM : Array (BitVec t.w))
    (hsz : nxtM.size = n) (hwf : ∀ v ∈ nxtM, WfM t n v) (mask : Option (Array Bool)) (maxLen : Option Int)
    (step : Nat → Nat → Int) (fuel : Nat) (v0 : BitVec t.w) (hv0 : v0.toNat < n) :
    traceFromM nxtM t.mv mask maxLen step fuel v0
      = encRes t n (traceFrom (nxtM.map (dec t n)) mask maxLen step fuel (dec t n v0)) := by
  have hd : dec t n v0 = v0.toNat := dec_cell hc hv0
  have h := trace_refines hc (nxtM.map (dec t n)) (Array.size_map.trans hsz)
    (fun i hi => by
      rw [map_get! nxtM (dec t n) (hsz ▸ hi), getElem!_pos nxtM i (hsz ▸ hi)]
      exact dec_le (hwf _ (Array.getElem_mem _)))
    mask maxLen step fuel (dec t n v0) [dec t n v0] 0 (hd ▸ hv0)
  rwa [map_enc_dec nxtM hwf, List.map_cons, List.map_nil, enc_dec_wf (Or.inr hv0)] at h

/-! ### kernels -/

/-- `core.fillnodata_upstream` (basins, sub-basin fill, unit catchments): machine run = abstract run, for every dtype -/
theorem fillnodata_upstream_mach {t : IdxTy} {n : Nat} (hc : Cap t n) (ds : Array Nat) (hsz : ds.size = n)
    (seq : List Nat) (data : Array Int) (nodata : Int) (hseq : ∀ i ∈ seq, i < n)
    (hsafe : ∀ i ∈ seq, ds[i]! < n ∨ data.size ≤ n) :
    fillnodataUpstreamM (ds.map (enc t n)) (seq.map (enc t n)) data nodata
      = fillnodataUpstream ds seq data nodata :=
  sweepDown_refines hc ds hsz (gFillNd nodata) seq data hseq hsafe

/-- `streams.accuflux`: machine run = abstract run, for every dtype (the nodata guard reads `data[idxs_ds[idx0]]` at the
machine position) -/
theorem accuflux_mach {t : IdxTy} {n : Nat} (hc : Cap t n) (ds : Array Nat) (hsz : ds.size = n)
    (seq : List Nat) (data : Array Int) (nodata : Int) (hseq : ∀ i ∈ seq, i < n)
    (hsafe : ∀ i ∈ seq, ds[i]! < n ∨ data.size ≤ n) :
    accufluxM (ds.map (enc t n)) (seq.map (enc t n)) data nodata = accuflux ds seq data nodata := by
  apply sweepUp_refines_body hc ds hsz _ _ seq data hseq hsafe
  intro i hi a b
  rw [updAdd, linkOkM_enc hc ds hsz data nodata (hseq i hi) (hsafe i hi), updAdd]

/-- `streams.accuflux_ds`: machine run = abstract run, for every dtype (pit test inside the body on machine values) -/
theorem accuflux_ds_mach {t : IdxTy} {n : Nat} (hc : Cap t n) (ds : Array Nat) (hsz : ds.size = n)
    (seq : List Nat) (data : Array Int) (nodata : Int) (hseq : ∀ i ∈ seq, i < n)
    (hsafe : ∀ i ∈ seq, ds[i]! < n ∨ data.size ≤ n) :
    accufluxDsM (ds.map (enc t n)) (seq.map (enc t n)) data nodata = accufluxDs ds seq data nodata := by
  apply sweepDown_refines_body hc ds hsz _ _ seq data hseq hsafe
  intro i hi a b
  have hin := hseq i hi
  rw [gAddDownM, gAddDown, linkOkM_enc hc ds hsz data nodata hin (hsafe i hi), map_get! ds (enc t n) (hsz ▸ hin),
    ← enc_cell hin]
  exact ite_congr (propext (and_congr_left' (not_congr (enc_eq_cell hc hin _)))) (fun _ => rfl) (fun _ => rfl)

/-- `core._trace` / `path` from a start cell: machine run = encoding of the abstract run, for every dtype -/
theorem trace_mach {t : IdxTy} {n : Nat} (hc : Cap t n) (nxt : Array Nat) (hsz : nxt.size = n)
    (hwf : ∀ i, i < n → nxt[i]! ≤ n) (mask : Option (Array Bool)) (maxLen : Option Int)
    (step : Nat → Nat → Int) (fuel i0 : Nat) (hi0 : i0 < n) :
    traceFromM (nxt.map (enc t n)) t.mv mask maxLen step fuel (enc t n i0)
      = encRes t n (traceFrom nxt mask maxLen step fuel i0) :=
  trace_refines hc nxt hsz hwf mask maxLen step fuel i0 [i0] 0 hi0

/-- transport of a property theorem to the machine level: the first-valid-value characterisation of
`fillnodata_upstream` (`Pf.fill_first_valid`, the core of C05 / C14) holds of the machine run under
every index dtype -/
theorem fillnodata_upstream_mach_first_valid {t : IdxTy} {n : Nat} (hc : Cap t n) (ds : Array Nat)
    (hsz : ds.size = n) (seq : List Nat) (data : Array Int) (nodata : Int) (htopo : Topo ds seq)
    (hseq : ∀ i ∈ seq, i < n) (hb : ∀ i ∈ seq, i < data.size)
    (hsafe : ∀ i ∈ seq, ds[i]! < n ∨ data.size ≤ n) :
    ∀ i ∈ seq, FirstValid ds data nodata i
      (fillnodataUpstreamM (ds.map (enc t n)) (seq.map (enc t n)) data nodata)[i]! := by
  rw [fillnodata_upstream_mach hc ds hsz seq data nodata hseq hsafe]
  exact fill_first_valid ds data nodata seq htopo hb

/-- any two dtypes with capacity for the network give the same `fillnodata_upstream` result -/
theorem fillnodata_upstream_dtype_indep {t1 t2 : IdxTy} {n : Nat} (h1 : Cap t1 n) (h2 : Cap t2 n)
    (ds : Array Nat) (hsz : ds.size = n) (seq : List Nat) (data : Array Int) (nodata : Int)
    (hseq : ∀ i ∈ seq, i < n) (hsafe : ∀ i ∈ seq, ds[i]! < n ∨ data.size ≤ n) :
    fillnodataUpstreamM (ds.map (enc t1 n)) (seq.map (enc t1 n)) data nodata
      = fillnodataUpstreamM (ds.map (enc t2 n)) (seq.map (enc t2 n)) data nodata :=
  sweepDown_dtype_indep h1 h2 ds hsz _ seq data hseq hsafe

/-! ## 3. index arithmetic sites -/

/-- the two promotion tables (both probed on the installed NumPy / Numba by the harness).
NumPy (typed scalars and arrays in the interpreter; array expressions under Numba): an index-typed
value meeting an `int64` gives `int64` for `int32`, `uint32`, `int64` and `float64` for `uint64` - the
F16b / F16d defect class. Numba scalars (NBEP 1): `int64` for all four index types, `uint64` for two
unsigned operands (where `abs(int(a) - int(b))` wrapped, F07d). The repaired code converts first
(`np.int64(idx0)`, `int(idxs_fix[i0])`): both operands are `int64` under either table. -/
theorem promotion_tables :
    (numpyPromote i32 i64 = some i64 ∧ numpyPromote u32 i64 = some i64 ∧ numpyPromote i64 i64 = some i64 ∧
      numpyPromote u64 i64 = none ∧ numpyPromote u32 i32 = some i64) ∧
    (numbaScalar i32 i64 = i64 ∧ numbaScalar u32 i64 = i64 ∧ numbaScalar i64 i64 = i64 ∧
      numbaScalar u64 i64 = i64 ∧ numbaScalar u32 u32 = u64 ∧ numbaScalar u64 u64 = u64 ∧
      numbaScalar i32 i32 = i64) := by decide

/-- after conversion of both operands to `int64` (the repaired sites) neither table leaves `int64` -/
theorem repaired_sites_stay_int64 :
    numpyPromote i64 i64 = some i64 ∧ numbaScalar i64 i64 = i64 := by decide

/-- conversion to `int64` keeps the value of every cell index -/
theorem to_int64_exact {t : IdxTy} {n i : Nat} (hc : Cap t n) (h63 : n < 2 ^ 63) (hi : i < n) :
    (toI64 t (enc t n i)).toInt = (i : Int) := by
  rw [toI64_enc hc hi]; exact toInt_ofInt_nat64 i (Nat.lt_trans hi h63)

/-- … and of the signed sentinel -/
theorem to_int64_sentinel {t : IdxTy} (hw : 0 < t.w) (hs : t.signed = true) :
    (toI64 t t.mv).toInt = -1 := by
  rw [toI64_mv_signed hw hs]; decide

/-- `from_array` decoders (D8, LDD, NEXTXY), `_d8_idx`, `_downstream_idx`, `_upstream_idx`:
`idx_ds = c_ds + r_ds * ncol` on `int64` row / column numbers does not wrap, and storing it into the
index array (`idxs_ds[idx0] = idx_ds`, a truncating cast) yields the encoding of the cell
`r * ncol + c` - for every dtype with capacity for the raster -/
theorem from_array_store_exact {t : IdxTy} {nrow ncol r c : Nat} (hc : Cap t (nrow * ncol))
    (ht : t.w ≤ 64) (h63 : nrow * ncol < 2 ^ 63) (hr : r < nrow) (hcc : c < ncol) :
    (linIdx64 (BitVec.ofNat 64 r) (BitVec.ofNat 64 c) (BitVec.ofNat 64 ncol)).toInt
        = ((r * ncol + c : Nat) : Int) ∧
    storeIdx t (linIdx64 (BitVec.ofNat 64 r) (BitVec.ofNat 64 c) (BitVec.ofNat 64 ncol))
        = enc t (nrow * ncol) (r * ncol + c) ∧
    dec t (nrow * ncol) (storeIdx t (linIdx64 (BitVec.ofNat 64 r) (BitVec.ofNat 64 c) (BitVec.ofNat 64 ncol)))
        = r * ncol + c := by
  have hlt : r * ncol + c < nrow * ncol := Nat.lt_of_lt_of_le (Nat.add_lt_add_left hcc _)
    (Nat.succ_mul r ncol ▸ Nat.mul_le_mul_right ncol (Nat.succ_le_of_lt hr))
  rw [linIdx64_eq, storeIdx_cell ht hlt, dec_enc hc (Nat.le_of_lt hlt)]
  exact ⟨toInt_ofInt_nat64 _ (Nat.lt_trans hlt h63), rfl, rfl⟩

/-- the initial fill `np.full(size, core._mv, dtype)`: the `intp` value `-1` stored into the index
array is the dtype's sentinel -/
theorem from_array_fill_sentinel (t : IdxTy) (ht : t.Std) : storeIdx t (BitVec.ofInt 64 (-1)) = t.mv :=
  storeIdx_neg_one t (ht.elim (fun h => Nat.le_trans (Nat.le_of_eq h) (by decide)) Nat.le_of_eq)

/-- neighbour computation, operands `int64` (Numba scalars for all four index types - `uint64` is
reinterpreted, exact below `2^63`; the repaired `ihu_minimize_error` and `core._d8_idx`): whenever the
mathematical neighbour
`i + dr*ncol + dc` is a cell `j`, the machine value is exactly `j` -/
theorem nbr64_exact {t : IdxTy} {n i j : Nat} (hc : Cap t n) (h63 : n < 2 ^ 63) (hi : i < n) (hj : j < n)
    (ncol : Nat) (dr dc : Int) (h : (i : Int) + dr * ncol + dc = j) :
    (nbr64 t (enc t n i) (BitVec.ofNat 64 ncol) dr dc).toInt = (j : Int) := by
  rw [nbr64_eq hc hi, h]; exact toInt_ofInt_nat64 j (Nat.lt_trans hj h63)

/-- neighbour computation at the index type itself (NumPy >= 2 interpreter: `idx0 - ncol - 1` with
Python ints stays `uint32` / `uint64`; intermediate values may wrap): whenever the mathematical
neighbour is a cell `j`, the machine result is the encoding of `j` -/
theorem nbrT_exact {t : IdxTy} {n i j : Nat} (hi : i < n) (hj : j < n) (ncol : Nat) (dr dc : Int)
    (h : (i : Int) + dr * ncol + dc = j) : nbrT t (enc t n i) ncol dr dc = enc t n j := by
  rw [nbrT_eq hi, h, enc_cell hj, BitVec.ofInt_natCast]

/-- `idx // ncol`, `idx % ncol` at the index type (Python-int divisor, regime P) and after
unification to `int64` (regime N): row and column of the cell, for every dtype -/
theorem row_col_exact {t : IdxTy} {n i : Nat} (hc : Cap t n) (hi : i < n) (ncol : Nat) (hn : ncol ≤ n) :
    rowT t (enc t n i) ncol = enc t n (i / ncol) ∧ colT t (enc t n i) ncol = enc t n (i % ncol) :=
  ⟨rowT_eq hc hi ncol hn, colT_eq hc hi ncol hn⟩

theorem row_col_exact_64 {t : IdxTy} {n i : Nat} (hc : Cap t n) (h63 : n < 2 ^ 63) (hi : i < n) (ncol : Nat)
    (hn : ncol ≤ n) :
    (row64 t (enc t n i) (BitVec.ofNat 64 ncol)).toInt = ((i / ncol : Nat) : Int) ∧
    (col64 t (enc t n i) (BitVec.ofNat 64 ncol)).toInt = ((i % ncol : Nat) : Int) := by
  have hi63 := Nat.lt_trans hi h63
  rw [row64_eq hc h63 hi ncol hn, col64_eq hc h63 hi ncol hn]
  exact ⟨toInt_ofInt_nat64 _ (Nat.lt_of_le_of_lt (Nat.div_le_self _ _) hi63),
    toInt_ofInt_nat64 _ (Nat.lt_of_le_of_lt (Nat.mod_le _ _) hi63)⟩

/-- repaired `dem.dig_4connectivity`: `abs(np.int64(idx0) - np.int64(idx_ds))` is the distance of
the two cell indices, for every dtype (fix b088814 / 23a01f9) -/
theorem absdiff_repaired_exact {t : IdxTy} {n i j : Nat} (hc : Cap t n) (h63 : n < 2 ^ 63) (hi : i < n)
    (hj : j < n) : (absDiff64 t (enc t n i) (enc t n j)).toInt = (((i : Int) - j).natAbs : Int) := by
  rw [absDiff64, toI64_enc hc hi, toI64_enc hc hj, ← ofInt_sub]
  exact absM_ofInt (two_natAbs_sub_lt (Nat.lt_trans hi h63) (Nat.lt_trans hj h63))

/-- the unrepaired form wraps on the unsigned types - for EVERY link that points to a larger index:
`abs(idx0 - idx_ds)` evaluates to `2^w - (j - i)` instead of `j - i` -/
theorem absdiff_unrepaired_unsigned_wraps {t : IdxTy} {n i j : Nat} (hc : Cap t n) (hs : t.signed = false)
    (hi : i < n) (hj : j < n) (hij : i < j) :
    (absDiffT t (enc t n i) (enc t n j)).toNat = 2 ^ t.w - (j - i) := by
  rw [absDiffT, if_neg (Bool.eq_false_iff.1 hs), enc_cell hi, enc_cell hj]
  exact toNat_ofNat_sub_wrap hij (cap_lt hc (Nat.le_of_lt hj))

/-- … so it is never the true distance when that is below half the range (all raster links) -/
theorem absdiff_unrepaired_unsigned_wrong {t : IdxTy} {n i j : Nat} (hc : Cap t n) (hs : t.signed = false)
    (hi : i < n) (hj : j < n) (hij : i < j) (hd : 2 * (j - i) < 2 ^ t.w) :
    (absDiffT t (enc t n i) (enc t n j)).toNat ≠ j - i := by
  rw [absdiff_unrepaired_unsigned_wraps hc hs hi hj hij]; omega

/-- the intermediate form `abs(int(idx0) - int(idx_ds))` under the JIT (between b088814 and
23a01f9): `int()` keeps the unsigned type, Numba computes in `uint64`, the difference wraps to
`2^64 - (j - i)` - for `uint32` as well as `uint64` indices (F07d) -/
theorem absdiff_unrepaired_jit_unsigned_wraps {t : IdxTy} {n i j : Nat} (hc : Cap t n) (ht : t.w ≤ 64)
    (hs : t.signed = false) (hi : i < n) (hj : j < n) (hij : i < j) :
    (absDiffJit t (enc t n i) (enc t n j)).toNat = 2 ^ 64 - (j - i) := by
  have hj' := cap_lt hc (Nat.le_of_lt hj)
  rw [absDiffJit, if_neg (Bool.eq_false_iff.1 hs), enc_cell hi, enc_cell hj,
    BitVec.setWidth_ofNat_of_le_of_lt ht (Nat.lt_trans hij hj'), BitVec.setWidth_ofNat_of_le_of_lt ht hj']
  exact toNat_ofNat_sub_wrap hij (Nat.lt_of_lt_of_le hj' (Nat.pow_le_pow_right (by decide) ht))

/-- on the signed types the unrepaired form was exact (which is why only `uint32` / `uint64` failed) -/
theorem absdiff_unrepaired_signed_exact {t : IdxTy} {n i j : Nat} (hc : Cap t n) (hs : t.signed = true)
    (hi : i < n) (hj : j < n) :
    (absDiffT t (enc t n i) (enc t n j)).toInt = (((i : Int) - j).natAbs : Int) := by
  rw [absDiffT, if_pos hs, enc_cell hi, enc_cell hj, ofNat_eq_ofInt, ofNat_eq_ofInt, ← ofInt_sub]
  exact absM_ofInt (Nat.lt_trans (two_natAbs_sub_lt hi hj) (cap_lt_signed hc hs (Nat.le_refl n)))

/-- `upscale.subidx_2_idx` in both typing regimes: the coarse cell index
`(subidx // subncol // cellsize) * ncol + (subidx % subncol) // cellsize`, exactly, whenever that
number fits `int64` -/
theorem subidx2idx_exact {t : IdxTy} {n i : Nat} (hc : Cap t n) (h63 : n < 2 ^ 63) (hi : i < n)
    (regimeP : Bool) (subncol cellsize ncol : Nat) (hsn : subncol ≤ n) (hcs : cellsize < 2 ^ 63)
    (hres : (i / subncol / cellsize) * ncol + (i % subncol) / cellsize < 2 ^ 63) :
    (subidx2idx t regimeP (enc t n i) subncol cellsize ncol).toInt
      = (((i / subncol / cellsize) * ncol + (i % subncol) / cellsize : Nat) : Int) := by
  have hq : i / subncol < n := Nat.lt_of_le_of_lt (Nat.div_le_self _ _) hi
  have hm : i % subncol < n := Nat.lt_of_le_of_lt (Nat.mod_le _ _) hi
  -- both typing regimes yield the same `int64` row and column of the fine cell: the `if` on the regime collapses
  simp only [subidx2idx, rowT_eq hc hi subncol hsn, colT_eq hc hi subncol hsn, toI64_enc hc hq, toI64_enc hc hm,
    row64_eq hc h63 hi subncol hsn, col64_eq hc h63 hi subncol hsn, ite_self]
  rw [fdiv64_eq _ cellsize (Nat.lt_trans hq h63) hcs, fdiv64_eq _ cellsize (Nat.lt_trans hm h63) hcs, ofNat_eq_ofInt,
    ← BitVec.ofInt_mul, ← BitVec.ofInt_add, ← Int.natCast_mul, ← Int.natCast_add]
  exact toInt_ofInt_nat64 _ hres

/-- `upscale.in_d8` (and the `dr`, `dc` of `gis_utils.distance`): the test on machine values is the
test on rows and columns -/
theorem in_d8_exact {t : IdxTy} {n i j : Nat} (hc : Cap t n) (h63 : n < 2 ^ 63) (hi : i < n) (hj : j < n)
    (ncol : Nat) (hn : ncol ≤ n) :
    inD8 t (enc t n i) (enc t n j) ncol
      = (decide ((((j % ncol : Nat) : Int) - ((i % ncol : Nat) : Int)).natAbs ≤ 1)
          && decide ((((j / ncol : Nat) : Int) - ((i / ncol : Nat) : Int)).natAbs ≤ 1)) := by
  have hqi : i / ncol < n := Nat.lt_of_le_of_lt (Nat.div_le_self _ _) hi
  have hmi : i % ncol < n := Nat.lt_of_le_of_lt (Nat.mod_le _ _) hi
  have hqj : j / ncol < n := Nat.lt_of_le_of_lt (Nat.div_le_self _ _) hj
  have hmj : j % ncol < n := Nat.lt_of_le_of_lt (Nat.mod_le _ _) hj
  simp only [inD8, rowT_eq hc hi ncol hn, rowT_eq hc hj ncol hn, colT_eq hc hi ncol hn, colT_eq hc hj ncol hn,
    toI64_enc hc hqi, toI64_enc hc hmi, toI64_enc hc hqj, toI64_enc hc hmj, ← ofInt_sub]
  rw [sle1_absM (two_natAbs_sub_lt (Nat.lt_trans hmj h63) (Nat.lt_trans hmi h63)),
    sle1_absM (two_natAbs_sub_lt (Nat.lt_trans hqj h63) (Nat.lt_trans hqi h63))]

/-- `dem._local_d4`, diagonal step, at the index type (regime P; the unused list entries may wrap):
for a cell `i` whose diagonal neighbour `j = i + dr*ncol + dc` and the two D4 cells `a = i + dr*ncol`,
`b = i + dc` lie in the raster, `list.index` finds the direction and the function returns the
encodings of the two D4 cells (in the order of the code's list slices) -/
theorem local_d4_exact {t : IdxTy} {n i j a b : Nat} (hc : Cap t n) (hi : i < n) (hj : j < n) (ha : a < n)
    (hb : b < n) (ncol : Nat) (dr dc : Int) (hdr : dr = 1 ∨ dr = -1) (hdc : dc = 1 ∨ dc = -1)
    (h2 : 2 ≤ ncol) (h2n : 2 * ncol ≤ n)
    (hjv : (i : Int) + dr * ncol + dc = j) (hav : (i : Int) + dr * ncol = a) (hbv : (i : Int) + dc = b) :
    localD4T t (enc t n i) (enc t n j) ncol
      = some (if dr = dc then [enc t n a, enc t n b] else [enc t n b, enc t n a]) := by
  rw [localD4T, enc_cell hi, enc_cell hj, enc_cell ha, enc_cell hb]
  simp only [ofNat_eq_ofInt]
  rw [← hjv, ← hav, ← hbv]
  exact localD4_ofInt i ncol dr dc hdr hdc h2 (Nat.lt_of_le_of_lt (Nat.add_le_add_right h2n 2) (cap_bound hc).1)

/-- the same after unification to `int64` (regime N: what the JIT computes for `int32`, `uint32`,
`int64` at every capacity and for `uint64` below `2^53` cells - above, Numba's mixed-sign `==` inside
`list.index` goes through `float64`; no such raster can be allocated) -/
theorem local_d4_exact_64 {t : IdxTy} {n i j a b : Nat} (hc : Cap t n) (h63 : n < 2 ^ 63) (hi : i < n)
    (hj : j < n) (ncol : Nat) (dr dc : Int) (hdr : dr = 1 ∨ dr = -1) (hdc : dc = 1 ∨ dc = -1)
    (h2 : 2 ≤ ncol) (h2n : 2 * ncol ≤ n)
    (hjv : (i : Int) + dr * ncol + dc = j) (hav : (i : Int) + dr * ncol = a) (hbv : (i : Int) + dc = b) :
    localD4N t (enc t n i) (enc t n j) (BitVec.ofNat 64 ncol)
      = some (if dr = dc then [BitVec.ofInt 64 (a : Int), BitVec.ofInt 64 (b : Int)]
              else [BitVec.ofInt 64 (b : Int), BitVec.ofInt 64 (a : Int)]) := by
  rw [localD4N, toI64_enc hc hi, toI64_enc hc hj, ofNat_eq_ofInt, ← hjv, ← hav, ← hbv]
  exact localD4_ofInt i ncol dr dc hdr hdc h2
    (Nat.lt_of_le_of_lt (Nat.add_le_add_right h2n 2) (Nat.lt_of_lt_of_le (Nat.add_lt_add_right h63 2) (by decide)))

/-- a diagonal neighbour inside the raster implies the side conditions of `local_d4_exact` -/
theorem local_d4_geometry {nrow ncol r c : Nat} {dr dc : Int} (hr : r < nrow) (hcc : c < ncol)
    (hdr : dr = 1 ∨ dr = -1) (hdc : dc = 1 ∨ dc = -1)
    (hr' : 0 ≤ (r : Int) + dr ∧ (r : Int) + dr < nrow) (hc' : 0 ≤ (c : Int) + dc ∧ (c : Int) + dc < ncol) :
    2 ≤ ncol ∧ 2 * ncol ≤ nrow * ncol :=
  ⟨two_le_of_neighbour hcc hdc hc', Nat.mul_le_mul_right ncol (two_le_of_neighbour hr hdr hr')⟩

/-- `_local_d4` at a pit (`idx_ds == idx0`): west, south, east, north -/
theorem local_d4_pit {w : Nat} (idx0 nc : BitVec w) :
    localD4 idx0 idx0 nc = some [idx0 - 1, idx0 + nc, idx0 + 1, idx0 - nc] := by
  rw [localD4, if_neg (not_not_intro rfl)]; rfl

/-! ## non-vacuity: a 2×3 raster, cell 1 is the pit, 0, 2, 4 drain to 1, 5 drains to 4, cell 3 is missing -/

-- the encodings: one bit pattern for the missing value, read -1 / maximum
example : (#[1, 1, 1, 6, 1, 4] : Array Nat).map (enc u32 6)
    = #[1#32, 1#32, 1#32, 4294967295#32, 1#32, 4#32] := by decide +kernel
example : ((#[1, 1, 1, 6, 1, 4] : Array Nat).map (enc i64 6)).map (val i64) = #[1, 1, 1, -1, 1, 4] := by decide +kernel
example : ((#[1, 1, 1, 6, 1, 4] : Array Nat).map (enc u64 6)).map (val u64)
    = #[1, 1, 1, 18446744073709551615, 1, 4] := by decide +kernel
example : ((#[1, 1, 1, 6, 1, 4] : Array Nat).map (enc i32 6)).map (dec i32 6) = #[1, 1, 1, 6, 1, 4] := by decide +kernel
example : Cap i32 6 ∧ Cap u32 6 ∧ Cap i64 6 ∧ Cap u64 6 := by decide
example : selectDtype 6 = i32 ∧ selectDtype 3000000000 = u32 ∧ selectDtype 5000000000 = u64 := by decide
-- the sentinel passes `idx < size` when read signed, fails when read unsigned
example : ltM i32 i32.mv (enc i32 6 5) = true ∧ ltM u32 u32.mv (enc u32 6 5) = false := by decide

-- the machine sweeps on the four dtypes and the abstract sweep: fill upstream, accumulate, trace
example : fillnodataUpstreamM ((#[1, 1, 1, 6, 1, 4] : Array Nat).map (enc u32 6))
    ([1, 0, 2, 4, 5].map (enc u32 6)) #[-1, 7, -1, -1, 9, -1] (-1) = #[7, 7, 7, -1, 9, 9] := by decide +kernel
example : fillnodataUpstreamM ((#[1, 1, 1, 6, 1, 4] : Array Nat).map (enc i64 6))
    ([1, 0, 2, 4, 5].map (enc i64 6)) #[-1, 7, -1, -1, 9, -1] (-1) = #[7, 7, 7, -1, 9, 9] := by decide +kernel
example : fillnodataUpstream #[1, 1, 1, 6, 1, 4] [1, 0, 2, 4, 5] #[-1, 7, -1, -1, 9, -1] (-1)
    = #[7, 7, 7, -1, 9, 9] := by decide
example : accufluxM ((#[1, 1, 1, 6, 1, 4] : Array Nat).map (enc u64 6)) ([1, 0, 2, 4, 5].map (enc u64 6))
    #[1, 1, 1, 100, 1, 1] (-9999) = #[1, 5, 1, 100, 2, 1] := by decide +kernel
example : accufluxM ((#[1, 1, 1, 6, 1, 4] : Array Nat).map (enc i32 6)) ([1, 0, 2, 4, 5].map (enc i32 6))
    #[1, 1, 1, 100, 1, 1] (-9999) = accuflux #[1, 1, 1, 6, 1, 4] [1, 0, 2, 4, 5] #[1, 1, 1, 100, 1, 1] (-9999) := by decide +kernel
example : accufluxDsM ((#[1, 1, 1, 6, 1, 4] : Array Nat).map (enc u32 6)) ([1, 0, 2, 4, 5].map (enc u32 6))
    #[1, 1, 1, 100, 1, 1] (-9999) = #[2, 1, 2, 100, 2, 3] := by decide +kernel
example : traceFromM ((#[1, 1, 1, 6, 1, 4] : Array Nat).map (enc u32 6)) u32.mv none none (fun _ _ => 1) 7
    (enc u32 6 5) = some ([5#32, 4#32, 1#32], 2) := by decide +kernel
example : traceFrom #[1, 1, 1, 6, 1, 4] none none (fun _ _ => 1) 7 5 = some ([5, 4, 1], 2) := by decide
-- a main-upstream array (missing value inside): the trace stops at the sentinel of each dtype
example : traceFromM ((#[6, 4, 6, 6, 5, 6] : Array Nat).map (enc i32 6)) i32.mv none none (fun _ _ => 1) 7
    (enc i32 6 1) = some ([1#32, 4#32, 5#32], 2) := by decide +kernel
example : traceFromM ((#[6, 4, 6, 6, 5, 6] : Array Nat).map (enc u64 6)) u64.mv none none (fun _ _ => 1) 7
    (enc u64 6 1) = some ([1#64, 4#64, 5#64], 2) := by decide +kernel
-- the hypotheses of the refinement theorems are satisfiable: an instance on this network
example : fillnodataUpstreamM ((#[1, 1, 1, 6, 1, 4] : Array Nat).map (enc u64 6))
      ([1, 0, 2, 4, 5].map (enc u64 6)) #[-1, 7, -1, -1, 9, -1] (-1)
    = fillnodataUpstream #[1, 1, 1, 6, 1, 4] [1, 0, 2, 4, 5] #[-1, 7, -1, -1, 9, -1] (-1) :=
  fillnodata_upstream_mach (t := u64) (n := 6) (by decide) #[1, 1, 1, 6, 1, 4] rfl [1, 0, 2, 4, 5]
    #[-1, 7, -1, -1, 9, -1] (-1) (by decide) (by decide)

-- arithmetic sites. F16: the link 4 -> 5 on unsigned 32-bit indices, unrepaired and repaired
example : (absDiffT u32 (enc u32 6 4) (enc u32 6 5)).toNat = 4294967295 := by decide
example : (absDiff64 u32 (enc u32 6 4) (enc u32 6 5)).toInt = 1 := by decide
example : (absDiffT u64 (enc u64 6 4) (enc u64 6 5)).toNat = 18446744073709551615 := by decide
example : (absDiff64 u64 (enc u64 6 4) (enc u64 6 5)).toInt = 1 := by decide
example : (absDiffT i32 (enc i32 6 4) (enc i32 6 5)).toInt = 1 := by decide
-- F07d: under the JIT `abs(int(a) - int(b))` on uint32 indices is computed in uint64
example : (absDiffJit u32 (enc u32 6 4) (enc u32 6 5)).toNat = 18446744073709551615 := by decide
example : (absDiffJit i32 (enc i32 6 4) (enc i32 6 5)).toInt = 1 := by decide
-- the witnesses of Props/C16.lean are the same defect
example : ∃ a b : BitVec 32, a < b ∧ (a - b).toNat ≠ (b.toNat - a.toNat) := Pf.C16.u32_sub_wraps
example : ∃ a b : BitVec 64, a < b ∧ (a - b).toNat ≠ (b.toNat - a.toNat) := Pf.C16.u64_sub_wraps
-- `_local_d4` at cell 1 = (0,1) draining south-east to 5 = (1,2), 3 columns: the `n` entries of the list
-- wrap on uint32 (1 - 3), the selected ones (`s` = 4, `e` = 2) are right
example : d4List (enc u32 6 1) (BitVec.ofNat 32 3) = [4294967294#32, 0#32, 4#32, 2#32, 4294967294#32] := by decide
example : localD4T u32 (enc u32 6 1) (enc u32 6 5) 3 = some [4#32, 2#32] := by decide
example : localD4N u32 (enc u32 6 1) (enc u32 6 5) 3#64 = some [4#64, 2#64] := by decide
example : localD4T i64 (enc i64 6 4) (enc i64 6 0) 3 = some [1#64, 3#64] := by decide
-- decoder: cell (1,2) of a 2x3 raster stored into each dtype; subidx_2_idx of fine cell 17 on a 4x6 raster, cellsize 2
example : dec u32 6 (storeIdx u32 (linIdx64 1#64 2#64 3#64)) = 5 := by decide
example : (subidx2idx u32 true (enc u32 24 17) 6 2 3).toInt = 5 ∧
    (subidx2idx u64 false (enc u64 24 17) 6 2 3).toInt = 5 := by decide
example : inD8 u32 (enc u32 6 1) (enc u32 6 5) 3 = true ∧ inD8 u32 (enc u32 6 0) (enc u32 6 5) 3 = false := by decide

end Pf.C16m
