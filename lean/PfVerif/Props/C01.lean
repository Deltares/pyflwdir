import PfVerif.Proofs.C01
import PfVerif.Proofs.C01_tables
/-! # C01 — flow-direction rasters are decoded faithfully to the D8 / LDD / NEXTXY conventions

`Pf.Fd.Spec` (in `Model/C01.lean`) holds the code tables typed in from the property statement and the
declarative graph `Spec.graph nrow ncol read`: a nodata cell is outside the graph, every other cell drains
to the cell its code designates when that cell lies on the raster and is not nodata, and to itself
otherwise. The theorems below hold for **every** shape `nrow × ncol` (no lower or upper bound; `1 × N`,
`N × 1` and empty rasters included), every raster over the legal alphabet and every cell.

Section 1 are the obligations against the tables regenerated from /repo on every run; they break when
someone edits `drdc`, `_mv`, `_pv` or `_all` in /repo. -/
namespace Pf.C01
open Pf Pf.Fd Pf.Fd.Spec

/-! ## 1. regenerated tables = specification tables -/

/-- `core_d8.drdc` as extracted from /repo sends every D8 direction code to the compass delta of the
property statement (1=E, 2=SE, 4=S, 8=SW, 16=W, 32=NW, 64=N, 128=NE), both pit codes to (0,0), and the
module constants are nodata 247, pits {0, 255}, alphabet = the 11 legal codes -/
theorem d8_table_ok :
    (∀ p ∈ d8Dirs, Generated.d8Drdc[p.1]! = p.2) ∧
    (∀ v ∈ d8Pits, Generated.d8Drdc[v]! = (0, 0)) ∧
    Generated.d8Mv = d8Nodata ∧ Generated.d8Pv = d8Pits ∧
    (∀ v, v < 256 → (v ∈ Generated.d8All ↔ v ∈ d8Alphabet)) := by
  have hall : Generated.d8All = d8All := rfl
  exact ⟨by decide +kernel, by decide +kernel, rfl, rfl, fun v _ => hall ▸ mem_d8All_iff v⟩

/-- the same for LDD: keypad `7 8 9 / 4 5 6 / 1 2 3`, pit 5, nodata 255 -/
theorem ldd_table_ok :
    (∀ p ∈ lddDirs, Generated.lddDrdc[p.1]! = p.2) ∧
    (∀ v ∈ lddPits, Generated.lddDrdc[v]! = (0, 0)) ∧
    Generated.lddMv = lddNodata ∧ Generated.lddPv = lddPits ∧
    (∀ v, v < 256 → (v ∈ Generated.lddAll ↔ v ∈ lddAlphabet)) := by
  have hall : Generated.lddAll = lddAll := rfl
  exact ⟨by decide +kernel, by decide +kernel, rfl, rfl, fun v _ => hall ▸ mem_lddAll_iff v⟩

/-- NEXTXY constants: nodata -9999, pits -9 (outlet) and -10 (inland) -/
theorem nextxy_consts_ok : Generated.nextxyMv = xyNodata ∧ Generated.nextxyPv = xyPits := by
  decide

/-- the hand-written model of the two `drdc` functions and of the module constants is what /repo
contains: on every legal code the extracted `drdc` equals the model's, and the constants coincide -/
theorem model_tables_ok :
    (∀ v ∈ d8Alphabet, Generated.d8Drdc[v]! = d8Drdc v) ∧
    (∀ v ∈ lddAlphabet, Generated.lddDrdc[v]! = lddDrdc v) ∧
    Generated.d8Mv = d8Mv ∧ Generated.d8Pv = d8Pv ∧ Generated.d8All = d8All ∧
    Generated.lddMv = lddMv ∧ Generated.lddPv = lddPv ∧ Generated.lddAll = lddAll ∧
    Generated.nextxyMv = xyMv ∧ Generated.nextxyPv = [xyPv0, xyPv1] :=
  ⟨fun v hv => gen_d8Drdc_get! (d8Alphabet_lt v hv), fun v hv => gen_lddDrdc_get! (lddAlphabet_lt v hv),
    rfl, rfl, rfl, rfl, rfl, rfl, rfl, rfl⟩

/-- on the legal alphabet the model's `drdc` is (0,0) exactly on the pit codes and the compass delta of
the specification otherwise (`tabOK` is this statement as a decidable check) -/
theorem d8_drdc_ok : tabOK d8Drdc d8Dirs d8Pits d8Nodata = true := by decide +kernel
theorem ldd_drdc_ok : tabOK lddDrdc lddDirs lddPits lddNodata = true := by decide +kernel

/-! ## 2. decoding -/

/-- D8 decoding: for every shape and every raster over the D8 alphabet,
`core_d8.from_array` returns exactly the declarative graph of the compass table, its pit list is exactly
the list of self-draining cells in increasing order, and `n` counts the non-nodata cells. -/
theorem d8_decode (nrow ncol : Nat) (codes : Array Nat)
    (hlegal : ∀ i, i < nrow * ncol → codes[i]! ∈ d8Alphabet) :
    (fromArrayD8 nrow ncol codes).ds = graph nrow ncol (readD8 ncol codes) ∧
    (fromArrayD8 nrow ncol codes).pits.toList = pitsOf (graph nrow ncol (readD8 ncol codes)) ∧
    (fromArrayD8 nrow ncol codes).n = nvalidOf (nrow * ncol) (readD8 ncol codes) :=
  decode_eq_graph (tab_agrees d8_drdc_ok nrow ncol codes hlegal)

/-- the same for LDD -/
theorem ldd_decode (nrow ncol : Nat) (codes : Array Nat)
    (hlegal : ∀ i, i < nrow * ncol → codes[i]! ∈ lddAlphabet) :
    (fromArrayLdd nrow ncol codes).ds = graph nrow ncol (readLdd ncol codes) ∧
    (fromArrayLdd nrow ncol codes).pits.toList = pitsOf (graph nrow ncol (readLdd ncol codes)) ∧
    (fromArrayLdd nrow ncol codes).n = nvalidOf (nrow * ncol) (readLdd ncol codes) :=
  decode_eq_graph (tab_agrees ldd_drdc_ok nrow ncol codes hlegal)

/-- NEXTXY decoding: for every shape and *every* pair of integer rasters (no legality hypothesis is
needed: a pit code in `y` only, a negative coordinate or a coordinate beyond the raster all point off the
raster and make the cell a pit, as does a cell that designates itself). -/
theorem nextxy_decode (nrow ncol : Nat) (xs ys : Array Int) :
    (fromArrayXY nrow ncol xs ys).ds = graph nrow ncol (readXY xs ys) ∧
    (fromArrayXY nrow ncol xs ys).pits.toList = pitsOf (graph nrow ncol (readXY xs ys)) ∧
    (fromArrayXY nrow ncol xs ys).n = nvalidOf (nrow * ncol) (readXY xs ys) :=
  decode_eq_graph (xy_agrees nrow ncol xs ys)

/-! ### what the declarative graph says, cell by cell (`decode_link`) -/

/-- in the graph of any reading, a cell `i` of the raster
* is outside the graph (`ds i = n`) iff it is nodata;
* otherwise drains to the designated cell `(r, c)` — whose row is `r` and column is `c`, i.e. for D8/LDD the
  8-neighbour in the compass direction of its code — if that cell is on the raster and is not nodata;
* and to itself in every other case (pit code, off the raster, into nodata). -/
theorem decode_link (nrow ncol : Nat) (read : Nat → Code) (i : Nat) (hi : i < nrow * ncol) :
    let ds := graph nrow ncol read
    (read i = .nodata → ds[i]! = nrow * ncol) ∧
    (read i = .pit → ds[i]! = i) ∧
    (∀ r c, read i = .to r c →
      (inRaster nrow ncol r c = true → read (cellIdx ncol r c) ≠ .nodata →
        ds[i]! = cellIdx ncol r c ∧ ((ds[i]! / ncol : Nat) : Int) = r ∧ ((ds[i]! % ncol : Nat) : Int) = c) ∧
      (inRaster nrow ncol r c = false ∨ read (cellIdx ncol r c) = .nodata → ds[i]! = i)) := by
  intro ds
  have hg : ds[i]! = dsOf nrow ncol read i := graph_get nrow ncol read i hi
  refine ⟨fun h => by rw [hg]; simp [dsOf, h], fun h => by rw [hg]; simp [dsOf, h], ?_⟩
  intro r c h
  constructor
  · intro hin hv
    have e : ds[i]! = cellIdx ncol r c := by rw [hg]; simp [dsOf, h, hin, hv]
    obtain ⟨_, _, e3, e4⟩ := cellIdx_of_inRaster hin
    exact ⟨e, by rw [e]; exact e3, by rw [e]; exact e4⟩
  · intro hor
    rw [hg]
    rcases hor with h1 | h1 <;> simp [dsOf, h, h1]

/-- D8 instance of `decode_link` in compass terms: a non-nodata, non-pit cell with direction code `v ↦ (dr, dc)`
whose neighbour `(row + dr, col + dc)` is on the raster and not nodata drains to exactly that neighbour. -/
theorem d8_decode_compass (nrow ncol : Nat) (codes : Array Nat)
    (hlegal : ∀ i, i < nrow * ncol → codes[i]! ∈ d8Alphabet) (i : Nat) (hi : i < nrow * ncol)
    (dr dc : Int) (hv : (codes[i]!, (dr, dc)) ∈ d8Dirs) :
    let j := (fromArrayD8 nrow ncol codes).ds[i]!
    let r : Int := (i / ncol : Nat) + dr
    let c : Int := (i % ncol : Nat) + dc
    (inRaster nrow ncol r c = true ∧ codes[cellIdx ncol r c]! ≠ d8Nodata →
      ((j / ncol : Nat) : Int) = r ∧ ((j % ncol : Nat) : Int) = c) ∧
    (inRaster nrow ncol r c = false ∨ codes[cellIdx ncol r c]! = d8Nodata → j = i) := by
  intro j r c
  have hds := (d8_decode nrow ncol codes hlegal).1
  have htab : ∀ p ∈ d8Dirs, p.1 ≠ d8Nodata ∧ p.1 ∉ d8Pits ∧ d8Dirs.lookup p.1 = some p.2 := by decide
  obtain ⟨h1, h2, hl⟩ := htab _ hv
  have hread : readD8 ncol codes i = .to r c := readTab_dir h1 h2 hl
  have hnd : ∀ k, k < nrow * ncol → (readD8 ncol codes k = .nodata ↔ codes[k]! = d8Nodata) :=
    fun k hk => readTab_nodata_iff (hlegal k hk)
  obtain ⟨_, _, h3⟩ := decode_link nrow ncol (readD8 ncol codes) i hi
  obtain ⟨ha, hb⟩ := h3 r c hread
  have hj : j = (graph nrow ncol (readD8 ncol codes))[i]! := by simp only [j, hds]
  rw [hj]
  constructor
  · rintro ⟨hin, hne⟩
    have hlt := (cellIdx_of_inRaster hin).2.1
    exact (ha hin (fun h => hne ((hnd _ hlt).1 h))).2
  · intro hor
    apply hb
    rcases hor with h | h
    · exact Or.inl h
    · by_cases hin : inRaster nrow ncol r c = true
      · exact Or.inr ((hnd _ (cellIdx_of_inRaster hin).2.1).2 h)
      · exact Or.inl (by simpa using hin)

/-- the decoded network is well formed for every reading — it has one entry per cell, every
entry is a cell index or the sentinel `n`, the entry is `n` exactly on nodata cells, and the downstream cell
of a cell of the graph is again a cell of the graph (no link into nodata). -/
theorem decode_wf (nrow ncol : Nat) (read : Nat → Code) :
    let ds := graph nrow ncol read
    ds.size = nrow * ncol ∧
    ∀ i, i < nrow * ncol →
      ds[i]! ≤ nrow * ncol ∧ (ds[i]! = nrow * ncol ↔ read i = .nodata) ∧
      (ds[i]! < nrow * ncol → ds[ds[i]!]! < nrow * ncol) := by
  intro ds
  refine ⟨graph_size nrow ncol read, ?_⟩
  intro i hi
  have hg : ds[i]! = dsOf nrow ncol read i := graph_get nrow ncol read i hi
  refine ⟨by rw [hg]; exact dsOf_le nrow ncol read i hi, by rw [hg]; exact dsOf_eq_n_iff nrow ncol read i hi, ?_⟩
  intro hlt
  have hg2 : ds[ds[i]!]! = dsOf nrow ncol read ds[i]! := graph_get nrow ncol read _ hlt
  rw [hg2, hg]
  rw [hg] at hlt
  exact dsOf_ds_valid nrow ncol read i hi hlt

/-! ### non-vacuity -/
-- 2x3 D8 raster: E, SE, nodata / NE, pit 255, N  (cell 2 nodata: cell 5 points at it and becomes a pit,
-- cell 0 points E to cell 1, cell 1 points SE to cell 5, cell 3 points NE to cell 1)
example : fromArrayD8 2 3 #[1, 2, 247, 128, 255, 64] =
    { ds := #[1, 5, 6, 1, 4, 5], pits := #[4, 5], n := 5 } := by decide +kernel
example : ∀ i, i < 2 * 3 → (#[1, 2, 247, 128, 255, 64] : Array Nat)[i]! ∈ d8Alphabet := by decide
example : graph 2 3 (readD8 3 #[1, 2, 247, 128, 255, 64]) = #[1, 5, 6, 1, 4, 5] := by decide +kernel
-- LDD 1x3: 6 (E), 4 (W), 6 (E, off the raster)
example : fromArrayLdd 1 3 #[6, 4, 6] = { ds := #[1, 0, 2], pits := #[2], n := 3 } := by decide +kernel
-- NEXTXY 1x3: cell 0 designates itself (a pit), cell 1 points at cell 0, cell 2 has pit code -10
example : fromArrayXY 1 3 #[1, 1, -10] #[1, 1, -10] = { ds := #[0, 0, 2], pits := #[0, 2], n := 3 } := by
  decide +kernel

/-! ## 3. user mask -/

/-- in the graph of a masked reading a hidden cell is outside the graph,
whatever its code -/
theorem mask_excluded (nrow ncol : Nat) (mask : Nat → Bool) (read : Nat → Code) (i : Nat)
    (hi : i < nrow * ncol) (hm : mask i = false) :
    (graph nrow ncol (maskRead mask read))[i]! = nrow * ncol :=
  ((decode_wf nrow ncol (maskRead mask read)).2 i hi).2.1.2 (by simp [maskRead, hm])

/-- D8: decoding `np.where(mask, raster, 247)` gives the declarative graph of the raster in
which the hidden cells are nodata (so cells draining into a hidden cell become pits), with its pits and count -/
theorem d8_mask_excludes (nrow ncol : Nat) (codes : Array Nat) (mask : Array Bool)
    (hsize : codes.size = nrow * ncol) (hlegal : ∀ i, i < nrow * ncol → codes[i]! ∈ d8Alphabet) :
    let d := fromArrayD8 nrow ncol (applyMask d8Mv mask codes)
    let g := graph nrow ncol (maskRead (fun i => mask[i]!) (readD8 ncol codes))
    d.ds = g ∧ d.pits.toList = pitsOf g ∧
    d.n = nvalidOf (nrow * ncol) (maskRead (fun i => mask[i]!) (readD8 ncol codes)) :=
  tab_mask_excludes d8_drdc_ok nrow ncol codes mask hsize hlegal

/-- the same for LDD (`np.where(mask, raster, 255)`) -/
theorem ldd_mask_excludes (nrow ncol : Nat) (codes : Array Nat) (mask : Array Bool)
    (hsize : codes.size = nrow * ncol) (hlegal : ∀ i, i < nrow * ncol → codes[i]! ∈ lddAlphabet) :
    let d := fromArrayLdd nrow ncol (applyMask lddMv mask codes)
    let g := graph nrow ncol (maskRead (fun i => mask[i]!) (readLdd ncol codes))
    d.ds = g ∧ d.pits.toList = pitsOf g ∧
    d.n = nvalidOf (nrow * ncol) (maskRead (fun i => mask[i]!) (readLdd ncol codes)) :=
  tab_mask_excludes ldd_drdc_ok nrow ncol codes mask hsize hlegal

/-- the same for NEXTXY (the 2-D mask is applied to both layers) -/
theorem nextxy_mask_excludes (nrow ncol : Nat) (xs ys : Array Int) (mask : Array Bool)
    (hx : xs.size = nrow * ncol) (hy : ys.size = nrow * ncol) :
    let d := fromArrayXY nrow ncol (applyMask xyMv mask xs) (applyMask xyMv mask ys)
    let g := graph nrow ncol (maskRead (fun i => mask[i]!) (readXY xs ys))
    d.ds = g ∧ d.pits.toList = pitsOf g ∧
    d.n = nvalidOf (nrow * ncol) (maskRead (fun i => mask[i]!) (readXY xs ys)) :=
  decoded_congr (fun j hj => readXY_mask xs ys mask j (by omega) (by omega))
    (nextxy_decode nrow ncol (applyMask xyMv mask xs) (applyMask xyMv mask ys))

/-! ## 4. validity predicates and type inference -/

/-- `isvalid` of a format holds exactly when the container has the format's type and every value is in the
format's alphabet (NEXTXY: nodata / pit codes in `x` are repeated in `y`, every other `x` is ≥ 0) -/
theorem isvalid_iff_alphabet (nrow ncol : Nat) (codes : Array Nat) (xs ys : Array Int) :
    (isvalid .d8 (.u8 nrow ncol codes) = true ↔ ∀ v ∈ codes.toList, v ∈ d8Alphabet) ∧
    (isvalid .ldd (.u8 nrow ncol codes) = true ↔ ∀ v ∈ codes.toList, v ∈ lddAlphabet) ∧
    (isvalid .nextxy (.xy nrow ncol xs ys) = true ↔
      ∀ i, i < xs.size →
        (xs[i]! = xyNodata ∨ xs[i]! ∈ xyPits → ys[i]! = xs[i]!) ∧
        (¬ (xs[i]! = xyNodata ∨ xs[i]! ∈ xyPits) → xs[i]! ≥ 0)) ∧
    (∀ t, isvalid t .other = false) ∧
    isvalid .nextxy (.u8 nrow ncol codes) = false ∧
    isvalid .d8 (.xy nrow ncol xs ys) = false ∧ isvalid .ldd (.xy nrow ncol xs ys) = false := by
  refine ⟨?_, ?_, ?_, ?_, rfl, rfl, rfl⟩
  · rw [isvalid_eq_spec]; exact validTab_iff _ _
  · rw [isvalid_eq_spec]; exact validTab_iff _ _
  · rw [isvalid_eq_spec]; exact validXY_iff _ _
  · intro t; cases t <;> rfl

/-- `_infer_ftype` returns the first of d8, ldd, nextxy whose validity predicate holds,
and fails exactly when none holds -/
theorem infer_first_valid (data : Data) :
    (inferFtype data = some .d8 ↔ isvalid .d8 data = true) ∧
    (inferFtype data = some .ldd ↔ isvalid .d8 data = false ∧ isvalid .ldd data = true) ∧
    (inferFtype data = some .nextxy ↔
      isvalid .d8 data = false ∧ isvalid .ldd data = false ∧ isvalid .nextxy data = true) ∧
    (inferFtype data = none ↔
      isvalid .d8 data = false ∧ isvalid .ldd data = false ∧ isvalid .nextxy data = false) := by
  unfold inferFtype ftypes
  simp only [List.find?]
  cases isvalid .d8 data <;> cases isvalid .ldd data <;> cases isvalid .nextxy data <;> simp

/-- the oracle the driver evaluates (`Spec.valid`, `Spec.infer`) is the model's `isvalid` / `_infer_ftype` -/
theorem valid_infer_eq_spec (t : Ftype) (data : Data) :
    isvalid t data = Spec.valid t data ∧ inferFtype data = Spec.infer data :=
  ⟨isvalid_eq_spec t data, inferFtype_eq_spec data⟩

/-! ## 5. `pyflwdir.from_array` -/

theorem finishParse_ok {t : Ftype} {d : Dec} {p : Parsed} (h : finishParse t d = .ok p) :
    p = { ftype := t, dec := d } ∧ 2 ≤ d.ds.size ∧ d.pits.size ≠ 0 := by
  unfold finishParse at h
  by_cases h1 : d.ds.size ≤ 1
  · rw [if_pos h1] at h; cases h
  · rw [if_neg h1] at h
    by_cases h2 : d.pits.size = 0
    · rw [if_pos h2] at h; cases h
    · rw [if_neg h2] at h
      injection h with h
      exact ⟨h.symm, by omega, h2⟩

/-- the stages of `pyflwdir.from_array` that a successful call went through -/
theorem fromArrayApi_ok {ft : Option Ftype} {check : Bool} {data : Data}
    {mask : Option (List Nat × Array Bool)} {p : Parsed} (h : fromArrayApi ft check data mask = .ok p) :
    ∃ t c d' d, selectFtype ft check data = .ok (t, c) ∧ (c && !isvalid t data) = false ∧
      maskData t data mask = .ok d' ∧ decodeData t d' = .ok d ∧ finishParse t d = .ok p := by
  unfold fromArrayApi at h
  cases hs : selectFtype ft check data with
  | error e => rw [hs] at h; cases h
  | ok tc =>
    obtain ⟨t, c⟩ := tc
    rw [hs] at h
    dsimp only at h
    cases hv : (c && !isvalid t data) with
    | true => rw [hv] at h; simp at h
    | false =>
      rw [hv] at h
      simp only [Bool.false_eq_true, if_false] at h
      cases hm : maskData t data mask with
      | error e => rw [hm] at h; cases h
      | ok d' =>
        rw [hm] at h
        dsimp only at h
        cases hd : decodeData t d' with
        | error e => rw [hd] at h; cases h
        | ok d =>
          rw [hd] at h
          exact ⟨t, c, d', d, rfl, hv, hm, hd, h⟩

/-- the format of the returned object is the requested one, or with `ftype="infer"` the first format the
raster is valid for; a raster valid for no format, or invalid for the requested one while `check_ftype` is
on, is rejected with `ValueError` -/
theorem from_array_ftype (ft : Option Ftype) (check : Bool) (data : Data)
    (mask : Option (List Nat × Array Bool)) :
    (∀ p, fromArrayApi ft check data mask = .ok p →
      (ft = some p.ftype ∧ (check = true → isvalid p.ftype data = true)) ∨
      (ft = none ∧ inferFtype data = some p.ftype ∧ isvalid p.ftype data = true)) ∧
    (ft = none → inferFtype data = none → fromArrayApi ft check data mask = .error "ValueError") ∧
    (∀ t, ft = some t → check = true → isvalid t data = false →
      fromArrayApi ft check data mask = .error "ValueError") := by
  refine ⟨?_, ?_, ?_⟩
  · intro p h
    obtain ⟨t, c, d', d, hs, hv, _, _, hf⟩ := fromArrayApi_ok h
    have hp : p.ftype = t := by rw [(finishParse_ok hf).1]
    rw [hp]
    cases ft with
    | none =>
      right
      simp only [selectFtype] at hs
      cases hi : inferFtype data with
      | none => rw [hi] at hs; cases hs
      | some t' =>
        rw [hi] at hs
        injection hs with hs
        injection hs with h1 h2
        subst h1
        exact ⟨rfl, rfl, List.find?_some (p := fun t => isvalid t data) hi⟩
    | some t' =>
      left
      simp only [selectFtype] at hs
      injection hs with hs
      injection hs with h1 h2
      subst h1 h2
      refine ⟨rfl, fun hck => ?_⟩
      cases hvv : isvalid t' data with
      | true => rfl
      | false => simp [hck, hvv] at hv
  · intro h1 h2
    subst h1
    simp [fromArrayApi, selectFtype, h2]
  · intro t h1 h2 h3
    subst h1
    simp [fromArrayApi, selectFtype, h2, h3]

/-- an object is only returned for rasters of at least two cells with at least one pit, and then carries the
kernel's result for the masked data unchanged -/
theorem from_array_result (ft : Option Ftype) (check : Bool) (data : Data)
    (mask : Option (List Nat × Array Bool)) (p : Parsed) (h : fromArrayApi ft check data mask = .ok p) :
    ∃ data', maskData p.ftype data mask = .ok data' ∧ decodeData p.ftype data' = .ok p.dec ∧
      2 ≤ p.dec.ds.size ∧ p.dec.pits.size ≠ 0 := by
  obtain ⟨t, c, d', d, _, _, hm, hd, hf⟩ := fromArrayApi_ok h
  obtain ⟨hp, h2, h3⟩ := finishParse_ok hf
  subst hp
  exact ⟨d', hm, hd, h2, h3⟩

/-! ### non-vacuity (mask, inference, API) -/
-- 1x3 D8 raster E E pit with the middle cell hidden: cell 0 now drains into a hidden cell and becomes a pit
example : (fromArrayD8 1 3 (applyMask d8Mv #[true, false, true] #[1, 1, 0])).ds = #[0, 3, 2] := by decide +kernel
example : graph 1 3 (maskRead (fun i => (#[true, false, true] : Array Bool)[i]!) (readD8 3 #[1, 1, 0])) = #[0, 3, 2] := by
  decide +kernel
-- {1, 2, 4, 8, 255} is legal for D8 and for LDD: D8 wins; 3 is LDD only; 0 with 3 fits no format
example : inferFtype (.u8 1 3 #[1, 2, 255]) = some .d8 := by decide +kernel
example : inferFtype (.u8 1 3 #[1, 3, 255]) = some .ldd := by decide +kernel
example : inferFtype (.u8 1 3 #[0, 3, 255]) = none := by decide +kernel
example : inferFtype (.xy 1 2 #[2, -9] #[1, -9]) = some .nextxy := by decide +kernel
example : inferFtype (.xy 1 2 #[2, -9] #[1, -10]) = none := by decide +kernel
example : (fromArrayApi none true (.u8 1 3 #[1, 3, 255]) (some ([1, 3], #[true, true, true]))).toOption.map
    (fun p => (p.ftype, p.dec.ds)) = some (.ldd, #[0, 1, 3]) := by decide +kernel

end Pf.C01
