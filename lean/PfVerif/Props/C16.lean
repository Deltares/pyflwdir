/-! # C16 — results do not depend on the integer type used for cell indices

The Lean models are dtype-free (indices are `Nat`, the missing value is `n`), so dtype independence
of the *models* is trivial; what can go wrong in the code is fixed-width arithmetic on index-typed
values. These are the site theorems for the arithmetic forms that occur in the code
(`abs(idx0 - idx_ds)` in `dem.dig_4connectivity`, `idx0 ± ncol ± 1` in `_local_d4`, `// ncol`, `% ncol`
in `subidx_2_idx` / `in_d8` / `_d8_idx` / `distance`, comparison with the sentinel). -/
namespace Pf.C16

/-- the F16 defect class: on unsigned 32-bit indices `abs(a - b)` is NOT the distance of the
indices when `a < b` (witness: the link 4 → 5 on a 2×3 raster gives 2^32 - 1) -/
theorem u32_sub_wraps : ∃ a b : BitVec 32, a < b ∧ (a - b).toNat ≠ (b.toNat - a.toNat) :=
  ⟨4#32, 5#32, by decide, by decide⟩

theorem u64_sub_wraps : ∃ a b : BitVec 64, a < b ∧ (a - b).toNat ≠ (b.toNat - a.toNat) :=
  ⟨4#64, 5#64, by decide, by decide⟩

/-- the repaired form `abs(int(idx0) - int(idx_ds))`: unsigned 32-bit indices converted to (at least)
64-bit signed integers subtract without wrap-around, for every pair of indices -/
theorem u32_as_int_sub_exact (a b : BitVec 32) :
    ((a.toNat : Int) - (b.toNat : Int)).natAbs = (if a.toNat ≤ b.toNat then b.toNat - a.toNat else a.toNat - b.toNat) := by
  split
  · next h => rw [← Int.natAbs_neg, Int.neg_sub, ← Int.ofNat_sub h, Int.natAbs_natCast]
  · next h => rw [← Int.ofNat_sub (Nat.le_of_not_le h), Int.natAbs_natCast]

/-- and the difference fits a signed 64-bit integer -/
theorem u32_as_int_sub_fits (a b : BitVec 32) :
    -(2:Int)^63 ≤ (a.toNat : Int) - (b.toNat : Int) ∧ (a.toNat : Int) - (b.toNat : Int) < (2:Int)^63 := by
  have ha := a.isLt
  have hb := b.isLt
  omega

/-- signed 32-bit index arithmetic `idx ± ncol ± 1` stays in the range of 64-bit signed integers (Numba
promotes int32 ± int to int64) -/
theorem i32_neighbour_exact (idx ncol : Int) (h1 : 0 ≤ idx) (h2 : idx < 2^31) (h3 : 0 < ncol) (h4 : ncol < 2^31) :
    -(2:Int)^63 ≤ idx - ncol - 1 ∧ idx + ncol + 1 < (2:Int)^63 := by
  omega

/-- a valid cell index never equals the missing-value sentinel of its dtype (the library selects
int32 below 2^31-1 cells, uint32 below 2^32-2, uint64 above) -/
theorem valid_ne_sentinel_i32 (i n : Nat) (hi : i < n) (hn : n < 2147483647) : (i : Int) ≠ -1 := by omega
theorem valid_ne_sentinel_u32 (i n : Nat) (hi : i < n) (hn : n < 4294967294) : i ≠ 4294967295 := by omega
theorem valid_ne_sentinel_u64 (i n : Nat) (hi : i < n) (hn : n < 18446744073709551615) : i ≠ 18446744073709551615 := by omega

/-- the sentinel of an unsigned dtype is what `np.uint32(-1)` / `np.uint64(-1)` produce -/
theorem sentinel_u32 : (BitVec.ofInt 32 (-1)).toNat = 4294967295 := by decide
theorem sentinel_u64 : (BitVec.ofInt 64 (-1)).toNat = 18446744073709551615 := by decide

/-- row / column of a cell: `idx // ncol`, `idx % ncol` recover the cell (on natural numbers; the machine
division at an index type is `row_col_exact` of `Props/C16_mach.lean`) -/
theorem rowcol_recover (idx ncol : Nat) (h : 0 < ncol) : (idx / ncol) * ncol + idx % ncol = idx := by
  rw [Nat.mul_comm]; exact Nat.div_add_mod idx ncol

end Pf.C16
