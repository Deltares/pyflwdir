import PfVerif.Proofs.C03Order
import PfVerif.Proofs.C03Walk
import PfVerif.Proofs.C03RankAlg
import PfVerif.Proofs.C03Sort
/-! # C03 — cell ordering, rank and loop detection are topologically correct

All theorems quantify over every network `ds : Array Nat` (any size, any functional graph: cycles of
any length, trees hanging on cycles, missing cells = `ds.size`). `WF ds` only says that entries are
indices or the missing value and that a cell never points to a missing cell (what the decoders of C01
produce and what both constructors receive). Nothing is bounded.

Vocabulary (`Model/C03.lean`): `Valid ds i` = `i` is a cell of the network; `ReachesPit ds i` =
some iterate of `i` is a pit (unbounded ∃); `StepsToPit ds i k` = the `k`-th iterate is the first pit;
`Topo ds seq` = every cell is listed after its downstream cell and at most once (`Core/Sweep.lean`).

Models: `rank` = `core.rank`, `orderWalk` = `order_cells('walk')` = `core.idxs_seq`, `orderSort` =
`order_cells('sort')`, `loopIndices` = `core.loop_indices`, `isValidNet` = `isvalid`, `nnodesRank` =
`nnodes`, `repairLoops` = `repair_loops` (`Model/Core.lean`, `Model/C03.lean`). -/
namespace Pf.C03
open Pf

/-- the executable well-formedness test the driver reports (`wf`) is the hypothesis `WF` -/
theorem wfB_iff (ds : Array Nat) : wfB ds = true ↔ WF ds := by
  simp only [wfB, List.all_eq_true, List.mem_range, Bool.and_eq_true, decide_eq_true_eq, Bool.or_eq_true,
    Bool.not_eq_true', decide_eq_false_iff_not, WF]
  constructor
  · intro h i hi
    refine ⟨(h i hi).1, fun hlt => ?_⟩
    rcases (h i hi).2 with h2 | h2
    · exact absurd hlt h2
    · exact h2
  · intro h i hi
    refine ⟨(h i hi).1, ?_⟩
    by_cases hlt : ds[i]! < ds.size
    · exact Or.inr ((h i hi).2 hlt)
    · exact Or.inl hlt

/-! ## 1. the executable order check used by every other property is sound (and complete) -/

/-- an accepted sequence is downstream-first without duplicates and in range.
This is the hypothesis `Topo ds seq` of every sweep theorem (C04, C05, C08, C10, C14, C18 …). -/
theorem isTopo_sound (ds : Array Nat) (seq : List Nat) (h : isTopo ds seq = true) :
    Topo ds seq ∧ ∀ i ∈ seq, i < ds.size :=
  isTopo_sound' ds seq h

/-- `isTopo` rejects nothing it should accept (no false alarms) -/
theorem isTopo_iff (ds : Array Nat) (seq : List Nat) :
    isTopo ds seq = true ↔ (Topo ds seq ∧ ∀ i ∈ seq, i < ds.size) :=
  ⟨isTopo_sound' ds seq, fun h => isTopoAux_complete ds seq [] h.1 h.2⟩

example : isTopo #[0, 0, 1, 1, 5, 4] [0, 1, 3, 2] = true := by decide
example : isTopo #[0, 0, 1, 1, 5, 4] [0, 2, 1, 3] = false := by decide   -- 2 before its downstream cell 1
example : isTopo #[0, 0, 1, 1, 5, 4] [0, 1, 4, 5] = false := by decide   -- cells of a 2-cycle can never be listed

/-! ## 2. rank certificate: rank = number of steps to the pit, `-1` = never reaches a pit -/

/-- if the decidable local check accepts `rk`, then on every cell `rk i = k ≥ 0` iff `k` is the least number of steps to a pit, and
`rk i = -1` iff no iterate of `i` is ever a pit; missing cells carry `-9999`. -/
theorem checkRankCert_sound (ds : Array Nat) (rk : Array Int) (h : checkRankCert ds rk = true) :
    WF ds ∧
    (∀ i, Valid ds i →
      (∀ k : Nat, rk[i]! = (k : Int) ↔ StepsToPit ds i k) ∧
      (rk[i]! = -1 ↔ ¬ ReachesPit ds i) ∧ (rk[i]! = -1 ∨ 0 ≤ rk[i]!)) ∧
    (∀ i, i < ds.size → ¬ Valid ds i → rk[i]! = -9999) := by
  have hc := (checkRankCert_iff ds rk).1 h
  refine ⟨hc.wf, fun i hv => ⟨hc.rank_eq_iff hv, hc.rank_neg_iff hv, hc.range hv⟩, fun i hi hnv => ?_⟩
  by_cases hd : ds[i]! = ds.size
  · exact hc.nodata i hi hd
  · exact absurd ⟨hi, hc.lt i hi hd⟩ hnv

-- 3-cycle 0→1→2→0, pit 3 with tributary 4, 2-cycle 5↔6 with tributary 8, pit 7, missing cell 9
example : checkRankCert #[1, 2, 0, 3, 3, 6, 5, 7, 5, 10] #[-1, -1, -1, 0, 1, -1, -1, 0, -1, -9999] = true := by decide
example : checkRankCert #[1, 2, 0, 3, 3, 6, 5, 7, 5, 10] #[-1, -1, -1, 0, 1, -1, -1, 0, 2, -9999] = false := by decide

/-- `core.rank` terminates and satisfies the certificate on every well-formed network
(invariant over the outer loop and the explicit stack; `Proofs/C03RankAlg.lean`) -/
theorem rank_cert (ds : Array Nat) (hwf : WF ds) :
    ∃ r c, rank ds = some (r, c) ∧ checkRankCert ds r = true := by
  obtain ⟨r, c, h1, h2, _⟩ := rank_certified ds hwf
  exact ⟨r, c, h1, (checkRankCert_iff ds r).2 h2⟩

/-- `rank i = k` iff the flow path of `i` reaches its pit after exactly `k` steps;
`rank i = -1` iff it never reaches a pit (member of, or tributary to, a cycle). -/
theorem rank_correct (ds : Array Nat) (hwf : WF ds) (r : Array Int) (c : Nat) (h : rank ds = some (r, c)) :
    ∀ i, Valid ds i →
      (∀ k : Nat, r[i]! = (k : Int) ↔ StepsToPit ds i k) ∧ (r[i]! = -1 ↔ ¬ ReachesPit ds i) := by
  have hc := (rank_spec hwf h).1
  exact fun i hv => ⟨hc.rank_eq_iff hv, hc.rank_neg_iff hv⟩

example : rank #[1, 2, 0, 3, 3, 6, 5, 7, 5, 10] = some (#[-1, -1, -1, 0, 1, -1, -1, 0, -1, -9999], 3) := by
  decide +kernel

/-- the count returned by `core.rank` (the `n` of `argsort(rank)[-n:]`) is the number of cells of
rank ≥ 0, i.e. (by `rank_correct`) of cells that drain to a pit -/
theorem rank_count (ds : Array Nat) (hwf : WF ds) (r : Array Int) (c : Nat) (h : rank ds = some (r, c)) :
    c = (List.range ds.size).countP (fun i => decide ((0:Int) ≤ r[i]!)) ∧ nnodesRank ds = some c := by
  have h3 := (rank_spec hwf h).2
  refine ⟨h3, ?_⟩
  rw [nnodesRank, h, Option.map_some, h3]
  rfl

/-! ## 3. loop detection and validity -/

/-- the cells reported as loops are exactly the cells that never reach a pit -/
theorem loops_exact (ds : Array Nat) (hwf : WF ds) (l : List Nat) (h : loopIndices ds = some l) :
    ∀ i, i ∈ l ↔ (Valid ds i ∧ ¬ ReachesPit ds i) := by
  obtain ⟨rk, c, _, hc, _, rfl⟩ := rank_map hwf h
  intro i
  show i ∈ (List.range ds.size).filter (fun i => rk[i]! == -1) ↔ _
  rw [List.mem_filter, List.mem_range, beq_iff_eq]
  constructor
  · rintro ⟨hi, h1⟩
    have hv := hc.valid_of_ne hi (by omega)
    exact ⟨hv, (hc.rank_neg_iff hv).1 h1⟩
  · rintro ⟨hv, hn⟩
    exact ⟨hv.1, (hc.rank_neg_iff hv).2 hn⟩

/-- a network is reported valid iff every cell drains to a pit -/
theorem isvalid_iff (ds : Array Nat) (hwf : WF ds) (b : Bool) (h : isValidNet ds = some b) :
    b = true ↔ ∀ i, Valid ds i → ReachesPit ds i := by
  obtain ⟨rk, c, _, hc, _, rfl⟩ := rank_map hwf h
  show (List.range ds.size).all (fun i => rk[i]! != -1) = true ↔ _
  simp only [List.all_eq_true, List.mem_range, bne_iff_ne, ne_eq]
  constructor
  · intro hall i hv
    exact Classical.not_not.1 fun hn => hall i hv.1 ((hc.rank_neg_iff hv).2 hn)
  · intro hall i hi h1
    have hv := hc.valid_of_ne hi (by omega)
    exact (hc.rank_neg_iff hv).1 h1 (hall i hv)

example : loopIndices #[1, 2, 0, 3, 3, 6, 5, 7, 5, 10] = some [0, 1, 2, 5, 6, 8] := by decide +kernel
example : isValidNet #[1, 2, 0, 3, 3, 6, 5, 7, 5, 10] = some false := by decide +kernel
example : isValidNet #[0, 0, 1, 1, 4, 4] = some true := by decide +kernel

/-! ## 4. cell orders -/

/-- complete-order certificate (evaluated by the driver on the sequence the implementation
returned, for both methods): an accepted sequence lists each cell after its downstream cell, has no
duplicates, and its members are exactly the cells that drain to a pit. -/
theorem completeTopo_sound (ds : Array Nat) (seq : List Nat) (hwf : WF ds)
    (h : isCompleteTopo ds seq = true) :
    Topo ds seq ∧ seq.Nodup ∧ ∀ i, i ∈ seq ↔ (Valid ds i ∧ ReachesPit ds i) := by
  have htopo : isTopo ds seq = true := by
    simp only [isCompleteTopo, Bool.and_eq_true] at h; exact h.1
  obtain ⟨ht, hb⟩ := isTopo_sound' ds seq htopo
  refine ⟨ht, ht.nodup, fun i => ⟨fun hi => ⟨ht.valid hb i hi, ht.reaches i hi⟩, ?_⟩⟩
  rintro ⟨hv, k, hk⟩
  exact closed_contains_reaching ds hwf (· ∈ seq) (isCompleteTopo_closure h) k i hv hk

example : isCompleteTopo #[1, 2, 0, 3, 3, 6, 5, 7, 5, 10] [7, 3, 4] = true := by decide
example : isCompleteTopo #[1, 2, 0, 3, 3, 6, 5, 7, 5, 10] [7, 3] = false := by decide        -- 4 missing
example : isCompleteTopo #[1, 2, 0, 3, 3, 6, 5, 7, 5, 10] [7, 3, 4, 8] = false := by decide  -- 8 drains to a cycle

/-- a downstream-first sequence whose members are the cells of rank ≥ 0 contains every cell that
drains to a pit exactly once, and the node count `#{rank ≥ 0}` is its length -/
theorem topo_complete (ds : Array Nat) (rk : Array Int) (seq : List Nat) (h : checkRankCert ds rk = true)
    (ht : Topo ds seq) (hmem : ∀ i, i ∈ seq ↔ (i < ds.size ∧ 0 ≤ rk[i]!)) :
    (∀ i, i ∈ seq ↔ (Valid ds i ∧ ReachesPit ds i)) ∧ seq.Nodup ∧
    seq.length = (List.range ds.size).countP (fun i => decide ((0:Int) ≤ rk[i]!)) :=
  ⟨fun i => (hmem i).trans (((checkRankCert_iff ds rk).1 h).nonneg_iff i), ht.nodup,
    length_eq_countP ht.nodup fun i => by rw [hmem i, decide_eq_true_eq]⟩

/-- `order_cells('sort')`, for every sorting routine: any arrangement of the cells of rank ≥ 0 in
non-decreasing rank order (whatever the order among equal ranks, i.e. for any `argsort` kind and
NumPy version) is downstream-first. -/
theorem seq_sort_topo (ds : Array Nat) (rk : Array Int) (seq : List Nat) (h : checkRankCert ds rk = true)
    (hs : seq.Pairwise (fun a b => rk[a]! ≤ rk[b]!)) (hn : seq.Nodup)
    (hmem : ∀ i, i ∈ seq ↔ (i < ds.size ∧ 0 ≤ rk[i]!)) : Topo ds seq := by
  have h := (checkRankCert_iff ds rk).1 h
  refine Topo.of_sorted (fun i => rk[i]!) seq hs hn fun i hi hp => ?_
  obtain ⟨hi, h0⟩ := (hmem i).1 hi
  have hv := h.valid_of_ne hi (by omega)
  rcases h.done hv with ⟨hp', _⟩ | ⟨_, ⟨h1, _⟩ | ⟨h1, h2⟩⟩
  · exact absurd hp' hp
  · omega
  · exact ⟨(hmem _).2 ⟨hv.2, h1⟩, by omega⟩

/-- `order_cells('walk')` (`core.idxs_seq`): the breadth-first walk from the pits through the
upstream matrix lists each cell after its downstream cell, exactly once, and lists exactly the cells
that drain to a pit (cells on, or tributary to, a cycle are excluded). Algorithm-level, all networks. -/
theorem seq_walk_topo (ds : Array Nat) (hwf : WF ds) :
    Topo ds (orderWalk ds) ∧ (orderWalk ds).Nodup ∧
    ∀ i, i ∈ orderWalk ds ↔ (Valid ds i ∧ ReachesPit ds i) := by
  obtain ⟨_, acc, he, h⟩ := seqWalkLoop_end ds ds.size (pitIndices ds) [] (walkInv_init ds)
  rw [show orderWalk ds = acc.reverse from he]
  have hb : ∀ i ∈ acc.reverse, i < ds.size := fun i hi => h.bound i (List.mem_append_left _ hi)
  have hdone : ∀ u, u ∈ acc ∨ u ∈ [] → u ∈ acc.reverse := fun u hu =>
    hu.elim List.mem_reverse.2 (fun h => nomatch h)
  refine ⟨h.topo, h.topo.nodup, fun i => ⟨fun hi => ⟨h.topo.valid hb i hi, h.topo.reaches i hi⟩, ?_⟩⟩
  rintro ⟨hv, k, hk⟩
  refine closed_contains_reaching ds hwf (· ∈ acc.reverse) (fun j hj hd => ?_) k i hv hk
  by_cases hjp : ds[j]! = j
  · exact hdone j (h.pits j hj hjp)
  · obtain ⟨hd1, hd2⟩ := hd.resolve_left hjp
    exact hdone j (h.kids _ (List.mem_reverse.1 hd2) j
      ((mem_upsOf ds _ j).2 ⟨hj, rfl, Ne.symm hjp, Nat.ne_of_lt hd1⟩))

example : orderWalk #[1, 2, 0, 3, 3, 6, 5, 7, 5, 10] = [3, 7, 4] := by decide +kernel
example : orderWalk #[0, 0, 1, 1, 4, 4, 0] = [0, 4, 1, 6, 5, 2, 3] := by decide +kernel

/-- `order_cells('sort')` as coded (`argsort(rank)[-n:]` with the stable sort standing for
`argsort`): on every network with at least one pit (the constructors reject all others) the result is
downstream-first, has no duplicates, lists exactly the cells that drain to a pit, and has length `n`. -/
theorem seq_sort_model_topo (ds : Array Nat) (hwf : WF ds) (seq : List Nat) (h : orderSort ds = some seq)
    (hpit : ∃ p, p < ds.size ∧ ds[p]! = p) :
    Topo ds seq ∧ seq.Nodup ∧ (∀ i, i ∈ seq ↔ (Valid ds i ∧ ReachesPit ds i)) ∧
    nnodesRank ds = some seq.length := by
  obtain ⟨r, c, h1, h2, hs, hn, hm, hl⟩ := orderSort_spec ds hwf seq h hpit
  have ht := seq_sort_topo ds r seq ((checkRankCert_iff ds r).2 h2) hs hn hm
  refine ⟨ht, hn, fun i => (hm i).trans (h2.nonneg_iff i), ?_⟩
  rw [hl]; exact (rank_count ds hwf r c h1).2

/-- the hypotheses of `seq_sort_model_topo` are satisfiable on every well-formed network -/
theorem orderSort_total (ds : Array Nat) (hwf : WF ds) : ∃ seq, orderSort ds = some seq := by
  obtain ⟨r, c, h1, _⟩ := rank_certified ds hwf
  simp only [orderSort, h1, Option.map_some]
  exact ⟨_, rfl⟩

-- (`List.mergeSort` does not reduce in the kernel, so the concrete instance is checked through the
-- hypotheses of `seq_sort_topo`: a rank-sorted arrangement that differs from the walk order)
example : wfB #[0, 0, 1, 1, 4, 4, 0] = true ∧ checkRankCert #[0, 0, 1, 1, 4, 4, 0] #[0, 1, 2, 2, 0, 1, 1] = true ∧
    rankSorted #[0, 1, 2, 2, 0, 1, 1] [4, 0, 6, 5, 1, 3, 2] = true ∧
    isCompleteTopo #[0, 0, 1, 1, 4, 4, 0] [4, 0, 6, 5, 1, 3, 2] = true := by decide

/-- `nnodes` (= `#{rank ≥ 0}`) is the number of cells that drain to a pit, i.e. the
length of every complete downstream-first order (in particular of both `order_cells` results). -/
theorem nnodes_eq (ds : Array Nat) (hwf : WF ds) (k : Nat) (h : nnodesRank ds = some k) (seq : List Nat)
    (hn : seq.Nodup) (hmem : ∀ i, i ∈ seq ↔ (Valid ds i ∧ ReachesPit ds i)) : seq.length = k := by
  obtain ⟨r, c, _, h2, _, rfl⟩ := rank_map hwf h
  exact length_eq_countP hn fun a => by rw [hmem a, decide_eq_true_eq]; exact (h2.nonneg_iff a).symm

example : nnodesRank #[1, 2, 0, 3, 3, 6, 5, 7, 5, 10] = some 3 := by decide +kernel

/-! ## 5. repair -/

/-- repairing loops yields a valid network and leaves every previously valid link unchanged:
after `repair_loops` every cell drains to a pit, the set of cells is the same, and a cell that
drained to a pit before keeps its downstream link and its rank (number of steps to the pit). -/
theorem repair_valid (ds ds' : Array Nat) (hwf : WF ds) (h : repairLoops ds = some ds') :
    WF ds' ∧ ds'.size = ds.size ∧ (∀ i, Valid ds' i ↔ Valid ds i) ∧
    (∀ i, Valid ds' i → ReachesPit ds' i) ∧
    (∀ i, Valid ds i → ReachesPit ds i →
      ds'[i]! = ds[i]! ∧ ∀ k, StepsToPit ds i k → StepsToPit ds' i k) := by
  rw [repairLoops, loopIndices, Option.map_map] at h
  obtain ⟨r, c, _, h2, _, rfl⟩ := rank_map hwf h
  exact repairBy_spec h2

example : repairLoops #[1, 2, 0, 3, 3, 6, 5, 7, 5, 10] = some #[0, 1, 2, 3, 3, 5, 6, 7, 8, 10] := by
  decide +kernel
example : isValidNet #[0, 1, 2, 3, 3, 5, 6, 7, 8, 10] = some true := by decide +kernel

end Pf.C03
