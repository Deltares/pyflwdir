import PfVerif.Proofs.C04
import PfVerif.Proofs.C03Topo
import PfVerif.Generated.Tables
/-! # C04 — accumulation equals the sum over the upstream catchment (mass is conserved)

All theorems quantify over every network `ds`, every downstream-first order `seq` (`Topo`, what C03
establishes for the library's orders and what the harness re-checks with `isTopo` on the order the
implementation actually used), every `Int` field (dyadic float fields are scaled to integers), every
nodata value. No bound on sizes or path lengths.

Vocabulary (`Proofs/C04.lean`):
* `Up ds j k`  — `∃ m, iterA ds m k = j`: the flow path of `k` passes through `j` (unbounded `∃`);
* `UpNd ds data nodata j k` — as `Up`, and unless `j = k` no cell on the path from `k` to `j`
  (ends included) holds the nodata value: "cells holding nodata neither receive nor pass on";
* `sumOver n P f` — `Σ_{k < n, P k} f k`.

The nodata guard reads the INPUT field, so no theorem needs a hypothesis on partial sums: the input F04
(`data = [-9998,-1,5]`, `nodata = -9999`, a partial sum equal to nodata) is a non-vacuity example below. -/
namespace Pf.C04
open Pf

/-! ## upstream accumulation -/

/-- accuflux, general form (with nodata cells): every cell of the network ends with the sum of the
field over all cells of the network whose flow path reaches it without meeting a nodata cell (itself
included). -/
theorem accuflux_nodata (ds : Array Nat) (seq : List Nat) (data : Array Int) (nodata : Int)
    (htopo : Topo ds seq) (hb : ∀ i ∈ seq, i < ds.size) (hd : data.size = ds.size)
    (j : Nat) (hj : j ∈ seq) :
    (accuflux ds seq data nodata)[j]! =
      sumOver ds.size (fun k => k ∈ seq ∧ UpNd ds data nodata j k) (fun k => data[k]!) := by
  unfold accuflux
  rw [sweepUp_add_sum ds _ seq htopo ds.size hb data (hd ▸ hb) j hj]
  exact sumOver_congr (fun k _ => and_congr_right fun _ => UpG_linkOk_iff ds data nodata j k)
    (fun _ _ _ => rfl)

/-- a cell holding nodata receives nothing: it keeps the nodata value. -/
theorem accuflux_keeps_nodata (ds : Array Nat) (seq : List Nat) (data : Array Int) (nodata : Int)
    (htopo : Topo ds seq) (hb : ∀ i ∈ seq, i < ds.size) (hd : data.size = ds.size)
    (j : Nat) (hnd : data[j]! = nodata) :
    (accuflux ds seq data nodata)[j]! = nodata := by
  unfold accuflux
  rw [sweepUp_add_inv ds _ seq htopo ds.size hb data (hd ▸ hb) j, sumOver_false, hnd]
  · omega
  · rintro k _ ⟨_, hne, hup⟩
    obtain ⟨m, hm, h⟩ := (UpG_linkOk_iff ds data nodata j k).mp hup
    rcases h with h | h
    · subst h; exact hne hm
    · exact h m (Nat.le_refl m) (hm ▸ hnd)

/-- accuflux = sum over the upstream catchment (field without nodata cells): the sum of the
field over the cell itself and all cells whose flow path passes through it. -/
theorem accuflux_sum (ds : Array Nat) (seq : List Nat) (data : Array Int) (nodata : Int)
    (htopo : Topo ds seq) (hb : ∀ i ∈ seq, i < ds.size) (hd : data.size = ds.size)
    (hnd : ∀ k ∈ seq, data[k]! ≠ nodata) (j : Nat) (hj : j ∈ seq) :
    (accuflux ds seq data nodata)[j]! =
      sumOver ds.size (fun k => k ∈ seq ∧ Up ds j k) (fun k => data[k]!) := by
  unfold accuflux
  rw [sweepUp_add_sum ds _ seq htopo ds.size hb data (hd ▸ hb) j hj]
  exact sumOver_congr
    (fun k _ => and_congr_right fun hk => UpG_iff_Up htopo (linkOk_of_no_nodata htopo hnd) hk)
    (fun _ _ _ => rfl)

/-- the same in the property's words, for an order that consists of exactly the valid cells (loop-free
network): the sum over the cell itself and all valid cells whose flow path passes through it -/
theorem accuflux_sum_valid (ds : Array Nat) (seq : List Nat) (data : Array Int) (nodata : Int)
    (htopo : Topo ds seq) (hcov : coversValid ds seq = true) (hd : data.size = ds.size)
    (hnd : ∀ k, isValid ds k = true → data[k]! ≠ nodata) (j : Nat) (hj : isValid ds j = true) :
    (accuflux ds seq data nodata)[j]! =
      sumOver ds.size (fun k => isValid ds k = true ∧ Up ds j k) (fun k => data[k]!) := by
  obtain ⟨hv, hb⟩ := coversValid_spec hcov
  have hjn : j < ds.size := by
    simp only [isValid, Bool.and_eq_true, decide_eq_true_eq] at hj; exact hj.1
  rw [accuflux_sum ds seq data nodata htopo hb hd (fun k hk => hnd k ((hv k (hb k hk)).mpr hk)) j
    ((hv j hjn).mp hj)]
  exact sumOver_congr (fun k hk => and_congr_left fun _ => (hv k hk).symm) (fun _ _ _ => rfl)

/-- cells outside the network neither receive nor pass on anything: they keep their input value
(and by `accuflux_nodata` they occur in no sum, the sums range over `seq`). -/
theorem accuflux_untouched (ds : Array Nat) (seq : List Nat) (data : Array Int) (nodata : Int)
    (htopo : Topo ds seq) (hb : ∀ i ∈ seq, i < ds.size) (hd : data.size = ds.size)
    (j : Nat) (hj : j ∉ seq) : (accuflux ds seq data nodata)[j]! = data[j]! :=
  sweepUp_add_untouched ds _ seq htopo data (hd ▸ hb) j hj

/-- the model equals the executable brute-force oracle (the one the driver evaluates and the harness
compares with the implementation's output): on a loop-free network whose order covers exactly the
valid cells, `accuflux[j]` is the sum of the field over all valid cells from which the Boolean walk
reaches `j`. -/
theorem accuflux_eq_spec (ds : Array Nat) (seq : List Nat) (data : Array Int) (nodata : Int)
    (htopo : Topo ds seq) (hcov : coversValid ds seq = true) (hd : data.size = ds.size)
    (fuel : Nat) (hf : seq.length ≤ fuel) (j : Nat) (hj : j ∈ seq) :
    (accuflux ds seq data nodata)[j]! = catchSumB ds (linkOk ds data nodata) data fuel j := by
  obtain ⟨hv, hb⟩ := coversValid_spec hcov
  unfold accuflux catchSumB
  rw [sweepUp_add_sum ds _ seq htopo ds.size hb data (hd ▸ hb) j hj]
  refine sumOver_bool fun k hk => ?_
  rw [Bool.and_eq_true, hv k hk]
  exact and_congr_right fun hks => reachesG_iff ds _ seq htopo hf hks

/-- mass conservation, general form: the totals at the cells that pass nothing on (pits, and cells
whose link is cut by nodata) add up to the total of the field over the network. -/
theorem mass_conserved_nodata (ds : Array Nat) (seq : List Nat) (data : Array Int) (nodata : Int)
    (htopo : Topo ds seq) (hb : ∀ i ∈ seq, i < ds.size) (hd : data.size = ds.size) :
    sumOver ds.size (fun p => p ∈ seq ∧ ¬ (ds[p]! ≠ p ∧ linkOk ds data nodata p = true))
        (fun p => (accuflux ds seq data nodata)[p]!) =
      sumOver ds.size (fun k => k ∈ seq) (fun k => data[k]!) :=
  sweepUp_add_mass ds _ seq htopo ds.size hb data (hd ▸ hb)

/-- mass conservation: without nodata cells the totals at the pits add up to the total of the
field over all cells of the network. -/
theorem mass_conserved (ds : Array Nat) (seq : List Nat) (data : Array Int) (nodata : Int)
    (htopo : Topo ds seq) (hb : ∀ i ∈ seq, i < ds.size) (hd : data.size = ds.size)
    (hnd : ∀ k ∈ seq, data[k]! ≠ nodata) :
    sumOver ds.size (fun p => p ∈ seq ∧ ds[p]! = p) (fun p => (accuflux ds seq data nodata)[p]!) =
      sumOver ds.size (fun k => k ∈ seq) (fun k => data[k]!) := by
  rw [← mass_conserved_nodata ds seq data nodata htopo hb hd]
  refine sumOver_congr (fun p _ => and_congr_right fun hp => ?_) (fun _ _ _ => rfl)
  have := linkOk_of_no_nodata htopo hnd p hp
  constructor
  · intro h h2; exact h2.1 h
  · intro h; exact Classical.byContradiction fun hne => h ⟨hne, this⟩

/-- mass conservation in the property's words: totals at the pits = total over all valid cells -/
theorem mass_conserved_valid (ds : Array Nat) (seq : List Nat) (data : Array Int) (nodata : Int)
    (htopo : Topo ds seq) (hcov : coversValid ds seq = true) (hd : data.size = ds.size)
    (hnd : ∀ k, isValid ds k = true → data[k]! ≠ nodata) :
    sumOver ds.size (fun p => isPit ds p = true) (fun p => (accuflux ds seq data nodata)[p]!) =
      sumOver ds.size (fun k => isValid ds k = true) (fun k => data[k]!) := by
  obtain ⟨hv, hb⟩ := coversValid_spec hcov
  have h := mass_conserved ds seq data nodata htopo hb hd (fun k hk => hnd k ((hv k (hb k hk)).mpr hk))
  have hL : sumOver ds.size (fun p => isPit ds p = true) (fun p => (accuflux ds seq data nodata)[p]!) =
      sumOver ds.size (fun p => p ∈ seq ∧ ds[p]! = p) (fun p => (accuflux ds seq data nodata)[p]!) := by
    refine sumOver_congr (fun p hp => ?_) (fun _ _ _ => rfl)
    rw [← hv p hp]
    simp only [isPit, isValid, Bool.and_eq_true, decide_eq_true_eq, beq_iff_eq, bne_iff_ne, ne_eq, hp, true_and]
    constructor
    · intro h; exact ⟨by omega, h⟩
    · intro h; exact h.2
  rw [hL, h]
  exact sumOver_congr (fun k hk => (hv k hk).symm) (fun _ _ _ => rfl)

/-- monotone downstream, general form: across every link on which neither cell holds nodata the
accumulation does not decrease, for a field that is non-negative wherever it is not nodata. -/
theorem accu_mono_nodata (ds : Array Nat) (seq : List Nat) (data : Array Int) (nodata : Int)
    (htopo : Topo ds seq) (hb : ∀ i ∈ seq, i < ds.size) (hd : data.size = ds.size)
    (h0 : ∀ k ∈ seq, data[k]! ≠ nodata → 0 ≤ data[k]!)
    (i : Nat) (hi : i ∈ seq) (h1 : data[i]! ≠ nodata) (h2 : data[ds[i]!]! ≠ nodata) :
    (accuflux ds seq data nodata)[i]! ≤ (accuflux ds seq data nodata)[ds[i]!]! := by
  have hok : linkOk ds data nodata i = true := (linkOk_iff ..).mpr ⟨h2, h1⟩
  have hb' : ∀ i ∈ seq, i < data.size := hd ▸ hb
  unfold accuflux
  rw [sweepUp_add_sum ds _ seq htopo data.size hb' data hb' i hi,
    sweepUp_add_sum ds _ seq htopo data.size hb' data hb' _ (Topo.ds_mem htopo i hi)]
  refine sumOver_mono (fun k _ h => ⟨h.1, UpG.snoc hok h.2⟩) fun k _ ⟨hk, hup⟩ => h0 k hk ?_
  obtain ⟨m, hm, h⟩ := (UpG_linkOk_iff ds data nodata _ k).mp hup
  rcases h with h | h
  · subst h; exact (show k = ds[i]! from hm) ▸ h2
  · exact h 0 (Nat.zero_le m)

/-- monotone downstream: for a non-negative field without nodata cells, `accu i ≤ accu (ds i)`. -/
theorem accu_mono (ds : Array Nat) (seq : List Nat) (data : Array Int) (nodata : Int)
    (htopo : Topo ds seq) (hb : ∀ i ∈ seq, i < ds.size) (hd : data.size = ds.size)
    (hnd : ∀ k ∈ seq, data[k]! ≠ nodata) (h0 : ∀ k ∈ seq, 0 ≤ data[k]!) (i : Nat) (hi : i ∈ seq) :
    (accuflux ds seq data nodata)[i]! ≤ (accuflux ds seq data nodata)[ds[i]!]! :=
  accu_mono_nodata ds seq data nodata htopo hb hd (fun k hk _ => h0 k hk) i hi (hnd i hi)
    (hnd _ (Topo.ds_mem htopo i hi))

/-! ## downstream accumulation -/

/-- accuflux_ds = sum along the flow path: if the walk from `i` crosses `m` links that pass flow
(non-pit cell, neither end holds nodata) and then stops (pit, or nodata at either end of the next
link), the result is the sum of the field over the `m+1` cells walked. Without nodata this is the sum
along the flow path from the cell to its pit. -/
theorem accuflux_ds_sum (ds : Array Nat) (seq : List Nat) (data : Array Int) (nodata : Int)
    (htopo : Topo ds seq) (hb : ∀ i ∈ seq, i < ds.size) (hd : data.size = ds.size)
    (m i : Nat) (hi : i ∈ seq)
    (hwalk : ∀ t, t < m → ds[iterA ds t i]! ≠ iterA ds t i ∧ linkOk ds data nodata (iterA ds t i) = true)
    (hend : ¬ (ds[iterA ds m i]! ≠ iterA ds m i ∧ linkOk ds data nodata (iterA ds m i) = true)) :
    (accufluxDs ds seq data nodata)[i]! = sumRange (m+1) (fun t => data[iterA ds t i]!) := by
  have hb' : ∀ i ∈ seq, i < data.size := hd ▸ hb
  unfold accufluxDs
  induction m generalizing i with
  | zero =>
    rw [sweepDown_add_rec ds _ seq htopo data hb' i hi, if_neg (by simpa [iterA] using hend)]
    simp [sumRange, iterA]
  | succ m ih =>
    have h0 := hwalk 0 (Nat.succ_pos _)
    simp only [iterA] at h0
    rw [sweepDown_add_rec ds _ seq htopo data hb' i hi, if_pos h0, sumRange_succ_front,
      ih ds[i]! (Topo.ds_mem htopo i hi)
        (fun t ht => by simpa [iterA] using hwalk (t+1) (Nat.succ_lt_succ ht)) (by simpa [iterA] using hend)]
    simp [iterA]

/-- the same, without nodata cells: `m` = number of steps to the pit -/
theorem accuflux_ds_sum_to_pit (ds : Array Nat) (seq : List Nat) (data : Array Int) (nodata : Int)
    (htopo : Topo ds seq) (hb : ∀ i ∈ seq, i < ds.size) (hd : data.size = ds.size)
    (hnd : ∀ k ∈ seq, data[k]! ≠ nodata) (m i : Nat) (hi : i ∈ seq)
    (hwalk : ∀ t, t < m → ds[iterA ds t i]! ≠ iterA ds t i)
    (hpit : ds[iterA ds m i]! = iterA ds m i) :
    (accufluxDs ds seq data nodata)[i]! = sumRange (m+1) (fun t => data[iterA ds t i]!) :=
  accuflux_ds_sum ds seq data nodata htopo hb hd m i hi
    (fun t ht => ⟨hwalk t ht, linkOk_of_no_nodata htopo hnd _ (iterA_mem htopo hi t)⟩)
    (fun h => h.1 hpit)

/-- unconditional form: every cell of the network has such a path to its pit, and `accuflux_ds` is the
sum of the field along it -/
theorem accuflux_ds_sum_exists (ds : Array Nat) (seq : List Nat) (data : Array Int) (nodata : Int)
    (htopo : Topo ds seq) (hb : ∀ i ∈ seq, i < ds.size) (hd : data.size = ds.size)
    (hnd : ∀ k ∈ seq, data[k]! ≠ nodata) (i : Nat) (hi : i ∈ seq) :
    ∃ m, ds[iterA ds m i]! = iterA ds m i ∧ (∀ t, t < m → ds[iterA ds t i]! ≠ iterA ds t i) ∧
      (accufluxDs ds seq data nodata)[i]! = sumRange (m+1) (fun t => data[iterA ds t i]!) := by
  obtain ⟨m, hm, hlt⟩ := reaches_pit htopo i hi
  exact ⟨m, hm, hlt, accuflux_ds_sum_to_pit ds seq data nodata htopo hb hd hnd m i hi hlt hm⟩

/-- the model agrees with the executable walk (the driver's oracle) wherever the walk terminates -/
theorem accuflux_ds_eq_spec (ds : Array Nat) (seq : List Nat) (data : Array Int) (nodata : Int)
    (htopo : Topo ds seq) (hb : ∀ i ∈ seq, i < ds.size) (hd : data.size = ds.size)
    (fuel i : Nat) (v : Int) (hi : i ∈ seq)
    (h : pathSumG ds (linkOk ds data nodata) data fuel i = some v) :
    (accufluxDs ds seq data nodata)[i]! = v := by
  have hb' : ∀ i ∈ seq, i < data.size := hd ▸ hb
  unfold accufluxDs
  induction fuel generalizing i v with
  | zero => simp [pathSumG] at h
  | succ f ih =>
    rw [sweepDown_add_rec ds _ seq htopo data hb' i hi]
    simp only [pathSumG] at h
    by_cases hact : ds[i]! ≠ i ∧ linkOk ds data nodata i = true
    · rw [if_pos hact] at h ⊢
      obtain ⟨w, hw, rfl⟩ := Option.map_eq_some_iff.mp h
      rw [ih _ w (Topo.ds_mem htopo i hi) hw]
    · rw [if_neg hact] at h ⊢
      exact Option.some.inj h

/-- cells outside the network keep their input value -/
theorem accuflux_ds_untouched (ds : Array Nat) (seq : List Nat) (data : Array Int) (nodata : Int)
    (htopo : Topo ds seq) (hb : ∀ i ∈ seq, i < ds.size) (hd : data.size = ds.size)
    (j : Nat) (hj : j ∉ seq) : (accufluxDs ds seq data nodata)[j]! = data[j]! :=
  (sweepDown_rec ds _ data seq htopo (hd ▸ hb)).2 j hj

/-! ## upstream area -/

/-- upstream area reports cells outside the network as nodata -/
theorem uparea_nodata (ds : Array Nat) (seq : List Nat) (area : Array Int) (nodata : Int)
    (hd : area.size = ds.size) (i : Nat) (hi : i < ds.size) (hinv : isValid ds i = false) :
    (upstreamArea ds seq area nodata)[i]! = nodata := by
  unfold upstreamArea
  rw [get!_maskInvalid _ _ _ _ (by rw [size_accuflux, hd]; exact hi)]
  have : ds[i]! = ds.size := by simpa [isValid, hi] using hinv
  rw [if_pos this]

/-- upstream area = sum of the cell areas over the upstream catchment (any area vector without the
nodata value: projected grids pass a constant, geographic grids one value per row, `unit='cell'` ones) -/
theorem uparea_sum (ds : Array Nat) (seq : List Nat) (area : Array Int) (nodata : Int)
    (htopo : Topo ds seq) (hb : ∀ i ∈ seq, i < ds.size) (hd : area.size = ds.size)
    (hval : ∀ k ∈ seq, isValid ds k = true) (hnd : ∀ k ∈ seq, area[k]! ≠ nodata) (j : Nat) (hj : j ∈ seq) :
    (upstreamArea ds seq area nodata)[j]! =
      sumOver ds.size (fun k => k ∈ seq ∧ Up ds j k) (fun k => area[k]!) := by
  unfold upstreamArea
  rw [get!_maskInvalid _ _ _ _ (by rw [size_accuflux, hd]; exact hb j hj)]
  have : ds[j]! ≠ ds.size := by
    have := hval j hj
    simp only [isValid, Bool.and_eq_true, decide_eq_true_eq, bne_iff_ne, ne_eq] at this
    exact this.2
  rw [if_neg this]
  exact accuflux_sum ds seq area nodata htopo hb hd hnd j hj

/-- any unit (linearity): if the cell areas in unit 2 are `c` times those in unit 1 (e.g. m2 vs
km2: `c = 10^6`), so is the upstream area of every cell of the network. -/
theorem uparea_unit (ds : Array Nat) (seq : List Nat) (a1 a2 : Array Int) (nd1 nd2 c : Int)
    (htopo : Topo ds seq) (hb : ∀ i ∈ seq, i < ds.size) (hd1 : a1.size = ds.size) (hd2 : a2.size = ds.size)
    (hval : ∀ k ∈ seq, isValid ds k = true)
    (hn1 : ∀ k ∈ seq, a1[k]! ≠ nd1) (hn2 : ∀ k ∈ seq, a2[k]! ≠ nd2)
    (hc : ∀ k ∈ seq, a2[k]! = c * a1[k]!) (j : Nat) (hj : j ∈ seq) :
    (upstreamArea ds seq a2 nd2)[j]! = c * (upstreamArea ds seq a1 nd1)[j]! := by
  rw [uparea_sum ds seq a2 nd2 htopo hb hd2 hval hn2 j hj,
    uparea_sum ds seq a1 nd1 htopo hb hd1 hval hn1 j hj, ← sumOver_mul]
  exact sumOver_congr (fun _ _ => Iff.rfl) (fun k _ h => hc k h.1)

/-- `unit='cell'`: the upstream area is the number of cells of the upstream catchment -/
theorem uparea_cell_count (ds : Array Nat) (seq : List Nat) (area : Array Int) (nodata : Int)
    (htopo : Topo ds seq) (hb : ∀ i ∈ seq, i < ds.size) (hd : area.size = ds.size)
    (hval : ∀ k ∈ seq, isValid ds k = true) (hone : ∀ k ∈ seq, area[k]! = 1) (hnd : nodata ≠ 1)
    (j : Nat) (hj : j ∈ seq) :
    (upstreamArea ds seq area nodata)[j]! =
      sumOver ds.size (fun k => k ∈ seq ∧ Up ds j k) (fun _ => 1) := by
  rw [uparea_sum ds seq area nodata htopo hb hd hval (fun k hk => by rw [hone k hk]; exact Ne.symm hnd) j hj]
  exact sumOver_congr (fun _ _ => Iff.rfl) (fun k _ h => hone k h.1)

/-- `streams.upstream_area` kernel: cells of the network get the sum of the row areas over their
upstream catchment; all other cells get the nodata value. -/
theorem uparea_kernel (ds : Array Nat) (seq : List Nat) (ncol : Nat) (rowArea : Array Int) (nodata : Int)
    (htopo : Topo ds seq) (hb : ∀ i ∈ seq, i < ds.size) (j : Nat) (hjn : j < ds.size) :
    (upstreamAreaKernel ds seq ncol rowArea nodata)[j]! =
      if j ∈ seq then sumOver ds.size (fun k => k ∈ seq ∧ Up ds j k) (fun k => rowArea[k / ncol]!)
      else nodata := by
  unfold upstreamAreaKernel
  have hsz : (seq.foldl (fun a idx => a.setIfInBounds idx rowArea[idx / ncol]!)
      (Array.replicate ds.size nodata)).size = ds.size := by
    rw [size_foldl_set (fun idx => rowArea[idx / ncol]!), Array.size_replicate]
  have hb' : ∀ i ∈ seq, i < (seq.foldl (fun a idx => a.setIfInBounds idx rowArea[idx / ncol]!)
      (Array.replicate ds.size nodata)).size := fun i hi => by rw [hsz]; exact hb i hi
  have hinit : ∀ k, k < ds.size → (seq.foldl (fun a idx => a.setIfInBounds idx rowArea[idx / ncol]!)
      (Array.replicate ds.size nodata))[k]! = if k ∈ seq then rowArea[k / ncol]! else nodata := by
    intro k hk
    rw [get!_foldl_set (fun idx => rowArea[idx / ncol]!)]
    by_cases hks : k ∈ seq
    · simp [hks, hk]
    · simp [hks, hk]
  by_cases hj : j ∈ seq
  · rw [if_pos hj, sweepUp_add_sum ds _ seq htopo ds.size hb _ hb' j hj]
    refine sumOver_congr (fun k _ => and_congr_right fun hk => ?_) (fun k hk h => ?_)
    · exact UpG_iff_Up htopo (fun _ _ => rfl) hk
    · rw [hinit k hk, if_pos h.1]
  · rw [if_neg hj, sweepUp_add_untouched ds _ seq htopo _ hb' j hj, hinit j hjn, if_neg hj]

/-- the catchment sum over `seq` is what the driver's brute-force oracle computes (guard-free walk) -/
theorem catchment_sum_eq_spec (ds : Array Nat) (seq : List Nat) (f : Array Int)
    (htopo : Topo ds seq) (hcov : coversValid ds seq = true) (fuel : Nat) (hf : seq.length ≤ fuel) (j : Nat) :
    sumOver ds.size (fun k => k ∈ seq ∧ Up ds j k) (fun k => f[k]!) =
      catchSumB ds (fun _ => true) f fuel j := by
  obtain ⟨hv, _⟩ := coversValid_spec hcov
  unfold catchSumB
  refine sumOver_bool fun k hk => ?_
  rw [Bool.and_eq_true, hv k hk]
  exact and_congr_right fun hks =>
    (UpG_iff_Up htopo (ok := fun _ => true) (fun _ _ => rfl) hks).symm.trans
      (reachesG_iff ds _ seq htopo hf hks)

/-- upstream area equals the driver's oracle: brute-force catchment sum on valid cells, nodata elsewhere -/
theorem uparea_eq_spec (ds : Array Nat) (seq : List Nat) (area : Array Int) (nodata : Int)
    (htopo : Topo ds seq) (hcov : coversValid ds seq = true) (hd : area.size = ds.size)
    (hnd : ∀ k ∈ seq, area[k]! ≠ nodata) (fuel : Nat) (hf : seq.length ≤ fuel) (j : Nat) (hj : j < ds.size) :
    (upstreamArea ds seq area nodata)[j]! =
      if isValid ds j then catchSumB ds (fun _ => true) area fuel j else nodata := by
  obtain ⟨hv, hb⟩ := coversValid_spec hcov
  by_cases hvj : isValid ds j = true
  · rw [if_pos hvj, uparea_sum ds seq area nodata htopo hb hd (fun k hk => (hv k (hb k hk)).mpr hk) hnd j
      ((hv j hj).mp hvj)]
    exact catchment_sum_eq_spec ds seq area htopo hcov fuel hf j
  · rw [if_neg hvj]
    exact uparea_nodata ds seq area nodata hd j hj (by simpa using hvj)

/-- `area_grid`: the cell area depends on the row only (projected grids: a constant row vector) -/
theorem areaGrid_get (nrow ncol : Nat) (rowArea : Array Int) (i : Nat) (hi : i < nrow * ncol) :
    (areaGrid nrow ncol rowArea)[i]! = rowArea[i / ncol]! := by
  simp [areaGrid, getElem!_def, hi]

/-- tie 1: the unit table of the code (`gis_utils.AREA_FACTORS`, regenerated from /repo on every run) is
the SI one: m2 = 1, ha = 10^4 m2, km2 = 10^6 m2, and `cell` counts cells -/
theorem area_factors_table :
    Pf.Generated.areaFactors = [("m2", 1), ("ha", 10000), ("km2", 1000000), ("cell", 1)] ∧
    Pf.Generated.areaFactorsIntegral = true := by decide

/-! ## non-vacuity: concrete networks meet the hypotheses and the conclusions are non-trivial -/

-- cells 2 → 1 → 0 (pit), 3 → 1 (confluence at 1, path length 3), cell 4 outside the network (ds = n)
example : Topo #[0, 0, 1, 1, 5] [0, 1, 2, 3] := (isTopo_sound' _ _ (by decide)).1
example : coversValid #[0, 0, 1, 1, 5] [0, 1, 2, 3] = true := by decide
-- no nodata: catchment sums; the pit total 10 = 1+2+3+4; the outside cell keeps 100
example : accuflux #[0, 0, 1, 1, 5] [0, 1, 2, 3] #[1, 2, 3, 4, 100] (-9999) = #[10, 9, 3, 4, 100] := by decide
example : (List.range 5).map (catchSumB #[0, 0, 1, 1, 5] (linkOk #[0, 0, 1, 1, 5] #[1, 2, 3, 4, 100] (-9999))
    #[1, 2, 3, 4, 100] 5) = [10, 9, 3, 4, 0] := by decide
-- nodata at cell 2: it keeps nodata and passes nothing on; nodata at the confluence 1 cuts 2 and 3 off
example : accuflux #[0, 0, 1, 1, 5] [0, 1, 2, 3] #[1, 2, -9999, 4, 100] (-9999) = #[7, 6, -9999, 4, 100] := by decide
example : accuflux #[0, 0, 1, 1, 5] [0, 1, 2, 3] #[1, -9999, 3, 4, 100] (-9999) = #[1, -9999, 3, 4, 100] := by decide
-- F04 (fixed): a partial sum equal to the nodata value is passed on; mass -9994 = -9998-1+5 arrives at the pit
example : accuflux #[1, 2, 2] [2, 1, 0] #[-9998, -1, 5] (-9999) = #[-9998, -9999, -9994] := by decide
-- downstream accumulation: sums along the path to the pit
example : accufluxDs #[0, 0, 1, 1, 5] [0, 1, 2, 3] #[1, 2, 3, 4, 100] (-9999) = #[1, 3, 6, 7, 100] := by decide
example : accufluxDs #[0, 0, 1, 1, 5] [0, 1, 2, 3] #[1, -9999, 3, 4, 100] (-9999) = #[1, -9999, 3, 4, 100] := by decide
example : pathSumG #[0, 0, 1, 1, 5] (linkOk #[0, 0, 1, 1, 5] #[1, 2, 3, 4, 100] (-9999)) #[1, 2, 3, 4, 100] 6 2 = some 6 := by decide
-- upstream area: cell counts, nodata outside; km2 vs m2 on a 1000 m grid
example : upstreamArea #[0, 0, 1, 1, 5] [0, 1, 2, 3] #[1, 1, 1, 1, 1] (-9999) = #[4, 3, 1, 1, -9999] := by decide
example : upstreamArea #[0, 0, 1, 1, 5] [0, 1, 2, 3] (Array.replicate 5 1000000) (-9999) =
    #[4000000, 3000000, 1000000, 1000000, -9999] := by decide
example : upstreamAreaKernel #[0, 0, 1, 1, 5] [0, 1, 2, 3] 2 #[10, 20, 30] (-1) = #[60, 50, 20, 20, -1] := by decide

end Pf.C04
