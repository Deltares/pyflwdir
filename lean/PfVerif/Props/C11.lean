import PfVerif.Proofs.C11Trace
import PfVerif.Proofs.C11Total
import PfVerif.Proofs.C11Main
import PfVerif.Proofs.C11Coords
/-! # C11 — path tracing and snapping follow the network and stop exactly where specified

All theorems quantify over every next-cell array `nxt` (downstream indices `idxs_ds`, or the
main-upstream indices), every start cell, mask, `max_length`, step-length function and fuel; no bound
on sizes. `traceFrom` (`Model/Core.lean`) is the model of the `while` loop of `core._trace`; `fuel`
replaces `while True` and the result `none` means "did not end within `fuel` iterations".

Vocabulary (declarative, `Model/C11.lean`): `iterA nxt k s` = k-th cell of the walk from `s`;
`cumLen nxt step s m` = sum of the first `m` step lengths; `stopAt … s m` = the `m`-th cell is flagged
in the mask, or is a pit / has no next cell, or the next step would make the travelled length exceed
`max_length`; `pathTo nxt s m = [iter 0 s, …, iter m s]`. -/
namespace Pf.C11
open Pf

/-! ## 1. the trace -/

/-- The loop returns exactly what the declarative search for
the least stopping index returns, and runs out of fuel exactly when there is none below `fuel`. -/
theorem trace_eq_spec (nxt : Array Nat) (mask : Option (Array Bool)) (maxLen : Option Int)
    (step : Nat → Nat → Int) (fuel s : Nat) :
    traceFrom nxt mask maxLen step fuel s = specTrace nxt mask maxLen step fuel s :=
  trace_eq_leastFrom nxt mask maxLen step s fuel 0


-- non-vacuity: chain 4 → 3 → 2 → 1 → 0 (pit), cell units scaled by 4; max_length 2.5 cells stops the
-- walk after two steps; the loop 0 → 1 → 2 → 0 stops only through max_length, and not at all without
example : traceFrom #[0,0,1,2,3] none (some 10) (stepConst 4) 6 4 = some ([4,3,2], 8) := by decide
example : specTrace #[0,0,1,2,3] none (some 10) (stepConst 4) 6 4 = some ([4,3,2], 8) := by decide
example : traceFrom #[1,2,0] none (some 20) (stepConst 4) 7 0 = some ([0,1,2,0,1,2], 20) := by decide
example : traceFrom #[1,2,0] none none (stepConst 4) 50 0 = none ∧
    specTrace #[1,2,0] none none (stepConst 4) 50 0 = none := by decide

/-- The loop returns `(p, d)` iff for the least stopping index `m` (which is then `< fuel`)
`p = [iter 0 s, …, iter m s]` and `d = Σ_{k<m} step (iter k s) (iter (k+1) s)`. -/
theorem trace_char (nxt : Array Nat) (mask : Option (Array Bool)) (maxLen : Option Int)
    (step : Nat → Nat → Int) (fuel s : Nat) (p : List Nat) (d : Int) :
    traceFrom nxt mask maxLen step fuel s = some (p, d) ↔
      ∃ m, m < fuel ∧ stopAt nxt mask maxLen step s m = true ∧
        (∀ k, k < m → stopAt nxt mask maxLen step s k = false) ∧
        p = pathTo nxt s m ∧ d = cumLen nxt step s m := by
  rw [trace_eq_spec, specTrace, Option.map_eq_some_iff]
  constructor
  · rintro ⟨m, hm, h⟩
    obtain ⟨hlt, hstop, hleast⟩ := leastFrom_zero_eq_some_iff.1 hm
    cases h
    exact ⟨m, hlt, hstop, hleast, rfl, rfl⟩
  · rintro ⟨m, hm, hstop, hleast, rfl, rfl⟩
    exact ⟨m, leastFrom_zero_eq_some_iff.2 ⟨hm, hstop, hleast⟩, rfl⟩


-- non-vacuity: the least stopping index of the example above is 2 (index 1 is not a stop)
example : stopAt #[0,0,1,2,3] none (some 10) (stepConst 4) 4 2 = true ∧
    stopAt #[0,0,1,2,3] none (some 10) (stepConst 4) 4 1 = false ∧
    pathTo #[0,0,1,2,3] 4 2 = [4,3,2] ∧ cumLen #[0,0,1,2,3] (stepConst 4) 4 2 = 8 := by decide

/-- A returned path is the sequence `start, nxt(start), nxt(nxt(start)), …`:
its `k`-th entry is the `k`-fold next cell of the start, it starts at the start cell and every
entry is the next cell of its predecessor. -/
theorem trace_prefix (nxt : Array Nat) (mask : Option (Array Bool)) (maxLen : Option Int)
    (step : Nat → Nat → Int) (fuel s : Nat) (p : List Nat) (d : Int)
    (h : traceFrom nxt mask maxLen step fuel s = some (p, d)) :
    p ≠ [] ∧ p.length ≤ fuel ∧ p[0]? = some s ∧
    (∀ k, k < p.length → p[k]? = some (iterA nxt k s)) ∧
    (∀ k a b, p[k]? = some a → p[k+1]? = some b → b = nxt[a]!) := by
  obtain ⟨m, hm, _, _, rfl, _⟩ := (trace_char ..).1 h
  rw [length_pathTo]
  refine ⟨List.ne_nil_of_length_eq_add_one (length_pathTo nxt s m), hm, getElem?_pathTo nxt s (Nat.zero_le m),
    fun k hk => getElem?_pathTo nxt s (Nat.le_of_lt_succ hk), fun k a b ha hb => ?_⟩
  have hk1 : k + 1 ≤ m := by
    have := (List.getElem?_eq_some_iff.1 hb).1
    rw [length_pathTo] at this
    exact Nat.le_of_lt_succ this
  rw [getElem?_pathTo nxt s (Nat.le_of_succ_le hk1)] at ha
  rw [getElem?_pathTo nxt s hk1] at hb
  cases ha; cases hb
  exact iterA_succ' nxt k s

/-- The walk ends at the *first* cell that is flagged in the mask, or is a pit / has
no next cell, or from which the next step would make the travelled length exceed `max_length`:
the last cell of the path satisfies one of the three conditions, no earlier cell satisfies any. -/
theorem trace_stop (nxt : Array Nat) (mask : Option (Array Bool)) (maxLen : Option Int)
    (step : Nat → Nat → Int) (fuel s : Nat) (p : List Nat) (d : Int)
    (h : traceFrom nxt mask maxLen step fuel s = some (p, d)) :
    let m := p.length - 1
    let c := iterA nxt m s
    (maskHit mask c = true ∨ nxt[c]! = c ∨ nxt[c]! = nxt.size ∨
      (∃ ml, maxLen = some ml ∧ cumLen nxt step s m + step c nxt[c]! > ml)) ∧
    ∀ k, k < m →
      maskHit mask (iterA nxt k s) = false ∧ nxt[iterA nxt k s]! ≠ iterA nxt k s ∧
      nxt[iterA nxt k s]! ≠ nxt.size ∧ (∀ ml, maxLen = some ml → cumLen nxt step s (k+1) ≤ ml) := by
  obtain ⟨m, hm, hstop, hleast, rfl, _⟩ := (trace_char ..).1 h
  simp only [length_pathTo, Nat.add_sub_cancel]
  refine ⟨?_, fun k hk => ?_⟩
  · exact (stopAt_iff.1 hstop).imp_right fun h => or_assoc.1 (h.imp_right overLen_iff.1)
  · obtain ⟨h1, h2, h3, h4⟩ := stopAt_eq_false_iff.1 (hleast k hk)
    rw [cumLen, iterA_succ']
    exact ⟨h1, h2, h3, overLen_eq_false_iff.1 h4⟩


-- non-vacuity: each stop reason occurs. max_length exactly on a step boundary (2 cells) still takes
-- the step, a quarter cell less does not; a flagged cell ends the walk (also the start cell itself)
example : traceFrom #[0,0,1,2,3] none (some 8) (stepConst 4) 6 4 = some ([4,3,2], 8) := by decide
example : traceFrom #[0,0,1,2,3] none (some 7) (stepConst 4) 6 4 = some ([4,3], 4) := by decide
example : traceFrom #[0,0,1,2,3] (some #[false,true,false,false,false]) none (stepConst 4) 6 4 =
    some ([4,3,2,1], 12) := by decide
example : traceFrom #[0,0,1,2,3] (some #[false,false,false,false,true]) none (stepConst 4) 6 4 =
    some ([4], 0) := by decide
example : traceFrom #[0,0,1,2,3] none none (stepConst 4) 6 4 = some ([4,3,2,1,0], 16) := by decide

/-- The reported length is the sum of the step lengths along the returned path. -/
theorem dist_sum (nxt : Array Nat) (mask : Option (Array Bool)) (maxLen : Option Int)
    (step : Nat → Nat → Int) (fuel s : Nat) (p : List Nat) (d : Int)
    (h : traceFrom nxt mask maxLen step fuel s = some (p, d)) :
    d = cumLen nxt step s (p.length - 1) := by
  obtain ⟨m, _, _, _, rfl, rfl⟩ := (trace_char ..).1 h
  rw [length_pathTo, Nat.add_sub_cancel]

/-- In cell units (every step has length `one`) the length is `one` per step,
i.e. `one * (number of cells on the path - 1)`. -/
theorem dist_cells (nxt : Array Nat) (mask : Option (Array Bool)) (maxLen : Option Int)
    (one : Int) (fuel s : Nat) (p : List Nat) (d : Int)
    (h : traceFrom nxt mask maxLen (stepConst one) fuel s = some (p, d)) :
    d = one * ((p.length - 1 : Nat) : Int) := by
  rw [dist_sum _ _ _ _ _ _ _ _ h, cumLen_const]

/-- With a non-negative `max_length` the reported length does not
exceed it (and by `trace_stop` one more step would, unless the walk ended for another reason). -/
theorem dist_le_max (nxt : Array Nat) (mask : Option (Array Bool)) (ml : Int)
    (step : Nat → Nat → Int) (fuel s : Nat) (p : List Nat) (d : Int) (hml : 0 ≤ ml)
    (h : traceFrom nxt mask (some ml) step fuel s = some (p, d)) : d ≤ ml := by
  have hs := (trace_stop _ _ _ _ _ _ _ _ h).2
  rw [dist_sum _ _ _ _ _ _ _ _ h]
  cases hm : p.length - 1 with
  | zero => simpa [cumLen] using hml
  | succ m => exact (hs m (by omega)).2.2.2 ml rfl

/-- Snapping returns the last cell of the path for the same arguments — the
`m`-fold next cell of the start for the least stopping index `m` — and the same length. -/
theorem snap_last (nxt : Array Nat) (mask : Option (Array Bool)) (maxLen : Option Int)
    (step : Nat → Nat → Int) (fuel s : Nat) :
    snapOne nxt mask maxLen step fuel s = specSnap nxt mask maxLen step fuel s ∧
    ∀ p d, traceFrom nxt mask maxLen step fuel s = some (p, d) →
      snapOne nxt mask maxLen step fuel s = some (iterA nxt (p.length - 1) s, d) ∧
      p.getLast? = some (iterA nxt (p.length - 1) s) := by
  have hlast : ∀ m, (pathTo nxt s m).getLastD nxt.size = iterA nxt m s := fun m => by
    rw [List.getLastD_eq_getLast?, getLast?_pathTo]; rfl
  constructor
  · rw [snapOne, specSnap, trace_eq_spec, specTrace, Option.map_map]
    exact congrArg (Option.map · _) (funext fun m => congrArg (·, _) (hlast m))
  · intro p d h
    obtain ⟨m, _, _, _, rfl, rfl⟩ := (trace_char ..).1 h
    rw [snapOne, h, length_pathTo, Nat.add_sub_cancel]
    exact ⟨congrArg (fun c => some (c, _)) (hlast m), getLast?_pathTo nxt s m⟩


example : snapOne #[0,0,1,2,3] none (some 10) (stepConst 4) 6 4 = some (2, 8) := by decide
example : snapOne #[0,0,1,2,3] (some #[false,true,false,false,false]) none (stepConst 4) 6 4 = some (1, 12) := by decide

/-- `core.path` / `core.snap` return, independently per start cell, the
specified trace / its last cell. -/
theorem path_all_starts (nxt : Array Nat) (mask : Option (Array Bool)) (maxLen : Option Int)
    (step : Nat → Nat → Int) (fuel : Nat) (starts : List Nat) :
    pathModel nxt mask maxLen step fuel starts = starts.map (specTrace nxt mask maxLen step fuel) ∧
    snapModel nxt mask maxLen step fuel starts = starts.map (specSnap nxt mask maxLen step fuel) := by
  constructor
  · unfold pathModel
    exact List.map_congr_left (fun s _ => trace_eq_spec ..)
  · unfold snapModel
    exact List.map_congr_left (fun s _ => (snap_last ..).1)

/-! ## 2. termination (`trace_total_*`) -/

/-- the loop ends within `fuel` iterations iff some cell among the first `fuel` cells of the walk
satisfies a stop condition -/
theorem trace_total_iff (nxt : Array Nat) (mask : Option (Array Bool)) (maxLen : Option Int)
    (step : Nat → Nat → Int) (fuel s : Nat) :
    (traceFrom nxt mask maxLen step fuel s).isSome = true ↔
      ∃ k, k < fuel ∧ stopAt nxt mask maxLen step s k = true := by
  rw [trace_eq_spec, specTrace, Option.isSome_map, leastFrom_isSome_iff, Nat.zero_add]
  exact ⟨fun ⟨k, _, h⟩ => ⟨k, h⟩, fun ⟨k, h⟩ => ⟨k, Nat.zero_le k, h⟩⟩

/-- loop-free networks, downstream direction: from a cell of a downstream-first order `seq`
(every cell that reaches a pit has one, C03) the trace ends within `seq.length` iterations,
whatever the mask and `max_length`. -/
theorem trace_total_topo (ds : Array Nat) (seq : List Nat) (htopo : Topo ds seq)
    (mask : Option (Array Bool)) (maxLen : Option Int) (step : Nat → Nat → Int) (fuel s : Nat)
    (hs : s ∈ seq) (hfuel : seq.length ≤ fuel) :
    (traceFrom ds mask maxLen step fuel s).isSome = true := by
  obtain ⟨k, hk, hp⟩ := htopo.reaches_pit s hs
  exact (trace_total_iff ..).2 ⟨k, by omega, stopAt_iff.2 (.inr (.inl (.inl hp)))⟩


-- non-vacuity of the hypothesis: a concrete downstream-first order
example : Topo #[0, 0, 1, 1] [0, 1, 2, 3] := by
  have h0 : Topo #[0, 0, 1, 1] [] := Topo.nil
  have h1 : Topo #[0, 0, 1, 1] ([] ++ [0]) := Topo.snoc h0 (by simp) (Or.inl (by decide))
  have h2 : Topo #[0, 0, 1, 1] ([0] ++ [1]) := Topo.snoc h1 (by simp) (Or.inr (by decide))
  have h3 : Topo #[0, 0, 1, 1] ([0, 1] ++ [2]) := Topo.snoc h2 (by simp) (Or.inr (by decide))
  exact Topo.snoc h3 (by simp) (Or.inr (by decide))

/-- a flagged cell on the walk ends the trace (also on networks with loops) -/
theorem trace_total_mask (nxt : Array Nat) (mask : Option (Array Bool)) (maxLen : Option Int)
    (step : Nat → Nat → Int) (fuel s k : Nat) (hk : k < fuel) (hm : maskHit mask (iterA nxt k s) = true) :
    (traceFrom nxt mask maxLen step fuel s).isSome = true :=
  (trace_total_iff ..).2 ⟨k, hk, stopAt_iff.2 (.inl hm)⟩

/-- networks with loops: if every step has length at least one (scaled) unit and `max_length` is
finite, the trace ends within `max_length + 1` iterations. -/
theorem trace_total_maxlen (nxt : Array Nat) (mask : Option (Array Bool)) (ml : Int)
    (step : Nat → Nat → Int) (hstep : ∀ i j, 1 ≤ step i j) (fuel s : Nat) (hfuel : ml.toNat < fuel) :
    (traceFrom nxt mask (some ml) step fuel s).isSome = true := by
  have h := stopAt_of_maxlen nxt mask (ml := ml) Int.one_pos hstep s
  rw [Int.ediv_one] at h
  exact (trace_total_iff ..).2 ⟨ml.toNat, hfuel, h⟩

/-- networks with loops, general form: if every step is at least `δ > 0` long and `max_length` is
finite, the trace ends within `⌊max_length / δ⌋ + 1` iterations (immediately for a negative one). -/
theorem trace_total_maxlen_pos (nxt : Array Nat) (mask : Option (Array Bool)) (ml δ : Int)
    (step : Nat → Nat → Int) (hδ : 0 < δ) (hstep : ∀ i j, δ ≤ step i j) (fuel s : Nat)
    (hfuel : (ml / δ).toNat < fuel) :
    (traceFrom nxt mask (some ml) step fuel s).isSome = true :=
  (trace_total_iff ..).2 ⟨(ml / δ).toNat, hfuel, stopAt_of_maxlen nxt mask hδ hstep s⟩

-- non-vacuity: on the loop 0 → 1 → 2 → 0 with steps of 4 and max_length 20 the bound 20/4 + 1 = 6 is attained
example : (traceFrom #[1,2,0] none (some 20) (stepConst 4) 6 0).isSome = true ∧
    traceFrom #[1,2,0] none (some 20) (stepConst 4) 5 0 = none := by decide

/-- general form: a measure that strictly decreases along the walk (on the cells satisfying an
invariant `P`) bounds the number of iterations. -/
theorem trace_total_measure (nxt : Array Nat) (P : Nat → Prop) (μ : Nat → Nat)
    (hμ : ∀ c, P c → nxt[c]! ≠ c → nxt[c]! ≠ nxt.size → P nxt[c]! ∧ μ nxt[c]! < μ c)
    (mask : Option (Array Bool)) (maxLen : Option Int) (step : Nat → Nat → Int) (fuel s : Nat)
    (hs : P s) (hfuel : μ s < fuel) :
    (traceFrom nxt mask maxLen step fuel s).isSome = true := by
  obtain ⟨k, hk, hfa⟩ := FirstAt.exists_of_measure nxt (fun c => decide (nxt[c]! = c ∨ nxt[c]! = nxt.size)) P μ
    (fun c hc h => hμ c hc (fun e => of_decide_eq_false h (.inl e)) (fun e => of_decide_eq_false h (.inr e))) s hs
  exact (trace_total_iff ..).2 ⟨k, Nat.lt_of_le_of_lt hk hfuel, stopAt_iff.2 (.inr (.inl (of_decide_eq_true hfa.stop)))⟩

/-! ## 3. main upstream cell -/

/-- `us` is a valid main-upstream array: per cell `j`, either the missing value and no inflowing
cell has an area above `upaMin`, or an inflowing cell with area above `upaMin` that is largest
among all inflowing cells of `j`. -/
def MainArgmax (ds : Array Nat) (uparea : Array Int) (upaMin : Int) (us : Array Nat) : Prop :=
  ∀ j, j < ds.size →
    (us[j]! = ds.size ∧ ∀ i, i < ds.size → ds[i]! = j → i ≠ j → uparea[i]! ≤ upaMin) ∨
    (us[j]! < ds.size ∧ ds[us[j]!]! = j ∧ us[j]! ≠ j ∧ upaMin < uparea[us[j]!]! ∧
      ∀ i, i < ds.size → ds[i]! = j → i ≠ j → uparea[i]! ≤ uparea[us[j]!]!)

/-- `main_upstream` returns, for every cell, the inflowing cell with the largest
upstream area (the lowest index among equals), and the missing value iff no inflowing cell has an
area above the threshold. -/
theorem mainUpstream_argmax (ds : Array Nat) (uparea : Array Int) (upaMin : Int) :
    (mainUpstream ds uparea upaMin).size = ds.size ∧
    MainArgmax ds uparea upaMin (mainUpstream ds uparea upaMin) ∧
    ∀ j, j < ds.size → ∀ i, i < (mainUpstream ds uparea upaMin)[j]! → ds[i]! = j → i ≠ j →
      (mainUpstream ds uparea upaMin)[j]! < ds.size → uparea[i]! < uparea[(mainUpstream ds uparea upaMin)[j]!]! := by
  obtain ⟨upa, hs1, _, hc⟩ := mainUpstream_inv ds uparea upaMin
  refine ⟨hs1, fun j hj => ?_, fun j hj i hi hd hne hlt => ?_⟩
  · obtain ⟨⟨hu, ha⟩ | ⟨hu, hdu, hne, ha, hmin, _⟩, hle⟩ := hc j hj
    · exact Or.inl ⟨hu, ha ▸ hle⟩
    · exact Or.inr ⟨hu, hdu, hne, ha ▸ hmin, ha ▸ hle⟩
  · rcases (hc j hj).1 with ⟨hu, _⟩ | ⟨_, _, _, ha, _, hlow⟩
    · exact absurd hu (Nat.ne_of_lt hlt)
    · exact ha ▸ hlow i hi hd hne


-- non-vacuity: cells 1, 2 (area 2 each) flow into 0, cells 3, 4 (area 1 each) into 1; ties go to the
-- lowest index; 5 = missing value
example : mainUpstream #[0,0,0,1,1] #[5,2,2,1,1] 0 = #[1,3,5,5,5] := by decide

/-- soundness of the certificate the harness evaluates on the implementation's `idxs_us_main` -/
theorem isMainArgmax_sound (ds : Array Nat) (uparea : Array Int) (upaMin : Int) (us : Array Nat)
    (h : isMainArgmax ds uparea upaMin us = true) : MainArgmax ds uparea upaMin us := by
  simp only [isMainArgmax, Bool.and_eq_true, List.all_eq_true, List.mem_range] at h
  intro j hj
  have hjj := h.2 j hj
  split at hjj
  · next hn => exact Or.inl ⟨hn, inflow_all_le hjj⟩
  · simp only [Bool.and_eq_true, decide_eq_true_eq] at hjj
    obtain ⟨⟨hin, hmin⟩, hle⟩ := hjj
    obtain ⟨h1, h2, h3⟩ := inflow_iff.1 hin
    exact Or.inr ⟨h1, h2, h3, hmin, inflow_all_le hle⟩


-- the certificate accepts the other tie-break as well, and rejects a non-maximal choice
example : isMainArgmax #[0,0,0,1,1] #[5,2,2,1,1] 0 #[2,4,5,5,5] = true := by decide
example : isMainArgmax #[0,0,0,1,1] #[5,2,3,1,1] 0 #[1,4,5,5,5] = false := by decide

/-- Upstream paths follow the main upstream cell: along a path traced on any valid
main-upstream array (the model's, or an implementation output accepted by the certificate) every
cell is an inflowing cell of its predecessor with the largest upstream area among all inflowing
cells, and all cells are inside the network. -/
theorem path_up_follows_main (ds : Array Nat) (uparea : Array Int) (upaMin : Int) (us : Array Nat)
    (hsz : us.size = ds.size) (hus : MainArgmax ds uparea upaMin us)
    (mask : Option (Array Bool)) (maxLen : Option Int) (step : Nat → Nat → Int) (fuel s : Nat)
    (hs : s < ds.size) (p : List Nat) (d : Int)
    (h : traceFrom us mask maxLen step fuel s = some (p, d)) :
    ∀ k a b, p[k]? = some a → p[k+1]? = some b →
      a < ds.size ∧ b < ds.size ∧ ds[b]! = a ∧ b ≠ a ∧
      ∀ i, i < ds.size → ds[i]! = a → i ≠ a → uparea[i]! ≤ uparea[b]! := by
  obtain ⟨_, _, _, hget, hstep⟩ := trace_prefix _ _ _ _ _ _ _ _ h
  have hstop := (trace_stop _ _ _ _ _ _ _ _ h).2
  -- the walk does not stop at cell `k`, so `us` has an entry there: the second case of `MainArgmax`
  have hnext := fun k hk (hc : iterA us k s < ds.size) =>
    (hus _ hc).resolve_left fun g => (hstop k hk).2.2.1 (hsz ▸ g.1)
  have hrange : ∀ k, k < p.length → iterA us k s < ds.size := by
    intro k
    induction k with
    | zero => exact fun _ => hs
    | succ k ih =>
      intro hk
      rw [iterA_succ']
      exact (hnext k (Nat.lt_sub_of_add_lt hk) (ih (Nat.lt_of_succ_lt hk))).1
  intro k a b ha hb
  have hk1 : k + 1 < p.length := (List.getElem?_eq_some_iff.1 hb).1
  have hk := hrange k (Nat.lt_of_succ_lt hk1)
  have hb' := hstep k a b ha hb
  rw [hget k (Nat.lt_of_succ_lt hk1)] at ha
  cases ha
  subst hb'
  obtain ⟨g1, g2, g3, _, g5⟩ := hnext k (Nat.lt_sub_of_add_lt hk1) hk
  exact ⟨hk, g1, g2, g3, g5⟩


example : traceFrom (mainUpstream #[0,0,0,1,1] #[5,2,2,1,1] 0) none none (stepConst 1) 6 0 =
    some ([0,1,3], 2) := by decide

/-- Termination in the upstream direction, rank form: if some rank strictly increases against
the flow (`rk (ds i) < rk i` for every non-pit cell) and is bounded by `B`, a trace on the
main-upstream array of the model ends within `B + 1` iterations from every cell of the network. -/
theorem trace_total_up (ds : Array Nat) (uparea : Array Int) (upaMin : Int) (rk : Nat → Nat) (B : Nat)
    (hrk : ∀ i, i < ds.size → ds[i]! ≠ i → ds[i]! < ds.size → rk ds[i]! < rk i)
    (hB : ∀ i, i < ds.size → rk i ≤ B)
    (mask : Option (Array Bool)) (maxLen : Option Int) (step : Nat → Nat → Int) (fuel s : Nat)
    (hs : s < ds.size) (hfuel : B < fuel) :
    (traceFrom (mainUpstream ds uparea upaMin) mask maxLen step fuel s).isSome = true := by
  obtain ⟨hsz, hmain, _⟩ := mainUpstream_argmax ds uparea upaMin
  refine trace_total_measure _ (fun c => c < ds.size) (fun c => B - rk c) ?_ mask maxLen step fuel s hs
    (Nat.lt_of_le_of_lt (Nat.sub_le _ _) hfuel)
  intro c hc _ h2
  obtain ⟨a, b, c', _⟩ := (hmain c hc).resolve_left fun g => h2 (hsz ▸ g.1)
  have h3 := hrk _ a (by rw [b]; exact Ne.symm c') (by rw [b]; exact hc)
  rw [b] at h3
  exact ⟨a, Nat.sub_lt_sub_left (Nat.lt_of_lt_of_le h3 (hB _ a)) h3⟩

/-- loop-free networks, upstream direction: if a downstream-first order `seq` contains every valid
cell, the upstream trace ends within `seq.length + 1` iterations. -/
theorem trace_total_up_topo (ds : Array Nat) (seq : List Nat) (htopo : Topo ds seq)
    (hall : ∀ i, i < ds.size → ds[i]! < ds.size → i ∈ seq)
    (uparea : Array Int) (upaMin : Int)
    (mask : Option (Array Bool)) (maxLen : Option Int) (step : Nat → Nat → Int) (fuel s : Nat)
    (hs : s < ds.size) (hfuel : seq.length < fuel) :
    (traceFrom (mainUpstream ds uparea upaMin) mask maxLen step fuel s).isSome = true := by
  refine trace_total_up ds uparea upaMin (fun i => seq.idxOf i) seq.length ?_ (fun i _ => List.idxOf_le_length)
    mask maxLen step fuel s hs hfuel
  intro i hi hne hlt
  exact htopo.idxOf_lt i (hall i hi hlt) hne

/-! ## 4. step lengths -/

/-- Projected grids: when the model's integer square root is exact (the harness' Pythagorean
cell sizes), the step length is the non-negative number whose square is
`(yres·|Δrow|)² + (xres·|Δcol|)²` — the Euclidean distance between the two cell centres. -/
theorem distProj_exact (ncol : Nat) (xres yres : Int) (i j : Nat)
    (h : distProjExact ncol xres yres i j = true) :
    0 ≤ distProj ncol xres yres i j ∧
    distProj ncol xres yres i j * distProj ncol xres yres i j =
      (yres * (absDiff_c11 (i / ncol) (j / ncol) : Nat)) * (yres * (absDiff_c11 (i / ncol) (j / ncol) : Nat)) +
      (xres * (absDiff_c11 (i % ncol) (j % ncol) : Nat)) * (xres * (absDiff_c11 (i % ncol) (j % ncol) : Nat)) := by
  simp only [distProjExact, beq_iff_eq] at h
  refine ⟨by simp [distProj], ?_⟩
  unfold distProj
  have hnn : 0 ≤ (yres * (absDiff_c11 (i / ncol) (j / ncol) : Nat)) * (yres * (absDiff_c11 (i / ncol) (j / ncol) : Nat)) +
      (xres * (absDiff_c11 (i % ncol) (j % ncol) : Nat)) * (xres * (absDiff_c11 (i % ncol) (j % ncol) : Nat)) :=
    Int.add_nonneg (int_mul_self_nonneg _) (int_mul_self_nonneg _)
  have hsq : ((distProjSq ncol xres yres i j : Nat) : Int) = _ := Int.toNat_of_nonneg hnn
  rw [← hsq]; exact_mod_cast h


-- non-vacuity: 3 x 4 cells (scaled by 4): east-west 12, north-south 16, diagonal 20; a path on a
-- 3-column raster 8 → 7 → 4 → 0 has length 12 + 16 + 20 = 48, max_length exactly 48 is reached
example : distProj 3 12 (-16) 0 1 = 12 ∧ distProj 3 12 (-16) 0 3 = 16 ∧ distProj 3 12 (-16) 0 4 = 20 ∧
    distProjExact 3 12 (-16) 0 4 = true := by decide +kernel
example : traceFrom #[0,0,1,2,0,4,7,4,7] none (some 48) (distProj 3 12 (-16)) 9 8 =
    some ([8,7,4,0], 48) := by decide +kernel
example : traceFrom #[0,0,1,2,0,4,7,4,7] none (some 47) (distProj 3 12 (-16)) 9 8 =
    some ([8,7,4], 28) := by decide +kernel

/-! ## 5. starting points given as coordinates (`xy_start`) -/

/-- The index of a point is the cell containing it (unrotated transform, both signs of the cell
sizes): `coords_to_idxs` returns `r * ncol + c` iff the point lies in column interval `c` and row
interval `r` of the raster, and raises (`none`) iff it lies in no cell of the raster. -/
theorem cellOf_iff (nrow ncol : Nat) (x0 y0 xres yres x y : Int) (hx : xres ≠ 0) (hy : yres ≠ 0) (i : Nat) :
    cellOf nrow ncol x0 y0 xres yres x y = some i ↔
      ∃ r c, r < nrow ∧ c < ncol ∧ i = r * ncol + c ∧ InCell x0 xres c x ∧ InCell y0 yres r y := by
  unfold cellOf
  constructor
  · intro h
    dsimp only at h
    split at h
    · next hc =>
      obtain ⟨h1, h2, h3, h4⟩ := hc
      cases h
      exact ⟨_, _, (Int.toNat_lt h1).2 h2, (Int.toNat_lt h3).2 h4, rfl, (floorDiv_eq_iff_inCell hx _).1 (Int.toNat_of_nonneg h3).symm,
        (floorDiv_eq_iff_inCell hy _).1 (Int.toNat_of_nonneg h1).symm⟩
    · cases h
  · rintro ⟨r, c, hr, hc, rfl, hcx, hry⟩
    dsimp only
    rw [(floorDiv_eq_iff_inCell hx c).2 hcx, (floorDiv_eq_iff_inCell hy r).2 hry,
      if_pos ⟨Int.natCast_nonneg r, Int.ofNat_lt.2 hr, Int.natCast_nonneg c, Int.ofNat_lt.2 hc⟩,
      Int.toNat_natCast, Int.toNat_natCast]


-- non-vacuity: 3 x 4 raster, origin (10, 20), cells 2 wide and 3 high (north-up); the upper and left
-- edges belong to the cell, points right of the raster raise
example : cellOf 3 4 10 20 2 (-3) 15 15 = some 6 ∧ cellOf 3 4 10 20 2 (-3) 15 14 = some 10 ∧
    cellOf 3 4 10 20 2 (-3) 18 14 = none := by decide
example : InCell 10 2 2 15 ∧ InCell 20 (-3) 1 15 := by decide

/-- A trace (the loop behind both path and snap) requested for a point behaves as the one requested for the cell
containing the point. -/
theorem xy_start (nrow ncol : Nat) (x0 y0 xres yres x y : Int) (hx : xres ≠ 0) (hy : yres ≠ 0)
    (r c : Nat) (hr : r < nrow) (hc : c < ncol) (hcx : InCell x0 xres c x) (hry : InCell y0 yres r y)
    (nxt : Array Nat) (mask : Option (Array Bool)) (maxLen : Option Int) (step : Nat → Nat → Int) (fuel : Nat) :
    traceXY nrow ncol x0 y0 xres yres x y nxt mask maxLen step fuel =
      some (traceFrom nxt mask maxLen step fuel (r * ncol + c)) := by
  unfold traceXY
  rw [(cellOf_iff nrow ncol x0 y0 xres yres x y hx hy (r * ncol + c)).2 ⟨r, c, hr, hc, rfl, hcx, hry⟩]
  rfl

end Pf.C11
