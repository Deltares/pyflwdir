import PfVerif.Proofs.C03_ext
import PfVerif.Proofs.C03RankAlg
import PfVerif.Props.C01
/-! # C03 extension — construction and persistence of network objects

Models (`Model/C03_ext.lean`, namespace `Pf.C03x`): `getLocIdx` = `flwdir.get_loc_idx`, `fromDataframe` =
`flwdir.from_dataframe`, `mvSel` = `Flwdir._mv`, `selectDtype` = the index dtype chosen by
`pyflwdir.from_array`, `ctorVec` / `ctorRaster` = `Flwdir.__init__` / `FlwdirRaster.__init__`,
`Obj.mask`, `Obj.nUpstream`, `Obj.getitem`, `Obj.idxsPit`, `Obj.nnodesP` = the properties of the same name,
`fromArray` = `pyflwdir.from_array` up to the constructed object (with `idxs_outlet`), `dictOf` = `_dict`,
`load` = `Flwdir.load` / `FlwdirRaster.load` (`pickle` is the identity).

Every theorem quantifies over all inputs: any number of rows, any ids, any network, any raster shape. -/
namespace Pf.C03x
open Pf Pf.Fd Pf.Fd.Spec

/-! ## 1. `get_loc_idx` / `from_dataframe` -/

/-- the executable distinctness test reported by the driver is the hypothesis `Distinct` -/
theorem distinctB_iff (ids : Array Int) : distinctB ids = true ↔ Distinct ids := by
  simp only [distinctB, List.all_eq_true, List.mem_range, Bool.or_eq_true, Bool.not_eq_true',
    beq_eq_false_iff_ne, ne_eq, beq_iff_eq, Distinct]
  exact ⟨fun h i j hi hj he => (h i hi j hj).resolve_left (fun h1 => h1 he),
    fun h i hi j hj => Decidable.or_iff_not_imp_left.2 fun he => h i j hi hj (Decidable.not_not.1 he)⟩

/-- `get_loc_idx` is the declarative row lookup: for an index column and a downstream-id column of
the same length, row `i` of the result is the (last) row holding the downstream id of row `i`, and `i`
itself when no row holds it. No hypothesis on the ids. -/
theorem getLocIdx_eq_spec (ids dsids : Array Int) (h : dsids.size = ids.size) :
    getLocIdx ids dsids = specLocIdx ids dsids := by
  unfold getLocIdx specLocIdx
  simp only [h]
  rw [foldl_set_range (fun i => dictGet (idxMap ids) dsids[i]! i) ids.size _ (by simp)]
  congr 1
  apply List.map_congr_left
  intro i _
  exact dictGet_idxMap ids _ i

/-- the result is a well-formed network without missing cells: one entry per row, every entry is a
row number, hence `WF` (the hypothesis of every C03 theorem) holds — for distinct ids and, in fact, for
any ids. -/
theorem getLocIdx_wf (ids dsids : Array Int) (h : dsids.size = ids.size) :
    (getLocIdx ids dsids).size = ids.size ∧
    (∀ i, i < ids.size → (getLocIdx ids dsids)[i]! < ids.size) ∧
    WF (getLocIdx ids dsids) := by
  rw [getLocIdx_eq_spec ids dsids h]
  have hlt : ∀ i, i < ids.size → (specLocIdx ids dsids)[i]! < ids.size := by
    intro i hi
    rw [specLocIdx_get ids dsids i hi]
    cases hr : rowOf ids dsids[i]! with
    | none => simpa using hi
    | some j => simpa using (rowOf_some hr).1
  refine ⟨specLocIdx_size ids dsids, hlt, ?_⟩
  intro i hi
  rw [specLocIdx_size] at hi ⊢
  exact ⟨Nat.le_of_lt (hlt i hi), fun hl => hlt _ hl⟩

/-- each link points to the row holding the downstream id; rows whose downstream id is absent are
pits (ids pairwise distinct, as in a dataframe index). -/
theorem getLocIdx_link (ids dsids : Array Int) (hd : Distinct ids) (h : dsids.size = ids.size)
    (i : Nat) (hi : i < ids.size) :
    (∀ j, j < ids.size → ids[j]! = dsids[i]! → (getLocIdx ids dsids)[i]! = j) ∧
    ((∀ j, j < ids.size → ids[j]! ≠ dsids[i]!) → (getLocIdx ids dsids)[i]! = i) := by
  rw [getLocIdx_eq_spec ids dsids h, specLocIdx_get ids dsids i hi]
  constructor
  · intro j hj he
    cases hr : rowOf ids dsids[i]! with
    | none => exact absurd he (rowOf_none hr j hj)
    | some j' =>
      obtain ⟨h1, h2, _⟩ := rowOf_some hr
      simpa using hd j' j h1 hj (by rw [h2, he])
  · intro hn
    cases hr : rowOf ids dsids[i]! with
    | none => rfl
    | some j' =>
      obtain ⟨h1, h2, _⟩ := rowOf_some hr
      exact absurd h2 (hn j' h1)

/-- row `i` is a pit iff its downstream id is its own id or is held by
no row -/
theorem getLocIdx_pit_iff (ids dsids : Array Int) (hd : Distinct ids) (h : dsids.size = ids.size)
    (i : Nat) (hi : i < ids.size) :
    (getLocIdx ids dsids)[i]! = i ↔ (dsids[i]! = ids[i]! ∨ ∀ j, j < ids.size → ids[j]! ≠ dsids[i]!) := by
  obtain ⟨h1, h2⟩ := getLocIdx_link ids dsids hd h i hi
  constructor
  · intro he
    by_cases hex : ∃ j, j < ids.size ∧ ids[j]! = dsids[i]!
    · obtain ⟨j, hj, hje⟩ := hex
      have := h1 j hj hje
      rw [he] at this
      subst this
      exact Or.inl hje.symm
    · exact Or.inr fun j hj hje => hex ⟨j, hj, hje⟩
  · rintro (he | hn)
    · exact h1 i hi he.symm
    · exact h2 hn

/-- without distinctness the dictionary keeps the last row of a repeated id -/
theorem getLocIdx_last (ids dsids : Array Int) (h : dsids.size = ids.size) (i : Nat) (hi : i < ids.size)
    (j : Nat) (hj : j < ids.size) (he : ids[j]! = dsids[i]!) :
    ids[(getLocIdx ids dsids)[i]!]! = dsids[i]! ∧ j ≤ (getLocIdx ids dsids)[i]! := by
  rw [getLocIdx_eq_spec ids dsids h, specLocIdx_get ids dsids i hi]
  cases hr : rowOf ids dsids[i]! with
  | none => exact absurd he (rowOf_none hr j hj)
  | some j' =>
    obtain ⟨_, h2, h3⟩ := rowOf_some hr
    exact ⟨by simpa using h2, by simpa using h3 j hj he⟩

-- the example of tests/test_flwdir.py: the first downstream id (15442) is absent, the last row names itself
example : getLocIdx #[13924, 15144, 10043, 432, 7684, 6379, 6401, 3650, 2725, 95, 147, 7777]
    #[15442, 13924, 13924, 10043, 10043, 7684, 7684, 6401, 6401, 2725, 2725, 7777] =
    #[0, 0, 0, 2, 2, 4, 4, 6, 6, 8, 8, 11] := by decide +kernel
example : distinctB #[13924, 15144, 10043, 432, 7684, 6379, 6401, 3650, 2725, 95, 147, 7777] = true := by
  decide +kernel
example : getLocIdx #[5, 7, 5, 9] #[7, 5, 9, 100] = #[1, 2, 3, 3] ∧ distinctB #[5, 7, 5, 9] = false := by
  decide +kernel

/-! ## 2. the missing-value sentinel and the index dtype -/

/-- `_mv` is `-1` on signed, `2^32-1` on `uint32`, `2^64-1` on `uint64` networks -/
theorem mvSel_values :
    mvSel .i32 = -1 ∧ mvSel .i64 = -1 ∧ mvSel .u32 = 4294967295 ∧ mvSel .u64 = 18446744073709551615 := by
  decide

/-- `_mv` is the value the decoders store in cells outside the network: `np.full(n, core._mv, dtype)`
stores `-1` cast to the dtype, and that is `_mv` for each of the four index dtypes -/
theorem mvSel_eq_cast (d : Dtype) : mvSel d = castTo d coreMv := by
  cases d <;> decide

/-- largest value of each index dtype -/
theorem maxVal_values :
    Dtype.maxVal .i32 = 2147483647 ∧ Dtype.maxVal .i64 = 9223372036854775807 ∧
    Dtype.maxVal .u32 = 4294967295 ∧ Dtype.maxVal .u64 = 18446744073709551615 := by
  decide

/-- the sentinel is never a cell index of an array the dtype can index: it is negative or the largest value -/
theorem mvSel_not_index (d : Dtype) (n : Nat) (hn : (n : Int) ≤ d.maxVal) (i : Nat) (hi : i < n) :
    (i : Int) ≠ mvSel d := by
  rcases mvSel_cases d with h | h <;> rw [h] <;> omega

/-- dtype selection of `from_array`: for every raster size `n < 2^64` the selected dtype stores every
cell index `0 … n-1`, its sentinel is not one of them, and `int32` is chosen exactly below `2^31 - 1` cells,
`uint32` exactly from there up to below `2^32 - 2`. -/
theorem selectDtype_fits (n : Nat) (hn : n < 18446744073709551616) :
    (∀ i, i < n → (0 : Int) ≤ i ∧ (i : Int) ≤ (selectDtype n).maxVal ∧ (i : Int) ≠ mvSel (selectDtype n)) ∧
    (selectDtype n = .i32 ↔ n < 2147483647) ∧
    (selectDtype n = .u32 ↔ 2147483647 ≤ n ∧ n < 4294967294) := by
  have hle := selectDtype_le_maxVal n hn
  refine ⟨fun i hi => ⟨Int.natCast_nonneg i, by omega, mvSel_not_index _ n hle i hi⟩, ?_, ?_⟩ <;>
    unfold selectDtype
  · by_cases h1 : n < 2147483647
    · rw [if_pos h1]; exact ⟨fun _ => h1, fun _ => rfl⟩
    · rw [if_neg h1]
      refine ⟨fun h => ?_, fun h => absurd h h1⟩
      split at h <;> cases h
  · by_cases h1 : n < 2147483647
    · rw [if_pos h1]; exact ⟨(fun h => nomatch h), fun h => absurd h1 (Nat.not_lt.2 h.1)⟩
    · rw [if_neg h1]
      by_cases h2 : n < 4294967294
      · rw [if_pos h2]; exact ⟨fun _ => ⟨Nat.le_of_not_lt h1, h2⟩, fun _ => rfl⟩
      · rw [if_neg h2]; exact ⟨(fun h => nomatch h), fun h => absurd h.2 h2⟩

/-- `mask` on the machine array = "cell of the canonical network": on every raw index array whose
entries are cell indices or the dtype's sentinel, `idxs_ds != _mv` is true exactly where the canonical
network (sentinel ↦ `n`, the convention of every other theorem) has a cell, and there the canonical entry
is the raw index. -/
theorem mask_canon (d : Dtype) (raw : Array Int) (hok : RawOK d raw) :
    (maskRaw d raw).size = raw.size ∧ (canon d raw).size = raw.size ∧
    ∀ i, i < raw.size →
      ((maskRaw d raw)[i]! = true ↔ (canon d raw)[i]! ≠ raw.size) ∧
      ((maskRaw d raw)[i]! = true → ((canon d raw)[i]! : Int) = raw[i]! ∧ (canon d raw)[i]! < raw.size) := by
  refine ⟨maskRaw_size d raw, canon_size d raw, fun i hi => ?_⟩
  rw [maskRaw_get d raw i hi, canon_get d raw i hi, bne_iff_ne]
  by_cases hm : raw[i]! = mvSel d
  · rw [if_pos hm]
    exact ⟨⟨fun h => absurd hm h, fun h => absurd rfl h⟩, fun h => absurd hm h⟩
  · rw [if_neg hm]
    obtain ⟨h0, h1⟩ := (hok i hi).resolve_left hm
    have ht : (raw[i]!.toNat : Int) = raw[i]! := Int.toNat_of_nonneg h0
    have hlt : raw[i]!.toNat < raw.size := by omega
    exact ⟨⟨fun _ => Nat.ne_of_lt hlt, fun _ => hm⟩, fun _ => ⟨ht, hlt⟩⟩

theorem rawOKB_iff (d : Dtype) (raw : Array Int) : rawOKB d raw = true ↔ RawOK d raw := by
  simp [rawOKB, RawOK]

example : canon .u32 #[1, 1, 4294967295, 0] = #[1, 1, 4, 0] ∧ maskRaw .u32 #[1, 1, 4294967295, 0] = #[true, true, false, true] ∧
    rawOKB .u32 #[1, 1, 4294967295, 0] = true := by decide +kernel
example : selectDtype 2147483646 = .i32 ∧ selectDtype 2147483647 = .u32 ∧ selectDtype 4294967293 = .u32 ∧
    selectDtype 4294967294 = .u64 := by decide

/-! ## 3. constructors and simple properties -/

/-- `Flwdir.__init__` in closed form -/
theorem ctorVec_eq (dtype : Dtype) (ds : Array Nat) (pit outlet seq : Option (List Nat)) (nnodes : Option Nat)
    (cache : Bool) :
    ctorVec dtype ds pit outlet seq nnodes cache =
      if ds.size ≤ 1 then .error "ValueError"
      else if (pit.getD (pitIndices ds)).length = 0 then .error "ValueError"
      else .ok { dtype := dtype, ds := ds, pit := some (pit.getD (pitIndices ds)), outlet := outlet, seq := seq,
                 nnodes := nnodes, cache := cache, rast := none } :=
  ctorVec_closed dtype ds pit outlet seq nnodes cache

/-- every exception of the two constructors on modelled arguments is a `ValueError`
(7-9 transform coefficients are left to the `affine` package: "unmodelled") -/
theorem ctorVec_error {dtype : Dtype} {ds : Array Nat} {pit outlet seq : Option (List Nat)} {nnodes : Option Nat}
    {cache : Bool} {e : String} (h : ctorVec dtype ds pit outlet seq nnodes cache = .error e) : e = "ValueError" := by
  rw [ctorVec_eq] at h
  split at h
  · cases h; rfl
  · split at h <;> cases h
    rfl

/-- `Flwdir(...)` succeeds iff the array has at least two entries and there is a pit: a non-empty
`idxs_pit` argument, or - when none is given - a self-draining cell. -/
theorem ctorVec_ok_iff (dtype : Dtype) (ds : Array Nat) (pit outlet seq : Option (List Nat)) (nnodes : Option Nat)
    (cache : Bool) :
    (∃ o, ctorVec dtype ds pit outlet seq nnodes cache = .ok o) ↔
      (1 < ds.size ∧ match pit with
        | some p => p ≠ []
        | none => ∃ i, i < ds.size ∧ ds[i]! = i) := by
  have hp : pit.getD (pitIndices ds) ≠ [] ↔
      (match pit with
        | some p => p ≠ []
        | none => ∃ i, i < ds.size ∧ ds[i]! = i) := by
    cases pit with
    | some p => exact Iff.rfl
    | none => exact pitIndices_ne_nil_iff ds
  constructor
  · rintro ⟨o, ho⟩
    obtain ⟨h1, h2, _⟩ := ctorVec_ok.1 ho
    exact ⟨h1, hp.1 h2⟩
  · rintro ⟨h1, h2⟩
    exact ⟨_, ctorVec_ok.2 ⟨h1, hp.2 h2, rfl⟩⟩

/-- a successfully constructed object stores its arguments unchanged, `idxs_pit` being the given array or
the self-draining cells in increasing order -/
theorem ctorVec_fields {dtype : Dtype} {ds : Array Nat} {pit outlet seq : Option (List Nat)} {nnodes : Option Nat}
    {cache : Bool} {o : Obj} (h : ctorVec dtype ds pit outlet seq nnodes cache = .ok o) :
    o.dtype = dtype ∧ o.ds = ds ∧ o.outlet = outlet ∧ o.seq = seq ∧ o.nnodes = nnodes ∧ o.cache = cache ∧
    o.rast = none ∧ o.pit = some (pit.getD (pitIndices ds)) ∧ o.idxsPit = pit.getD (pitIndices ds) ∧
    o.idxsPit ≠ [] ∧ 1 < o.ds.size := by
  obtain ⟨h1, h2, rfl⟩ := ctorVec_ok.1 h
  exact ⟨rfl, rfl, rfl, rfl, rfl, rfl, rfl, rfl, rfl, h2, h1⟩

/-- `FlwdirRaster(...)` succeeds iff `Flwdir(...)` does, the type name is one of d8 / ldd / nextxy, the
shape has exactly two entries whose product (in `uint64`) is the array size, and the transform has six
coefficients (`transform.size ∈ {7, 8, 9}` is outside the model). Everything else is a `ValueError`. -/
theorem ctorRaster_ok_iff (dtype : Dtype) (ds : Array Nat) (shape : List Nat) (ftype : Option Ftype)
    (pit outlet seq : Option (List Nat)) (nnodes : Option Nat) (transform : Array Int) (latlon cache : Bool) :
    (∃ o, ctorRaster dtype ds shape ftype pit outlet seq nnodes transform latlon cache = .ok o) ↔
      ((∃ o, ctorVec dtype ds pit outlet seq nnodes cache = .ok o) ∧ ftype.isSome = true ∧
       (∃ nrow ncol, shape = [nrow, ncol] ∧ (nrow * ncol) % 2 ^ 64 = ds.size) ∧ transform.size = 6) := by
  constructor
  · rintro ⟨o, ho⟩
    obtain ⟨o1, ft, nrow, ncol, hv, rfl, rfl, hs, ht, _⟩ := ctorRaster_ok.1 ho
    exact ⟨⟨o1, hv⟩, rfl, ⟨nrow, ncol, rfl, hs⟩, ht⟩
  · rintro ⟨⟨o1, hv⟩, hf, ⟨nrow, ncol, rfl, hs⟩, ht⟩
    obtain ⟨ft, rfl⟩ := Option.isSome_iff_exists.1 hf
    exact ⟨_, ctorRaster_ok.2 ⟨o1, ft, nrow, ncol, hv, rfl, rfl, hs, ht, rfl⟩⟩

/-- a shape that is not 2-D is rejected with `ValueError` whenever the vector part and the type name are fine -/
theorem ctorRaster_bad_shape (dtype : Dtype) (ds : Array Nat) (shape : List Nat) (ft : Ftype)
    (pit outlet seq : Option (List Nat)) (nnodes : Option Nat) (transform : Array Int) (latlon cache : Bool)
    (hv : ∃ o, ctorVec dtype ds pit outlet seq nnodes cache = .ok o) (hs : shape.length ≠ 2) :
    ctorRaster dtype ds shape (some ft) pit outlet seq nnodes transform latlon cache = .error "ValueError" := by
  obtain ⟨o, ho⟩ := hv
  unfold ctorRaster
  rw [ho]
  match shape, hs with
  | [], _ => rfl
  | [_], _ => rfl
  | _ :: _ :: _ :: _, _ => rfl
  | [_, _], hs => exact absurd rfl hs

/-- a successfully constructed raster object stores its arguments unchanged and satisfies the object invariant -/
theorem ctorRaster_fields {dtype : Dtype} {ds : Array Nat} {shape : List Nat} {ftype : Option Ftype}
    {pit outlet seq : Option (List Nat)} {nnodes : Option Nat} {transform : Array Int} {latlon cache : Bool} {o : Obj}
    (h : ctorRaster dtype ds shape ftype pit outlet seq nnodes transform latlon cache = .ok o) :
    o.dtype = dtype ∧ o.ds = ds ∧ o.outlet = outlet ∧ o.seq = seq ∧ o.nnodes = nnodes ∧ o.cache = cache ∧
    o.pit = some (pit.getD (pitIndices ds)) ∧ o.idxsPit = pit.getD (pitIndices ds) ∧
    (∃ ft nrow ncol, ftype = some ft ∧ shape = [nrow, ncol] ∧
      o.rast = some { shape := (nrow, ncol), ftype := ft, transform := transform, latlon := latlon }) ∧ o.Inv := by
  obtain ⟨o1, ft, nrow, ncol, hv, rfl, rfl, hs, ht, rfl⟩ := ctorRaster_ok.1 h
  obtain ⟨h1, h2, rfl⟩ := ctorVec_ok.1 hv
  exact ⟨rfl, rfl, rfl, rfl, rfl, rfl, rfl, rfl, ⟨ft, nrow, ncol, rfl, rfl, rfl⟩,
    h1, ⟨_, rfl, h2⟩, fun r hr => by cases hr; exact hs, fun r hr => by cases hr; exact ht⟩

theorem ctorVec_inv {dtype : Dtype} {ds : Array Nat} {pit outlet seq : Option (List Nat)} {nnodes : Option Nat}
    {cache : Bool} {o : Obj} (h : ctorVec dtype ds pit outlet seq nnodes cache = .ok o) : o.Inv := by
  obtain ⟨h1, h2, rfl⟩ := ctorVec_ok.1 h
  exact ⟨h1, ⟨_, rfl, h2⟩, (fun r hr => nomatch hr), (fun r hr => nomatch hr)⟩

/-- when no `idxs_pit` is given the object's pits are exactly the self-draining cells -/
theorem idxsPit_default {dtype : Dtype} {ds : Array Nat} {outlet seq : Option (List Nat)} {nnodes : Option Nat}
    {cache : Bool} {o : Obj} (h : ctorVec dtype ds none outlet seq nnodes cache = .ok o) (p : Nat) :
    p ∈ o.idxsPit ↔ (p < ds.size ∧ ds[p]! = p) := by
  obtain ⟨_, _, rfl⟩ := ctorVec_ok.1 h
  exact mem_pitIndices ds p

/-- `mask`: one flag per cell, true exactly on the cells of the network -/
theorem mask_iff (o : Obj) : o.mask.size = o.ds.size ∧ ∀ i, i < o.ds.size → (o.mask[i]! = true ↔ o.ds[i]! ≠ o.ds.size) := by
  refine ⟨by simp [Obj.mask], fun i hi => ?_⟩
  simp [Obj.mask, hi]

/-- `n_upstream`: on a well-formed network the entry of a cell of the network is the number of other
cells draining directly into it; cells outside the network carry `-9` -/
theorem nUpstream_spec (o : Obj) (hwf : WF o.ds) (v : Nat) (hv : v < o.ds.size) :
    o.nUpstream[v]! = specNup o.ds v ∧
    (o.ds[v]! = o.ds.size → o.nUpstream[v]! = -9) ∧
    (o.ds[v]! ≠ o.ds.size →
      o.nUpstream[v]! = (((List.range o.ds.size).filter fun j => o.ds[j]! == v && j != v).length : Int)) := by
  have h := nUpstream_get o.ds hwf v hv
  exact ⟨h, fun hm => h.trans (if_pos hm), fun hm => h.trans (if_neg hm)⟩

/-- `__getitem__`: `flw[idx]` is the downstream entry of cell `idx` (`n` = missing); a negative index
counts from the end; anything else is an `IndexError` -/
theorem getitem_spec (o : Obj) (idx : Int) :
    (0 ≤ idx → idx < o.ds.size → o.getitem idx = .ok o.ds[idx.toNat]!) ∧
    (idx < 0 → -(o.ds.size : Int) ≤ idx → o.getitem idx = .ok o.ds[(idx + o.ds.size).toNat]!) ∧
    (idx < -(o.ds.size : Int) ∨ (o.ds.size : Int) ≤ idx → o.getitem idx = .error "IndexError") := by
  unfold Obj.getitem
  dsimp only
  refine ⟨fun h0 h1 => if_pos ⟨h0, h1⟩, fun h0 h1 => ?_, fun h => ?_⟩
  · rw [if_neg fun h => Int.not_le.2 h0 h.1, if_pos ⟨h1, h0⟩]
  · rw [if_neg (by omega), if_neg (by omega)]

/-- `from_dataframe` builds the network of `get_loc_idx` iff there are at least two rows and at least
one pit row; all rows are cells of the network and the pits are the rows that point to themselves -/
theorem fromDataframe_ok_iff (dtype : Dtype) (ids dsids : Array Int) (h : dsids.size = ids.size) :
    (∃ o, fromDataframe dtype ids dsids = .ok o) ↔
      (1 < ids.size ∧ ∃ i, i < ids.size ∧ (getLocIdx ids dsids)[i]! = i) := by
  unfold fromDataframe
  rw [ctorVec_ok_iff]
  simp only [(getLocIdx_wf ids dsids h).1]

theorem fromDataframe_fields {dtype : Dtype} {ids dsids : Array Int} {o : Obj} (h : dsids.size = ids.size)
    (ho : fromDataframe dtype ids dsids = .ok o) :
    o.ds = getLocIdx ids dsids ∧ WF o.ds ∧ (∀ i, i < o.ds.size → o.mask[i]! = true) ∧
    (∀ p, p ∈ o.idxsPit ↔ (p < ids.size ∧ (getLocIdx ids dsids)[p]! = p)) ∧ o.Inv := by
  obtain ⟨_, f2, _⟩ := ctorVec_fields ho
  obtain ⟨w1, w2, w3⟩ := getLocIdx_wf ids dsids h
  refine ⟨f2, by rw [f2]; exact w3, ?_, ?_, ctorVec_inv ho⟩
  · intro i hi
    rw [(mask_iff o).2 i hi, f2, w1]
    rw [f2, w1] at hi
    exact Nat.ne_of_lt (w2 i hi)
  · intro p
    rw [idxsPit_default ho p, w1]

example : (fromDataframe .i64 #[10, 20, 30] #[20, 99, 20]).toOption.map (fun o => (o.ds, o.idxsPit)) =
    some (#[1, 1, 1], [1]) := by decide +kernel
example : (fromDataframe .i64 #[10, 20] #[20, 10]).toOption = none := by decide +kernel   -- a 2-cycle: no pit
example : (ctorRaster .i32 #[1, 5, 6, 1, 4, 5] [2, 3] (some .d8) none none none none #[1, 0, 0, 0, -1, 0] false true).toOption.map
    (fun o => (o.idxsPit, o.mask, o.nUpstream)) =
    some ([4, 5], #[true, true, false, true, true, true], #[0, 2, -9, 0, 0, 1]) := by decide +kernel
example : (ctorRaster .i32 #[1, 5, 6, 1, 4, 5] [3, 3] (some .d8) none none none none #[1, 0, 0, 0, -1, 0] false true).toOption = none ∧
    (ctorRaster .i32 #[1, 5, 6, 1, 4, 5] [2, 3] none none none none none #[1, 0, 0, 0, -1, 0] false true).toOption = none ∧
    (ctorRaster .i32 #[1, 0, 6, 1, 0, 1] [2, 3] (some .d8) none none none none #[1, 0, 0, 0, -1, 0] false true).toOption = none ∧
    (ctorRaster .i32 #[0] [1, 1] (some .d8) none none none none #[1, 0, 0, 0, -1, 0] false true).toOption = none ∧
    (ctorRaster .i32 #[1, 5, 6, 1, 4, 5] [6] (some .d8) none none none none #[1, 0, 0, 0, -1, 0] false true).toOption = none ∧
    (ctorRaster .i32 #[1, 5, 6, 1, 4, 5] [1, 2, 3] (some .d8) none none none none #[1, 0, 0, 0, -1, 0] false true).toOption = none := by
  decide +kernel

/-! ## 4. `idxs_outlet` as computed by `pyflwdir.from_array` -/

/-- D8 outlets: for every shape and every raster over the D8 alphabet (masked cells are nodata cells of
that raster), `idxs_pit[np.isin(data.flat[idxs_pit], _pv)]` is exactly the list of cells carrying a pit code
(0 or 255), in increasing order; the pits that are *not* outlets are exactly the cells whose direction code
points off the raster or into a nodata cell. -/
theorem d8_outlets (nrow ncol : Nat) (codes : Array Nat) (hlegal : ∀ i, i < nrow * ncol → codes[i]! ∈ d8Alphabet) :
    let d := fromArrayD8 nrow ncol codes
    let out := outletsOf .d8 (.u8 nrow ncol codes) d.pits
    out = specOutlets nrow ncol (readD8 ncol codes) ∧
    (∀ i, i ∈ out → i ∈ d.pits.toList) ∧
    d.pits.toList.filter (fun i => !out.contains i) = specEdgePits nrow ncol (readD8 ncol codes) := by
  intro d out
  exact outlets_of_decode .d8 _ nrow ncol _ d.pits (C01.d8_decode nrow ncol codes hlegal).2.1 fun i _ =>
    List.contains_iff_mem.trans (readTab_eq_pit_iff d8Dirs d8Pits d8Nodata ncol codes i (by decide)).symm

/-- LDD outlets: the cells carrying the pit code 5 -/
theorem ldd_outlets (nrow ncol : Nat) (codes : Array Nat) (hlegal : ∀ i, i < nrow * ncol → codes[i]! ∈ lddAlphabet) :
    let d := fromArrayLdd nrow ncol codes
    let out := outletsOf .ldd (.u8 nrow ncol codes) d.pits
    out = specOutlets nrow ncol (readLdd ncol codes) ∧
    (∀ i, i ∈ out → i ∈ d.pits.toList) ∧
    d.pits.toList.filter (fun i => !out.contains i) = specEdgePits nrow ncol (readLdd ncol codes) := by
  intro d out
  exact outlets_of_decode .ldd _ nrow ncol _ d.pits (C01.ldd_decode nrow ncol codes hlegal).2.1 fun i _ =>
    List.contains_iff_mem.trans (readTab_eq_pit_iff lddDirs lddPits lddNodata ncol codes i (by decide)).symm

/-- NEXTXY outlets (no legality hypothesis): the cells whose `nextx` is -9 or -10. A cell that designates
itself, a target off the raster or in nodata, or a pit code in `nexty` only, gives a pit that is not an outlet. -/
theorem nextxy_outlets (nrow ncol : Nat) (xs ys : Array Int) :
    let d := fromArrayXY nrow ncol xs ys
    let out := outletsOf .nextxy (.xy nrow ncol xs ys) d.pits
    out = specOutlets nrow ncol (readXY xs ys) ∧
    (∀ i, i ∈ out → i ∈ d.pits.toList) ∧
    d.pits.toList.filter (fun i => !out.contains i) = specEdgePits nrow ncol (readXY xs ys) := by
  intro d out
  refine outlets_of_decode .nextxy _ nrow ncol _ d.pits (C01.nextxy_decode nrow ncol xs ys).2.1 fun i _ => ?_
  rw [readXY_eq_pit_iff]
  simp [isPvAt, xyPv0, xyPv1, xyPits]

/-- outlets under a user mask (`data = np.where(mask != 0, data, _mv)` before decoding): the outlets are
exactly the *visible* cells carrying a pit code - a masked-out outlet disappears, and a cell that drained into
a masked-out cell becomes a pit but not an outlet. D8 / LDD / NEXTXY. -/
theorem d8_outlets_masked (nrow ncol : Nat) (codes : Array Nat) (mask : Array Bool)
    (hsize : codes.size = nrow * ncol) (hlegal : ∀ i, i < nrow * ncol → codes[i]! ∈ d8Alphabet) :
    let codes' := applyMask d8Mv mask codes
    outletsOf .d8 (.u8 nrow ncol codes') (fromArrayD8 nrow ncol codes').pits =
      specOutlets nrow ncol (maskRead (fun i => mask[i]!) (readD8 ncol codes)) := by
  intro codes'
  rw [(d8_outlets nrow ncol codes' (applyMask_mem_alphabet d8Dirs d8Pits d8Nodata mask hsize hlegal)).1]
  exact specOutlets_congr fun j hj => readTab_mask d8Dirs d8Pits d8Nodata ncol codes mask j (by omega)

theorem ldd_outlets_masked (nrow ncol : Nat) (codes : Array Nat) (mask : Array Bool)
    (hsize : codes.size = nrow * ncol) (hlegal : ∀ i, i < nrow * ncol → codes[i]! ∈ lddAlphabet) :
    let codes' := applyMask lddMv mask codes
    outletsOf .ldd (.u8 nrow ncol codes') (fromArrayLdd nrow ncol codes').pits =
      specOutlets nrow ncol (maskRead (fun i => mask[i]!) (readLdd ncol codes)) := by
  intro codes'
  rw [(ldd_outlets nrow ncol codes' (applyMask_mem_alphabet lddDirs lddPits lddNodata mask hsize hlegal)).1]
  exact specOutlets_congr fun j hj => readTab_mask lddDirs lddPits lddNodata ncol codes mask j (by omega)

theorem nextxy_outlets_masked (nrow ncol : Nat) (xs ys : Array Int) (mask : Array Bool)
    (hx : xs.size = nrow * ncol) (hy : ys.size = nrow * ncol) :
    let xs' := applyMask xyMv mask xs
    let ys' := applyMask xyMv mask ys
    outletsOf .nextxy (.xy nrow ncol xs' ys') (fromArrayXY nrow ncol xs' ys').pits =
      specOutlets nrow ncol (maskRead (fun i => mask[i]!) (readXY xs ys)) := by
  intro xs' ys'
  rw [(nextxy_outlets nrow ncol xs' ys').1]
  exact specOutlets_congr fun j hj => readXY_mask xs ys mask j (by omega) (by omega)

-- the outlet at cell 2 is masked out: only the outlet at cell 3 is left; cell 1, which drained into cell 2, is now an edge pit
example : (fromArray (some .d8) true (.u8 2 3 #[1, 1, 0, 0, 16, 16]) (some ([2, 3], #[true, true, false, true, true, true]))
    #[1, 0, 0, 0, -1, 0] false).toOption.map (fun o => (o.ds, o.idxsPit, o.outlet)) =
    some (#[1, 1, 6, 3, 3, 4], [1, 3], some [3]) := by decide +kernel

/-- the object returned by `from_array`: whatever the format, mask and arguments, on success the
stored outlets are the stored pits filtered by "the (masked) raster carries a pit code there" - in particular
`idxs_outlet ⊆ idxs_pit` -, the index dtype is the one selected from the data size, no order and no node
count are stored yet, and the object invariant holds. -/
theorem fromArray_outlet {ft : Option Ftype} {check : Bool} {data : Data} {mask : Option (List Nat × Array Bool)}
    {transform : Array Int} {latlon : Bool} {o : Obj} (h : fromArray ft check data mask transform latlon = .ok o) :
    ∃ ftype data' d, maskData ftype data mask = .ok data' ∧ decodeData ftype data' = .ok d ∧
      o.ds = d.ds ∧ o.idxsPit = d.pits.toList ∧ o.outlet = some (outletsOf ftype data' d.pits) ∧
      (∀ i, i ∈ outletsOf ftype data' d.pits → i ∈ o.idxsPit) ∧
      o.dtype = selectDtype (dataSize data') ∧ o.seq = none ∧ o.nnodes = none ∧ o.Inv := by
  unfold fromArray at h
  split at h
  · cases h
  · split at h
    · cases h
    · split at h
      · cases h
      · rename_i data' h2
        split at h
        · cases h
        · rename_i d h3
          obtain ⟨f1, f2, f3, f4, f5, _, _, f8, _, f10⟩ := ctorRaster_fields h
          exact ⟨_, data', d, h2, h3, f2, f8, f3, fun i hi => f8 ▸ (List.mem_filter.1 hi).1, f1, f4, f5, f10⟩

-- 2x3 D8 raster `E E E / pit W W`: cell 2 leaves the raster (edge pit, not an outlet), cell 3 is an outlet
example : (fromArray (some .d8) true (.u8 2 3 #[1, 1, 1, 0, 16, 16]) none #[1, 0, 0, 0, -1, 0] false).toOption.map
    (fun o => (o.ds, o.idxsPit, o.outlet, o.dtype)) = some (#[1, 2, 2, 3, 3, 4], [2, 3], some [3], .i32) := by
  decide +kernel
example : specOutlets 2 3 (readD8 3 #[1, 1, 1, 0, 16, 16]) = [3] ∧ specEdgePits 2 3 (readD8 3 #[1, 1, 1, 0, 16, 16]) = [2] := by
  decide +kernel
-- NEXTXY 1x4: cell 0 -> cell 1 (outlet -9), cell 2 designates itself, cell 3 has a pit code in y only
example : (fromArray (some .nextxy) true (.xy 1 4 #[2, -9, 3, 4] #[1, -9, 1, -10]) none #[1, 0, 0, 0, -1, 0] false).toOption.map
    (fun o => (o.ds, o.idxsPit, o.outlet)) = some (#[1, 1, 2, 3], [1, 2, 3], some [1]) := by
  decide +kernel

/-! ## 5. `dump` / `load` -/

/-- on a well-formed network the node count can always be evaluated (`core.rank` terminates, C03) -/
theorem nnodesP_total (o : Obj) (hwf : WF o.ds) : ∃ k, o.nnodesP = some k := by
  unfold Obj.nnodesP
  cases o.nnodes with
  | some k => exact ⟨k, rfl⟩
  | none =>
    obtain ⟨r, c, h1, _⟩ := rank_certified o.ds hwf
    simp only [nnodesRank, h1, Option.map_some]
    exact ⟨_, rfl⟩

/-- `_dict` holds the network, the stored order and pits as they are, the raster
attributes, and the node count of the object; evaluating it changes nothing the object shows (it only
memoises the node count). -/
theorem dictOf_spec (o : Obj) (k : Nat) (hk : o.nnodesP = some k) :
    ∃ d o1, dictOf o = some (d, o1) ∧
      d = { dtype := o.dtype, nnodes := k, ds := o.ds, seq := o.seq, pit := o.pit, rast := o.rast } ∧
      o1.view = o.view ∧ o1.nnodes = some k := by
  unfold dictOf
  rw [hk]
  refine ⟨_, _, rfl, rfl, ?_, rfl⟩
  show Obj.view { o with nnodes := some k } = o.view
  unfold Obj.view
  rw [hk]
  rfl

/-- for every object the constructors can produce (`Inv`) on a well-formed network,
`dump` followed by `load` succeeds and the loaded object shows the same index dtype, network `idxs_ds`,
stored order, pits, node count, shape, type, transform and `latlon`. What is not carried: `idxs_outlet`
(always `None` after `load`), the `cache` flag (always `True`) and cached arrays. -/
theorem dump_load_roundtrip (o : Obj) (hinv : o.Inv) (hwf : WF o.ds) :
    ∃ d o1 o2, dictOf o = some (d, o1) ∧ load d = .ok o2 ∧
      o1.view = o.view ∧ o2.view = o.view ∧ o2.outlet = none ∧ o2.cache = true ∧ o2.Inv := by
  obtain ⟨k, hk⟩ := nnodesP_total o hwf
  obtain ⟨d, o1, hd, rfl, hv1, _⟩ := dictOf_spec o k hk
  obtain ⟨p, hp, hpne⟩ := hinv.pit
  have hvec : ctorVec o.dtype o.ds o.pit none o.seq (some k) true =
      .ok { dtype := o.dtype, ds := o.ds, pit := some p, outlet := none, seq := o.seq, nnodes := some k,
            cache := true, rast := none } :=
    ctorVec_ok.2 ⟨hinv.size, by rw [hp]; exact hpne, by rw [hp]; rfl⟩
  have hview : ∀ r : Option RasterAttrs, r = o.rast →
      (Obj.view { dtype := o.dtype, ds := o.ds, pit := some p, outlet := none, seq := o.seq, nnodes := some k,
                  cache := true, rast := r }) = o.view := by
    intro r hr
    unfold Obj.view
    rw [hk]
    simp only [Obj.idxsPit, Obj.nnodesP, hp, hr]
  cases hr : o.rast with
  | none =>
    refine ⟨_, o1, _, hd, ?_, hv1, hview none hr.symm, rfl, rfl, hinv.size, ⟨p, rfl, hpne⟩,
      (fun r h => nomatch h), (fun r h => nomatch h)⟩
    simp only [load, hr]
    exact hvec
  | some r =>
    refine ⟨_, o1, Obj.mk o.dtype o.ds (some p) none o.seq (some k) true (some r), hd, ?_, hv1,
      hview (some r) hr.symm, rfl, rfl, hinv.size, ⟨p, rfl, hpne⟩, fun r' h => ?_, fun r' h => ?_⟩
    · simp only [load, hr]
      exact ctorRaster_ok.2 ⟨_, _, _, _, hvec, rfl, rfl, hinv.shape r hr, hinv.transform r hr, rfl⟩
    · cases h; exact hinv.shape r hr
    · cases h; exact hinv.transform r hr

/-- dumping the loaded object again gives the same dictionary: `dump ∘ load` is idempotent -/
theorem dump_load_dump (o : Obj) (hinv : o.Inv) (hwf : WF o.ds) :
    ∃ d o1 o2 o3, dictOf o = some (d, o1) ∧ load d = .ok o2 ∧ dictOf o2 = some (d, o3) := by
  obtain ⟨d, o1, o2, h1, h2, _⟩ := dump_load_roundtrip o hinv hwf
  obtain ⟨k, hk⟩ := nnodesP_total o hwf
  obtain ⟨_, _, hd, rfl, _, _⟩ := dictOf_spec o k hk
  cases h1.symm.trans hd
  obtain ⟨p, hp, _⟩ := hinv.pit
  obtain ⟨o3, h3⟩ := load_dictOf h2 (by show o.pit.isSome = true; rw [hp]; rfl)
  exact ⟨_, _, o2, o3, hd, h2, h3⟩

-- a raster object with a stored order: dump/load returns it, without `idxs_outlet`
example : ((ctorRaster .u32 #[1, 5, 6, 1, 4, 5] [2, 3] (some .ldd) none (some [4]) (some [4, 5, 1, 0, 3]) none
      #[1, 0, 0, 0, -1, 0] true false).toOption.bind fun o => (roundTrip o).map fun r => r.toOption.map fun o2 =>
        (decide (o2.view = o.view), o2.outlet, o2.cache, o2.nnodes)) =
    some (some (true, none, true, some 5)) := by decide +kernel

end Pf.C03x
