/-! Soundness of the local rank condition `RankCert` on an arbitrary successor function: rank `k ≥ 0` means the
`k`-th downstream cell is the first pit on the path, rank `-1` means no downstream cell is ever a pit. Both
statements quantify over all `k`, not over `k` up to a number of cells, so "never reaches a pit" is meant literally. -/
namespace Pf
variable (ds : Nat → Nat) (rk : Nat → Int)

def iter (ds : Nat → Nat) : Nat → Nat → Nat
  | 0, i => i
  | k+1, i => iter ds k (ds i)

def RankCert : Prop :=
  ∀ i, (ds i = i → rk i = 0) ∧
       (ds i ≠ i → (rk i = -1 ∧ rk (ds i) = -1) ∨ (0 ≤ rk (ds i) ∧ rk i = rk (ds i) + 1))

/-- rank k ≥ 0: the k-th downstream cell is a pit and no earlier one is -/
theorem rank_reaches (h : RankCert ds rk) :
    ∀ (k : Nat) (i : Nat), rk i = k →
      ds (iter ds k i) = iter ds k i ∧ ∀ m, m < k → ds (iter ds m i) ≠ iter ds m i := by
  intro k
  induction k with
  | zero =>
    intro i hi
    refine ⟨?_, fun m hm => absurd hm (Nat.not_lt_zero m)⟩
    by_cases hp : ds i = i
    · simpa [iter] using hp
    · rcases (h i).2 hp with ⟨h1, _⟩ | ⟨h1, h2⟩ <;> omega
  | succ k ih =>
    intro i hi
    by_cases hp : ds i = i
    · have := (h i).1 hp; omega
    · rcases (h i).2 hp with ⟨h1, _⟩ | ⟨h1, h2⟩
      · omega
      · have hk : rk (ds i) = k := by omega
        obtain ⟨a, b⟩ := ih (ds i) hk
        refine ⟨by simpa [iter] using a, ?_⟩
        intro m hm
        cases m with
        | zero => simpa [iter] using hp
        | succ m => simpa [iter] using b m (by omega)

/-- rank -1: no downstream cell is ever a pit -/
theorem rank_never (h : RankCert ds rk) :
    ∀ (k : Nat) (i : Nat), rk i = -1 → ds (iter ds k i) ≠ iter ds k i := by
  intro k
  induction k with
  | zero =>
    intro i hi hp
    have := (h i).1 (by simpa [iter] using hp); omega
  | succ k ih =>
    intro i hi
    have hp : ds i ≠ i := fun hp => by have := (h i).1 hp; omega
    rcases (h i).2 hp with ⟨_, h2⟩ | ⟨h1, h2⟩
    · simpa [iter] using ih (ds i) h2
    · omega
end Pf
