/-! Certificate theorem for depression filling: a filled surface `f` with directions `ds` is the minimax spill level
(the least, over all neighbour paths to an outlet, of the highest input elevation on the path) as soon as four local
conditions hold. L1: `f a ≤ max (elev a) (f b)` for neighbours `a`, `b`. L2: `f = elev` on outlets. L3: a cell that is
not a pit of `ds` drains to a neighbour, has `f c = max (elev c) (f (ds c))`, and `rk` drops along the link (`rk` only
witnesses that the direction chain ends). L4: every pit of `ds` is an outlet. -/
namespace Pf
variable (nbr : Nat → Nat → Prop) (elev f : Nat → Int) (seed : Nat → Prop)

/-- highest input elevation on a (non-empty) path -/
def pmax (elev : Nat → Int) : List Nat → Int
  | [] => 0
  | [x] => elev x
  | x :: y :: r => max (elev x) (pmax elev (y :: r))

/-- `PathTo c p`: `p` is a neighbour path starting at `c` and ending at a seed (outlet) -/
inductive PathTo : Nat → List Nat → Prop
  | base (s : Nat) : seed s → PathTo s [s]
  | step (c d : Nat) (p : List Nat) : nbr c d → PathTo d p → PathTo c (c :: p)

theorem pmax_cons (x : Nat) (p : List Nat) (hp : p ≠ []) :
    pmax elev (x :: p) = max (elev x) (pmax elev p) := by
  cases p with
  | nil => exact absurd rfl hp
  | cons y r => rfl

theorem PathTo.ne_nil {c p} (h : PathTo nbr seed c p) : p ≠ [] := by
  cases h <;> simp

/-- (a) no path to an outlet stays below the filled level -/
theorem fill_lower
    (L1 : ∀ a b, nbr a b → f a ≤ max (elev a) (f b))
    (L2 : ∀ s, seed s → f s = elev s) :
    ∀ c p, PathTo nbr seed c p → f c ≤ pmax elev p := by
  intro c p h
  induction h with
  | base s hs => simp [pmax, L2 s hs]
  | step c d p hn hp ih =>
    rw [pmax_cons elev c p hp.ne_nil]
    have := L1 c d hn
    omega

/-- (b) the direction chain is a path whose highest input elevation is exactly the filled level -/
theorem fill_attained (ds : Nat → Nat) (rk : Nat → Nat)
    (L2 : ∀ s, seed s → f s = elev s)
    (L3 : ∀ c, ds c ≠ c → nbr c (ds c) ∧ f c = max (elev c) (f (ds c)) ∧ rk (ds c) < rk c)
    (L4 : ∀ c, ds c = c → seed c) :
    ∀ c, ∃ p, PathTo nbr seed c p ∧ pmax elev p = f c := by
  have key : ∀ k c, rk c = k → ∃ p, PathTo nbr seed c p ∧ pmax elev p = f c := by
    intro k
    induction k using Nat.strongRecOn with
    | _ k ih =>
      intro c hk
      by_cases hpit : ds c = c
      · exact ⟨[c], PathTo.base c (L4 c hpit), by simp [pmax, L2 c (L4 c hpit)]⟩
      · obtain ⟨hn, hf, hr⟩ := L3 c hpit
        obtain ⟨p, hp, hm⟩ := ih (rk (ds c)) (hk ▸ hr) (ds c) rfl
        refine ⟨c :: p, PathTo.step c (ds c) p hn hp, ?_⟩
        rw [pmax_cons elev c p hp.ne_nil, hm, hf]
  exact fun c => key (rk c) c rfl

end Pf
