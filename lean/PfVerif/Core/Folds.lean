/-! Invariants of list folds, also of folds and maps whose body may fail; sums of mapped lists over `Int`;
lists of bounded numbers without repetition. -/
namespace Pf

/-- The loop rule for `for x in l`: an invariant indexed by the elements already folded. `foldl_inv` is the case of an
invariant that does not look at them, `foldl_range_inv` the case `l = range n` with the counter as index. -/
theorem foldl_induct {α σ : Type} (f : σ → α → σ) (I : List α → σ → Prop) (l : List α)
    (step : ∀ done x s, x ∈ l → I done s → I (done ++ [x]) (f s x)) :
    ∀ (done : List α) (s : σ), I done s → I (done ++ l) (l.foldl f s) := by
  induction l with
  | nil => intro done s h; simpa using h
  | cons x l ih =>
    intro done s h
    have := ih (fun done y s hy => step done y s (List.mem_cons_of_mem _ hy)) (done ++ [x]) (f s x)
      (step done x s List.mem_cons_self h)
    simpa using this

theorem foldl_inv {α β : Type} (f : β → α → β) (P : β → Prop) (l : List α)
    (h : ∀ b a, a ∈ l → P b → P (f b a)) (b : β) (hb : P b) : P (l.foldl f b) :=
  foldl_induct f (fun _ => P) l (fun _ a b ha => h b a ha) [] b hb

/-- the same rule for a loop body that may abort (`none`): nothing is claimed about an aborted run -/
theorem foldlM_induct {α σ : Type} (f : σ → α → Option σ) (I : List α → σ → Prop) (l : List α)
    (step : ∀ done x s s', x ∈ l → I done s → f s x = some s' → I (done ++ [x]) s') :
    ∀ (done : List α) (s s' : σ), I done s → l.foldlM f s = some s' → I (done ++ l) s' := by
  induction l with
  | nil => intro done s s' h hf; cases hf; simpa using h
  | cons x l ih =>
    intro done s s' h hf
    rw [List.foldlM_cons] at hf
    obtain ⟨s1, h1, hf⟩ := Option.bind_eq_some_iff.mp hf
    have := ih (fun done y s s' hy => step done y s s' (List.mem_cons_of_mem _ hy)) (done ++ [x]) s1 s'
      (step done x s s1 List.mem_cons_self h h1) hf
    simpa using this

theorem foldlM_inv {α β : Type} (f : β → α → Option β) (P : β → Prop) (l : List α)
    (h : ∀ b a b', a ∈ l → P b → f b a = some b' → P b') (b b' : β) (hb : P b)
    (hf : l.foldlM f b = some b') : P b' :=
  foldlM_induct f (fun _ => P) l (fun _ a b b' ha => h b a b' ha) [] b b' hb hf

/-- `for x in l` with a body that may fail: the results come entry by entry -/
theorem mapM_option_get {α β : Type} (f : α → Option β) :
    ∀ (l : List α) (r : List β), l.mapM f = some r →
      r.length = l.length ∧ ∀ (j : Nat) (a : α), l[j]? = some a → ∃ b, r[j]? = some b ∧ f a = some b
  | [], r, h => by
    obtain rfl : [] = r := Option.some.inj h
    exact ⟨rfl, fun j a hj => nomatch hj⟩
  | x :: t, r, h => by
    rw [List.mapM_cons] at h
    obtain ⟨b, hx, h⟩ := Option.bind_eq_some_iff.mp h
    obtain ⟨bs, ht, h⟩ := Option.bind_eq_some_iff.mp h
    obtain rfl : b :: bs = r := Option.some.inj h
    obtain ⟨hl, hg⟩ := mapM_option_get f t bs ht
    refine ⟨congrArg (· + 1) hl, fun j a hj => ?_⟩
    cases j with
    | zero =>
      obtain rfl : x = a := Option.some.inj hj
      exact ⟨b, rfl, hx⟩
    | succ j => exact hg j a hj

theorem mapM_option_isSome {α β : Type} (f : α → Option β) :
    ∀ (l : List α), (∀ a ∈ l, (f a).isSome = true) → (l.mapM f).isSome = true
  | [], _ => rfl
  | x :: t, h => by
    obtain ⟨b, hb⟩ := Option.isSome_iff_exists.mp (h x (by simp))
    obtain ⟨bs, hbs⟩ := Option.isSome_iff_exists.mp
      (mapM_option_isSome f t fun a ha => h a (by simp [ha]))
    simp [List.mapM_cons, hb, hbs]

/-- an invariant indexed by the loop counter of `for k in range(n)` -/
theorem foldl_range_inv {σ : Type} (P : Nat → σ → Prop) (f : σ → Nat → σ) (init : σ) (h0 : P 0 init) :
    ∀ n, (∀ k, k < n → ∀ st, P k st → P (k+1) (f st k)) → P n ((List.range n).foldl f init)
  | 0, _ => h0
  | n+1, hstep => by
    rw [List.range_succ, List.foldl_append]
    exact hstep n (Nat.lt_succ_self n) _
      (foldl_range_inv P f init h0 n fun k hk => hstep k (Nat.lt_succ_of_lt hk))

/-- a fold of an operator that selects the `R`-smaller of its arguments (`min` for `≤`, `max` for `≥`, an
arg-min by a key) returns the start value or a member of the list, and is `R`-below all of them -/
theorem foldl_select {α : Type} {op : α → α → α} {R : α → α → Prop} (hrefl : ∀ a, R a a)
    (htrans : ∀ {a b c}, R a b → R b c → R a c)
    (hop : ∀ a b, (op a b = a ∧ R a b) ∨ (op a b = b ∧ R b a)) :
    ∀ (l : List α) (d : α), R (l.foldl op d) d ∧ (∀ x ∈ l, R (l.foldl op d) x) ∧
      (l.foldl op d = d ∨ l.foldl op d ∈ l)
  | [], d => ⟨hrefl d, fun _ h => (nomatch h), Or.inl rfl⟩
  | y :: ys, d => by
    obtain ⟨h1, h2, h3⟩ := foldl_select hrefl htrans hop ys (op d y)
    rw [List.foldl_cons]
    rcases hop d y with ⟨e, r⟩ | ⟨e, r⟩ <;> rw [e] at h1 h2 h3 ⊢
    · exact ⟨h1, List.forall_mem_cons.2 ⟨htrans h1 r, h2⟩, h3.imp_right (List.mem_cons_of_mem _)⟩
    · refine ⟨htrans h1 r, List.forall_mem_cons.2 ⟨h1, h2⟩, Or.inr ?_⟩
      rcases h3 with h3 | h3
      · rw [h3]; exact List.mem_cons_self
      · exact List.mem_cons_of_mem _ h3

theorem sum_map_add {α : Type} (l : List α) (f g : α → Int) :
    (l.map fun c => f c + g c).sum = (l.map f).sum + (l.map g).sum := by
  induction l with
  | nil => simp
  | cons a t ih => simp only [List.map_cons, List.sum_cons, ih]; omega

theorem sum_map_mul_left {α : Type} (l : List α) (a : Int) (f : α → Int) :
    (l.map fun c => a * f c).sum = a * (l.map f).sum := by
  induction l with
  | nil => simp
  | cons b t ih => simp only [List.map_cons, List.sum_cons, ih, Int.mul_add]

theorem sum_map_const {α : Type} (l : List α) (f : α → Int) (b : Int) (h : ∀ c ∈ l, f c = b) :
    (l.map f).sum = (l.length : Int) * b := by
  induction l with
  | nil => simp
  | cons a t ih =>
    rw [List.map_cons, List.sum_cons, ih fun c hc => h c (List.mem_cons_of_mem _ hc),
      h a List.mem_cons_self, List.length_cons, Int.natCast_succ, Int.add_mul, Int.one_mul, Int.add_comm]

theorem sum_map_sub {α : Type} (l : List α) (f g : α → Int) :
    (l.map fun c => f c - g c).sum = (l.map f).sum - (l.map g).sum := by
  induction l with
  | nil => simp
  | cons a t ih => simp only [List.map_cons, List.sum_cons, ih]; omega

theorem sum_nonneg_of_forall {l : List Int} (h : ∀ a ∈ l, 0 ≤ a) : 0 ≤ l.sum := by
  induction l with
  | nil => simp
  | cons a t ih =>
    rw [List.sum_cons]
    have := h a (by simp)
    have := ih (fun b hb => h b (by simp [hb]))
    omega

theorem sum_eq_zero_iff_of_nonneg {l : List Int} (h : ∀ a ∈ l, 0 ≤ a) : l.sum = 0 ↔ ∀ a ∈ l, a = 0 := by
  induction l with
  | nil => simp
  | cons a t ih =>
    have ha := h a (by simp)
    have ht : ∀ b ∈ t, 0 ≤ b := fun b hb => h b (by simp [hb])
    have := sum_nonneg_of_forall ht
    rw [List.sum_cons, List.forall_mem_cons, ← ih ht]
    omega

theorem foldl_add_eq_sum (f : Nat → Int) : ∀ (l : List Nat) (s : Int),
    l.foldl (fun s i => s + f i) s = s + (l.map f).sum
  | [], s => by simp
  | c :: cs, s => by
    rw [List.foldl_cons, foldl_add_eq_sum f cs, List.map_cons, List.sum_cons, Int.add_assoc]

theorem sum_indicator (v : Int) (d : Int) : ∀ L : List Int, L.Nodup →
    (L.map fun l => if v = l then d else 0).sum = if v ∈ L then d else 0
  | [], _ => rfl
  | x :: xs, h => by
    have hn := List.nodup_cons.1 h
    rw [List.map_cons, List.sum_cons, sum_indicator v d xs hn.2]
    by_cases h1 : v = x
    · subst h1; simp [hn.1]
    · simp [h1]

/-- the sums over the classes of a key add up to the sum over the cells whose key is listed -/
theorem sum_by_key (key f : Nat → Int) (L : List Int) (hL : L.Nodup) : ∀ cells : List Nat,
    (L.map fun l => ((cells.filter fun i => key i == l).map f).sum).sum =
      ((cells.filter fun i => decide (key i ∈ L)).map f).sum
  | [] => by simpa using sum_indicator 0 0 L hL
  | c :: cs => by
    have hsplit : ∀ l, (((c :: cs).filter fun i => key i == l).map f).sum =
        (if key c = l then f c else 0) + ((cs.filter fun i => key i == l).map f).sum := by
      intro l
      by_cases h : key c = l <;> simp [h]
    simp only [hsplit]
    rw [sum_map_add _ (fun l => if key c = l then f c else 0), sum_by_key key f L hL cs,
      sum_indicator _ _ L hL, List.filter_cons]
    by_cases h : key c ∈ L <;> simp [h]

theorem nodup_reverse' {α : Type} {l : List α} (h : l.Nodup) : l.reverse.Nodup := by
  unfold List.Nodup at *
  rw [List.pairwise_reverse]
  exact h.imp Ne.symm

/-- a list of numbers below `n` without repetition has at most `n` members -/
theorem nodup_length_le {n : Nat} {l : List Nat} (hnd : l.Nodup) (hb : ∀ x ∈ l, x < n) : l.length ≤ n := by
  have := List.Nodup.length_le_of_subset hnd (l₂ := List.range n) fun x hx => List.mem_range.2 (hb x hx)
  rwa [List.length_range] at this

end Pf
