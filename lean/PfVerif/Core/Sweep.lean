/-! Reads of arrays after writes, and the two sweeps over a downstream-index array `ds` that most kernels of
pyflwdir are instances of: `sweepDown` (`for i in seq: out[i] = g(i, out[i], out[ds[i]])`) and `sweepUp`
(`for i in seq[::-1]: out[ds[i]] = upd(i, out[ds[i]], out[i])`), with `Topo`, the order both need. -/
namespace Pf

variable {α : Type} [Inhabited α]

theorem get!_setIfInBounds (xs : Array α) (i j : Nat) (a : α) :
    (xs.setIfInBounds i a)[j]! = if i = j ∧ i < xs.size then a else xs[j]! := by
  by_cases h : i = j
  · subst h
    by_cases h2 : i < xs.size
    · simp [h2]
    · simp [h2, Array.setIfInBounds]
  · simp [h, getElem!_def, Array.getElem?_setIfInBounds_ne h]

theorem get!_set_self {xs : Array α} {i : Nat} (h : i < xs.size) (a : α) :
    (xs.setIfInBounds i a)[i]! = a := by
  rw [get!_setIfInBounds, if_pos ⟨rfl, h⟩]

theorem get!_set_ne {xs : Array α} {i j : Nat} (h : j ≠ i) (a : α) :
    (xs.setIfInBounds i a)[j]! = xs[j]! := by
  rw [get!_setIfInBounds, if_neg fun hc => h hc.1.symm]

theorem get!_oob (xs : Array α) (j : Nat) (h : ¬ j < xs.size) : xs[j]! = default :=
  getElem!_neg xs j h

/-- reading a constant array gives the constant: inside its range, or anywhere if the constant is the
default value -/
theorem get!_replicate (n : Nat) {a : α} (j : Nat) (h : j < n ∨ a = default) :
    (Array.replicate n a)[j]! = a := by
  by_cases hj : j < n
  · simp [hj]
  · rw [get!_oob _ _ (by simpa using hj)]; exact (h.resolve_left hj).symm

theorem array_ext_get! {a b : Array α} (hs : a.size = b.size) (h : ∀ i, i < a.size → a[i]! = b[i]!) :
    a = b :=
  Array.ext hs fun i h1 h2 => by simpa [h1, h2] using h i h1

/-- Writing back the value a cell already holds changes nothing: a model step that writes `if c then v else out[i]`
without a test is the code's `if c: out[i] = v`. -/
theorem setIfInBounds_self (xs : Array α) (i : Nat) : xs.setIfInBounds i xs[i]! = xs :=
  array_ext_get! (by simp) fun j _ => by
    rw [get!_setIfInBounds]
    split
    · next h => rw [h.1]
    · rfl

omit [Inhabited α] in
theorem map_get! {β γ : Type} [Inhabited β] [Inhabited γ] (xs : Array γ) (f : γ → β) {i : Nat} (hi : i < xs.size) :
    (xs.map f)[i]! = f xs[i]! := by
  rw [getElem!_pos (xs.map f) i (by rw [Array.size_map]; exact hi), getElem!_pos xs i hi, Array.getElem_map]

theorem size_foldl_set {β : Type} (f : Nat → β) (l : List Nat) (a : Array β) :
    (l.foldl (fun a i => a.setIfInBounds i (f i)) a).size = a.size := by
  induction l generalizing a with
  | nil => rfl
  | cons x l ih => rw [List.foldl_cons, ih, Array.size_setIfInBounds]

/-- a loop that writes `f i` at every index `i` of a list (e.g. `rankMarkLoop`, `addPits`, `initSeq`) -/
theorem get!_foldl_set (f : Nat → α) (l : List Nat) (a : Array α) (j : Nat) :
    (l.foldl (fun a i => a.setIfInBounds i (f i)) a)[j]! = if j ∈ l ∧ j < a.size then f j else a[j]! := by
  induction l generalizing a with
  | nil => simp
  | cons x l ih =>
    rw [List.foldl_cons, ih, Array.size_setIfInBounds, get!_setIfInBounds]
    by_cases hx : x = j
    · subst hx
      by_cases hs : x < a.size <;> simp [hs]
    · simp [hx, Ne.symm hx]

/-- the same loop with a guard on the index (`if idx != mv: a[idx] = f(idx)`) -/
theorem get!_foldl_setIf (c : Nat → Prop) [DecidablePred c] (f : Nat → α) (l : List Nat) (a : Array α) (j : Nat) :
    (l.foldl (fun a i => if c i then a.setIfInBounds i (f i) else a) a)[j]! =
      if (j ∈ l ∧ c j) ∧ j < a.size then f j else a[j]! := by
  have h : l.foldl (fun a i => if c i then a.setIfInBounds i (f i) else a) a =
      (l.filter fun i => decide (c i)).foldl (fun a i => a.setIfInBounds i (f i)) a := by
    rw [List.foldl_filter]; simp only [decide_eq_true_eq]
  rw [h, get!_foldl_set]
  simp only [List.mem_filter, decide_eq_true_eq]

/-- Downstream-first order without repetition: the downstream cell of every listed cell is the cell itself (a pit is
`ds[i]! = i`) or stands earlier in the list. Nothing is asked about range: an index beyond `ds.size` reads `0`, so
the sweep theorems take `∀ i ∈ seq, i < out.size` as a separate hypothesis. -/
inductive Topo (ds : Array Nat) : List Nat → Prop
  | nil : Topo ds []
  | snoc {pre : List Nat} {i : Nat} : Topo ds pre → i ∉ pre → (ds[i]! = i ∨ ds[i]! ∈ pre) →
      Topo ds (pre ++ [i])

theorem Topo.snoc_inv {ds : Array Nat} {pre : List Nat} {i : Nat} (h : Topo ds (pre ++ [i])) :
    Topo ds pre ∧ i ∉ pre ∧ (ds[i]! = i ∨ ds[i]! ∈ pre) := by
  generalize hl : pre ++ [i] = l at h
  cases h with
  | nil => simp at hl
  | @snoc pre' i' h1 h2 h3 =>
    obtain ⟨hp, hi⟩ := List.append_inj' hl rfl
    cases hi; subst hp
    exact ⟨h1, h2, h3⟩

theorem Topo.prefix {ds : Array Nat} : ∀ (b a : List Nat), Topo ds (a ++ b) → Topo ds a := by
  intro b
  induction b with
  | nil => intro a h; simpa using h
  | cons x b ih =>
    intro a h
    rw [List.append_cons] at h
    exact (ih (a ++ [x]) h).snoc_inv.1

theorem Topo.ds_mem {ds : Array Nat} {seq : List Nat} (h : Topo ds seq) :
    ∀ c ∈ seq, ds[c]! ∈ seq := by
  induction h with
  | nil => simp
  | @snoc pre i _ _ hds ih =>
    intro c hc
    simp only [List.mem_append, List.mem_singleton] at hc ⊢
    rcases hc with hc | hc
    · exact Or.inl (ih c hc)
    · subst hc
      rcases hds with h | h
      · exact Or.inr h
      · exact Or.inl h

/-- in a downstream-first order the downstream cell comes strictly earlier -/
theorem Topo.idxOf_lt {ds : Array Nat} {seq : List Nat} (h : Topo ds seq) :
    ∀ i ∈ seq, ds[i]! ≠ i → seq.idxOf ds[i]! < seq.idxOf i := by
  induction h with
  | nil => intro i hi; cases hi
  | @snoc pre i hpre hi hds ih =>
    intro j hj hne
    have hmem := Topo.ds_mem hpre
    simp only [List.mem_append, List.mem_singleton] at hj
    rcases hj with hj | hj
    · rw [List.idxOf_append, List.idxOf_append, if_pos hj, if_pos (hmem j hj)]
      exact ih j hj hne
    · subst hj
      rcases hds with hd | hd
      · exact absurd hd hne
      · rw [List.idxOf_append, List.idxOf_append, if_pos hd, if_neg hi]
        have := List.idxOf_lt_length_of_mem hd
        omega

/-- Induction along a downstream-first order: to prove `P` on every cell of `seq` it suffices to
prove it for a cell assuming it for its downstream cell (unless the cell is a pit). -/
theorem Topo.induction {ds : Array Nat} {seq : List Nat} (htopo : Topo ds seq) (P : Nat → Prop)
    (h : ∀ i ∈ seq, (ds[i]! ≠ i → ds[i]! ∈ seq ∧ P ds[i]!) → P i) : ∀ i ∈ seq, P i := by
  suffices hs : ∀ n i, i ∈ seq → seq.idxOf i = n → P i from fun i hi => hs _ i hi rfl
  intro n
  induction n using Nat.strongRecOn with
  | ind n ih =>
    intro i hi hn
    exact h i hi fun hp => ⟨htopo.ds_mem i hi, ih _ (hn ▸ htopo.idxOf_lt i hi hp) _ (htopo.ds_mem i hi) rfl⟩

theorem Topo.nodup {ds : Array Nat} {seq : List Nat} (h : Topo ds seq) : seq.Nodup := by
  induction h with
  | nil => exact List.nodup_nil
  | @snoc pre i _ hi _ ih =>
    rw [List.nodup_append]
    refine ⟨ih, by simp, ?_⟩
    intro a ha b hb
    simp only [List.mem_singleton] at hb
    subst hb
    exact fun h => hi (h ▸ ha)

/-- a downstream-first order carries a height function that strictly decreases going upstream
(`ht c < ht (ds c)`): the number of cells after the cell in `seq` -/
theorem Topo.exists_height {ds : Array Nat} {seq : List Nat} (h : Topo ds seq) :
    ∃ ht : Nat → Nat, (∀ j ∈ seq, ht j < seq.length) ∧ ∀ c ∈ seq, ds[c]! ≠ c → ht c < ht ds[c]! :=
  ⟨fun c => seq.length - 1 - seq.idxOf c,
    fun _ hj => Nat.lt_of_le_of_lt (Nat.sub_le _ _) (Nat.sub_lt (List.length_pos_of_mem hj) Nat.one_pos),
    fun c hc hne => Nat.sub_lt_sub_left
      (Nat.lt_of_lt_of_le (h.idxOf_lt c hc hne) (Nat.le_sub_one_of_lt (List.idxOf_lt_length_of_mem hc)))
      (h.idxOf_lt c hc hne)⟩

/-- Induction from the inflowing cells: to prove `P` on every cell of `seq` it suffices to prove it
for a cell assuming it for all cells of `seq` that drain directly into it. -/
theorem Topo.induction_up {ds : Array Nat} {seq : List Nat} (htopo : Topo ds seq) (P : Nat → Prop)
    (step : ∀ j ∈ seq, (∀ c ∈ seq, ds[c]! = j → c ≠ j → P c) → P j) : ∀ j ∈ seq, P j := by
  suffices hs : ∀ n j, j ∈ seq → seq.length - seq.idxOf j = n → P j from fun j hj => hs _ j hj rfl
  intro n
  induction n using Nat.strongRecOn with
  | ind n ih =>
    intro j hj hn
    refine step j hj fun c hc hcj hne => ih _ ?_ c hc rfl
    -- a cell that drains into `j` comes later in the order
    have hlt := htopo.idxOf_lt c hc (by rw [hcj]; exact Ne.symm hne)
    rw [hcj] at hlt
    exact hn ▸ Nat.sub_lt_sub_left (Nat.lt_trans hlt (List.idxOf_lt_length_of_mem hc)) hlt

/-- one step of a down-to-upstream sweep: out[i] := g i out[i] out[ds i] -/
def stepDown (ds : Array Nat) (g : Nat → α → α → α) (out : Array α) (i : Nat) : Array α :=
  out.setIfInBounds i (g i out[i]! out[ds[i]!]!)

def sweepDown (ds : Array Nat) (g : Nat → α → α → α) (seq : List Nat) (out : Array α) : Array α :=
  seq.foldl (stepDown ds g) out

@[simp] theorem size_stepDown (ds : Array Nat) (g : Nat → α → α → α) (out : Array α) (i : Nat) :
    (stepDown ds g out i).size = out.size := by
  simp [stepDown]

@[simp] theorem size_sweepDown (ds : Array Nat) (g : Nat → α → α → α) (seq : List Nat) (out : Array α) :
    (sweepDown ds g seq out).size = out.size := by
  induction seq generalizing out with
  | nil => rfl
  | cons i rest ih => simp only [sweepDown, List.foldl_cons] at *; rw [ih]; exact size_stepDown ..

theorem stepDown_get_ne (ds : Array Nat) (g : Nat → α → α → α) (out : Array α) {i j : Nat} (h : j ≠ i) :
    (stepDown ds g out i)[j]! = out[j]! :=
  get!_set_ne h _

theorem sweepDown_snoc (ds : Array Nat) (g : Nat → α → α → α) (pre : List Nat) (i : Nat) (out : Array α) :
    sweepDown ds g (pre ++ [i]) out = stepDown ds g (sweepDown ds g pre out) i := by
  simp [sweepDown, List.foldl_append]

/-- Recurrence form: the final array itself satisfies the downstream recurrence on `seq`; other cells are untouched. -/
theorem sweepDown_rec (ds : Array Nat) (g : Nat → α → α → α) (init : Array α)
    (seq : List Nat) (htopo : Topo ds seq) (hb : ∀ i ∈ seq, i < init.size) :
    (∀ i ∈ seq, (sweepDown ds g seq init)[i]! =
        g i init[i]! (if ds[i]! = i then init[i]! else (sweepDown ds g seq init)[ds[i]!]!)) ∧
    (∀ i, i ∉ seq → (sweepDown ds g seq init)[i]! = init[i]!) := by
  induction htopo with
  | nil => simp [sweepDown]
  | @snoc pre i hpre hi hds ih =>
    have hb' : ∀ j ∈ pre, j < init.size := fun j hj => hb j (by simp [hj])
    obtain ⟨ih1, ih2⟩ := ih hb'
    have hmem := Topo.ds_mem hpre
    have hisz : i < (sweepDown ds g pre init).size := by simp; exact hb i (by simp)
    rw [sweepDown_snoc]
    have hcur : (sweepDown ds g pre init)[i]! = init[i]! := ih2 i hi
    -- reading any cell other than i after the last step gives the old value
    have hother : ∀ j, j ≠ i →
        (stepDown ds g (sweepDown ds g pre init) i)[j]! = (sweepDown ds g pre init)[j]! := by
      intro j hj
      simp only [stepDown, get!_setIfInBounds]
      have : ¬ (i = j) := fun h => hj h.symm
      simp [this]
    have hself : (stepDown ds g (sweepDown ds g pre init) i)[i]! =
        g i init[i]! (sweepDown ds g pre init)[ds[i]!]! := by
      rw [stepDown, get!_setIfInBounds, if_pos ⟨rfl, hisz⟩, hcur]
    constructor
    · intro j hj
      by_cases hij : j = i
      · subst hij
        rw [hself]
        by_cases hp : ds[j]! = j
        · simp [hp, hcur]
        · simp only [hp, if_false]; rw [hother _ hp]
      · have hjpre : j ∈ pre := by simpa [hij] using hj
        rw [hother j hij, ih1 j hjpre]
        by_cases hp : ds[j]! = j
        · simp [hp]
        · have : ds[j]! ≠ i := fun h => hi (h ▸ hmem j hjpre)
          simp only [hp, if_false]; rw [hother _ this]
    · intro j hj
      simp only [List.mem_append, List.mem_singleton, not_or] at hj
      rw [hother j hj.2, ih2 j hj.1]

/-- Function form: any `F` that satisfies the downstream recurrence is what the sweep computes on `seq`. -/
theorem sweepDown_spec (ds : Array Nat) (g : Nat → α → α → α) (init : Array α) (F : Nat → α)
    (seq : List Nat) (htopo : Topo ds seq) (hb : ∀ i ∈ seq, i < init.size)
    (hF : ∀ i ∈ seq, F i = g i init[i]! (if ds[i]! = i then init[i]! else F ds[i]!)) :
    (∀ i ∈ seq, (sweepDown ds g seq init)[i]! = F i) ∧
    (∀ i, i ∉ seq → (sweepDown ds g seq init)[i]! = init[i]!) := by
  obtain ⟨hrec, hout⟩ := sweepDown_rec ds g init seq htopo hb
  refine ⟨htopo.induction _ (fun i hi hd => ?_), hout⟩
  rw [hrec i hi, hF i hi]
  by_cases hp : ds[i]! = i
  · rw [if_pos hp, if_pos hp]
  · rw [if_neg hp, if_neg hp, (hd hp).2]

/-- one step of an up-to-downstream sweep: out[ds i] := upd i out[ds i] out[i]  (skipped at pits) -/
def stepUp (ds : Array Nat) (upd : Nat → α → α → α) (i : Nat) (out : Array α) : Array α :=
  if ds[i]! = i then out else out.setIfInBounds ds[i]! (upd i out[ds[i]!]! out[i]!)

/-- process `seq` from its last element to its first (the code's `for idx0 in seq[::-1]`) -/
def sweepUp (ds : Array Nat) (upd : Nat → α → α → α) (seq : List Nat) (out : Array α) : Array α :=
  seq.foldr (stepUp ds upd) out

/-- the inflowing cells of `j` among `seq`, in processing order (last of `seq` first) -/
def kids (ds : Array Nat) (seq : List Nat) (j : Nat) : List Nat :=
  seq.reverse.filter (fun c => ds[c]! == j && c != j)

theorem mem_kids {ds : Array Nat} {seq : List Nat} {j c : Nat} :
    c ∈ kids ds seq j ↔ c ∈ seq ∧ ds[c]! = j ∧ c ≠ j := by
  simp only [kids, List.mem_filter, List.mem_reverse, Bool.and_eq_true, beq_iff_eq, bne_iff_ne]

/-- upstream induction with the inflowing cells given as `kids` -/
theorem Topo.induction_kids {ds : Array Nat} {seq : List Nat} (htopo : Topo ds seq) (P : Nat → Prop)
    (h : ∀ j ∈ seq, (∀ c ∈ kids ds seq j, P c) → P j) : ∀ j ∈ seq, P j :=
  htopo.induction_up P fun j hj ih => h j hj fun c hc =>
    have ⟨h1, h2, h3⟩ := mem_kids.1 hc
    ih c h1 h2 h3

@[simp] theorem size_stepUp (ds : Array Nat) (upd : Nat → α → α → α) (i : Nat) (out : Array α) :
    (stepUp ds upd i out).size = out.size := by
  unfold stepUp; split <;> simp

@[simp] theorem size_sweepUp (ds : Array Nat) (upd : Nat → α → α → α) (seq : List Nat) (out : Array α) :
    (sweepUp ds upd seq out).size = out.size := by
  induction seq with
  | nil => rfl
  | cons i rest ih => rw [sweepUp, List.foldr_cons, size_stepUp]; exact ih

theorem stepUp_get (ds : Array Nat) (upd : Nat → α → α → α) (i : Nat) (out : Array α) (j : Nat) :
    (stepUp ds upd i out)[j]! =
      if ds[i]! ≠ i ∧ ds[i]! = j ∧ j < out.size then upd i out[j]! out[i]! else out[j]! := by
  unfold stepUp
  by_cases hp : ds[i]! = i
  · simp [hp]
  · rw [if_neg hp, get!_setIfInBounds]
    by_cases hj : ds[i]! = j
    · subst hj; simp [hp]
    · simp [hj]

/-- a step writes only at the downstream cell of a non-pit -/
theorem stepUp_get_of (ds : Array Nat) (upd : Nat → α → α → α) (m : Array α) {a j : Nat}
    (h : ds[a]! = j → a = j) : (stepUp ds upd a m)[j]! = m[j]! := by
  rw [stepUp_get, if_neg fun hc => hc.1 (hc.2.1.trans (h hc.2.1).symm)]

/-- a cell into which no cell of the list drains keeps its value -/
theorem sweepUp_untouched (ds : Array Nat) (upd : Nat → α → α → α) (l : List Nat) (m : Array α) (j : Nat)
    (h : ∀ c ∈ l, ds[c]! = j → c = j) : (sweepUp ds upd l m)[j]! = m[j]! := by
  induction l with
  | nil => rfl
  | cons a l ih =>
    rw [sweepUp, List.foldr_cons, stepUp_get_of ds upd _ (h a List.mem_cons_self)]
    exact ih fun c hc => h c (List.mem_cons_of_mem _ hc)

theorem sweepUp_snoc (ds : Array Nat) (upd : Nat → α → α → α) (pre : List Nat) (i : Nat) (out : Array α) :
    sweepUp ds upd (pre ++ [i]) out = sweepUp ds upd pre (stepUp ds upd i out) := by
  simp [sweepUp, List.foldr_append]

theorem kids_snoc (ds : Array Nat) (pre : List Nat) (i j : Nat) :
    kids ds (pre ++ [i]) j =
      (if ds[i]! = j ∧ i ≠ j then [i] else []) ++ kids ds pre j := by
  simp only [kids, List.reverse_append, List.reverse_cons, List.reverse_nil, List.nil_append,
    List.singleton_append, List.filter_cons]
  by_cases h1 : ds[i]! = j <;> by_cases h2 : i = j <;> simp [h1, h2]

/-- Generic theorem: every cell ends with its initial value folded with the *final* values of
its inflowing cells, in processing order. -/
theorem sweepUp_spec (ds : Array Nat) (upd : Nat → α → α → α) (seq : List Nat)
    (htopo : Topo ds seq) :
    ∀ (out : Array α), (∀ i ∈ seq, i < out.size) → ∀ j,
      (sweepUp ds upd seq out)[j]! =
        (kids ds seq j).foldl (fun acc c => upd c acc (sweepUp ds upd seq out)[c]!) out[j]! := by
  induction htopo with
  | nil => intro out _ j; simp [sweepUp, kids]
  | @snoc pre i hpre hi hds ih =>
    intro out hb j
    have hdsmem := Topo.ds_mem hpre
    -- no cell of `pre` drains to `i`
    have hno : ∀ c ∈ pre, ds[c]! ≠ i := fun c hc h => hi (h ▸ hdsmem c hc)
    have hkids_i : kids ds pre i = [] := by
      simp only [kids, List.filter_eq_nil_iff, List.mem_reverse]
      intro c hc; simp [hno c hc]
    rw [sweepUp_snoc]
    obtain ⟨out', hout'⟩ : ∃ o, o = stepUp ds upd i out := ⟨_, rfl⟩
    rw [← hout']
    have hsz : out'.size = out.size := by rw [hout', size_stepUp]
    have hb' : ∀ k ∈ pre, k < out'.size := fun k hk => by rw [hsz]; exact hb k (by simp [hk])
    have ihj := ih out' hb'
    -- final value of i is its value in out
    have hfin_i : (sweepUp ds upd pre out')[i]! = out[i]! := by
      rw [ihj i, hkids_i]; simp only [List.foldl_nil, hout', stepUp]
      split
      · rfl
      · rename_i hne; rw [get!_setIfInBounds]; simp [hne]
    rw [ihj j, kids_snoc]
    by_cases hc : ds[i]! = j ∧ i ≠ j
    · obtain ⟨h1, h2⟩ := hc
      have hjsz : j < out.size := by
        rcases hds with h | h
        · exact absurd (h1 ▸ h) (Ne.symm h2)
        · exact hb j (by simp [← h1, h])
      have : out'[j]! = upd i out[j]! out[i]! := by
        simp only [hout', stepUp]
        have hne : ¬ ds[i]! = i := by rw [h1]; exact Ne.symm h2
        rw [if_neg hne, h1, get!_setIfInBounds]; simp [hjsz]
      simp only [h1, h2, ne_eq, not_false_eq_true, and_self, if_true, List.singleton_append,
        List.foldl_cons, hfin_i, this]
    · have : out'[j]! = out[j]! := by
        simp only [hout', stepUp]
        split
        · rfl
        · rename_i hne
          rw [get!_setIfInBounds]
          have : ¬ (ds[i]! = j ∧ ds[i]! < out.size) := by
            intro ⟨h, _⟩; exact hc ⟨h, fun hij => hne (hij ▸ h)⟩
          simp [this]
      simp only [hc, if_false, List.nil_append, this]

end Pf
