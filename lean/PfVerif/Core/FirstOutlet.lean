import PfVerif.Core.Sweep
/-! `core.fillnodata_upstream` = "value of the first valid cell on the downstream path".
Used by basins (C05), sub-basins (C18), unit catchments (C10) and `fillnodata(direction='up')` (C14). -/
namespace Pf

/-- `FirstValid ds data nd i v`: `v` is the value of the first cell with a value `≠ nd` met walking
downstream from `i` (including `i`); `nd` if a pit is reached first. -/
inductive FirstValid (ds : Array Nat) (data : Array Int) (nd : Int) : Nat → Int → Prop
  | here (i : Nat) : data[i]! ≠ nd → FirstValid ds data nd i data[i]!
  | pit (i : Nat) : data[i]! = nd → ds[i]! = i → FirstValid ds data nd i nd
  | down (i : Nat) (v : Int) : data[i]! = nd → ds[i]! ≠ i → FirstValid ds data nd ds[i]! v →
      FirstValid ds data nd i v

theorem FirstValid.inv {ds : Array Nat} {data : Array Int} {nd : Int} {i : Nat} {v : Int}
    (h : FirstValid ds data nd i v) :
    (data[i]! ≠ nd ∧ v = data[i]!) ∨ (data[i]! = nd ∧ ds[i]! = i ∧ v = nd) ∨
    (data[i]! = nd ∧ ds[i]! ≠ i ∧ FirstValid ds data nd ds[i]! v) := by
  cases h with
  | here _ h1 => exact Or.inl ⟨h1, rfl⟩
  | pit _ h1 h2 => exact Or.inr (Or.inl ⟨h1, h2, rfl⟩)
  | down _ _ h1 h2 h3 => exact Or.inr (Or.inr ⟨h1, h2, h3⟩)

/-- the relation is functional: the first valid value is unique -/
theorem FirstValid.unique {ds : Array Nat} {data : Array Int} {nd : Int} {i : Nat} {v w : Int}
    (h1 : FirstValid ds data nd i v) (h2 : FirstValid ds data nd i w) : v = w := by
  induction h1 generalizing w with
  | here i hne =>
    rcases h2.inv with ⟨_, h⟩ | ⟨he, _⟩ | ⟨he, _⟩
    · exact h.symm
    · exact absurd he hne
    · exact absurd he hne
  | pit i he hp =>
    rcases h2.inv with ⟨hne, _⟩ | ⟨_, _, h⟩ | ⟨_, hnp, _⟩
    · exact absurd he hne
    · exact h.symm
    · exact absurd hp hnp
  | down i v he hnp _ ih =>
    rcases h2.inv with ⟨hne, _⟩ | ⟨_, hp, _⟩ | ⟨_, _, h⟩
    · exact absurd he hne
    · exact absurd hp hnp
    · exact ih h

/-- the body of the loop of `core.fillnodata_upstream` -/
def gFillNd (nodata : Int) (_ : Nat) (own dsv : Int) : Int :=
  if own = nodata ∧ dsv ≠ nodata then dsv else own

/-- the value left by `fillnodata_upstream`: an own valid value is kept, a pit without one stays
missing, every other cell copies its downstream cell -/
theorem fill_rec (ds : Array Nat) (data : Array Int) (nd : Int) (seq : List Nat) (htopo : Topo ds seq)
    (hb : ∀ i ∈ seq, i < data.size) (i : Nat) (hi : i ∈ seq) :
    (sweepDown ds (gFillNd nd) seq data)[i]! =
      if data[i]! ≠ nd then data[i]!
      else if ds[i]! = i then nd else (sweepDown ds (gFillNd nd) seq data)[ds[i]!]! := by
  rw [(sweepDown_rec ds (gFillNd nd) data seq htopo hb).1 i hi, gFillNd]
  by_cases h1 : data[i]! = nd
  · rw [if_neg (not_not_intro h1)]
    by_cases h2 : ds[i]! = i
    · rw [if_pos h2, if_pos h2, if_neg fun h => h.2 h1, h1]
    · rw [if_neg h2, if_neg h2]
      split
      · rfl
      · next h => exact h1.trans (Decidable.not_not.1 (not_and.1 h h1)).symm
  · rw [if_pos h1, if_neg fun h => h1 h.1]

/-- After the down-to-upstream sweep of `fillnodata_upstream`, every cell of the sequence holds the first valid
value on its downstream path. -/
theorem fill_first_valid (ds : Array Nat) (data : Array Int) (nd : Int) (seq : List Nat)
    (htopo : Topo ds seq) (hb : ∀ i ∈ seq, i < data.size) :
    ∀ i ∈ seq, FirstValid ds data nd i (sweepDown ds (gFillNd nd) seq data)[i]! := by
  refine htopo.induction _ (fun j hj hd => ?_)
  rw [fill_rec ds data nd seq htopo hb j hj]
  by_cases hl : data[j]! = nd
  · rw [if_neg (not_not_intro hl)]
    by_cases hp : ds[j]! = j
    · rw [if_pos hp]; exact .pit j hl hp
    · rw [if_neg hp]; exact .down j _ hl hp (hd hp).2
  · rw [if_pos hl]; exact .here j hl

/-- cells outside the sequence are untouched -/
theorem fill_untouched (ds : Array Nat) (data : Array Int) (nd : Int) (seq : List Nat)
    (htopo : Topo ds seq) (hb : ∀ i ∈ seq, i < data.size) :
    ∀ i, i ∉ seq → (sweepDown ds (gFillNd nd) seq data)[i]! = data[i]! :=
  (sweepDown_rec ds (gFillNd nd) data seq htopo hb).2

/-- executable walk computing the first valid value (fuel-bounded) -/
def walkValid (ds : Array Nat) (data : Array Int) (nd : Int) : Nat → Nat → Option Int
  | 0, _ => none
  | fuel+1, i =>
    if data[i]! ≠ nd then some data[i]!
    else if ds[i]! = i then some nd
    else walkValid ds data nd fuel ds[i]!

theorem walkValid_sound (ds : Array Nat) (data : Array Int) (nd : Int) :
    ∀ fuel i v, walkValid ds data nd fuel i = some v → FirstValid ds data nd i v := by
  intro fuel
  induction fuel with
  | zero => intro i v h; simp [walkValid] at h
  | succ f ih =>
    intro i v h
    simp only [walkValid] at h
    by_cases h1 : data[i]! ≠ nd
    · simp only [h1, ne_eq, not_false_eq_true, if_true, Option.some.injEq] at h
      subst h; exact FirstValid.here i h1
    · have h1' : data[i]! = nd := by simpa using h1
      simp only [h1', ne_eq, not_true_eq_false, if_false] at h
      by_cases h2 : ds[i]! = i
      · simp only [h2, if_true, Option.some.injEq] at h
        subst h; exact FirstValid.pit i h1' h2
      · simp only [h2, if_false] at h
        exact FirstValid.down i v h1' h2 (ih _ _ h)

/-- the sweep agrees with the executable walk wherever the walk terminates -/
theorem fill_eq_walk (ds : Array Nat) (data : Array Int) (nd : Int) (seq : List Nat)
    (htopo : Topo ds seq) (hb : ∀ i ∈ seq, i < data.size) (fuel : Nat) :
    ∀ i ∈ seq, ∀ v, walkValid ds data nd fuel i = some v →
      (sweepDown ds (gFillNd nd) seq data)[i]! = v :=
  fun i hi v hv => (fill_first_valid ds data nd seq htopo hb i hi).unique (walkValid_sound ds data nd fuel i v hv)

end Pf
