/-! The junction update of `streams.strahler_order` is order independent. -/
namespace Pf

/-- junction update on (strord[ds], strmax[ds]) when a stream of order `s` flows in -/
def phi (st : Nat × Nat) (s : Nat) : Nat × Nat :=
  (if st.1 < s then s else if s = st.1 ∧ st.2 = s then st.1 + 1 else st.1,
   if st.2 < s then s else st.2)

def mx (l : List Nat) : Nat := l.foldl max 0
/-- Strahler rule on the list of inflowing orders -/
def strahler (l : List Nat) : Nat :=
  if l = [] then 0 else if 2 ≤ l.count (mx l) then mx l + 1 else mx l

theorem foldl_max_ge (l : List Nat) (a : Nat) : a ≤ l.foldl max a := by
  induction l generalizing a with
  | nil => exact Nat.le_refl a
  | cons x l ih => exact Nat.le_trans (Nat.le_max_left a x) (ih _)

theorem foldl_max_mono (l : List Nat) (a b : Nat) (h : a ≤ b) : l.foldl max a ≤ l.foldl max b := by
  induction l generalizing a b with
  | nil => exact h
  | cons x l ih => exact ih _ _ (by omega)

theorem le_mx (l : List Nat) : ∀ x ∈ l, x ≤ mx l := by
  intro x hx
  induction l with
  | nil => cases hx
  | cons y l ih =>
    simp only [mx, List.foldl_cons]
    rcases List.mem_cons.1 hx with h | h
    · subst h; exact Nat.le_trans (Nat.le_max_right 0 x) (foldl_max_ge l _)
    · exact Nat.le_trans (ih h) (foldl_max_mono l _ _ (Nat.zero_le _))

theorem mx_snoc (l : List Nat) (s : Nat) : mx (l ++ [s]) = max (mx l) s := by
  simp [mx, List.foldl_append]

theorem foldl_max_mem (l : List Nat) (a : Nat) : l.foldl max a = a ∨ l.foldl max a ∈ l := by
  induction l generalizing a with
  | nil => exact Or.inl rfl
  | cons x l ih =>
    simp only [List.foldl_cons, List.mem_cons]
    rcases ih (max a x) with h | h
    · rw [h]; rcases Nat.le_total a x with hax | hax
      · right; left; omega
      · left; omega
    · right; right; exact h

theorem mx_mem (l : List Nat) (hpos : ∀ x ∈ l, 0 < x) (hne : l ≠ []) : mx l ∈ l := by
  rcases foldl_max_mem l 0 with h | h
  · cases l with
    | nil => exact absurd rfl hne
    | cons y r =>
      have h1 := le_mx (y :: r) y (by simp)
      have h2 := hpos y (by simp)
      simp only [mx] at h1; omega
  · exact h

theorem count_snoc (l : List Nat) (s x : Nat) :
    (l ++ [s]).count x = l.count x + (if s = x then 1 else 0) := by
  simp only [List.count_append, List.count_cons, List.count_nil]
  split <;> simp_all

/-- One more inflow: after the inflows `a` the two work cells hold `(strahler a, mx a)`, and `phi` moves that pair to
the one for `a ++ [s]`. Orders must be positive because `(0, 0)` doubles as "no inflow yet":
`[0].foldl phi (0, 0) = (1, 0)` but `strahler [0] = 0`. -/
theorem phi_strahler_snoc (a : List Nat) (s : Nat) (hs : 0 < s) (hpos : ∀ x ∈ a, 0 < x) :
    phi (strahler a, mx a) s = (strahler (a ++ [s]), mx (a ++ [s])) := by
  have hmx := mx_snoc a s
  have hcnt := count_snoc a s
  have hgt : ∀ x, mx a < x → a.count x = 0 := by
    intro x hx
    rw [List.count_eq_zero]
    intro hmem; have := le_mx a x hmem; omega
  by_cases ha : a = []
  · subst ha
    simp only [phi, strahler, mx, List.nil_append, List.foldl_cons, List.foldl_nil, List.count_cons,
      List.count_nil]
    have : max 0 s = s := by omega
    simp [this, hs]
  · have h1 : 1 ≤ a.count (mx a) := List.count_pos_iff.2 (mx_mem a hpos ha)
    have hne : a ++ [s] ≠ [] := by simp
    simp only [phi, strahler, ha, hne, if_false, hmx, hcnt]
    rcases Nat.lt_trichotomy (mx a) s with h | h | h
    · -- a new maximum, so far seen once
      have h0 := hgt s h
      have e : max (mx a) s = s := by omega
      rw [e, h0]
      refine Prod.ext ?_ ?_ <;> simp only [] <;> grind
    · -- the maximum is met once more: its count, at least 1 by `h1`, reaches 2
      have e : max (mx a) s = mx a := by omega
      rw [e]
      refine Prod.ext ?_ ?_ <;> simp only [] <;> grind
    · -- below the maximum: neither the maximum nor its count changes
      have e : max (mx a) s = mx a := by omega
      rw [e]
      refine Prod.ext ?_ ?_ <;> simp only [] <;> grind

/-- folding the junction update over the inflowing orders in ANY arrival order gives the Strahler rule -/
theorem phi_fold (l : List Nat) (hpos : ∀ x ∈ l, 0 < x) :
    l.foldl phi (0, 0) = (strahler l, mx l) := by
  suffices h : ∀ (l a : List Nat), (∀ x ∈ a, 0 < x) → (∀ x ∈ l, 0 < x) →
      l.foldl phi (strahler a, mx a) = (strahler (a ++ l), mx (a ++ l)) by
    simpa [strahler, mx] using h l [] (by simp) hpos
  intro l
  induction l with
  | nil => intro a _ _; simp
  | cons s l ih =>
    intro a ha hl
    have hs : 0 < s := hl s (by simp)
    rw [List.foldl_cons, phi_strahler_snoc a s hs ha]
    have := ih (a ++ [s]) (by intro x hx; rcases List.mem_append.1 hx with h | h
                              · exact ha x h
                              · simp at h; omega)
                          (fun x hx => hl x (by simp [hx]))
    simpa using this
end Pf
