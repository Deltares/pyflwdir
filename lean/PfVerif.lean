import PfVerif.Core.FillCert
import PfVerif.Core.FirstOutlet
import PfVerif.Core.Folds
import PfVerif.Core.RankCert
import PfVerif.Core.Strahler
import PfVerif.Core.Sweep
import PfVerif.Generated.CacheProtocol
import PfVerif.Generated.Funcs
import PfVerif.Generated.Sweeps
import PfVerif.Generated.Sweeps2
import PfVerif.Generated.Tables
import PfVerif.Generated.Traces
import PfVerif.Model.C01
import PfVerif.Model.C01_ext
import PfVerif.Model.C01_fn
import PfVerif.Model.C02
import PfVerif.Model.C03
import PfVerif.Model.C03_ext
import PfVerif.Model.C04
import PfVerif.Model.C05
import PfVerif.Model.C05_ext
import PfVerif.Model.C06
import PfVerif.Model.C06Depth
import PfVerif.Model.C08
import PfVerif.Model.C09
import PfVerif.Model.C09_ihu
import PfVerif.Model.C10
import PfVerif.Model.C11
import PfVerif.Model.C11_fn
import PfVerif.Model.C12
import PfVerif.Model.C13_bounds
import PfVerif.Model.C13_bounds2
import PfVerif.Model.C14
import PfVerif.Model.C14_gvf
import PfVerif.Model.C14_riv
import PfVerif.Model.C15
import PfVerif.Model.C16_mach
import PfVerif.Model.C16_val
import PfVerif.Model.C17
import PfVerif.Model.C17_ext
import PfVerif.Model.C18
import PfVerif.Model.C19
import PfVerif.Model.C20
import PfVerif.Model.Core
import PfVerif.Proofs.C01
import PfVerif.Proofs.C01_ext
import PfVerif.Proofs.C01_extNup
import PfVerif.Proofs.C01_fn
import PfVerif.Proofs.C01_tables
import PfVerif.Proofs.C02
import PfVerif.Proofs.C03Order
import PfVerif.Proofs.C03Rank
import PfVerif.Proofs.C03RankAlg
import PfVerif.Proofs.C03Sort
import PfVerif.Proofs.C03Topo
import PfVerif.Proofs.C03Walk
import PfVerif.Proofs.C03_ext
import PfVerif.Proofs.C04
import PfVerif.Proofs.C04_fn
import PfVerif.Proofs.C05
import PfVerif.Proofs.C05_extIn
import PfVerif.Proofs.C05_extInter
import PfVerif.Proofs.C05_extOut
import PfVerif.Proofs.C05_extRegion
import PfVerif.Proofs.C06
import PfVerif.Proofs.C06Algo
import PfVerif.Proofs.C06Depth
import PfVerif.Proofs.C06DepthEq
import PfVerif.Proofs.C06DepthSafe
import PfVerif.Proofs.C06Elv
import PfVerif.Proofs.C06Final
import PfVerif.Proofs.C06Flood
import PfVerif.Proofs.C06Fuel
import PfVerif.Proofs.C06Geo
import PfVerif.Proofs.C06Heap
import PfVerif.Proofs.C06Inv
import PfVerif.Proofs.C06Min
import PfVerif.Proofs.C06Once
import PfVerif.Proofs.C06OnceDir
import PfVerif.Proofs.C06OnceGeo
import PfVerif.Proofs.C06OncePin
import PfVerif.Proofs.C08Bound
import PfVerif.Proofs.C08Classic
import PfVerif.Proofs.C08Nup
import PfVerif.Proofs.C08Strahler
import PfVerif.Proofs.C08Unique
import PfVerif.Proofs.C08_fn
import PfVerif.Proofs.C09Adj
import PfVerif.Proofs.C09Arith
import PfVerif.Proofs.C09Cert
import PfVerif.Proofs.C09Loop
import PfVerif.Proofs.C09Rep
import PfVerif.Proofs.C09Scale1
import PfVerif.Proofs.C09Trace
import PfVerif.Proofs.C09_ihuFuel
import PfVerif.Proofs.C09_ihuInv
import PfVerif.Proofs.C09_ihuNew
import PfVerif.Proofs.C09_ihuRel
import PfVerif.Proofs.C09_ihuRel2
import PfVerif.Proofs.C09_ihuStg
import PfVerif.Proofs.C09_ihuSync
import PfVerif.Proofs.C09_ihuW
import PfVerif.Proofs.C10
import PfVerif.Proofs.C10Seg
import PfVerif.Proofs.C10Stat
import PfVerif.Proofs.C11Coords
import PfVerif.Proofs.C11Main
import PfVerif.Proofs.C11Total
import PfVerif.Proofs.C11Trace
import PfVerif.Proofs.C11_fn
import PfVerif.Proofs.C12_alias
import PfVerif.Proofs.C13_bounds
import PfVerif.Proofs.C13_bounds2
import PfVerif.Proofs.C13_bounds2Adj
import PfVerif.Proofs.C13_bounds2Fill
import PfVerif.Proofs.C13_boundsRank
import PfVerif.Proofs.C13_boundsWalk
import PfVerif.Proofs.C14
import PfVerif.Proofs.C14Down
import PfVerif.Proofs.C14Fuel
import PfVerif.Proofs.C14Mono
import PfVerif.Proofs.C14Riv
import PfVerif.Proofs.C14Sum
import PfVerif.Proofs.C14Up
import PfVerif.Proofs.C14Win
import PfVerif.Proofs.C14_gvf
import PfVerif.Proofs.C14_rivDem
import PfVerif.Proofs.C14_rivEst
import PfVerif.Proofs.C14_rivSlope
import PfVerif.Proofs.C15Adjust
import PfVerif.Proofs.C15Dig
import PfVerif.Proofs.C15Fix1d
import PfVerif.Proofs.C15Last
import PfVerif.Proofs.C15Mono
import PfVerif.Proofs.C16_machArith
import PfVerif.Proofs.C16_machEnc
import PfVerif.Proofs.C16_val
import PfVerif.Proofs.C17
import PfVerif.Proofs.C17Real
import PfVerif.Proofs.C17_ext
import PfVerif.Proofs.C18
import PfVerif.Proofs.C18AreaInv
import PfVerif.Proofs.C18AreaMain
import PfVerif.Proofs.C18AreaSize
import PfVerif.Proofs.C18AreaStep
import PfVerif.Proofs.C18AreaSum
import PfVerif.Proofs.C18Digits
import PfVerif.Proofs.C18Part
import PfVerif.Proofs.C18PfArith
import PfVerif.Proofs.C18PfFresh
import PfVerif.Proofs.C18PfG
import PfVerif.Proofs.C18PfInner
import PfVerif.Proofs.C18PfLinkInner
import PfVerif.Proofs.C18PfLinkInv
import PfVerif.Proofs.C18PfLinkLoop
import PfVerif.Proofs.C18PfLoop
import PfVerif.Proofs.C18PfRefInv
import PfVerif.Proofs.C18PfRefine
import PfVerif.Proofs.C18PfSim
import PfVerif.Proofs.C18PfSimLoop
import PfVerif.Proofs.C18PfSo
import PfVerif.Proofs.C18PfStem
import PfVerif.Proofs.C18Pfaf
import PfVerif.Proofs.C19Cert
import PfVerif.Proofs.C19Feat
import PfVerif.Proofs.C19Inv
import PfVerif.Proofs.C19Nup
import PfVerif.Proofs.C19Seg
import PfVerif.Proofs.C19Split
import PfVerif.Proofs.C19Walk
import PfVerif.Proofs.C20Alg
import PfVerif.Proofs.C20Cert
import PfVerif.Proofs.C20Dissolve
import PfVerif.Proofs.C20Term
import PfVerif.Proofs.Paths
import PfVerif.Props.C01
import PfVerif.Props.C01_ext
import PfVerif.Props.C01_fn
import PfVerif.Props.C02
import PfVerif.Props.C03
import PfVerif.Props.C03_ext
import PfVerif.Props.C04
import PfVerif.Props.C04_fn
import PfVerif.Props.C05
import PfVerif.Props.C05_ext
import PfVerif.Props.C06
import PfVerif.Props.C07
import PfVerif.Props.C08
import PfVerif.Props.C08_fn
import PfVerif.Props.C09
import PfVerif.Props.C09_ihu
import PfVerif.Props.C09_ihuTotal
import PfVerif.Props.C10
import PfVerif.Props.C11
import PfVerif.Props.C11_fn
import PfVerif.Props.C12
import PfVerif.Props.C13
import PfVerif.Props.C13_bounds
import PfVerif.Props.C13_bounds2
import PfVerif.Props.C14
import PfVerif.Props.C14_gvf
import PfVerif.Props.C14_riv
import PfVerif.Props.C15
import PfVerif.Props.C16
import PfVerif.Props.C16_mach
import PfVerif.Props.C16_val
import PfVerif.Props.C17
import PfVerif.Props.C17_ext
import PfVerif.Props.C18
import PfVerif.Props.C19
import PfVerif.Props.C20
